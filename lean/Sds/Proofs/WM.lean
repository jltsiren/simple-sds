/-
Proofs/WM: the wavelet matrix (`wm_core.rs`, `wavelet_matrix.rs`) against a list specification.

Level `n` holds `V` stably partitioned by each of the first `n` tested bits in turn (`S`).  A pair (index, value)
stands after `n` levels at `vpos`: the number of elements with a smaller key plus the number of those with the same
key before the index (`countP_take_vpos`, the one induction over the levels on the list side).  `map_down_with`,
`map_down` and `map_up_with` walk along `vpos` (`mapDownBit_ok`, `mapUpBit_ok` for one level), and the queries of
`WaveletMatrix` read off its closed form at full depth (`vpos_width`).
-/
import Sds.Model.WM
import Sds.Proofs.Rank
import Sds.Proofs.BitsMore
import Sds.Proofs.IntVec
import Sds.Proofs.Select
import Sds.Proofs.Outcome

namespace Sds
open Outcome

/-! ## One level: stable partition of a list by a predicate -/

section OneLevel
variable {α : Type}

/-- stable partition: the elements with bit 0 (in order), then the elements with bit 1 (in order) -/
def part (p : α → Bool) (L : List α) : List α := L.filter (fun x => !p x) ++ L.filter p

/-- where position `i` of `L` (real, or virtual when `i = L.length` / the bit is supplied from outside)
goes in `part p L` when its bit is `b` -/
def stepPos (p : α → Bool) (L : List α) (i : Nat) (b : Bool) : Nat :=
  if b then L.countP (fun x => !p x) + (L.take i).countP p else (L.take i).countP (fun x => !p x)

theorem part_perm (p : α → Bool) (L : List α) : (part p L).Perm L := by
  unfold part
  have h := List.filter_append_perm (fun x => !p x) L
  have e : (fun x => !(fun x => !p x) x) = p := by funext x; simp
  simp only [e] at h
  exact h

theorem countP_split (p q : α → Bool) (L : List α) :
    L.countP q = L.countP (fun x => !p x && q x) + L.countP (fun x => p x && q x) := by
  induction L with
  | nil => rfl
  | cons a t ih =>
    simp only [List.countP_cons, ih]
    cases p a <;> cases q a <;> simp <;> omega

theorem countP_not_add (p : α → Bool) (L : List α) :
    L.countP (fun x => !p x) + L.countP p = L.length := by
  have := countP_split p (fun _ => true) L
  simp only [Bool.and_true, List.countP_true] at this
  have e : L.countP (fun x => p x) = L.countP p := rfl
  omega

theorem countP_take_le (p : α → Bool) (L : List α) (i : Nat) : (L.take i).countP p ≤ L.countP p := by
  conv => rhs; rw [← List.take_append_drop i L]
  rw [List.countP_append]; omega

theorem stepPos_le (p : α → Bool) (L : List α) (i : Nat) (b : Bool) : stepPos p L i b ≤ L.length := by
  have h1 := countP_not_add p L
  have h2 := countP_take_le p L i
  have h3 := countP_take_le (fun x => !p x) L i
  unfold stepPos; split <;> omega

theorem filter_take_drop (q : α → Bool) (L : List α) (i : Nat) :
    L.filter q = (L.take i).filter q ++ (L.drop i).filter q := by
  rw [← List.filter_append, List.take_append_drop]

theorem take_filter_countP (q : α → Bool) (L : List α) (p : Nat) :
    (L.filter q).take ((L.take p).countP q) = (L.take p).filter q := by
  rw [List.countP_eq_length_filter, filter_take_drop q L p]
  exact List.take_left' rfl

/-- the `k`-th element satisfying `p` (counting from 0) sits at index `k` of the filtered list -/
theorem getElem?_filter_countP (p : α → Bool) (L : List α) (i : Nat) (x : α)
    (hx : L[i]? = some x) (hp : p x = true) : (L.filter p)[(L.take i).countP p]? = some x := by
  obtain ⟨hi, rfl⟩ := List.getElem?_eq_some_iff.mp hx
  rw [List.countP_eq_length_filter, filter_take_drop p L i, List.getElem?_append_right (Nat.le_refl _), Nat.sub_self,
    List.drop_eq_getElem_cons hi, List.filter_cons_of_pos hp]
  rfl

/-- **one-level lemma**: the element at position `i` lands at `stepPos` in the partitioned list -/
theorem getElem?_part (p : α → Bool) (L : List α) (i : Nat) (x : α) (hx : L[i]? = some x) :
    (part p L)[stepPos p L i (p x)]? = some x := by
  unfold part stepPos
  cases hp : p x with
  | true =>
    simp only [if_true]
    rw [List.countP_eq_length_filter, List.getElem?_append_right (Nat.le_add_right _ _),
      Nat.add_sub_cancel_left]
    exact getElem?_filter_countP p L i x hx hp
  | false =>
    simp only [Bool.false_eq_true, if_false]
    have h := getElem?_filter_countP (fun x => !p x) L i x hx (by simp [hp])
    have hlt := (List.getElem?_eq_some_iff.mp h).1
    rw [List.getElem?_append_left hlt]; exact h

theorem selectBits_eq_some (B : List Bool) (r j : Nat) :
    selectBits B r = some j ↔ B[j]? = some true ∧ (B.take j).count true = r := by
  rw [selectBits_spec]
  exact ⟨fun h => h.2, fun h => ⟨(List.getElem?_eq_some_iff.mp h.1).1, h⟩⟩

theorem selectBits_eq_none (B : List Bool) (r : Nat) : selectBits B r = none ↔ B.count true ≤ r :=
  selectSpec_eq_none_iff B r

theorem count_true_map (p : α → Bool) (L : List α) : (L.map p).count true = L.countP p := by
  induction L with
  | nil => rfl
  | cons a t ih => simp only [List.map_cons, List.count_cons, List.countP_cons, ih]; cases p a <;> simp

theorem count_false_map (p : α → Bool) (L : List α) : (L.map p).count false = L.countP (fun x => !p x) := by
  induction L with
  | nil => rfl
  | cons a t ih => simp only [List.map_cons, List.count_cons, List.countP_cons, ih]; cases p a <;> simp

theorem rankSpec_map (p : α → Bool) (L : List α) (i : Nat) :
    rankSpec (L.map p) i = (L.take i).countP p := by
  unfold rankSpec; rw [← List.map_take, count_true_map]

theorem sub_rankSpec_map (p : α → Bool) (L : List α) (i : Nat) (hi : i ≤ L.length) :
    i - rankSpec (L.map p) i = (L.take i).countP (fun x => !p x) := by
  rw [rankSpec_map]
  have := countP_not_add p (L.take i)
  rw [List.length_take, Nat.min_eq_left hi] at this
  omega

/-- position of the `r`-th element satisfying `p` -/
theorem selectBits_map_eq_some (p : α → Bool) (L : List α) (r j : Nat) :
    selectBits (L.map p) r = some j ↔ (∃ x, L[j]? = some x ∧ p x = true) ∧ (L.take j).countP p = r := by
  rw [selectBits_eq_some, ← List.map_take, count_true_map]
  simp only [List.getElem?_map, Option.map_eq_some_iff]

/-- inverse of `stepPos`: from a position in the partitioned list back to the position in `L`,
as computed by `select(idx - zeros)` / `select_zero(idx)` -/
def upStep (p : α → Bool) (L : List α) (idx : Nat) (b : Bool) : Option Nat :=
  if b then
    (if idx < L.countP (fun x => !p x) then none
     else selectSpec (L.map p) (idx - L.countP (fun x => !p x)))
  else selectZeroSpec (L.map p) idx

/-- **one-level lemma, inverse direction** -/
theorem upStep_eq_some (p : α → Bool) (L : List α) (idx : Nat) (b : Bool) (j : Nat) :
    upStep p L idx b = some j ↔ (∃ x, L[j]? = some x ∧ p x = b) ∧ stepPos p L j b = idx := by
  unfold upStep stepPos selectSpec selectZeroSpec
  cases b with
  | true =>
    simp only [if_true]
    split
    · simp only [reduceCtorEq, false_iff, not_and]; intro _; omega
    · rw [selectBits_map_eq_some]
      constructor
      · rintro ⟨h1, h2⟩; exact ⟨h1, by omega⟩
      · rintro ⟨h1, h2⟩; exact ⟨h1, by omega⟩
  | false =>
    simp only [Bool.false_eq_true, if_false, List.map_map]
    rw [show (not ∘ p) = (fun x => !p x) from rfl, selectBits_map_eq_some]
    simp

/-- the one-level lemma in the `rankSpec` / `selectSpec` vocabulary of the bitvector interface:
with `B = L.map bit`, the element `L[i]` sits in `part bit L` at
`if bit L[i] then B.count false + rankSpec B i else i - rankSpec B i`, and `select` / `select_zero` recover `i`. -/
theorem one_level (bit : α → Bool) (L : List α) (i : Nat) (hi : i < L.length) :
    let B := L.map bit
    let pos := if bit L[i] then B.count false + rankSpec B i else i - rankSpec B i
    (part bit L)[pos]? = some L[i] ∧
    (bit L[i] = true → selectSpec B (pos - B.count false) = some i) ∧
    (bit L[i] = false → selectZeroSpec B pos = some i) := by
  intro B pos
  have hx : L[i]? = some L[i] := List.getElem?_eq_getElem hi
  have hpos : pos = stepPos bit L i (bit L[i]) := by
    simp only [pos, B, stepPos, count_false_map, sub_rankSpec_map bit L i (Nat.le_of_lt hi)]
    simp only [rankSpec_map]
  refine ⟨hpos ▸ getElem?_part bit L i _ hx, ?_, ?_⟩
  · intro hb
    have := (upStep_eq_some bit L pos true i).mpr ⟨⟨_, hx, hb⟩, by rw [hpos, hb]⟩
    have hz : ¬ pos < L.countP (fun x => !bit x) := by
      rw [hpos, hb]; simp only [stepPos, if_true]; omega
    simpa only [upStep, if_true, hz, if_false, B, count_false_map] using this
  · intro hb
    have := (upStep_eq_some bit L pos false i).mpr ⟨⟨_, hx, hb⟩, by rw [hpos, hb]⟩
    simpa only [upStep, Bool.false_eq_true, if_false] using this

/-- the virtual-position version: for any `i ≤ L.length` and an externally supplied bit `b`,
`zeros·[b] + rank_b(i)` is the number of elements of `L[0..i)` whose bit is `b`, offset by the zeros if `b = 1`. -/
theorem one_level_virtual (bit : α → Bool) (L : List α) (i : Nat) (hi : i ≤ L.length) (b : Bool) :
    let B := L.map bit
    (if b then B.count false + rankSpec B i else i - rankSpec B i) =
      (if b then L.countP (fun x => !bit x) else 0) + (L.take i).countP (fun x => bit x == b) := by
  intro B
  cases b with
  | true =>
    simp only [if_true, B, count_false_map, rankSpec_map]
    congr 2; funext x; cases bit x <;> rfl
  | false =>
    simp only [Bool.false_eq_true, if_false, B, sub_rankSpec_map bit L i hi, Nat.zero_add]
    congr 1; funext x; cases bit x <;> rfl

end OneLevel

theorem countP_filter' {α : Type} (p q : α → Bool) (L : List α) :
    (L.filter p).countP q = L.countP (fun x => p x && q x) := by
  rw [List.countP_filter]; congr 1; funext x; exact Bool.and_comm _ _

theorem countP_take_stepPos {α : Type} (b q : α → Bool) (L : List α) (p : Nat) (β : Bool) :
    ((part b L).take (stepPos b L p β)).countP q =
      (if β then L.countP (fun x => !b x && q x) else 0) + (L.take p).countP (fun x => (b x == β) && q x) := by
  unfold part stepPos
  cases β with
  | true =>
    simp only [if_true]
    rw [List.countP_eq_length_filter (p := fun x => !b x), List.take_append, List.take_of_length_le
      (Nat.le_add_right _ _), Nat.add_sub_cancel_left, take_filter_countP, List.countP_append,
      countP_filter', countP_filter']
    congr 2; funext x; cases b x <;> rfl
  | false =>
    simp only [Bool.false_eq_true, if_false, Nat.zero_add]
    have hle : (L.take p).countP (fun x => !b x) ≤ (L.filter (fun x => !b x)).length := by
      rw [← List.countP_eq_length_filter]; exact countP_take_le _ _ _
    rw [List.take_append_of_le_length hle, take_filter_countP, countP_filter']
    congr 1; funext x; cases b x <;> rfl

theorem countP_take_mono {α : Type} (q : α → Bool) (L : List α) {a b : Nat} (h : a ≤ b) :
    (L.take a).countP q ≤ (L.take b).countP q := by
  have : L.take a = (L.take b).take a := by rw [List.take_take, Nat.min_eq_left h]
  rw [this]; exact countP_take_le _ _ _

theorem countP_take_lt {α : Type} (q : α → Bool) (L : List α) (j p : Nat) (x : α)
    (hx : L[j]? = some x) (hq : q x = true) (hjp : j < p) :
    (L.take j).countP q < (L.take p).countP q := by
  have h1 := countP_take_mono q L (show j + 1 ≤ p from hjp)
  have h2 : (L.take (j + 1)).countP q = (L.take j).countP q + 1 := by
    rw [List.take_add_one, hx, List.countP_append]; simp [hq]
  omega

/-- `stepPos` reflects the order on positions carrying the bit `β` -/
theorem le_of_stepPos_le {α : Type} (b : α → Bool) (L : List α) (j p : Nat) (β : Bool) (x : α)
    (hx : L[j]? = some x) (hb : b x = β) (h : stepPos b L p β ≤ stepPos b L j β) : p ≤ j := by
  apply Nat.le_of_not_lt
  intro hjp
  unfold stepPos at h
  cases β with
  | true =>
    have := countP_take_lt b L j p x hx hb hjp
    simp only [if_true] at h; omega
  | false =>
    have := countP_take_lt (fun x => !b x) L j p x hx (by simp [hb]) hjp
    simp only [Bool.false_eq_true, if_false] at h; omega

/-! ## The levels of the wavelet matrix as lists -/

/-- the bit tested at level `l` of a `w`-level matrix: bit `w-1-l` (most significant first) -/
def bitAt (w l v : Nat) : Bool := decide ((v / 2 ^ (w - 1 - l)) % 2 = 1)

/-- `S w V l` : the sequence stored (conceptually) at level `l` -/
def S (w : Nat) (V : List Nat) : Nat → List Nat
  | 0 => V
  | l + 1 => part (bitAt w l) (S w V l)

def col (w : Nat) (V : List Nat) (l : Nat) : List Bool := (S w V l).map (bitAt w l)

theorem S_perm (w : Nat) (V : List Nat) (n : Nat) : (S w V n).Perm V := by
  induction n with
  | zero => exact List.Perm.refl _
  | succ n ih => exact (part_perm _ _).trans ih

theorem length_S (w : Nat) (V : List Nat) (l : Nat) : (S w V l).length = V.length := (S_perm w V l).length_eq

theorem countP_S (w : Nat) (V : List Nat) (l : Nat) (q : Nat → Bool) : (S w V l).countP q = V.countP q :=
  (S_perm w V l).countP_eq q

theorem length_col (w : Nat) (V : List Nat) (l : Nat) : (col w V l).length = V.length := by
  simp only [col, List.length_map, length_S]

theorem getElem?_col {w : Nat} {V : List Nat} {l p x : Nat} (h : (S w V l)[p]? = some x) :
    (col w V l)[p]? = some (bitAt w l x) := by
  simp only [col, List.getElem?_map, h, Option.map_some]

/-- equality of the bits tested by the first `n` levels -/
def keyEq (w : Nat) : Nat → Nat → Nat → Bool
  | 0, _, _ => true
  | n + 1, u, v => keyEq w n u v && (bitAt w n u == bitAt w n v)

/-- strict order of the (bit-reversed) keys formed by the first `n` levels; level `n-1` is most significant -/
def keyLt (w : Nat) : Nat → Nat → Nat → Bool
  | 0, _, _ => false
  | n + 1, u, v => (!bitAt w n u && bitAt w n v) || ((bitAt w n u == bitAt w n v) && keyLt w n u v)

/-- (virtual) position after `n` levels of index `i` (clamped) carrying value `v` -/
def vpos (w : Nat) (V : List Nat) : Nat → Nat → Nat → Nat
  | 0, i, _ => min i V.length
  | n + 1, i, v => stepPos (bitAt w n) (S w V n) (vpos w V n i v) (bitAt w n v)

theorem vpos_le (w : Nat) (V : List Nat) (n i v : Nat) : vpos w V n i v ≤ V.length := by
  cases n with
  | zero => exact Nat.min_le_right _ _
  | succ n => simp only [vpos]; rw [← length_S w V n]; exact stepPos_le _ _ _ _

theorem take_min_length' {α : Type} (L : List α) (i : Nat) : L.take (min i L.length) = L.take i := by
  by_cases h : i ≤ L.length
  · rw [Nat.min_eq_left h]
  · rw [Nat.min_eq_right (by omega), List.take_length, List.take_of_length_le (by omega)]

/-- **the sorting invariant**: the first `vpos` elements of level `n` are exactly (as a multiset) the elements
of `V` with a smaller key, plus the elements among the first `i` with an equal key. -/
theorem countP_take_vpos (w : Nat) (V : List Nat) (n i v : Nat) (q : Nat → Bool) :
    ((S w V n).take (vpos w V n i v)).countP q =
      V.countP (fun u => keyLt w n u v && q u) + (V.take i).countP (fun u => keyEq w n u v && q u) := by
  induction n generalizing q with
  | zero =>
    simp only [S, vpos, keyLt, keyEq, Bool.false_and, Bool.true_and, List.countP_false]
    rw [take_min_length']
    exact (Nat.zero_add _).symm
  | succ n ih =>
    simp only [S, vpos]
    rw [countP_take_stepPos, ih]
    cases hv : bitAt w n v with
    | true =>
      simp only [if_true, countP_S]
      rw [countP_split (bitAt w n) (fun u => keyLt w (n + 1) u v && q u) V]
      simp only [keyLt, keyEq, hv]
      rw [← Nat.add_assoc]
      congr 2
      · congr 1; funext u; cases bitAt w n u <;> simp
      · congr 1; funext u; cases bitAt w n u <;> simp
      · congr 1; funext u; cases bitAt w n u <;> cases keyEq w n u v <;> simp
    | false =>
      simp only [Bool.false_eq_true, if_false, Nat.zero_add, keyLt, keyEq, hv]
      congr 2
      · funext u; cases bitAt w n u <;> cases keyLt w n u v <;> simp
      · funext u; cases bitAt w n u <;> cases keyEq w n u v <;> simp

/-- closed form of the virtual position -/
theorem vpos_eq (w : Nat) (V : List Nat) (n i v : Nat) :
    vpos w V n i v = V.countP (fun u => keyLt w n u v) + (V.take i).countP (fun u => keyEq w n u v) := by
  have h := countP_take_vpos w V n i v (fun _ => true)
  simp only [Bool.and_true, List.countP_true, List.length_take, length_S] at h
  rw [Nat.min_eq_left (vpos_le w V n i v)] at h
  exact h

/-- a real element is found at its position on every level -/
theorem getElem?_S_vpos (w : Nat) (V : List Nat) (n i x : Nat) (hx : V[i]? = some x) :
    (S w V n)[vpos w V n i x]? = some x := by
  induction n with
  | zero =>
    have := (List.getElem?_eq_some_iff.mp hx).1
    simp only [S, vpos]; rw [Nat.min_eq_left (Nat.le_of_lt this)]; exact hx
  | succ n ih => simp only [S, vpos]; exact getElem?_part _ _ _ _ ih

theorem vpos_congr (w : Nat) (V : List Nat) (n i v v' : Nat) (h : ∀ l, l < n → bitAt w l v = bitAt w l v') :
    vpos w V n i v = vpos w V n i v' := by
  induction n with
  | zero => rfl
  | succ n ih =>
    simp only [vpos]
    rw [ih (fun l hl => h l (Nat.lt_succ_of_lt hl)), h n (Nat.lt_succ_self n)]

theorem keyEq_iff_bits (w n u v : Nat) : keyEq w n u v = true ↔ ∀ l, l < n → bitAt w l u = bitAt w l v := by
  induction n with
  | zero => simp [keyEq]
  | succ n ih =>
    simp only [keyEq, Bool.and_eq_true, ih, beq_iff_eq]
    constructor
    · rintro ⟨h1, h2⟩ l hl
      by_cases hln : l = n
      · subst hln; exact h2
      · exact h1 l (by omega)
    · intro h; exact ⟨fun l hl => h l (by omega), h n (by omega)⟩

theorem vpos_of_keyEq (w : Nat) (V : List Nat) (n i x v : Nat) (h : keyEq w n x v = true) :
    vpos w V n i x = vpos w V n i v :=
  vpos_congr w V n i x v ((keyEq_iff_bits w n x v).mp h)

theorem bitAt_eq_testBit (w l v : Nat) : bitAt w l v = v.testBit (w - 1 - l) := by
  rw [Nat.testBit_eq_decide_div_mod_eq, bitAt]

/-- only the low `w` bits of a value are ever looked at -/
theorem bitAt_mod (w l v : Nat) (hl : l < w) : bitAt w l (v % 2 ^ w) = bitAt w l v := by
  rw [bitAt_eq_testBit, bitAt_eq_testBit, Nat.testBit_mod_two_pow]
  simp only [show w - 1 - l < w by omega, decide_true, Bool.true_and]

theorem keyEq_iff (w u v : Nat) : keyEq w w u v = true ↔ u % 2 ^ w = v % 2 ^ w := by
  rw [keyEq_iff_bits]
  constructor
  · intro h
    apply Nat.eq_of_testBit_eq
    intro k
    rw [Nat.testBit_mod_two_pow, Nat.testBit_mod_two_pow]
    by_cases hk : k < w
    · have := h (w - 1 - k) (by omega)
      rw [bitAt_eq_testBit, bitAt_eq_testBit, show w - 1 - (w - 1 - k) = k by omega] at this
      simp only [hk, decide_true, Bool.true_and, this]
    · simp only [hk, decide_false, Bool.false_and]
  · intro h l hl
    rw [← bitAt_mod w l u hl, ← bitAt_mod w l v hl, h]

theorem keyEq_iff_of_lt (w u v : Nat) (hu : u < 2 ^ w) : keyEq w w u v = true ↔ u = v % 2 ^ w := by
  rw [keyEq_iff, Nat.mod_eq_of_lt hu]

/-- `first v` : the number of elements whose (bit-reversed) key is smaller than that of `v` -/
def firstPos (width : Nat) (V : List Nat) (v : Nat) : Nat := V.countP (fun u => keyLt width width u v)

theorem firstPos_mod (w : Nat) (V : List Nat) (v : Nat) : firstPos w V (v % 2 ^ w) = firstPos w V v := by
  have h : vpos w V w 0 (v % 2 ^ w) = vpos w V w 0 v := vpos_congr w V w 0 _ _ (fun l hl => bitAt_mod w l v hl)
  unfold firstPos
  simpa only [vpos_eq, List.take_zero, List.countP_nil, Nat.add_zero] using h

/-- after all levels: `first v` plus the occurrences of (the low `width` bits of) `v` before `i` -/
theorem vpos_width {V : List Nat} {width : Nat} (hV : ∀ v, v ∈ V → v < 2 ^ width) (i v : Nat) :
    vpos width V width i v = firstPos width V v + (V.take i).count (v % 2 ^ width) := by
  rw [vpos_eq, List.count_eq_countP, firstPos]
  congr 1
  apply List.countP_congr
  intro u hu
  rw [keyEq_iff_of_lt width u v (hV u (List.mem_of_mem_take hu))]
  simp

/-- position of the `i`-th element in the last level -/
def finalPos (width : Nat) (V : List Nat) (i : Nat) (x : Nat) : Nat := firstPos width V x + (V.take i).count x

/-- the closed form of the final position of a value below `2 ^ width` -/
theorem vpos_final {V : List Nat} {width : Nat} (hV : ∀ v, v ∈ V → v < 2 ^ width) (i x : Nat) (hx : x < 2 ^ width) :
    vpos width V width i x = finalPos width V i x := by
  rw [vpos_width hV, Nat.mod_eq_of_lt hx]; rfl

theorem firstPos_add_count_le {V : List Nat} {width : Nat} (hV : ∀ v, v ∈ V → v < 2 ^ width) (v : Nat)
    (hv : v < 2 ^ width) : firstPos width V v + V.count v ≤ V.length := by
  have h := vpos_le width V width V.length v
  rwa [vpos_width hV, Nat.mod_eq_of_lt hv, List.take_length] at h

theorem firstPos_lt_of_mem {V : List Nat} {width : Nat} (hV : ∀ v, v ∈ V → v < 2 ^ width) (v : Nat) (hv : v ∈ V) :
    firstPos width V v < V.length := by
  have h := firstPos_add_count_le hV v (hV v hv)
  have := List.count_pos_iff.mpr hv
  omega

/-- pure specification of `map_up_with` through the first `n` levels (from level `n-1` up to level 0) -/
def upS (w : Nat) (V : List Nat) (v : Nat) : Nat → Nat → Option Nat
  | 0, idx => some idx
  | n + 1, idx => (upStep (bitAt w n) (S w V n) idx (bitAt w n v)).bind (upS w V v n)

/-- the way up inverts the way down: `upS` returns `i` exactly when `V[i]` carries the key of `v` and the pair
`(i, v)` stands at `idx` after `n` levels -/
theorem upS_eq_some (w : Nat) (V : List Nat) (v n idx i : Nat) (h0 : n = 0 → idx < V.length) :
    upS w V v n idx = some i ↔
      ∃ x, V[i]? = some x ∧ keyEq w n x v = true ∧ vpos w V n i v = idx := by
  induction n generalizing idx with
  | zero =>
    have h0 := h0 rfl
    simp only [upS, keyEq, vpos, Option.some.injEq, true_and]
    constructor
    · intro h; subst h
      exact ⟨V[idx], List.getElem?_eq_getElem h0, Nat.min_eq_left (Nat.le_of_lt h0)⟩
    · rintro ⟨x, hx, h⟩
      have := (List.getElem?_eq_some_iff.mp hx).1
      rw [Nat.min_eq_left (Nat.le_of_lt this)] at h; exact h.symm
  | succ n ih =>
    simp only [upS, Option.bind_eq_some_iff, upStep_eq_some, keyEq, vpos, Bool.and_eq_true, beq_iff_eq]
    constructor
    · rintro ⟨j, ⟨⟨y, hy, hby⟩, hstep⟩, hup⟩
      have hj : j < V.length := by
        have := (List.getElem?_eq_some_iff.mp hy).1; rwa [length_S] at this
      obtain ⟨x, hx, hk, hp⟩ := (ih j (fun _ => hj)).mp hup
      have hget := getElem?_S_vpos w V n i x hx
      rw [vpos_of_keyEq w V n i x v hk, hp, hy] at hget
      cases hget
      exact ⟨y, hx, ⟨hk, hby⟩, by rw [hp]; exact hstep⟩
    · rintro ⟨x, hx, ⟨hk, hb⟩, hp⟩
      have hget := getElem?_S_vpos w V n i x hx
      rw [vpos_of_keyEq w V n i x v hk] at hget
      refine ⟨vpos w V n i v, ⟨⟨x, hget, hb⟩, hp⟩, ?_⟩
      have hlt : vpos w V n i v < V.length := by
        have := (List.getElem?_eq_some_iff.mp hget).1; rwa [length_S] at this
      exact (ih _ (fun _ => hlt)).mpr ⟨x, hx, hk, rfl⟩

/-- index of the `r`-th occurrence (from 0) of `v` in `V` -/
def selectVal (V : List Nat) (v r : Nat) : Option Nat := selectBits (V.map (fun u => u == v)) r

theorem selectVal_eq_some (V : List Nat) (v r i : Nat) :
    selectVal V v r = some i ↔ V[i]? = some v ∧ (V.take i).count v = r := by
  unfold selectVal
  rw [selectBits_map_eq_some, List.count_eq_countP]
  simp only [beq_iff_eq]
  constructor
  · rintro ⟨⟨x, hx, rfl⟩, h⟩; exact ⟨hx, h⟩
  · rintro ⟨hx, h⟩; exact ⟨⟨v, hx, rfl⟩, h⟩

theorem selectVal_eq_none (V : List Nat) (v r : Nat) : selectVal V v r = none ↔ V.count v ≤ r := by
  unfold selectVal
  rw [selectBits_eq_none, count_true_map, List.count_eq_countP]

/-! ### the keys as numbers; `reverse_bits` -/

/-- the bit-reversed key: the bit tested at level `l` has weight `2^l` -/
def rkey (w : Nat) : Nat → Nat → Nat
  | 0, _ => 0
  | n + 1, v => rkey w n v + (if bitAt w n v then 2 ^ n else 0)

theorem rkey_lt (w n v : Nat) : rkey w n v < 2 ^ n := by
  induction n with
  | zero => simp [rkey]
  | succ n ih => simp only [rkey, Nat.pow_succ]; split <;> omega

/-- equality and order of the level keys are those of the bit-reversed keys -/
theorem key_iff_rkey (w n u v : Nat) :
    keyEq w n u v = decide (rkey w n u = rkey w n v) ∧ keyLt w n u v = decide (rkey w n u < rkey w n v) := by
  induction n with
  | zero => simp [keyEq, keyLt, rkey]
  | succ n ih =>
    have hu := rkey_lt w n u
    have hv := rkey_lt w n v
    simp only [keyEq, keyLt, rkey, ih.1, ih.2]
    constructor <;>
      by_cases hbu : bitAt w n u = true <;> by_cases hbv : bitAt w n v = true <;> simp [hbu, hbv] <;> omega

theorem firstPos_eq_rkey (w : Nat) (V : List Nat) (v : Nat) :
    firstPos w V v = V.countP (fun u => decide (rkey w w u < rkey w w v)) := by
  unfold firstPos; congr 1; funext u; exact (key_iff_rkey w w u v).2

theorem testBit_rkey (w n v l : Nat) : (rkey w n v).testBit l = (decide (l < n) && bitAt w l v) := by
  induction n with
  | zero => simp [rkey]
  | succ n ih =>
    have hlt := rkey_lt w n v
    simp only [rkey]
    by_cases hb : bitAt w n v = true
    · rw [if_pos hb, Nat.add_comm]
      rcases Nat.lt_trichotomy l n with h | h | h
      · rw [Nat.testBit_two_pow_add_gt h, ih]; simp [h, Nat.lt_succ_of_lt h]
      · subst h
        rw [Nat.testBit_two_pow_add_eq, Nat.testBit_lt_two_pow hlt, hb]; simp
      · have h2 : 2 ^ n + rkey w n v < 2 ^ l := by
          have : 2 ^ (n + 1) ≤ 2 ^ l := Nat.pow_le_pow_right (by omega) h
          rw [Nat.pow_succ] at this; omega
        rw [Nat.testBit_lt_two_pow h2]
        simp [show ¬ l < n + 1 by omega]
    · rw [if_neg hb, Nat.add_zero, ih]
      by_cases hl : l = n
      · subst hl; simp [Bool.eq_false_iff.mpr hb]
      · by_cases hln : l < n
        · simp [hln, Nat.lt_succ_of_lt hln]
        · simp [hln, show ¬ l < n + 1 by omega]

/-- `u64::reverse_bits` is the key shifted to the top of the word -/
theorem rev64_eq_rkey (w v : Nat) (hw1 : 1 ≤ w) (hw : w ≤ 64) (hv : v < 2 ^ w) :
    rev64 v = rkey w w v * 2 ^ (64 - w) := by
  apply Nat.eq_of_testBit_eq
  intro j
  rw [Nat.testBit_mul_two_pow, testBit_rkey, bitAt_eq_testBit]
  unfold rev64
  rw [← BitVec.getLsbD, BitVec.getLsbD_reverse, BitVec.getMsbD_eq_getLsbD, BitVec.getLsbD_ofNat]
  by_cases h1 : j < 64
  · by_cases h2 : 64 - w ≤ j
    · simp only [h1, h2, decide_true, Bool.true_and, show 64 - 1 - j < 64 by omega,
        show j - (64 - w) < w by omega]
      congr 1; omega
    · have : v < 2 ^ (64 - 1 - j) := Nat.lt_of_lt_of_le hv (Nat.pow_le_pow_right (by omega) (by omega))
      simp only [h2, decide_false, Bool.false_and, Nat.testBit_lt_two_pow this, Bool.and_false]
  · simp only [h1, decide_false, Bool.false_and]
    simp only [show ¬ j - (64 - w) < w by omega, decide_false, Bool.false_and, Bool.and_false]

theorem rev64_lt_iff (w u v : Nat) (hw1 : 1 ≤ w) (hw : w ≤ 64) (hu : u < 2 ^ w) (hv : v < 2 ^ w) :
    rev64 u < rev64 v ↔ rkey w w u < rkey w w v := by
  rw [rev64_eq_rkey w u hw1 hw hu, rev64_eq_rkey w v hw1 hw hv]
  exact Nat.mul_lt_mul_right (Nat.two_pow_pos _)

theorem rev64_inj (u v : Nat) (hu : u < 2 ^ 64) (hv : v < 2 ^ 64) (h : rev64 u = rev64 v) : u = v := by
  rw [rev64_eq_rkey 64 u (by omega) (by omega) hu, rev64_eq_rkey 64 v (by omega) (by omega) hv] at h
  simp only [Nat.sub_self, Nat.pow_zero, Nat.mul_one] at h
  have := (keyEq_iff 64 u v).mp (by rw [(key_iff_rkey 64 64 u v).1]; simpa using h)
  rwa [Nat.mod_eq_of_lt hu, Nat.mod_eq_of_lt hv] at this

/-- `bits::reverse_low(v, w)` is the key -/
theorem reverseLow_eq_rkey (w v : Nat) (hw1 : 1 ≤ w) (hw : w ≤ 64) (hv : v < 2 ^ w) :
    (reverseLow (BitVec.ofNat 64 v) w).toNat = rkey w w v := by
  have h := rev64_eq_rkey w v hw1 hw hv
  unfold rev64 at h
  unfold reverseLow
  rw [BitVec.toNat_ushiftRight, h, Nat.shiftRight_eq_div_pow, Nat.mul_div_cancel _ (Nat.two_pow_pos _)]

theorem firstPos_eq_rev64 (w : Nat) (V : List Nat) (hw1 : 1 ≤ w) (hw : w ≤ 64) (hV : ∀ u, u ∈ V → u < 2 ^ w)
    (v : Nat) (hv : v < 2 ^ w) :
    firstPos w V v = V.countP (fun u => decide (rev64 u < rev64 v)) := by
  rw [firstPos_eq_rkey]
  apply List.countP_congr
  intro u hu
  simp only [decide_eq_true_eq]
  exact (rev64_lt_iff w u v hw1 hw (hV u hu) hv).symm

/-- level `n` is sorted by the key formed by the first `n` levels -/
theorem S_sorted (w : Nat) (V : List Nat) (n : Nat) :
    (S w V n).Pairwise (fun a b => rkey w n a ≤ rkey w n b) := by
  induction n with
  | zero => simp [S, rkey, List.pairwise_iff_forall_sublist]
  | succ n ih =>
    simp only [S, part, List.pairwise_append]
    -- inside either half the new bit is the same on both sides: the order is that of level `n`
    have same : ∀ a b, bitAt w n a = bitAt w n b → rkey w n a ≤ rkey w n b →
        rkey w (n + 1) a ≤ rkey w (n + 1) b := by
      intro a b h hab
      simp only [rkey, h]; omega
    refine ⟨?_, ?_, ?_⟩
    · apply (ih.filter _).imp_of_mem
      intro a b ha hb
      have ha' := (List.mem_filter.mp ha).2
      have hb' := (List.mem_filter.mp hb).2
      simp only [Bool.not_eq_eq_eq_not, Bool.not_true] at ha' hb'
      exact same a b (ha'.trans hb'.symm)
    · apply (ih.filter _).imp_of_mem
      intro a b ha hb
      exact same a b ((List.mem_filter.mp ha).2.trans (List.mem_filter.mp hb).2.symm)
    · intro a ha b hb
      have ha' := (List.mem_filter.mp ha).2
      have hb' := (List.mem_filter.mp hb).2
      simp only [Bool.not_eq_eq_eq_not, Bool.not_true] at ha'
      have := rkey_lt w n a
      simp only [rkey, ha', hb', if_true]
      simp; omega

/-- the last level of the wavelet matrix is `V` sorted by `u64::reverse_bits` -/
theorem S_sorted_rev64 (w : Nat) (V : List Nat) (hw1 : 1 ≤ w) (hw : w ≤ 64) (hV : ∀ v, v ∈ V → v < 2 ^ w) :
    (S w V w).Pairwise (fun a b => rev64 a ≤ rev64 b) := by
  apply (S_sorted w V w).imp_of_mem
  intro a b ha hb hab
  have ha' := hV a ((S_perm w V w).mem_iff.mp ha)
  have hb' := hV b ((S_perm w V w).mem_iff.mp hb)
  rw [rev64_eq_rkey w a hw1 hw ha', rev64_eq_rkey w b hw1 hw hb']
  exact Nat.mul_le_mul_right _ hab

/-! ## The model against the lists -/

/-- the abstract interface of a per-level bitvector `b` holding the bits `B` -/
structure LevelOk (b : BitVector) (B : List Bool) : Prop where
  len : b.len = B.length
  zeros : b.countZeros = B.count false
  ones : b.countOnes = B.count true
  get : ∀ i, i < B.length → b.get i = .ok (B[i]?.getD false)
  rank : ∀ i, b.rankQ i = .ok (rankSpec B i)
  rank0 : ∀ m i, i ≤ B.length → b.rankZeroQ m i = .ok (i - rankSpec B i)
  sel : ∀ m r, b.selectQ m r = .ok (selectSpec B r)
  selz : ∀ m r, b.selectZeroQ m r = .ok (selectZeroSpec B r)

/-- a plain bitvector over the well-formed raw vector `v` with ANY valid rank / select / select_zero supports answers
every query by the list-level specification of `v.bits` -/
theorem LevelOk.of_valid {b : BitVector} {v : RawVec} {rs : RankSup} {s1 s0 : SelSup} (hv : v.WF)
    (hlen : v.len < 2 ^ 64) (hdata : b.data = v) (hones : b.ones = v.bits.count true)
    (hrank : b.rank = some rs) (hrs : rs.Valid v) (hsel : b.select = some s1) (hs1 : s1.Valid .ident v)
    (hselz : b.selectZero = some s0) (hs0 : s0.Valid .compl v) : LevelOk b v.bits := by
  have hblen : b.len = v.bits.length := by rw [RawVec.bits_length, ← hdata]; rfl
  refine ⟨hblen, ?_, hones, fun i hi => ?_, rankQ_ok hv hdata hrank hrs hones,
    fun m i _ => rankZeroQ_ok hv hdata hrank hrs hones m i,
    selectT_ok hv hlen hdata hones hsel hs1, selectT_ok hv hlen hdata hones hselz hs0⟩
  · have := length_eq_count_true_add_false v.bits
    show b.len - b.ones = _
    rw [hblen, hones]; omega
  · show b.data.bitM i = _
    rw [hdata]; exact RawVec.bitM_ok hv i (by rwa [RawVec.bits_length] at hi)

/-- `BitVector::from(raw)` with rank / select / select_zero enabled -/
theorem levelOk_enableAll {v : RawVec} (hv : v.WF) (hlen : v.len < 2 ^ 64) :
    LevelOk (BitVector.ofRaw v).enableAll v.bits :=
  .of_valid hv hlen rfl (countOnes_eq v hv) rfl (build_valid hv hlen) rfl (SelSup.build_valid hv hlen .ident) rfl
    (SelSup.build_valid hv hlen .compl)

/-- … of a bit list: a level as the builder and the loader make it -/
theorem levelOk_ofBits (B : List Bool) (h : B.length < 2 ^ 63) :
    LevelOk (BitVector.ofRaw (RawVec.ofBits B)).enableAll B := by
  have := levelOk_enableAll (RawVec.ofBits_WF B)
    (by rw [← RawVec.bits_length, RawVec.bits_ofBits]; exact Nat.lt_trans h (by decide))
  rwa [RawVec.bits_ofBits] at this

/-- `c` is a `width`-level wavelet matrix of the sequence `V` -/
structure WMCore.Encodes (c : WMCore) (V : List Nat) (width : Nat) : Prop where
  width_eq : c.width = width
  width_pos : 1 ≤ width
  width_le : width ≤ 64
  bound : ∀ v, v ∈ V → v < 2 ^ width
  len_lt : V.length < 2 ^ 63
  level : ∀ l, l < width → ∃ b, c.levels[l]? = some b ∧ LevelOk b (col width V l)

section Model
variable {c : WMCore} {V : List Nat} {width : Nat}

theorem level_ok (hc : c.Encodes V width) {l : Nat} (hl : l < width) :
    ∃ b, c.level l = ok b ∧ LevelOk b (col width V l) := by
  obtain ⟨b, hb, hok⟩ := hc.level l hl
  exact ⟨b, by simp only [WMCore.level, hb], hok⟩

theorem len_ok (hc : c.Encodes V width) : c.len = ok V.length := by
  obtain ⟨b, hb, hok⟩ := hc.level 0 hc.width_pos
  simp only [WMCore.len, hb, hok.len, length_col]

theorem not_mem_of_ge (hc : c.Encodes V width) {v : Nat} (h : 2 ^ width ≤ v) : v ∉ V :=
  fun hm => Nat.not_lt_of_le h (hc.bound v hm)

theorem bitValue_eq (hc : c.Encodes V width) (l : Nat) : c.bitValue l = 2 ^ (width - 1 - l) := by
  simp only [WMCore.bitValue, hc.width_eq]

/-- **one level down**: from position `p` with bit `β` to `stepPos`, by `map_down_one` / `map_down_zero` -/
theorem mapDownBit_ok (hc : c.Encodes V width) {l : Nat} (hl : l < width) (m : Mode) (p : Nat)
    (hp : p ≤ V.length) (β : Bool) :
    (if β then c.mapDownOne p l else c.mapDownZero m p l) =
      ok (stepPos (bitAt width l) (S width V l) p β) := by
  obtain ⟨b, hb, hok⟩ := level_ok hc hl
  have hp' : p ≤ (col width V l).length := by rw [length_col]; exact hp
  have hp'' : p ≤ (S width V l).length := by simp only [length_S]; exact hp
  cases β
  · simp only [Bool.false_eq_true, if_false, WMCore.mapDownZero, hb, bind_ok, hok.rank0 m p hp', col,
      sub_rankSpec_map _ _ _ hp'', stepPos]
  · simp only [if_true, WMCore.mapDownOne, hb, bind_ok, hok.rank, hok.zeros, col, count_false_map, rankSpec_map,
      stepPos, pure_eq]

/-- the test `value & bit_value(level) != 0` of the model is `bitAt` -/
theorem bitTest_eq (hc : c.Encodes V width) (v l : Nat) :
    ((v / c.bitValue l) % 2 = 1) = (bitAt width l v = true) := by
  simp only [bitAt, bitValue_eq hc, decide_eq_true_eq]

theorem mapDownWith_fold (hc : c.Encodes V width) (m : Mode) (i v n : Nat) (hn : n ≤ width) :
    (List.range n).foldlM (fun i l =>
      if (v / c.bitValue l) % 2 = 1 then c.mapDownOne i l else c.mapDownZero m i l) (min i V.length)
      = ok (vpos width V n i v) :=
  foldlM_range_ok _ (fun n => vpos width V n i v) n fun l hl => by
    simp only [bitTest_eq hc]
    exact mapDownBit_ok hc (Nat.lt_of_lt_of_le hl hn) m _ (vpos_le _ _ _ _ _) _

theorem mapDownWith_eq_vpos (hc : c.Encodes V width) (m : Mode) (i v : Nat) :
    c.mapDownWith m i v = ok (vpos width V width i v) := by
  simp only [WMCore.mapDownWith, len_ok hc, bind_ok, hc.width_eq]
  exact mapDownWith_fold hc m i v width (Nat.le_refl _)

/-- **`map_down_with`**: for every index `i` (clamped to the length by `take`) and every value `v`
(only the low `width` bits of `v` matter): the position is `first v` plus the number of occurrences before `i`. -/
theorem mapDownWith_ok' (hc : c.Encodes V width) (m : Mode) (i v : Nat) :
    c.mapDownWith m i v = ok (firstPos width V v + (V.take i).count (v % 2 ^ width)) := by
  rw [mapDownWith_eq_vpos hc, vpos_width hc.bound]

theorem mapDownWith_ok (hc : c.Encodes V width) (m : Mode) (i v : Nat) (hv : v < 2 ^ width) :
    c.mapDownWith m i v = ok (firstPos width V v + (V.take i).count v) := by
  rw [mapDownWith_ok' hc, Nat.mod_eq_of_lt hv]

theorem mapDownWith_mod (hc : c.Encodes V width) (m : Mode) (i v : Nat) :
    c.mapDownWith m i v = c.mapDownWith m i (v % 2 ^ width) := by
  rw [mapDownWith_ok' hc, mapDownWith_ok' hc, Nat.mod_mod, firstPos_mod]

/-! ### `map_down` -/

theorem valAcc_step (x k : Nat) : x / 2 ^ (k + 1) * 2 ^ (k + 1) + (x / 2 ^ k % 2) * 2 ^ k = x / 2 ^ k * 2 ^ k := by
  rw [Nat.pow_succ, ← Nat.div_div_eq_div_mul]
  generalize x / 2 ^ k = y
  generalize 2 ^ k = P
  have : y / 2 * (P * 2) = (y / 2 * 2) * P := by
    rw [Nat.mul_assoc, Nat.mul_comm 2 P]
  rw [this, ← Nat.add_mul, Nat.div_add_mod']

/-- the value read so far (the top `n` of the `w` bits of `x`, in place) takes the bit of level `n` -/
theorem valAcc_bit (w n x : Nat) (hn : n < w) :
    x / 2 ^ (w - n) * 2 ^ (w - n) + (if bitAt w n x then 2 ^ (w - 1 - n) else 0) =
      x / 2 ^ (w - (n + 1)) * 2 ^ (w - (n + 1)) := by
  have h := valAcc_step x (w - 1 - n)
  rw [show w - 1 - n + 1 = w - n by omega] at h
  rw [show w - (n + 1) = w - 1 - n by omega, ← h]
  unfold bitAt
  by_cases hb : x / 2 ^ (w - 1 - n) % 2 = 1
  · simp only [hb, decide_true, if_true, Nat.one_mul]
  · rw [show x / 2 ^ (w - 1 - n) % 2 = 0 by omega, Nat.zero_mul]; rfl

/-- **one level of `map_down`**: at a position holding `x` the level's bit is that of `x` -/
theorem mapDownAcc_ok (hc : c.Encodes V width) {l : Nat} (hl : l < width) (m : Mode) (p a x : Nat)
    (hx : (S width V l)[p]? = some x) :
    (do let b ← c.level l
        let bit ← b.get p
        if bit then do
          let i ← c.mapDownOne p l
          return (i, a + c.bitValue l)
        else do
          let i ← c.mapDownZero m p l
          return (i, a)) =
      ok (stepPos (bitAt width l) (S width V l) p (bitAt width l x),
        a + if bitAt width l x then 2 ^ (width - 1 - l) else 0) := by
  obtain ⟨b, hb, hok⟩ := level_ok hc hl
  have hlt : p < V.length := by rw [← length_S width V l]; exact (List.getElem?_eq_some_iff.mp hx).1
  have hg := hok.get p (by rw [length_col]; exact hlt)
  rw [getElem?_col hx] at hg
  have hd := mapDownBit_ok hc hl m p (Nat.le_of_lt hlt) (bitAt width l x)
  simp only [hb, bind_ok, hg, Option.getD_some, bitValue_eq hc]
  cases hbit : bitAt width l x <;> rw [hbit] at hd <;>
    simp only [Bool.false_eq_true, if_false, if_true] at hd ⊢ <;> rw [hd] <;> rfl

/-- Loop invariant of `map_down`: after `n` levels the accumulator is `vpos … n i x` together with the top `n`
of the `width` bits of `x` still in place. -/
theorem mapDown_fold (hc : c.Encodes V width) (m : Mode) (i x n : Nat) (hx : V[i]? = some x) (hn : n ≤ width) :
    (List.range n).foldlM (fun (acc : Nat × Nat) l => do
      let b ← c.level l
      let bit ← b.get acc.1
      if bit then do
        let i ← c.mapDownOne acc.1 l
        return (i, acc.2 + c.bitValue l)
      else do
        let i ← c.mapDownZero m acc.1 l
        return (i, acc.2)) (i, 0)
      = ok (vpos width V n i x, x / 2 ^ (width - n) * 2 ^ (width - n)) := by
  have h0 : (i, 0) = (vpos width V 0 i x, x / 2 ^ (width - 0) * 2 ^ (width - 0)) := by
    rw [Nat.sub_zero, Nat.div_eq_of_lt (hc.bound x (List.mem_of_getElem? hx)), Nat.zero_mul, vpos,
      Nat.min_eq_left (Nat.le_of_lt (List.getElem?_eq_some_iff.mp hx).1)]
  rw [h0]
  exact foldlM_range_ok _ (fun n => (vpos width V n i x, x / 2 ^ (width - n) * 2 ^ (width - n))) n fun l hl => by
    have hl' : l < width := Nat.lt_of_lt_of_le hl hn
    rw [mapDownAcc_ok hc hl' m _ _ x (getElem?_S_vpos width V l i x hx), valAcc_bit width l x hl']
    rfl

theorem vpos_real (hc : c.Encodes V width) (i x : Nat) (hx : V[i]? = some x) :
    vpos width V width i x = finalPos width V i x :=
  vpos_final hc.bound i x (hc.bound x (List.mem_of_getElem? hx))

/-- **`map_down`**: `(position in the last level, value)`; the position is
`|{j : key V[j] < key V[i]}| + |{j < i : V[j] = V[i]}|` and the last level holds `V[i]` there. -/
theorem mapDown_ok (hc : c.Encodes V width) (m : Mode) (i : Nat) (hi : i < V.length) :
    c.mapDown m i = ok (some (finalPos width V i V[i], V[i])) ∧
    (S width V width)[finalPos width V i V[i]]? = some V[i] := by
  have hx : V[i]? = some V[i] := List.getElem?_eq_getElem hi
  constructor
  · simp only [WMCore.mapDown, len_ok hc, bind_ok, ge_iff_le, Nat.not_le.mpr hi, if_false, hc.width_eq]
    rw [mapDown_fold hc m i V[i] width hx (Nat.le_refl _), bind_ok, vpos_real hc i _ hx]
    simp only [Nat.sub_self, Nat.pow_zero, Nat.div_one, Nat.mul_one, pure_eq]
  · rw [← vpos_real hc i _ hx]; exact getElem?_S_vpos width V width i _ hx

theorem mapDown_none (hc : c.Encodes V width) (m : Mode) (i : Nat) (hi : V.length ≤ i) :
    c.mapDown m i = ok none := by
  simp only [WMCore.mapDown, len_ok hc, bind_ok, ge_iff_le, hi, if_true, pure_eq]

/-! ### `map_up_with` -/

/-- **one level up**: the repaired `map_up_one` (`index.checked_sub(zeros)?`) and `map_up_zero` are total in both
modes, for every index -/
theorem mapUpBit_ok (hc : c.Encodes V width) {l : Nat} (hl : l < width) (m : Mode) (idx : Nat) (β : Bool) :
    (if β then c.mapUpOne m idx l else c.mapUpZero m idx l) =
      ok (upStep (bitAt width l) (S width V l) idx β) := by
  obtain ⟨b, hb, hok⟩ := level_ok hc hl
  cases β
  · simp only [Bool.false_eq_true, if_false, WMCore.mapUpZero, hb, bind_ok, hok.selz, col, upStep]
  · simp only [if_true, WMCore.mapUpOne, hb, bind_ok, hok.zeros, col, count_false_map, upStep]
    by_cases hz : idx < (S width V l).countP (fun x => !bitAt width l x)
    · rw [if_pos hz, if_pos hz]; rfl
    · rw [if_neg hz, if_neg hz, hok.sel]; rfl

theorem up_fold_none (g : Option Nat → Nat → Outcome (Option Nat)) (hg : ∀ l, g none l = ok none)
    (ls : List Nat) : ls.foldlM g none = ok none := by
  induction ls with
  | nil => rfl
  | cons a t ih => rw [List.foldlM_cons, hg, bind_ok, ih]

theorem range_succ_reverse (n : Nat) : (List.range (n + 1)).reverse = n :: (List.range n).reverse := by
  rw [List.range_succ, List.reverse_append]; rfl

theorem up_fold (hc : c.Encodes V width) (m : Mode) (v : Nat)
    (g : Option Nat → Nat → Outcome (Option Nat)) (hg : ∀ l, g none l = ok none)
    (hg' : ∀ i l, g (some i) l =
      if (v / c.bitValue l) % 2 = 1 then c.mapUpOne m i l else c.mapUpZero m i l)
    (n : Nat) (hn : n ≤ width) (idx : Nat) :
    (List.range n).reverse.foldlM g (some idx) = ok (upS width V v n idx) := by
  induction n generalizing idx with
  | zero => rfl
  | succ n ih =>
    have hn' : n < width := hn
    rw [range_succ_reverse, List.foldlM_cons, hg']
    simp only [bitTest_eq hc, upS]
    rw [mapUpBit_ok hc hn' m idx, bind_ok]
    cases hup : upStep (bitAt width n) (S width V n) idx (bitAt width n v) with
    | none => rw [up_fold_none g hg]; rfl
    | some j =>
      simp only [Option.bind_some]
      exact ih (Nat.le_of_succ_le hn) j

/-- **`map_up_with`** (repaired) is total: in both modes, for every start index and every value the result is
`upS`, characterised by `upS_eq_some` as the inverse of `map_down`. -/
theorem mapUpWith_eq_upS (hc : c.Encodes V width) (m : Mode) (idx v : Nat) :
    c.mapUpWith m idx v = ok (upS width V v width idx) := by
  unfold WMCore.mapUpWith
  rw [hc.width_eq]
  exact up_fold hc m v _ (fun _ => rfl) (fun _ _ => rfl) width (Nat.le_refl _) idx

theorem upS_width_eq_some (hc : c.Encodes V width) (v idx i : Nat) :
    upS width V v width idx = some i ↔
      V[i]? = some (v % 2 ^ width) ∧ firstPos width V v + (V.take i).count (v % 2 ^ width) = idx := by
  rw [upS_eq_some width V v width idx i (fun h => absurd h (by have := hc.width_pos; omega)), vpos_width hc.bound]
  constructor
  · rintro ⟨x, hx, hk, hp⟩
    rw [(keyEq_iff_of_lt width x v (hc.bound x (List.mem_of_getElem? hx))).mp hk] at hx
    exact ⟨hx, hp⟩
  · rintro ⟨hx, hp⟩
    exact ⟨_, hx, (keyEq_iff_of_lt width _ v (hc.bound _ (List.mem_of_getElem? hx))).mpr rfl, hp⟩

/-- **`map_up_with`, every index** (both modes): below `first v` the answer is `none`, at `first v + r` it is the
position of the `r`-th occurrence of `v`.  Only the low `width` bits of `v` matter. -/
theorem mapUpWith_total (hc : c.Encodes V width) (m : Mode) (idx v : Nat) :
    c.mapUpWith m idx v = ok (if idx < firstPos width V v then none
      else selectVal V (v % 2 ^ width) (idx - firstPos width V v)) := by
  rw [mapUpWith_eq_upS hc m idx v]
  congr 1
  apply Option.ext
  intro i
  rw [upS_width_eq_some hc]
  split
  · simp only [reduceCtorEq, iff_false, not_and]; omega
  · rw [selectVal_eq_some]
    constructor <;> rintro ⟨h1, h2⟩ <;> exact ⟨h1, by omega⟩

theorem mapUpWith_ok' (hc : c.Encodes V width) (m : Mode) (v r : Nat) :
    c.mapUpWith m (firstPos width V v + r) v = ok (selectVal V (v % 2 ^ width) r) := by
  rw [mapUpWith_total hc, if_neg (Nat.not_lt.mpr (Nat.le_add_right _ _)), Nat.add_sub_cancel_left]

theorem mapUpWith_ok (hc : c.Encodes V width) (m : Mode) (v r : Nat) (hv : v < 2 ^ width) :
    c.mapUpWith m (firstPos width V v + r) v = ok (selectVal V v r) := by
  rw [mapUpWith_ok' hc, Nat.mod_eq_of_lt hv]

theorem mapUpWith_none (hc : c.Encodes V width) (m : Mode) (v r : Nat) (hr : V.count (v % 2 ^ width) ≤ r) :
    c.mapUpWith m (firstPos width V v + r) v = ok none := by
  rw [mapUpWith_ok' hc, (selectVal_eq_none _ _ _).mpr hr]

/-- below `first v` both builds answer `none` (as first coded the checked build could panic there: see
`F4_mapUpWith_checked`) -/
theorem mapUpWith_lt (hc : c.Encodes V width) (m : Mode) (idx v : Nat) (h : idx < firstPos width V v) :
    c.mapUpWith m idx v = ok none := by
  rw [mapUpWith_total hc, if_pos h]

theorem mapUpWith_wrapping_lt (hc : c.Encodes V width) (idx v : Nat) (h : idx < firstPos width V v) :
    c.mapUpWith .wrapping idx v = ok none := mapUpWith_lt hc .wrapping idx v h

theorem mapUpWith_finalPos (hc : c.Encodes V width) (m : Mode) (i : Nat) (hi : i < V.length) :
    c.mapUpWith m (finalPos width V i V[i]) V[i] = ok (some i) := by
  rw [finalPos, mapUpWith_ok hc m _ _ (hc.bound _ (List.getElem_mem hi))]
  exact congrArg ok ((selectVal_eq_some V V[i] _ i).mpr ⟨List.getElem?_eq_getElem hi, rfl⟩)

theorem mapUpWith_mapDownWith (hc : c.Encodes V width) (m : Mode) (i : Nat) (hi : i < V.length) :
    (c.mapDownWith m i V[i] >>= fun d => c.mapUpWith m d V[i]) = ok (some i) := by
  rw [mapDownWith_ok hc m i _ (hc.bound _ (List.getElem_mem hi)), bind_ok]
  exact mapUpWith_finalPos hc m i hi

end Model

/-! ## `WaveletMatrix` -/

/-- `w` represents `V`; `first`, defined on (at least) the values that occur, holds `first v` for an
occurring value and `len` for an absent one.  (The library builds it with length `max V + 1`.) -/
structure WM.Ok (w : WM) (V : List Nat) (width : Nat) : Prop where
  core : w.data.Encodes V width
  len : w.len = V.length
  mem_lt : ∀ v, v ∈ V → v < w.first.len
  first : ∀ v, v < w.first.len →
    ∃ x : Word, w.first.get v = ok x ∧ x.toNat = if v ∈ V then firstPos width V v else V.length

section WMTop
variable {w : WM} {V : List Nat} {width : Nat}

theorem start_ok (hw : w.Ok V width) (v : Nat) (hv : v < w.first.len) :
    w.start v = ok (if v ∈ V then firstPos width V v else V.length) := by
  obtain ⟨x, hx, hxv⟩ := hw.first v hv
  simp only [WM.start, hx, bind_ok, pure_eq, hxv]

theorem contains_ok (hw : w.Ok V width) (v : Nat) : w.contains v = ok (decide (v ∈ V)) := by
  unfold WM.contains
  by_cases hv : v < w.first.len
  · rw [if_pos hv, start_ok hw v hv, bind_ok, pure_eq, hw.len]
    by_cases hm : v ∈ V
    · simp only [hm, if_true, firstPos_lt_of_mem hw.core.bound v hm, decide_true]
    · simp only [hm, if_false, Nat.lt_irrefl, decide_false]
  · rw [if_neg hv]
    have hm : ¬ v ∈ V := fun h => hv (hw.mem_lt v h)
    simp only [hm, decide_false]

/-- **`rank`**: occurrences of `v` before `i`, for every `i` and every `v` (absent / out of alphabet: 0), both modes -/
theorem rank_ok_wm (hw : w.Ok V width) (m : Mode) (i v : Nat) : w.rank m i v = ok ((V.take i).count v) := by
  simp only [WM.rank, contains_ok hw, bind_ok]
  by_cases hm : v ∈ V
  · have hv := hw.core.bound v hm
    simp only [hm, decide_true, Bool.not_true, Bool.false_eq_true, if_false,
      mapDownWith_ok hw.core m i v hv, bind_ok, start_ok hw v (hw.mem_lt v hm), if_true]
    rw [subM_ok (Nat.le_add_right _ _), Nat.add_sub_cancel_left]
  · have : (V.take i).count v = 0 := List.count_eq_zero.mpr (fun h => hm (List.mem_of_mem_take h))
    simp only [hm, decide_false, Bool.not_false, if_true, pure_eq, this]

/-- **`select`** (repaired, `start.checked_add(rank)?`): correct in both modes for every rank and every value.
When `start + rank` does not fit a `usize` the answer is `none`, which is right since `rank ≥ 2^63 >` occurrences. -/
theorem select_ok_wm (hw : w.Ok V width) (m : Mode) (r v : Nat) :
    w.select m r v = ok (selectVal V v r) := by
  simp only [WM.select, contains_ok hw, bind_ok]
  by_cases hm : v ∈ V
  · have hv := hw.core.bound v hm
    have hf := firstPos_lt_of_mem hw.core.bound v hm
    simp only [hm, decide_true, Bool.not_true, Bool.false_eq_true, if_false,
      start_ok hw v (hw.mem_lt v hm), bind_ok, if_true]
    by_cases hov : firstPos width V v + r ≥ U64
    · have hlen := hw.core.len_lt
      have hU : U64 = 2 ^ 64 := U64_eq
      have hnone : selectVal V v r = none := (selectVal_eq_none V v r).mpr (by
        have : V.count v ≤ V.length := List.count_le_length; omega)
      rw [if_pos hov, hnone]; rfl
    · rw [if_neg hov, mapUpWith_ok hw.core m v r hv]
  · have : selectVal V v r = none := (selectVal_eq_none V v r).mpr (by
      rw [List.count_eq_zero.mpr hm]; exact Nat.zero_le _)
    simp only [hm, decide_false, Bool.not_false, if_true, pure_eq, this]

theorem select_wrapping (hw : w.Ok V width) (r v : Nat) :
    w.select .wrapping r v = ok (selectVal V v r) := select_ok_wm hw .wrapping r v

theorem inverseSelect_ok (hw : w.Ok V width) (m : Mode) (i : Nat) (hi : i < V.length) :
    w.inverseSelect m i = ok (some ((V.take i).count V[i], V[i])) := by
  have hm : V[i] ∈ V := List.getElem_mem hi
  simp only [WM.inverseSelect, (mapDown_ok hw.core m i hi).1, bind_ok, start_ok hw _ (hw.mem_lt _ hm), hm,
    if_true, finalPos]
  rw [subM_ok (Nat.le_add_right _ _), Nat.add_sub_cancel_left]; rfl

theorem inverseSelect_none (hw : w.Ok V width) (m : Mode) (i : Nat) (hi : V.length ≤ i) :
    w.inverseSelect m i = ok none := by
  simp only [WM.inverseSelect, mapDown_none hw.core m i hi, bind_ok, pure_eq]

theorem get_ok_wm (hw : w.Ok V width) (m : Mode) (i : Nat) (hi : i < V.length) : w.get m i = ok V[i] := by
  simp only [WM.get, inverseSelect_ok hw m i hi, bind_ok, unwrapM, pure_eq]

/-- `get` past the end is the `unwrap` panic of the library -/
theorem get_panic (hw : w.Ok V width) (m : Mode) (i : Nat) (hi : V.length ≤ i) :
    w.get m i = fault (.panic .unwrap) := by
  simp only [WM.get, inverseSelect_none hw m i hi, bind_ok, unwrapM, bind_fault]

theorem valueIterNext_ok (hw : w.Ok V width) (m : Mode) (v r : Nat) :
    w.valueIterNext m v r = ok (if r ≥ V.length then (none, r) else
      match selectVal V v r with
      | some idx => (some (r, idx), r + 1)
      | none => (none, V.length)) := by
  unfold WM.valueIterNext
  rw [hw.len]
  by_cases hr : r ≥ V.length
  · rw [if_pos hr, if_pos hr]
  · rw [if_neg hr, if_neg hr, select_ok_wm hw m r v, bind_ok]
    cases selectVal V v r <;> rfl

theorem valueIterNext_none (hw : w.Ok V width) (m : Mode) (v r : Nat) (hr : V.count v ≤ r) :
    ∃ st, w.valueIterNext m v r = ok (none, st) := by
  rw [valueIterNext_ok hw, (selectVal_eq_none V v r).mpr hr]
  split <;> exact ⟨_, rfl⟩

/-- default `successor` = `rank` -/
theorem successor_ok (hw : w.Ok V width) (m : Mode) (i v : Nat) :
    w.successor m i v = ok ((V.take i).count v) := rank_ok_wm hw m i v

/-- default `predecessor` (repaired, `index.saturating_add(1)`): rank of the last occurrence at or before `i`, or
`len`; holds for every `i` (for `i + 1 ≥ 2^64` the clamped prefix is already the whole vector) -/
theorem predecessor_ok (hw : w.Ok V width) (m : Mode) (i v : Nat) :
    w.predecessor m i v = ok (if (V.take (i + 1)).count v > 0 then (V.take (i + 1)).count v - 1 else V.length) := by
  have htake : V.take (BitVector.satAdd i 1) = V.take (i + 1) := by
    unfold BitVector.satAdd
    by_cases h : i + 1 ≤ U64 - 1
    · rw [Nat.min_eq_left h]
    · have hlen := hw.core.len_lt
      have hU : U64 = 2 ^ 64 := U64_eq
      rw [Nat.min_eq_right (by omega), List.take_of_length_le (by omega), List.take_of_length_le (by omega)]
  simp only [WM.predecessor, bind_ok, rank_ok_wm hw, pure_eq, hw.len, htake]

theorem absent_ok (hw : w.Ok V width) (m : Mode) {v : Nat} (hv : v ∉ V) :
    w.contains v = ok false ∧ (∀ i, w.rank m i v = ok 0) ∧ (∀ r, w.select m r v = ok none) ∧
    (∀ i, w.predecessor m i v = ok V.length) ∧ (∀ i, w.successor m i v = ok 0) := by
  have h0 : ∀ i, (V.take i).count v = 0 := fun i => List.count_eq_zero.mpr fun h => hv (List.mem_of_mem_take h)
  have hs : ∀ r, selectVal V v r = none := fun r =>
    (selectVal_eq_none V v r).mpr (by rw [List.count_eq_zero.mpr hv]; exact Nat.zero_le _)
  exact ⟨by rw [contains_ok hw, decide_eq_false hv], fun i => by rw [rank_ok_wm hw, h0],
    fun r => by rw [select_ok_wm hw, hs], fun i => by rw [predecessor_ok hw, h0]; rfl,
    fun i => by rw [successor_ok hw, h0]⟩

/-- finding F3: as first coded, `predecessor(usize::MAX, _)` overflows `index + 1` in the checked build, on every
structure -/
theorem F3_predecessorOld_checked (w : WM) (v : Nat) :
    WM.predecessorOld .checked w (2 ^ 64 - 1) v = fault (.panic .overflow) := by
  have h : ¬ (2 ^ 64 - 1 + 1 < U64) := by rw [U64_eq]; omega
  simp only [WM.predecessorOld, addM, h, if_false, bind_fault]

/-- the repaired `predecessor` answers there -/
theorem F3_predecessor_ok (hw : w.Ok V width) (m : Mode) (v : Nat) :
    w.predecessor m (2 ^ 64 - 1) v = ok (if V.count v > 0 then V.count v - 1 else V.length) := by
  have hlen := hw.core.len_lt
  rw [predecessor_ok hw, List.take_of_length_le (by omega)]

end WMTop

/-! ## The builder `WMCore::from` produces the levels `col` -/

theorem clzBelow_le_wm (w : Word) (k : Nat) : clzBelow w k ≤ k := by
  induction k with
  | zero => simp [clzBelow]
  | succ k ih => simp only [clzBelow]; split <;> omega

/-- the construction loop of `WMCore::from` after `n` levels -/
def ofValuesFold (w : Nat) (V : List Nat) (n : Nat) : Array BitVector × List Nat :=
  (List.range n).foldl (fun (acc : Array BitVector × List Nat) l =>
      let bv := 2 ^ (w - 1 - l)
      let isOne := fun v => (v / bv) % 2 = 1
      let raw := RawVec.ofBits (acc.2.map (fun v => decide (isOne v)))
      (acc.1.push (BitVector.ofRaw raw),
        acc.2.filter (fun v => !decide (isOne v)) ++ acc.2.filter (fun v => decide (isOne v))))
    (#[], V)

theorem ofValuesFold_eq (w : Nat) (V : List Nat) (n : Nat) :
    ofValuesFold w V n =
      (((List.range n).map fun l => BitVector.ofRaw (RawVec.ofBits (col w V l))).toArray, S w V n) := by
  induction n with
  | zero => rfl
  | succ n ih =>
    unfold ofValuesFold at ih ⊢
    rw [List.range_succ, List.foldl_append, ih]
    simp only [List.foldl_cons, List.foldl_nil, List.push_toArray, List.map_append, List.map_cons, List.map_nil]
    rfl

/-- the width chosen by the builder -/
def widthOf (V : List Nat) : Nat := bitLen (BitVec.ofNat 64 (V.foldl max 0))

/-- **the builder produces exactly the levels `col`** (with all support structures enabled) -/
theorem ofValues_eq (V : List Nat) :
    WMCore.ofValues V =
      ⟨((List.range (widthOf V)).map fun l =>
        (BitVector.ofRaw (RawVec.ofBits (col (widthOf V) V l))).enableAll).toArray⟩ := by
  have h : WMCore.ofValues V = WMCore.initSupport ⟨(ofValuesFold (widthOf V) V (widthOf V)).1⟩ := rfl
  rw [h, ofValuesFold_eq]
  simp only [WMCore.initSupport, List.map_toArray, List.map_map]
  rfl

theorem widthOf_pos (V : List Nat) : 1 ≤ widthOf V := (bitLen_spec _).1
theorem widthOf_le (V : List Nat) : widthOf V ≤ 64 := (bitLen_spec _).2.1

theorem lt_two_pow_widthOf (V : List Nat) (hV : ∀ v, v ∈ V → v < 2 ^ 64) (v : Nat) (hv : v ∈ V) :
    v < 2 ^ widthOf V := by
  have hmax : V.foldl max 0 < 2 ^ 64 := foldl_max_lt V 0 _ (by decide) hV
  have h := (bitLen_spec (BitVec.ofNat 64 (V.foldl max 0))).2.2.1
  rw [BitVec.toNat_ofNat, Nat.mod_eq_of_lt hmax] at h
  exact Nat.lt_of_le_of_lt ((le_foldl_max V 0).2 v hv) h

/-- the width of the builder is the least width (≥ 1) in which every value fits -/
theorem widthOf_minimal (V : List Nat) (w' : Nat) (hw : 1 ≤ w') (hfit : ∀ v, v ∈ V → v < 2 ^ w') :
    widthOf V ≤ w' := by
  by_cases h64 : w' ≤ 64
  · apply bitLen_le_of_lt _ _ hw
    have hlt : V.foldl max 0 < 2 ^ w' := foldl_max_lt V 0 _ (Nat.two_pow_pos w') hfit
    have : 2 ^ w' ≤ 2 ^ 64 := Nat.pow_le_pow_right (by decide) h64
    rw [BitVec.toNat_ofNat, Nat.mod_eq_of_lt (by omega)]
    exact hlt
  · have := widthOf_le V; omega

/-- **the builder output encodes its input** -/
theorem ofValues_encodes (V : List Nat) (hV : ∀ v, v ∈ V → v < 2 ^ 64) (hlen : V.length < 2 ^ 63) :
    (WMCore.ofValues V).Encodes V (widthOf V) where
  width_eq := by rw [ofValues_eq]; simp [WMCore.width]
  width_pos := widthOf_pos V
  width_le := widthOf_le V
  bound := lt_two_pow_widthOf V hV
  len_lt := hlen
  level := by
    intro l hl
    refine ⟨_, ?_, levelOk_ofBits _ (by rw [length_col]; exact hlen)⟩
    rw [ofValues_eq]
    simp [hl]

/-! ## `start_offsets` and the builder `WaveletMatrix::from` -/

/-- occurrence counters -/
theorem counts_fold (L : List Nat) (a : Array Nat) (v : Nat) (hv : v < a.size) :
    (L.foldl (fun a v => a.modify v (· + 1)) a).size = a.size ∧
    (L.foldl (fun a v => a.modify v (· + 1)) a)[v]?.getD 0 = a[v]?.getD 0 + L.count v := by
  induction L generalizing a with
  | nil => simp
  | cons x t ih =>
    simp only [List.foldl_cons]
    have := ih (a.modify x (· + 1)) (by rw [Array.size_modify]; exact hv)
    rw [Array.size_modify] at this
    refine ⟨this.1, ?_⟩
    rw [this.2, Array.getElem?_modify, List.count_cons]
    by_cases hx : x = v
    · subst hx; simp [hv]; omega
    · have : ¬ (x == v) = true := by simpa using hx
      simp [hx]

def offsStep (cnt : Nat → Nat) (len : Nat) (acc : Array Nat × Nat) (v : Nat) : Array Nat × Nat :=
  if cnt v = 0 then (acc.1.setIfInBounds v len, acc.2) else (acc.1.setIfInBounds v acc.2, acc.2 + cnt v)

/-- one step of the offsets loop: the running offset advances by `cnt v` in both branches -/
theorem offsStep_eq (cnt : Nat → Nat) (len : Nat) (acc : Array Nat × Nat) (v : Nat) :
    offsStep cnt len acc v =
      (acc.1.setIfInBounds v (if cnt v = 0 then len else acc.2), acc.2 + cnt v) := by
  unfold offsStep
  by_cases hc : cnt v = 0
  · rw [if_pos hc, if_pos hc, hc, Nat.add_zero]
  · rw [if_neg hc, if_neg hc]

/-- the offsets loop over a visiting order strictly sorted by `key`: an entry receives the counts of the values with
a smaller key -/
theorem offs_fold (cnt : Nat → Nat) (len : Nat) (key : Nat → Nat) (O : List Nat) (arr : Array Nat) (run : Nat)
    (hs : O.Pairwise (fun a b => key a < key b)) (hlt : ∀ u, u ∈ O → u < arr.size) :
    let r := O.foldl (offsStep cnt len) (arr, run)
    r.1.size = arr.size ∧
    ∀ v, (v ∉ O → r.1[v]? = arr[v]?) ∧
      (v ∈ O → r.1[v]? = some (if cnt v = 0 then len else
        run + ((O.filter (fun u => decide (key u < key v))).map cnt).sum)) := by
  induction O generalizing arr run with
  | nil => intro r; exact ⟨rfl, fun v => ⟨fun _ => rfl, fun h => absurd h (List.not_mem_nil)⟩⟩
  | cons u t ih =>
    intro r
    have hu : u < arr.size := hlt u List.mem_cons_self
    have hs' := List.pairwise_cons.mp hs
    have hut : u ∉ t := fun h => Nat.lt_irrefl _ (hs'.1 u h)
    have hr : r = t.foldl (offsStep cnt len)
        (arr.setIfInBounds u (if cnt u = 0 then len else run), run + cnt u) := by
      simp only [r, List.foldl_cons, offsStep_eq]
    have := ih (arr.setIfInBounds u (if cnt u = 0 then len else run)) (run + cnt u) hs'.2
      (fun x hx => by rw [Array.size_setIfInBounds]; exact hlt x (List.mem_cons_of_mem _ hx))
    rw [← hr, Array.size_setIfInBounds] at this
    refine ⟨this.1, fun v => ⟨?_, ?_⟩⟩
    · intro hv
      have hvu : u ≠ v := fun h => hv (h ▸ List.mem_cons_self)
      rw [(this.2 v).1 (fun h => hv (List.mem_cons_of_mem _ h)), Array.getElem?_setIfInBounds, if_neg hvu]
    · intro hv
      by_cases hvu : u = v
      · subst hvu
        have hnil : (u :: t).filter (fun x => decide (key x < key u)) = [] :=
          List.filter_eq_nil_iff.mpr fun x hx => by
            rcases List.mem_cons.mp hx with rfl | hx
            · simp
            · have := hs'.1 x hx; simp only [decide_eq_true_eq]; omega
        rw [(this.2 u).1 hut, Array.getElem?_setIfInBounds, hnil]
        simp [hu]
      · have hvt : v ∈ t := (List.mem_cons.mp hv).resolve_left (fun h => hvu h.symm)
        rw [(this.2 v).2 hvt, List.filter_cons_of_pos (by simpa using hs'.1 v hvt)]
        simp [Nat.add_assoc]

theorem countP_lt_succ (p : Nat → Bool) (V : List Nat) (N : Nat) :
    V.countP (fun x => p x && decide (x < N + 1)) =
      V.countP (fun x => p x && decide (x < N)) + (if p N then V.count N else 0) := by
  induction V with
  | nil => simp
  | cons x t ih =>
    simp only [List.countP_cons, List.count_cons, ih]
    rcases Nat.lt_trichotomy x N with h | h | h
    · have h1 : (x == N) = false := by simpa using Nat.ne_of_lt h
      simp only [h, Nat.lt_succ_of_lt h, decide_true, Bool.and_true, h1, Bool.false_eq_true, if_false,
        Nat.add_zero]
      omega
    · subst h
      simp only [Nat.lt_irrefl, Nat.lt_succ_self, decide_true, decide_false, Bool.and_true, Bool.and_false,
        Bool.false_eq_true, if_false, beq_self_eq_true, if_true, Nat.add_zero]
      split <;> omega
    · have h1 : (x == N) = false := by simpa using Nat.ne_of_gt h
      simp only [show ¬ x < N by omega, show ¬ x < N + 1 by omega, decide_false, Bool.and_false,
        Bool.false_eq_true, if_false, Nat.add_zero, h1]

theorem sum_count_filter_range (p : Nat → Bool) (V : List Nat) (N : Nat) :
    (((List.range N).filter p).map (fun u => V.count u)).sum = V.countP (fun x => p x && decide (x < N)) := by
  induction N with
  | zero => simp
  | succ N ih =>
    rw [List.range_succ, List.filter_append, List.map_append, List.sum_append, ih, countP_lt_succ]
    congr 1
    by_cases hp : p N = true
    · simp [hp]
    · simp [hp]

/-- sorting a duplicate-free list by a key that separates its elements gives a strictly sorted list -/
theorem mergeSort_strict {α : Type} (key : α → Nat) (l : List α) (hnd : l.Nodup)
    (hinj : ∀ a, a ∈ l → ∀ b, b ∈ l → key a = key b → a = b) :
    (l.mergeSort (fun a b => key a ≤ key b)).Pairwise (fun a b => key a < key b) := by
  have hperm := List.mergeSort_perm l (fun a b => key a ≤ key b)
  have hsorted := List.pairwise_mergeSort (le := fun a b => decide (key a ≤ key b))
    (fun a b c h1 h2 => by simp only [decide_eq_true_eq] at *; omega)
    (fun a b => by simp only [Bool.or_eq_true, decide_eq_true_eq]; omega) l
  refine (hsorted.and (hperm.nodup_iff.mpr hnd)).imp_of_mem fun ha hb h => ?_
  exact Nat.lt_of_le_of_ne (of_decide_eq_true h.1) fun e =>
    h.2 (hinj _ (hperm.mem_iff.mp ha) _ (hperm.mem_iff.mp hb) e)

/-- `start_offsets` before the conversion to a packed `IntVector` -/
def startOffsetsRaw (vals : List Nat) (len maxv : Nat) : Array Nat :=
  (((List.range (maxv + 1)).mergeSort (fun a b => rev64 a ≤ rev64 b)).foldl
    (offsStep (fun v => (vals.foldl (fun a v => a.modify v (· + 1)) (Array.replicate (maxv + 1) 0))[v]?.getD 0) len)
    (Array.replicate (maxv + 1) 0, 0)).1

theorem startOffsets_eq (vals : List Nat) (len maxv : Nat) :
    WM.startOffsets vals len maxv = (IntVec.ofList 64 (startOffsetsRaw vals len maxv).toList).pack := rfl

/-- **`start_offsets` computes `first`**: entry `v` is `first v` for an occurring value and `len` otherwise -/
theorem startOffsetsRaw_ok (w : Nat) (V : List Nat) (hw1 : 1 ≤ w) (hw : w ≤ 64) (hV : ∀ u, u ∈ V → u < 2 ^ w) :
    (startOffsetsRaw V V.length (V.foldl max 0)).size = V.foldl max 0 + 1 ∧
    ∀ v, v ≤ V.foldl max 0 →
      (startOffsetsRaw V V.length (V.foldl max 0))[v]? =
        some (if v ∈ V then firstPos w V v else V.length) := by
  generalize hN : V.foldl max 0 = maxv
  have hmaxlt : maxv < 2 ^ w := by
    rw [← hN]; exact foldl_max_lt V 0 _ (Nat.two_pow_pos w) hV
  have h64 : 2 ^ w ≤ 2 ^ 64 := Nat.pow_le_pow_right (by omega) hw
  have hVle : ∀ u, u ∈ V → u ≤ maxv := by rw [← hN]; exact (le_foldl_max V 0).2
  let order := (List.range (maxv + 1)).mergeSort (fun a b => rev64 a ≤ rev64 b)
  have hperm : order.Perm (List.range (maxv + 1)) := List.mergeSort_perm _ _
  have hstrict : order.Pairwise (fun a b => rev64 a < rev64 b) :=
    mergeSort_strict rev64 _ List.nodup_range fun a ha b hb =>
      rev64_inj a b (by have := List.mem_range.mp ha; omega) (by have := List.mem_range.mp hb; omega)
  have hmem : ∀ u, u ∈ order ↔ u < maxv + 1 := fun u => by rw [hperm.mem_iff, List.mem_range]
  let cnt : Nat → Nat := fun v =>
    (V.foldl (fun a v => a.modify v (· + 1)) (Array.replicate (maxv + 1) 0))[v]?.getD 0
  have hcnt : ∀ u, u < maxv + 1 → cnt u = V.count u := by
    intro u hu
    have := (counts_fold V (Array.replicate (maxv + 1) 0) u (by simpa using hu)).2
    simp only [cnt, this, Array.getElem?_replicate, hu, if_true, Option.getD_some, Nat.zero_add]
  have hfold := offs_fold cnt V.length rev64 order (Array.replicate (maxv + 1) 0) 0 hstrict
    (fun u hu => by simpa using (hmem u).mp hu)
  simp only [Array.size_replicate] at hfold
  refine ⟨hfold.1, fun v hv => ?_⟩
  have hvo : v ∈ order := (hmem v).mpr (by omega)
  have := (hfold.2 v).2 hvo
  unfold startOffsetsRaw
  rw [this, hcnt v (by omega)]
  congr 1
  by_cases hvV : v ∈ V
  · have hpos := List.count_pos_iff.mpr hvV
    rw [if_neg (by omega), if_pos hvV, Nat.zero_add, firstPos_eq_rev64 w V hw1 hw hV v (hV v hvV)]
    have hmap : (order.filter (fun u => decide (rev64 u < rev64 v))).map cnt =
        (order.filter (fun u => decide (rev64 u < rev64 v))).map (fun u => V.count u) :=
      List.map_congr_left (fun u hu => hcnt u ((hmem u).mp (List.mem_filter.mp hu).1))
    rw [hmap, ((hperm.filter _).map _).sum_nat, sum_count_filter_range]
    apply List.countP_congr
    intro u hu
    have := hVle u hu
    simp only [show u < maxv + 1 by omega, decide_true, Bool.and_true]
  · rw [if_pos (List.count_eq_zero.mpr hvV), if_neg hvV]

/-- the `first` array as a list: `first v` for an occurring value, the length for an absent one -/
def firstList (V : List Nat) : List Nat :=
  (List.range (V.foldl max 0 + 1)).map fun v => if v ∈ V then firstPos (widthOf V) V v else V.length

theorem mem_firstList_le (V : List Nat) (x : Nat) (hx : x ∈ firstList V) : x ≤ V.length := by
  obtain ⟨v, _, rfl⟩ := List.mem_map.mp hx
  split
  · exact List.countP_le_length
  · exact Nat.le_refl _

/-- **the `first` array of a built matrix** is the packed vector of `firstList` -/
theorem first_ofValues (V : List Nat) (hV : ∀ v, v ∈ V → v < 2 ^ 64) :
    (WM.ofValues V).first = (IntVec.ofList 64 (firstList V)).pack := by
  obtain ⟨hsize, hget⟩ :=
    startOffsetsRaw_ok (widthOf V) V (widthOf_pos V) (widthOf_le V) (lt_two_pow_widthOf V hV)
  show WM.startOffsets V V.length (V.foldl max 0) = _
  rw [startOffsets_eq]
  congr 2
  apply List.ext_getElem?
  intro v
  by_cases hv : v < V.foldl max 0 + 1
  · rw [Array.getElem?_toList, hget v (by omega), firstList, List.getElem?_map, List.getElem?_range hv]; rfl
  · rw [List.getElem?_eq_none (by rw [Array.length_toList, hsize]; omega),
      List.getElem?_eq_none (by simp [firstList]; omega)]

/-- **`WaveletMatrix::from(V)` satisfies `WM.Ok`** for every list of `u64` values shorter than 2^63 -/
theorem WM.ofValues_ok_full (V : List Nat) (hV : ∀ v, v ∈ V → v < 2 ^ 64) (hlen : V.length < 2 ^ 63) :
    (WM.ofValues V).Ok V (widthOf V) := by
  have hfl : (firstList V).length = V.foldl max 0 + 1 := by simp [firstList]
  obtain ⟨hl, hg⟩ := intVec_ofList_pack_get (firstList V) (by intro h; rw [h] at hfl; cases hfl)
    (fun x hx => Nat.lt_of_le_of_lt (mem_firstList_le V x hx) hlen)
  rw [← first_ofValues V hV, hfl] at hl
  refine ⟨ofValues_encodes V hV hlen, rfl, fun v hv => ?_, fun v hv => ?_⟩
  · rw [hl]; exact Nat.lt_succ_of_le ((le_foldl_max V 0).2 v hv)
  · rw [hl] at hv
    have hv' : v < (firstList V).length := by rw [hfl]; exact hv
    refine ⟨_, by rw [first_ofValues V hV]; exact hg v hv', ?_⟩
    rw [BitVec.toNat_ofNat, Nat.mod_eq_of_lt (by
      have := mem_firstList_le V _ (List.getElem_mem hv'); omega)]
    simp only [firstList, List.getElem_map, List.getElem_range]

/-! ## The known defect F4 as closed counterexamples (about the code as first written) -/

/-- `map_up_with` as first coded: the fold of `WMCore.mapUpWith` over the unrepaired `mapUpOneOld` -/
def mapUpWithOld (m : Mode) (c : WMCore) (index value : Nat) : Outcome (Option Nat) :=
  (List.range c.width).reverse.foldlM (fun (acc : Option Nat) l =>
      match acc with
      | none => return none
      | some i => if (value / c.bitValue l) % 2 = 1 then c.mapUpOneOld m i l else c.mapUpZero m i l) (some index)

/-- position 0 of the last level holds the value 0; mapping it up as a 1 computes `0 - zeros` at level 0 -/
theorem F4_mapUpWith_checked :
    mapUpWithOld .checked (WMCore.ofValues [0, 1]) 0 1 = fault (.panic .overflow) := by decide +kernel

theorem F4_mapUpWith_wrapping :
    mapUpWithOld .wrapping (WMCore.ofValues [0, 1]) 0 1 = ok none := by decide +kernel

/-- the repaired `map_up_with` answers `none` on the same input, in both builds -/
theorem F4_mapUpWith_repaired_checked :
    (WMCore.ofValues [0, 1]).mapUpWith .checked 0 1 = ok none := by decide +kernel

theorem F4_mapUpWith_repaired_wrapping :
    (WMCore.ofValues [0, 1]).mapUpWith .wrapping 0 1 = ok none := by decide +kernel

theorem F4_mergeSort : (List.range (1 + 1)).mergeSort (fun a b => decide (rev64 a ≤ rev64 b)) = [0, 1] := by
  apply List.mergeSort_of_pairwise; decide +kernel

theorem F4_max : ([0, 1] : List Nat).foldl max 0 = 1 := by decide

/-- `WM.ofValues [0,1]` with the (well-founded, hence kernel-opaque) merge sort of `start_offsets` evaluated -/
theorem F4_ofValues : WM.ofValues [0, 1] = ⟨2, WMCore.ofValues [0, 1],
    (IntVec.ofList 64 ((([0, 1] : List Nat).foldl (fun (acc : Array Nat × Nat) v =>
      let c := (([0, 1] : List Nat).foldl (fun a v => a.modify v (· + 1)) (Array.replicate (1 + 1) 0))[v]?.getD 0
      if c = 0 then (acc.1.setIfInBounds v 2, acc.2) else (acc.1.setIfInBounds v acc.2, acc.2 + c))
    (Array.replicate (1 + 1) 0, 0)).1).toList).pack⟩ := by
  unfold WM.ofValues WM.startOffsets
  simp only [F4_max, F4_mergeSort, List.length_cons, List.length_nil]

/-- `start + rank` overflows in `select` as first coded -/
theorem F4_select_checked :
    (WM.ofValues [0, 1]).selectOld .checked (2 ^ 64 - 1) 1 = fault (.panic .overflow) := by
  rw [F4_ofValues]; decide +kernel

theorem F4_select_wrapping :
    (WM.ofValues [0, 1]).selectOld .wrapping (2 ^ 64 - 1) 1 = ok none := by
  rw [F4_ofValues]; decide +kernel

/-- the repaired `select` answers `none` on the same input, in both builds -/
theorem F4_select_repaired_checked :
    (WM.ofValues [0, 1]).select .checked (2 ^ 64 - 1) 1 = ok none := by
  rw [F4_ofValues]; decide +kernel

theorem F4_select_repaired_wrapping :
    (WM.ofValues [0, 1]).select .wrapping (2 ^ 64 - 1) 1 = ok none := by
  rw [F4_ofValues]; decide +kernel

end Sds
