/-
Proofs/GenEqWriter: the buffered file writers of `raw_vector.rs` / `int_vector.rs` as TRANSLATED statement by statement
from the source (Generated/FnsWriter.lean) are equal to the hand-written model of Model/Writer.lean, under hypotheses
that say "the buffer is a well-represented vector and no length in bits reaches 2^64".
-/
import Sds.Generated.FnsWriter
import Sds.Proofs.GenEqVec
import Sds.Proofs.Writer

namespace Sds.GenEq
open Sds Outcome Generated

/-! ### the common tail of `push_bit` / `push_int`: `if buf.len() >= buf_len { flush(Safe).unwrap() }` -/

theorem wr_tail (w1 : RawWriter) :
    ((if decide (w1.buf.len ≥ w1.bufLen) then do
        let t2 ← ok (RawWriter.flushG w1 FlushMode.safe)
        gUnwrap t2.1
        pure t2.2
      else pure w1) : Outcome RawWriter) = RawWriter.flushIf w1 := by
  unfold RawWriter.flushIf RawWriter.flushG gUnwrap
  by_cases h : w1.buf.len ≥ w1.bufLen
  · simp only [h, decide_true, if_true, bind_ok]
    generalize w1.flushSafe = r
    obtain ⟨r1, r2⟩ := r
    cases r2 <;> rfl
  · simp only [h, decide_false, if_false, Bool.false_eq_true, pure_eq]

/-! ### RawVectorWriter -/

theorem wr_push_bit_eq (m : Mode) (w : RawWriter) (b : Bool)
    (hs : w.buf.len / 64 ≤ w.buf.data.size) (hb : w.buf.len + 1 < U64) (hl : w.len + 1 < U64) :
    gen_RawVectorWriter_push_bit m w b = w.pushBit b := by
  rw [RawWriter.pushBit_eq, ← wr_tail]
  unfold gen_RawVectorWriter_push_bit
  simp only [raw_push_bit_eq m w.buf b hs hb, addM_ok hl, bind_ok]
  by_cases h : (w.buf.pushBit b).len ≥ w.bufLen
  · simp only [h, decide_true, if_true]
    cases (RawWriter.flushG _ FlushMode.safe).1 <;> rfl
  · simp only [h, decide_false, if_false, Bool.false_eq_true, pure_eq, bind_ok]

/-- `push_int` with width 0 returns early: no hypothesis at all. -/
theorem wr_push_int_zero (m : Mode) (w : RawWriter) (x : Word) :
    gen_RawVectorWriter_push_int m w x 0 = w.pushInt x 0 := rfl

/-- `push_int`, weakest form: the hypotheses are only needed for a positive width. -/
theorem wr_push_int_eq' (m : Mode) (w : RawWriter) (x : Word) (width : Nat)
    (H : width ≠ 0 → width ≤ 64 ∧ w.buf.len ≤ 64 * w.buf.data.size ∧ 64 * w.buf.data.size < U64 ∧
      w.buf.len + width < U64 ∧ w.len + width < U64) :
    gen_RawVectorWriter_push_int m w x width = w.pushInt x width := by
  by_cases h0 : width = 0
  · subst h0; rfl
  · obtain ⟨hw, hs, hc, hb, hl⟩ := H h0
    rw [RawWriter.pushInt_eq, if_neg h0, ← wr_tail]
    unfold gen_RawVectorWriter_push_int
    simp only [h0, decide_false, Bool.false_eq_true, if_false,
      raw_push_int_eq m w.buf x width hw hs hc hb, addM_ok hl, bind_ok]
    by_cases h : (w.buf.pushInt x width).len ≥ w.bufLen
    · simp only [h, decide_true, if_true]
      cases (RawWriter.flushG _ FlushMode.safe).1 <;> rfl
    · simp only [h, decide_false, if_false, Bool.false_eq_true, pure_eq, bind_ok]

theorem wr_push_int_eq (m : Mode) (w : RawWriter) (x : Word) (width : Nat) (hw : width ≤ 64)
    (hs : w.buf.len ≤ 64 * w.buf.data.size) (hc : 64 * w.buf.data.size < U64)
    (hb : w.buf.len + width < U64) (hl : w.len + width < U64) :
    gen_RawVectorWriter_push_int m w x width = w.pushInt x width :=
  wr_push_int_eq' m w x width fun _ => ⟨hw, hs, hc, hb, hl⟩

/-- `close_with_header`: no hypothesis.  A failing final flush is `Err` on both sides (`?` = `gTry`); `write_header`
never fails in the model. -/
theorem wr_close_with_header_eq (m : Mode) (w : RawWriter) (header : Array Word) :
    gen_RawVectorWriter_close_with_header m w header = w.closeWith header.toList := by
  unfold gen_RawVectorWriter_close_with_header RawWriter.closeWith RawWriter.flushG RawWriter.writeHeaderG gTry
  obtain ⟨len, bufLen, buf, isOpen, uh, hd, body, budget⟩ := w
  cases isOpen
  · rfl
  · simp only [if_true, bind_ok, Bool.not_true, Bool.false_eq_true, if_false]
    have ho : (RawWriter.flushFinal ⟨len, bufLen, buf, true, uh, hd, body, budget⟩).1.isOpen = true := by
      unfold RawWriter.flushFinal RawWriter.writeBody
      simp only [Bool.not_true, Bool.false_eq_true, if_false]
      cases budget with
      | none => rfl
      | some b => dsimp only; split <;> rfl
    generalize RawWriter.flushFinal ⟨len, bufLen, buf, true, uh, hd, body, budget⟩ = r at ho
    obtain ⟨r1, r2⟩ := r
    cases r2
    · rfl
    · dsimp only at ho
      simp [ho]

/-- the flag wrapper: `(true, new state)`, or `(false, old state)` on `Err`; `closeWith` has no other fault. -/
theorem wr_close_with_header_flag_eq (m : Mode) (w : RawWriter) (header : Array Word) :
    gen_RawVectorWriter_close_with_header_flag m w header =
      match w.closeWith header.toList with
      | .ok w' => ok (true, w')
      | .fault _ => ok (false, w) := by
  unfold gen_RawVectorWriter_close_with_header_flag
  rw [wr_close_with_header_eq]
  cases h : w.closeWith header.toList with
  | ok w' => rfl
  | fault f => rw [RawWriter.closeWith_fault w _ f h]

theorem wr_flag_try (m : Mode) (w : RawWriter) (header : Array Word) :
    (do let t1 ← gen_RawVectorWriter_close_with_header_flag m w header
        gTry t1.1
        pure t1.2) = w.closeWith header.toList := by
  rw [wr_close_with_header_flag_eq]
  cases h : w.closeWith header.toList with
  | ok w' => rfl
  | fault f => rw [RawWriter.closeWith_fault w _ f h]; rfl

/-- `close`: the Rust `close()` passes an EMPTY header to `close_with_header`. -/
theorem wr_close_eq (m : Mode) (w : RawWriter) : gen_RawVectorWriter_close m w = w.closeWith [] := by
  rw [← wr_flag_try m w #[]]
  unfold gen_RawVectorWriter_close
  obtain ⟨len, bufLen, buf, isOpen, uh, hd, body, budget⟩ := w
  rfl

/-- … which is the model's `close` for a writer whose user header is empty (every raw writer:
`RawVectorWriter::new / with_buf_len` = `RawWriter.withBufLen []`). -/
theorem wr_close_eq_close (m : Mode) (w : RawWriter) (hu : w.userHeader = []) :
    gen_RawVectorWriter_close m w = w.close := by
  rw [wr_close_eq, RawWriter.close, hu]

/-! ### IntVectorWriter -/

theorem iwr_push_eq' (m : Mode) (w : IntWriter) (x : Word)
    (H : w.width ≠ 0 → w.width ≤ 64 ∧ w.writer.buf.len ≤ 64 * w.writer.buf.data.size ∧
      64 * w.writer.buf.data.size < U64 ∧ w.writer.buf.len + w.width < U64 ∧ w.writer.len + w.width < U64)
    (hl : w.len + 1 < U64) :
    gen_IntVectorWriter_push m w x = w.push x := by
  unfold gen_IntVectorWriter_push IntWriter.push
  dsimp only
  rw [wr_push_int_eq' m w.writer x w.width H]
  cases w.writer.pushInt x w.width with
  | fault f => rfl
  | ok r => simp only [bind_ok, addM_ok hl]

theorem iwr_push_eq (m : Mode) (w : IntWriter) (x : Word) (hw : w.width ≤ 64)
    (hs : w.writer.buf.len ≤ 64 * w.writer.buf.data.size) (hc : 64 * w.writer.buf.data.size < U64)
    (hb : w.writer.buf.len + w.width < U64) (hwl : w.writer.len + w.width < U64) (hl : w.len + 1 < U64) :
    gen_IntVectorWriter_push m w x = w.push x :=
  iwr_push_eq' m w x (fun _ => ⟨hw, hs, hc, hb, hwl⟩) hl

/-- `close`: no hypothesis. -/
theorem iwr_close_eq (m : Mode) (w : IntWriter) : gen_IntVectorWriter_close m w = w.close := by
  unfold IntWriter.close
  rw [show [BitVec.ofNat 64 w.len, BitVec.ofNat 64 w.width] = #[BitVec.ofNat 64 w.len, BitVec.ofNat 64 w.width].toList
    from rfl, ← wr_flag_try m w.writer]
  unfold gen_IntVectorWriter_close
  dsimp only
  cases gen_RawVectorWriter_close_with_header_flag m w.writer _ with
  | fault f => rfl
  | ok t => obtain ⟨t1, t2⟩ := t; cases t1 <;> rfl

/-! ### corollaries under the writer invariant of Proofs/Writer.lean

`RawWriter.Good` (buffer well-formed, `64 ∣ bufLen`, `buf.len < bufLen`, `len` = bits pushed) gives every buffer
hypothesis once `buf_len` is a `usize`; what remains is "the total length stays below 2^64". -/

theorem good_buf_bounds {w : RawWriter} (hg : RawWriter.Good w) (hB : w.bufLen < U64) :
    w.buf.len ≤ 64 * w.buf.data.size ∧ 64 * w.buf.data.size < U64 ∧ w.buf.len + 64 < U64 ∧ w.buf.len ≤ w.len := by
  have h1 := hg.wf.1
  have h2 := hg.lt
  obtain ⟨k, h3⟩ := hg.dvd
  have h4 := hg.len_eq'
  rw [U64_val] at hB ⊢
  omega

theorem wr_push_bit_eq_good (m : Mode) (w : RawWriter) (b : Bool) (hg : RawWriter.Good w) (hB : w.bufLen < U64)
    (hl : w.len + 1 < U64) : gen_RawVectorWriter_push_bit m w b = w.pushBit b := by
  obtain ⟨h1, h2, h3, h4⟩ := good_buf_bounds hg hB
  exact wr_push_bit_eq m w b (Nat.div_le_of_le_mul h1) (Nat.lt_of_le_of_lt (Nat.add_le_add_left (by decide) _) h3) hl

theorem wr_push_int_eq_good (m : Mode) (w : RawWriter) (x : Word) (width : Nat) (hw : width ≤ 64)
    (hg : RawWriter.Good w) (hB : w.bufLen < U64) (hl : w.len + width < U64) :
    gen_RawVectorWriter_push_int m w x width = w.pushInt x width := by
  obtain ⟨h1, h2, h3, h4⟩ := good_buf_bounds hg hB
  exact wr_push_int_eq m w x width hw h1 h2 (Nat.lt_of_le_of_lt (Nat.add_le_add_left hw _) h3) hl

/-- a raw writer as created by `RawVectorWriter::new / with_buf_len` with an empty parent header -/
theorem wr_close_eq_new (m : Mode) (bufLen : Nat) (bud : Option Nat) :
    gen_RawVectorWriter_close m (RawWriter.withBufLen [] bufLen bud) = (RawWriter.withBufLen [] bufLen bud).close :=
  wr_close_eq_close m _ rfl

theorem iwr_push_eq_good (m : Mode) (w : IntWriter) (x : Word) (hg : IntWriter.Good w)
    (hB : w.writer.bufLen < U64) (hwl : w.writer.len + w.width < U64) (hl : w.len + 1 < U64) :
    gen_IntVectorWriter_push m w x = w.push x := by
  obtain ⟨h1, h2, h3, h4⟩ := good_buf_bounds hg.good hB
  exact iwr_push_eq m w x hg.w2 h1 h2 (Nat.lt_of_le_of_lt (Nat.add_le_add_left hg.w2 _) h3) hwl hl

/-! ### whole push histories (the invariant is kept by every push, `Proofs/Writer.lean`) -/

/-- a push of the writer API, run by the translated code -/
def genRun (m : Mode) : RawWriter.Push → RawWriter → Outcome RawWriter
  | .bit b, w => gen_RawVectorWriter_push_bit m w b
  | .int x k, w => gen_RawVectorWriter_push_int m w x k

theorem push_bits_length (p : RawWriter.Push) : p.bits.length = match p with | .bit _ => 1 | .int _ k => k := by
  cases p <;> simp [RawWriter.Push.bits]

theorem wr_run_eq (m : Mode) (p : RawWriter.Push) (hp : p.valid) (w : RawWriter) (hg : RawWriter.Good w)
    (hB : w.bufLen < U64) (hl : w.len + p.bits.length < U64) : genRun m p w = p.run w := by
  rw [push_bits_length] at hl
  cases p with
  | bit b => exact wr_push_bit_eq_good m w b hg hB hl
  | int x k => exact wr_push_int_eq_good m w x k hp hg hB hl

/-- any valid history from an open writer satisfying the invariant: the translated pushes and the model pushes give
the same outcome (the same final state, or the same `unwrap` panic at the same push), as long as the total number of
bits stays below 2^64. -/
theorem wr_pushAll_eq (m : Mode) (ps : List RawWriter.Push) (hps : ∀ p ∈ ps, p.valid) (w : RawWriter)
    (ho : w.isOpen = true) (hg : RawWriter.Good w) (hB : w.bufLen < U64)
    (hl : w.len + (RawWriter.allBits ps).length < U64) :
    ps.foldlM (fun w p => genRun m p w) w = RawWriter.pushAll ps w := by
  induction ps generalizing w with
  | nil => rfl
  | cons p ps ih =>
    have hlen : (RawWriter.allBits (p :: ps)).length = p.bits.length + (RawWriter.allBits ps).length := by
      simp [RawWriter.allBits]
    rw [hlen] at hl
    rw [List.foldlM_cons, RawWriter.pushAll_cons,
      wr_run_eq m p (hps p (by simp)) w hg hB (by omega)]
    rcases RawWriter.Push.step p (hps p (by simp)) w ho hg with ⟨w', h1, e⟩ | ⟨h1, _⟩
    · rw [h1, bind_ok, bind_ok]
      exact ih (fun q hq => hps q (by simp [hq])) w' e.isOpen e.good (by rw [e.bufLen_eq]; exact hB)
        (by rw [e.len_eq]; omega)
    · rw [h1]; rfl

/-- the same from a freshly created writer (`with_buf_len`), any sink -/
theorem wr_history_eq (m : Mode) (uh : List Word) (bufLen : Nat) (bud : Option Nat) (ps : List RawWriter.Push)
    (hps : ∀ p ∈ ps, p.valid) (hB : bufLen + 63 < U64) (hl : (RawWriter.allBits ps).length < U64) :
    ps.foldlM (fun w p => genRun m p w) (RawWriter.withBufLen uh bufLen bud) =
      RawWriter.pushAll ps (RawWriter.withBufLen uh bufLen bud) := by
  refine wr_pushAll_eq m ps hps _ rfl (RawWriter.withBufLen_Good uh bufLen bud) ?_ ?_
  · rw [RawWriter.withBufLen_bufLen]
    have hU : U64 = 18446744073709551616 := rfl
    omega
  · show 0 + _ < U64
    omega

/-- integer writer: a whole list of pushes -/
theorem iwr_pushAll_eq (m : Mode) (xs : List Word) (w : IntWriter) (hg : IntWriter.Good w)
    (hB : w.writer.bufLen < U64) (hwl : w.writer.len + xs.length * w.width < U64) (hl : w.len + xs.length < U64) :
    xs.foldlM (gen_IntVectorWriter_push m) w = IntWriter.pushAll xs w := by
  induction xs generalizing w with
  | nil => rfl
  | cons x xs ih =>
    rw [List.length_cons, Nat.succ_mul] at hwl
    rw [List.length_cons] at hl
    rw [List.foldlM_cons, IntWriter.pushAll_cons, iwr_push_eq_good m w x hg hB (by omega) (by omega)]
    rcases IntWriter.push_step w hg x with ⟨w', h1, g', hw', hl', e⟩ | ⟨h1, _⟩
    · rw [h1, bind_ok, bind_ok]
      refine ih w' g' (by rw [e.bufLen_eq]; exact hB) ?_ (by rw [hl']; omega)
      rw [e.len_eq, hw', RawWriter.intBits_length]; omega
    · rw [h1]; rfl

/-! ### the hypotheses are needed: outside them the code faults (or wraps) where the model returns a value.

None of these is reachable from `with_buf_len` by pushes of fewer than 2^64 bits in total (theorems above). -/

/-- `len += 1` at `usize::MAX`: overflow panic in a checked build … -/
example : gen_RawVectorWriter_push_bit .checked ⟨U64 - 1, 64, ⟨0, #[]⟩, true, [], [0, 0], [], none⟩ true
      = fault (.panic .overflow) ∧
    RawWriter.pushBit ⟨U64 - 1, 64, ⟨0, #[]⟩, true, [], [0, 0], [], none⟩ true
      = ok ⟨U64, 64, ⟨1, #[1]⟩, true, [], [0, 0], [], none⟩ := by decide +kernel
/-- … and a wrapped `len` in an unchecked build, where the model's `Nat` length is 2^64 -/
example : gen_RawVectorWriter_push_bit .wrapping ⟨U64 - 1, 64, ⟨0, #[]⟩, true, [], [0, 0], [], none⟩ true
      = ok ⟨0, 64, ⟨1, #[1]⟩, true, [], [0, 0], [], none⟩ := by decide +kernel
/-- the same for `push_int` (`len += width`) -/
example : gen_RawVectorWriter_push_int .wrapping ⟨U64 - 1, 64, ⟨0, #[]⟩, true, [], [0, 0], [], none⟩ 1 2
      = ok ⟨1, 64, ⟨2, #[1]⟩, true, [], [0, 0], [], none⟩ ∧
    RawWriter.pushInt ⟨U64 - 1, 64, ⟨0, #[]⟩, true, [], [0, 0], [], none⟩ 1 2
      = ok ⟨U64 + 1, 64, ⟨2, #[1]⟩, true, [], [0, 0], [], none⟩ := by decide +kernel
/-- a buffer with too few words for its length (not `RawVec.WF`): index panic in the buffer push -/
example : gen_RawVectorWriter_push_bit .checked ⟨64, 128, ⟨64, #[]⟩, true, [], [0, 0], [], none⟩ true
      = fault (.panic .index) ∧
    (RawWriter.pushBit ⟨64, 128, ⟨64, #[]⟩, true, [], [0, 0], [], none⟩ true).isOk = true := by decide +kernel
/-- a width above 64 (outside the documented domain of `push_int`) -/
example : gen_RawVectorWriter_push_int .checked ⟨0, 128, ⟨0, #[]⟩, true, [], [0, 0], [], none⟩ 0 65
      = fault (.panic .index) ∧
    (RawWriter.pushInt ⟨0, 128, ⟨0, #[]⟩, true, [], [0, 0], [], none⟩ 0 65).isOk = true := by decide +kernel
/-- the element count of the integer writer, `len += 1` -/
example : gen_IntVectorWriter_push .checked ⟨U64 - 1, 1, ⟨0, 64, ⟨0, #[]⟩, true, [0, 0], [0, 0, 0, 0], [], none⟩⟩ 1
      = fault (.panic .overflow) ∧
    (IntWriter.push ⟨U64 - 1, 1, ⟨0, 64, ⟨0, #[]⟩, true, [0, 0], [0, 0, 0, 0], [], none⟩⟩ 1).isOk = true := by decide +kernel

/-- `close()` ≠ the model's `close` when the model writer carries a non-empty user header: the Rust `close` writes
only its own two header words, the model's `close` re-writes `userHeader` in front of them.  (An integer writer never
calls the raw `close`, it calls `close_with_header`; its `Drop` does, after the file is already closed.) -/
example : gen_RawVectorWriter_close .checked ⟨0, 64, ⟨0, #[]⟩, true, [7], [7, 0, 0], [], none⟩
      = ok ⟨0, 64, ⟨0, #[]⟩, false, [7], [0, 0], [], none⟩ ∧
    RawWriter.close ⟨0, 64, ⟨0, #[]⟩, true, [7], [7, 0, 0], [], none⟩
      = ok ⟨0, 64, ⟨0, #[]⟩, false, [7], [7, 0, 0], [], none⟩ := by decide +kernel

/-- a failing sink: the same `Err` from the final flush on both sides -/
example : gen_RawVectorWriter_close .checked ⟨1, 64, ⟨1, #[1]⟩, true, [], [0, 0], [], some 0⟩ = fault (.err .other) ∧
    RawWriter.closeWith ⟨1, 64, ⟨1, #[1]⟩, true, [], [0, 0], [], some 0⟩ [] = fault (.err .other) := by decide +kernel
/-- … and the same `unwrap` panic from a flush inside a push -/
example : gen_RawVectorWriter_push_int .checked ⟨0, 64, ⟨0, #[]⟩, true, [], [0, 0], [], some 0⟩ 5 64
      = fault (.panic .unwrap) ∧
    RawWriter.pushInt ⟨0, 64, ⟨0, #[]⟩, true, [], [0, 0], [], some 0⟩ 5 64 = fault (.panic .unwrap) := by decide +kernel

end Sds.GenEq
