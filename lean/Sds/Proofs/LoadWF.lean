/-
Proofs/LoadWF: (A) what the loaders return on an **arbitrary** accepted file.  The predicates `…Ld` ("accepted":
exactly the clauses a loader tests) and the proof that they suffice for the codec law stand, in namespace
`LoadWF`, inside Proofs/Codec.lean and Proofs/Codec2.lean.
Here: what was read is a serialization of the returned value (`…_load_inv`:
`es = c.ser x ++ rest` and `…Ld x`, up to the un-checked length prefixes of optional structures and the support
structures a loader adds).
(B) the sink protocol of `serialize`: `write_all` calls joined by `?` into a sink that fails after a byte budget.
-/
import Sds.Proofs.Codec2
import Sds.Model.Sink

namespace Sds.LoadWF
open Sds Outcome SupportProofs Codec2

/-! ## A. loaders on arbitrary accepted files -/

/-! ### primitive readers -/

theorem readElem_inv {es r : Elems} {w : Word} (h : readElem es = ok (w, r)) : es = w :: r := by
  cases es with
  | nil => cases h
  | cons a t => injection h with h; injection h with h1 h2; subst h1; subst h2; rfl

theorem readN_inv {n : Nat} {es r ws : Elems} (h : readN n es = ok (ws, r)) : es = ws ++ r ∧ ws.length = n := by
  unfold readN at h
  split at h
  · injection h with h; injection h with h1 h2
    subst h1; subst h2
    exact ⟨(List.take_append_drop n es).symm, by rw [List.length_take]; omega⟩
  · cases h

theorem ite_fault_eq_ok {β} {c : Prop} [Decidable c] {e : Fault} {x : Outcome β} {v : β}
    (h : (if c then fault e else x) = ok v) : ¬ c ∧ x = ok v := by
  by_cases hc : c
  · rw [if_pos hc] at h; cases h
  · rw [if_neg hc] at h; exact ⟨hc, h⟩

/-- one step of reading a loader backwards: a field read by the codec `c`, whose accepted inputs are known to be
`c.ser a ++ rest` with `W a`, followed by the continuation `f` -/
theorem read_field {α β} {c : Codec α} {W : α → Prop}
    (hc : ∀ {es a r}, c.load es = ok (a, r) → es = c.ser a ++ r ∧ W a)
    {f : α × Elems → Outcome β} {es : Elems} {y : β} (h : (c.load es >>= f) = ok y) :
    ∃ a r, es = c.ser a ++ r ∧ W a ∧ f (a, r) = ok y := by
  obtain ⟨⟨a, r⟩, h1, h2⟩ := Outcome.bind_eq_ok h
  exact ⟨a, r, (hc h1).1, (hc h1).2, h2⟩

/-- the end of a loader: the returned pair -/
theorem read_ret {α} {x v : α} {r' r : Elems} (h : (pure (x, r') : Outcome (α × Elems)) = ok (v, r)) :
    x = v ∧ r' = r := by
  injection h with h; injection h with h1 h2; exact ⟨h1, h2⟩

theorem ofNat_toNat64 (w : Word) : BitVec.ofNat 64 w.toNat = w := by simp

theorem u64C_inv {es r : Elems} {w : Word} (h : u64C.load es = ok (w, r)) : es = u64C.ser w ++ r ∧ True :=
  ⟨readElem_inv h, trivial⟩

theorem usizeC_inv {es r : Elems} {n : Nat} (h : usizeC.load es = ok (n, r)) :
    es = BitVec.ofNat 64 n :: r ∧ n < 2 ^ 64 := by
  obtain ⟨w, r1, rfl, -, h⟩ := read_field u64C_inv h
  obtain ⟨rfl, rfl⟩ := read_ret h
  exact ⟨by rw [ofNat_toNat64]; rfl, w.isLt⟩

theorem vecU64C_inv {es r : Elems} {a : Array Word} (h : vecU64C.load es = ok (a, r)) :
    es = vecU64C.ser a ++ r ∧ a.size < 2 ^ 64 := by
  obtain ⟨n, r1, rfl, -, h⟩ := read_field u64C_inv h
  obtain ⟨⟨ws, r2⟩, h3, h⟩ := Outcome.bind_eq_ok h
  obtain ⟨rfl, rfl⟩ := read_ret h
  obtain ⟨rfl, e2⟩ := readN_inv h3
  refine ⟨?_, by simp [e2]; exact n.isLt⟩
  show _ = BitVec.ofNat 64 ws.toArray.size :: ws.toArray.toList ++ r2
  simp only [List.size_toArray, e2, ofNat_toNat64]
  rfl

theorem pairsOf_length (ws : List Word) (k : Nat) (h : ws.length = 2 * k) :
    (pairsOf ws).length = k ∧ (pairsOf ws).flatMap (fun p => [p.1, p.2]) = ws := by
  induction k generalizing ws with
  | zero =>
    have : ws = [] := List.eq_nil_of_length_eq_zero (by omega)
    subst this; exact ⟨rfl, rfl⟩
  | succ k ih =>
    match ws, h with
    | a :: b :: t, h =>
      have := ih t (by simp at h; omega)
      simp [pairsOf, List.flatMap_cons, this.1, this.2]

theorem vecPairC_inv {es r : Elems} {a : Array (Word × Word)} (h : vecPairC.load es = ok (a, r)) :
    es = vecPairC.ser a ++ r ∧ a.size < 2 ^ 64 := by
  obtain ⟨n, r1, rfl, -, h⟩ := read_field u64C_inv h
  obtain ⟨⟨ws, r2⟩, h3, h⟩ := Outcome.bind_eq_ok h
  obtain ⟨rfl, rfl⟩ := read_ret h
  obtain ⟨rfl, e2⟩ := readN_inv h3
  obtain ⟨p1, p2⟩ := pairsOf_length ws n.toNat e2
  refine ⟨?_, by simp [p1]; exact n.isLt⟩
  show _ = BitVec.ofNat 64 (pairsOf ws).toArray.size ::
    ((pairsOf ws).toArray.toList.flatMap fun p => [p.1, p.2]) ++ r2
  simp only [List.size_toArray, p1, p2, ofNat_toNat64]
  rfl

/-! ### raw vector, integer vector, rank / select support: exact -/

theorem rawVecC_load_inv {es r : Elems} {v : RawVec} (h : rawVecC.load es = ok (v, r)) :
    es = rawVecC.ser v ++ r ∧ rawVecLd v := by
  obtain ⟨len, r1, rfl, l1, h⟩ := read_field usizeC_inv h
  obtain ⟨data, r2, rfl, _, h⟩ := read_field vecU64C_inv h
  obtain ⟨c, h⟩ := ite_fault_eq_ok h
  obtain ⟨rfl, rfl⟩ := read_ret h
  exact ⟨rfl, Decidable.of_not_not c, l1⟩

theorem intVecC_load_inv {es r : Elems} {v : IntVec} (h : intVecC.load es = ok (v, r)) :
    es = intVecC.ser v ++ r ∧ intVecLd v := by
  obtain ⟨len, r1, rfl, l1, h⟩ := read_field usizeC_inv h
  obtain ⟨width, r2, rfl, l2, h⟩ := read_field usizeC_inv h
  obtain ⟨data, r3, rfl, l3, h⟩ := read_field rawVecC_load_inv h
  obtain ⟨c, h⟩ := ite_fault_eq_ok h
  obtain ⟨rfl, rfl⟩ := read_ret h
  exact ⟨rfl, l1, l2, Decidable.of_not_not c, l3⟩

theorem rankSupC_load_inv {es r : Elems} {s : RankSup} (h : rankSupC.load es = ok (s, r)) :
    es = rankSupC.ser s ++ r ∧ rankSupWF s := by
  obtain ⟨a, r1, rfl, l1, h⟩ := read_field vecPairC_inv h
  obtain ⟨rfl, rfl⟩ := read_ret h
  exact ⟨rfl, l1⟩

theorem selSupC_load_inv {es r : Elems} {s : SelSup} (h : selSupC.load es = ok (s, r)) :
    es = selSupC.ser s ++ r ∧ selSupLd s := by
  obtain ⟨a, r1, rfl, l1, h⟩ := read_field intVecC_load_inv h
  obtain ⟨b, r2, rfl, l2, h⟩ := read_field intVecC_load_inv h
  obtain ⟨c, r3, rfl, l3, h⟩ := read_field intVecC_load_inv h
  obtain ⟨cc, h⟩ := ite_fault_eq_ok h
  obtain ⟨rfl, rfl⟩ := read_ret h
  exact ⟨by simp only [selSupC, List.append_assoc], l1, l2, l3, Decidable.of_not_not cc⟩

/-! ### optional structures and the plain bitvector: exact up to the length prefixes of the options -/

/-- an optional structure as it may appear in an accepted file: for a present one **any** length prefix `n` (`load`
only tests `n ≠ 0`; it is not compared with the size of what follows), `0` for an absent one -/
def optRaw {α} (c : Codec α) (n : Word) : Option α → Elems
  | none => [0]
  | some x => n :: c.ser x

/-- the length prefix `serialize` writes -/
def optLen {α} (c : Codec α) : Option α → Word
  | none => 0
  | some x => BitVec.ofNat 64 (c.ser x).length

theorem optRaw_canon {α} (c : Codec α) (o : Option α) : optRaw c (optLen c o) o = (optionC c).ser o := by
  cases o <;> rfl

theorem optRaw_length {α} (c : Codec α) (n : Word) (o : Option α) :
    (optRaw c n o).length = ((optionC c).ser o).length := by
  cases o <;> rfl

theorem optionC_load_inv {α} {c : Codec α} {W : α → Prop}
    (hc : ∀ es x r, c.load es = ok (x, r) → es = c.ser x ++ r ∧ W x)
    {es r : Elems} {o : Option α} (h : (optionC c).load es = ok (o, r)) :
    ∃ n : Word, es = optRaw c n o ++ r ∧ (∀ x, o = some x → n.toNat ≠ 0 ∧ W x) := by
  obtain ⟨n, r1, rfl, -, h⟩ := read_field u64C_inv h
  dsimp only at h
  by_cases c0 : n.toNat = 0
  · rw [if_pos c0] at h
    obtain ⟨rfl, rfl⟩ := read_ret h
    obtain rfl : n = 0 := BitVec.eq_of_toNat_eq (by simpa using c0)
    exact ⟨0, rfl, fun x hx => by cases hx⟩
  · rw [if_neg c0] at h
    obtain ⟨x, r2, rfl, w1, h⟩ := read_field (hc _ _ _) h
    obtain ⟨rfl, rfl⟩ := read_ret h
    exact ⟨n, rfl, fun y hy => by cases hy; exact ⟨c0, w1⟩⟩

/-- a plain bitvector as it may appear in an accepted file (`n1 n2 n3`: the length prefixes of the three options) -/
def bitVectorRaw (b : BitVector) (n1 n2 n3 : Word) : Elems :=
  BitVec.ofNat 64 b.ones :: (rawVecC.ser b.data ++ optRaw rankSupC n1 b.rank ++
    optRaw selSupC n2 b.select ++ optRaw selSupC n3 b.selectZero)

/-- … `serialize` writes the one with the true sizes as prefixes -/
theorem bitVectorRaw_canon (b : BitVector) :
    bitVectorRaw b (optLen rankSupC b.rank) (optLen selSupC b.select) (optLen selSupC b.selectZero) =
      bitVectorC.ser b := by
  simp only [bitVectorRaw, optRaw_canon]; rfl

theorem bitVectorRaw_length (b : BitVector) (n1 n2 n3 : Word) :
    (bitVectorRaw b n1 n2 n3).length = (bitVectorC.ser b).length := by
  simp only [bitVectorRaw, bitVectorC, List.length_cons, List.length_append, optRaw_length]

/-- a present select support is no longer than the serialized bitvector that holds it -/
theorem select_ser_le {b : BitVector} {s : SelSup} (h : b.select = some s ∨ b.selectZero = some s) :
    (selSupC.ser s).length ≤ (bitVectorC.ser b).length := by
  have e : (bitVectorC.ser b).length = 1 + ((rawVecC.ser b.data).length + ((optionC rankSupC).ser b.rank).length +
      ((optionC selSupC).ser b.select).length + ((optionC selSupC).ser b.selectZero).length) := by
    simp only [bitVectorC, List.length_cons, List.length_append]; omega
  have hs : ((optionC selSupC).ser (some s)).length = (selSupC.ser s).length + 1 := rfl
  rcases h with h | h <;> rw [e, h, hs] <;> omega

theorem bitVectorC_load_inv {es r : Elems} {b : BitVector} (h : bitVectorC.load es = ok (b, r)) :
    ∃ n1 n2 n3 : Word, es = bitVectorRaw b n1 n2 n3 ++ r ∧
      ((bitVectorC.ser b).length < 2 ^ 64 → bitVectorLd b) := by
  obtain ⟨ones, r1, rfl, _, h⟩ := read_field usizeC_inv h
  obtain ⟨data, r2, rfl, l2, h⟩ := read_field rawVecC_load_inv h
  obtain ⟨c0, h⟩ := ite_fault_eq_ok h
  obtain ⟨⟨rank, r3⟩, h5, h⟩ := Outcome.bind_eq_ok h
  obtain ⟨c1, h⟩ := ite_fault_eq_ok h
  obtain ⟨⟨sel, r4⟩, h7, h⟩ := Outcome.bind_eq_ok h
  obtain ⟨c2, h⟩ := ite_fault_eq_ok h
  obtain ⟨⟨selz, r5⟩, h9, h⟩ := Outcome.bind_eq_ok h
  obtain ⟨c3, h⟩ := ite_fault_eq_ok h
  obtain ⟨rfl, rfl⟩ := read_ret h
  obtain ⟨n1, rfl, l3⟩ := optionC_load_inv (fun _ _ _ => rankSupC_load_inv) h5
  obtain ⟨n2, rfl, l4⟩ := optionC_load_inv (fun _ _ _ => selSupC_load_inv) h7
  obtain ⟨n3, rfl, l5⟩ := optionC_load_inv (fun _ _ _ => selSupC_load_inv) h9
  refine ⟨n1, n2, n3, ?_, fun hl => ⟨l2, Nat.le_of_not_gt c0, ?_, ?_, ?_⟩⟩
  · simp only [bitVectorRaw, usizeC, List.append_assoc, List.cons_append, List.nil_append]
  · rintro s rfl
    simpa using c1
  · rintro s rfl
    exact ⟨(l4 s rfl).2, by simpa using c2, Nat.lt_of_le_of_lt (select_ser_le (.inl rfl)) hl⟩
  · rintro s rfl
    exact ⟨(l5 s rfl).2, by simpa using c3, Nat.lt_of_le_of_lt (select_ser_le (.inr rfl)) hl⟩

/-! ### enabling supports on a loaded bitvector

`SparseVector::load` and `WMCore::load` add the supports the file does not carry.  A support that **is** in the file
is kept as read.  A support that is **built** passes the checks of `BitVector::load` again iff its superblock count
matches the stored `ones` counter; the model builds it from the set bits of `data` (`SelSup.build … (positionsT …)`),
so this needs the one fact the loader trusts: `ones` is the number of set bits.  (The Rust constructor is driven by
the stored counter `count_ones()` instead, so on a file with a wrong counter the two differ — there the model is
not a transcription of the code; see Props/C06.) -/

/-- the trusted fact: the stored counter is the number of set bits among the first `len` bits, `len < 2^63` -/
def CountOk (b : BitVector) : Prop := b.ones = b.data.bits.count true ∧ b.data.len < 2 ^ 63

theorem enableRank_ld {b : BitVector} (h : bitVectorLd b) : bitVectorLd b.enableRank := by
  obtain ⟨h1, h2, h3, h4, h5⟩ := h
  unfold bitVectorLd
  simp only [enableRank_data, enableRank_ones, enableRank_select, enableRank_selectZero, enableRank_rank]
  exact ⟨h1, h2, forall_getD h3 fun _ => build_size b.data, h4, h5⟩

theorem enableSelect_ld {b : BitVector} (h : bitVectorLd b) (hc : b.select = none → CountOk b) :
    bitVectorLd b.enableSelect := by
  obtain ⟨h1, h2, h3, h4, h5⟩ := h
  unfold bitVectorLd
  simp only [enableSelect_data, enableSelect_ones, enableSelect_rank, enableSelect_selectZero,
    enableSelect_select]
  refine ⟨h1, h2, h3, forall_getD h4 fun hr => ?_, h5⟩
  obtain ⟨hones, hlen⟩ := hc hr
  have := selBuild_wf_T .ident b.data hlen
  rw [hones]
  exact ⟨selSupLd_of_wf this.1, this.2⟩

theorem enableSelectZero_ld {b : BitVector} (h : bitVectorLd b) (hc : b.selectZero = none → CountOk b) :
    bitVectorLd b.enableSelectZero := by
  obtain ⟨h1, h2, h3, h4, h5⟩ := h
  unfold bitVectorLd
  simp only [enableSelectZero_data, enableSelectZero_ones, enableSelectZero_rank, enableSelectZero_select,
    enableSelectZero_selectZero]
  refine ⟨h1, h2, h3, h4, forall_getD h5 fun hr => ?_⟩
  obtain ⟨hones, hlen⟩ := hc hr
  have := selBuild_wf_T .compl b.data hlen
  rw [count_compl, ← hones] at this
  exact ⟨selSupLd_of_wf this.1, this.2⟩

theorem CountOk_enableSelect {b : BitVector} : CountOk b.enableSelect ↔ CountOk b := by
  unfold CountOk; rw [enableSelect_data, enableSelect_ones]
theorem CountOk_enableRank {b : BitVector} : CountOk b.enableRank ↔ CountOk b := by
  unfold CountOk; rw [enableRank_data, enableRank_ones]

/-! ### the sparse vector -/

/-- what `SparseVector::load` read: the universe size, a bitvector `h0` (as in the file, its option prefixes
arbitrary), the low parts; the returned `high` is `h0` with the select supports enabled -/
theorem sparseC_load_inv {es r : Elems} {s : Sparse} (h : sparseC.load es = ok (s, r)) :
    ∃ (h0 : BitVector) (n1 n2 n3 : Word),
      es = BitVec.ofNat 64 s.len :: (bitVectorRaw h0 n1 n2 n3 ++ intVecC.ser s.low) ++ r ∧
      s.high = h0.enableSelect.enableSelectZero ∧
      ((bitVectorC.ser h0).length < 2 ^ 64 → bitVectorLd h0) ∧ intVecLd s.low ∧
      s.low.len = s.high.countOnes ∧ s.high.len = s.low.len + Sparse.getBuckets s.len s.low.width ∧
      s.len < 2 ^ 64 := by
  obtain ⟨len, r1, rfl, l1, h⟩ := read_field usizeC_inv h
  obtain ⟨⟨high, r2⟩, h3, h⟩ := Outcome.bind_eq_ok h
  obtain ⟨low, r3, rfl, l3, h⟩ := read_field intVecC_load_inv h
  obtain ⟨c1, h⟩ := ite_fault_eq_ok h
  obtain ⟨c2, h⟩ := ite_fault_eq_ok h
  obtain ⟨rfl, rfl⟩ := read_ret h
  obtain ⟨n1, n2, n3, rfl, l2⟩ := bitVectorC_load_inv h3
  refine ⟨high, n1, n2, n3, ?_, rfl, l2, l3, Decidable.of_not_not c1, Decidable.of_not_not c2, l1⟩
  simp only [usizeC, List.append_assoc, List.cons_append, List.nil_append]

/-- whatever `SparseVector::load` returns has the shape required by `sparseWF`: clauses 1, 4 and 5 of `sparseWF`
are necessary for a round trip -/
theorem _root_.Sds.Codec2.sparseC_load_shape {es r : Elems} {s : Sparse} (h : sparseC.load es = ok (s, r)) :
    s.high.enableSelect.enableSelectZero = s.high ∧ s.low.len = s.high.countOnes ∧
    s.high.len = s.low.len + Sparse.getBuckets s.len s.low.width := by
  obtain ⟨h0, _, _, _, _, hh, _, _, c1, c2, _⟩ := sparseC_load_inv h
  exact ⟨by rw [hh]; exact enableSelSelz_idem h0, c1, c2⟩

/-- `SparseVector::load` on a file shorter than 2^64 elements: the returned value passes every check of the loader
again (hence round-trips, `sparseC_lawful_ld`) as soon as the supports `load` had to **build** match the stored
counter — which holds when the file carried both select supports, or when the counter is right (`CountOk`) -/
theorem sparseC_loaded {es r : Elems} {s : Sparse} (h : sparseC.load es = ok (s, r)) (hl : es.length < 2 ^ 64) :
    ∃ (h0 : BitVector) (n1 n2 n3 : Word),
      es = BitVec.ofNat 64 s.len :: (bitVectorRaw h0 n1 n2 n3 ++ intVecC.ser s.low) ++ r ∧
      s.high = h0.enableSelect.enableSelectZero ∧ bitVectorLd h0 ∧
      (((h0.select = none ∨ h0.selectZero = none) → CountOk h0) → sparseLd s) := by
  obtain ⟨h0, n1, n2, n3, e, hh, l1, l2, c1, c2, l3⟩ := sparseC_load_inv h
  have hlen : (bitVectorC.ser h0).length < 2 ^ 64 := by
    rw [← bitVectorRaw_length h0 n1 n2 n3]
    have := congrArg List.length e
    simp only [List.length_cons, List.length_append] at this
    omega
  have hld := l1 hlen
  refine ⟨h0, n1, n2, n3, e, hh, hld, fun hc => ?_⟩
  refine ⟨by rw [hh]; exact enableSelSelz_idem h0, ?_, l2, c1, c2, l3⟩
  rw [hh]
  refine enableSelectZero_ld (enableSelect_ld hld (fun hn => hc (Or.inl hn))) (fun hn => ?_)
  rw [enableSelect_selectZero] at hn
  exact CountOk_enableSelect.mpr (hc (Or.inr hn))

/-! ### the core of a wavelet matrix and the wavelet matrix -/

theorem enableAll_ld {b : BitVector} (h : bitVectorLd b)
    (hc : (b.select = none ∨ b.selectZero = none) → CountOk b) : bitVectorLd b.enableAll := by
  unfold BitVector.enableAll
  refine enableSelectZero_ld (enableSelect_ld (enableRank_ld h) (fun hn => ?_)) (fun hn => ?_)
  · rw [enableRank_select] at hn
    exact CountOk_enableRank.mpr (hc (Or.inl hn))
  · rw [enableSelect_selectZero, enableRank_selectZero] at hn
    exact CountOk_enableSelect.mpr (CountOk_enableRank.mpr (hc (Or.inr hn)))

/-- the levels of a core as they may appear in an accepted file: bitvectors back to back, each with its own
(unchecked) option prefixes -/
def levelsRaw : List BitVector → List (Word × Word × Word) → Elems
  | b :: L, n :: ns => bitVectorRaw b n.1 n.2.1 n.2.2 ++ levelsRaw L ns
  | _, _ => []

theorem levelsRaw_length_ge : ∀ (L : List BitVector) (ns : List (Word × Word × Word)), ns.length = L.length →
    ∀ b, b ∈ L → (bitVectorC.ser b).length ≤ (levelsRaw L ns).length := by
  intro L
  induction L with
  | nil => intro _ _ b hb; cases hb
  | cons b0 L ih =>
    intro ns hn b hb
    cases ns with
    | nil => simp at hn
    | cons n ns =>
      simp only [levelsRaw, List.length_append, bitVectorRaw_length]
      rcases List.mem_cons.mp hb with rfl | hb'
      · omega
      · have := ih ns (by simpa using hn) b hb'
        omega

theorem levelsRaw_length : ∀ (L : List BitVector) (ns : List (Word × Word × Word)), ns.length = L.length →
    (levelsRaw L ns).length = (L.flatMap bitVectorC.ser).length := by
  intro L
  induction L with
  | nil => intro ns _; cases ns <;> rfl
  | cons b0 L ih =>
    intro ns hn
    cases ns with
    | nil => simp at hn
    | cons n ns =>
      simp only [levelsRaw, List.length_append, bitVectorRaw_length, List.flatMap_cons]
      rw [ih ns (by simpa using hn)]

theorem lvlStep_inv {acc acc' : Array BitVector} {es r : Elems} {i : Nat}
    (h : lvlStep (acc, es) i = ok (acc', r)) :
    ∃ b, bitVectorC.load es = ok (b, r) ∧ acc' = acc.push b ∧ (∀ b0, acc[0]? = some b0 → b.len = b0.len) := by
  obtain ⟨⟨b, r1⟩, h1, h2⟩ := Outcome.bind_eq_ok (x := bitVectorC.load es) h
  dsimp only at h2
  cases h0 : acc[0]? with
  | none =>
    rw [h0] at h2
    obtain ⟨rfl, rfl⟩ := read_ret h2
    exact ⟨b, h1, rfl, fun b0 hb0 => by cases hb0⟩
  | some b0 =>
    rw [h0] at h2
    dsimp only at h2
    obtain ⟨c, h2⟩ := ite_fault_eq_ok h2
    obtain ⟨rfl, rfl⟩ := read_ret h2
    exact ⟨b, h1, rfl, fun b1 hb1 => by injection hb1 with hb1; subst hb1; exact Decidable.of_not_not c⟩

theorem head_push_append (acc : Array BitVector) (b : BitVector) (X : Array BitVector) :
    (acc.push b ++ X)[0]? = if acc.size = 0 then some b else acc[0]? := by
  by_cases hs : acc.size = 0
  · have : acc = #[] := by simpa using hs
    subst this
    show (#[b] ++ X)[0]? = some b
    rw [Array.getElem?_append_left (by simp)]; rfl
  · rw [if_neg hs, Array.getElem?_append_left (by simp), Array.getElem?_push_lt (by omega),
      Array.getElem?_eq_getElem (by omega)]

theorem levels_inv : ∀ (idx : List Nat) (acc : Array BitVector) (es : Elems) (lv : Array BitVector) (r : Elems),
    idx.foldlM lvlStep (acc, es) = ok (lv, r) →
    ∃ (L : List BitVector) (ns : List (Word × Word × Word)),
      lv = acc ++ L.toArray ∧ L.length = idx.length ∧ ns.length = idx.length ∧ es = levelsRaw L ns ++ r ∧
      (∀ b, b ∈ L → (bitVectorC.ser b).length < 2 ^ 64 → bitVectorLd b) ∧
      (∀ b, b ∈ L → ∀ b0, lv[0]? = some b0 → b.len = b0.len) := by
  intro idx
  induction idx with
  | nil =>
    intro acc es lv r h
    injection h with h; injection h with h1 h2
    subst h1; subst h2
    refine ⟨[], [], by simp, rfl, rfl, rfl, ?_, ?_⟩
    · intro b hb; cases hb
    · intro b hb; cases hb
  | cons i idx ih =>
    intro acc es lv r h
    rw [List.foldlM_cons] at h
    obtain ⟨⟨acc', r1⟩, h1, h2⟩ := Outcome.bind_eq_ok h
    obtain ⟨b, hb, ha, hlen⟩ := lvlStep_inv h1
    subst ha
    obtain ⟨L, ns, e1, e2, e3, e4, e5, e6⟩ := ih _ _ _ _ h2
    obtain ⟨n1, n2, n3, f1, f2⟩ := bitVectorC_load_inv hb
    refine ⟨b :: L, (n1, n2, n3) :: ns, ?_, by simp [e2], by simp [e3], ?_, ?_, ?_⟩
    · rw [e1]; simp
    · rw [f1, e4]; simp only [levelsRaw, List.append_assoc]
    · intro b' hb'
      rcases List.mem_cons.mp hb' with rfl | hb''
      · exact f2
      · exact e5 b' hb''
    · intro b' hb' b0 h0
      rcases List.mem_cons.mp hb' with rfl | hb''
      · rw [e1, head_push_append] at h0
        by_cases hs : acc.size = 0
        · rw [if_pos hs] at h0; injection h0 with h0; rw [h0]
        · rw [if_neg hs] at h0; exact hlen b0 h0
      · exact e6 b' hb'' b0 h0

/-- what `WMCore::load` read: the width and `width` bitvectors `L` (as in the file); the returned levels are those
with all supports enabled -/
theorem wmCoreC_load_inv {es r : Elems} {c : WMCore} (h : wmCoreC.load es = ok (c, r)) :
    ∃ (L : List BitVector) (ns : List (Word × Word × Word)),
      es = BitVec.ofNat 64 c.width :: levelsRaw L ns ++ r ∧
      c.levels.toList = L.map BitVector.enableAll ∧ L.length = c.width ∧ ns.length = c.width ∧
      1 ≤ c.width ∧ c.width ≤ 64 ∧
      (∀ b, b ∈ L → (bitVectorC.ser b).length < 2 ^ 64 → bitVectorLd b) ∧
      (∀ b b', b ∈ L → b' ∈ L → b.len = b'.len) := by
  rw [wmCoreC_load_eq] at h
  obtain ⟨width, r1, rfl, _, h⟩ := read_field usizeC_inv h
  obtain ⟨c1, h⟩ := ite_fault_eq_ok h
  obtain ⟨⟨levels, r2⟩, h2, h⟩ := Outcome.bind_eq_ok h
  obtain ⟨rfl, rfl⟩ := read_ret h
  obtain ⟨L, ns, e1, e2, e3, rfl, e5, e6⟩ := levels_inv _ _ _ _ _ h2
  obtain rfl : levels = L.toArray := by rw [e1]; simp
  have hw : (WMCore.initSupport ⟨L.toArray⟩).width = width := by
    simp [WMCore.initSupport, WMCore.width, e2]
  refine ⟨L, ns, ?_, by simp [WMCore.initSupport], by rw [hw, e2]; simp, by rw [hw, e3]; simp,
    by rw [hw]; omega, by rw [hw]; omega, e5, ?_⟩
  · rw [hw]; rfl
  · intro b b' hb hb'
    cases L with
    | nil => cases hb
    | cons b0 L' =>
      have h0 : (b0 :: L').toArray[0]? = some b0 := by simp
      rw [e6 b hb b0 h0, e6 b' hb' b0 h0]

/-- whatever `WMCore::load` returns carries all supports on every level -/
theorem _root_.Sds.Codec2.wmCoreC_load_shape {es r : Elems} {c : WMCore} (h : wmCoreC.load es = ok (c, r)) :
    ∀ b, b ∈ c.levels.toList → b.enableAll = b := by
  obtain ⟨L, _, _, hlv, _⟩ := wmCoreC_load_inv h
  intro b hb
  rw [hlv] at hb
  obtain ⟨b0, _, rfl⟩ := List.mem_map.mp hb
  exact enableAll_idem b0

theorem wmCoreC_loaded {es r : Elems} {c : WMCore} (h : wmCoreC.load es = ok (c, r)) (hl : es.length < 2 ^ 64) :
    ∃ (L : List BitVector) (ns : List (Word × Word × Word)),
      es = BitVec.ofNat 64 c.width :: levelsRaw L ns ++ r ∧
      c.levels.toList = L.map BitVector.enableAll ∧ L.length = c.width ∧ ns.length = c.width ∧
      (∀ b, b ∈ L → bitVectorLd b) ∧
      ((∀ b, b ∈ L → (b.select = none ∨ b.selectZero = none) → CountOk b) → wmCoreLd c) := by
  obtain ⟨L, ns, e, hlv, hL, hns, w1, w64, hld, hlen⟩ := wmCoreC_load_inv h
  have hld' : ∀ b, b ∈ L → bitVectorLd b := by
    intro b hb
    refine hld b hb ?_
    have h1 := levelsRaw_length_ge L ns (by omega) b hb
    have h2 := congrArg List.length e
    simp only [List.length_cons, List.length_append] at h2
    omega
  refine ⟨L, ns, e, hlv, hL, hns, hld', fun hc => ⟨w1, w64, ?_, ?_⟩⟩
  · intro b hb
    rw [hlv] at hb
    obtain ⟨b0, hb0, rfl⟩ := List.mem_map.mp hb
    exact ⟨enableAll_ld (hld' b0 hb0) (hc b0 hb0), enableAll_idem b0⟩
  · intro b b' hb hb'
    rw [hlv] at hb hb'
    obtain ⟨b0, hb0, rfl⟩ := List.mem_map.mp hb
    obtain ⟨b1, hb1, rfl⟩ := List.mem_map.mp hb'
    rw [enableAll_len, enableAll_len]
    exact hlen b0 b1 hb0 hb1

theorem wmC_loaded {es r : Elems} {w : WM} (h : wmC.load es = ok (w, r)) (hl : es.length < 2 ^ 64) :
    ∃ (L : List BitVector) (ns : List (Word × Word × Word)),
      es = BitVec.ofNat 64 w.len :: (BitVec.ofNat 64 w.data.width :: levelsRaw L ns ++ intVecC.ser w.first) ++ r ∧
      w.data.levels.toList = L.map BitVector.enableAll ∧ L.length = w.data.width ∧ ns.length = w.data.width ∧
      (∀ b, b ∈ L → bitVectorLd b) ∧
      ((∀ b, b ∈ L → (b.select = none ∨ b.selectZero = none) → CountOk b) → wmLd w) := by
  obtain ⟨len, r1, rfl, l1, h⟩ := read_field usizeC_inv h
  obtain ⟨⟨data, r2⟩, h3, h⟩ := Outcome.bind_eq_ok h
  obtain ⟨n, h5, h⟩ := Outcome.bind_eq_ok h
  obtain ⟨c1, h⟩ := ite_fault_eq_ok h
  obtain ⟨first, r3, rfl, l3, h⟩ := read_field intVecC_load_inv h
  obtain ⟨rfl, rfl⟩ := read_ret h
  obtain rfl : n = len := Decidable.of_not_not c1
  obtain ⟨L, ns, rfl, hlv, hL, hns, hld, hcore⟩ := wmCoreC_loaded h3 (Nat.lt_of_succ_lt hl)
  refine ⟨L, ns, ?_, hlv, hL, hns, hld, fun hc => ⟨hcore hc, h5, l1, l3⟩⟩
  simp only [usizeC, List.append_assoc, List.cons_append, List.nil_append]

/-! ### the run-length encoded vector: exact -/

theorem rlC_load_inv (m : Mode) {es r : Elems} {v : RL} (h : (rlC m).load es = ok (v, r)) :
    es = (rlC m).ser v ++ r ∧ rlLd m v := by
  rw [rlC_load_eq] at h
  obtain ⟨len, r1, rfl, l1, h⟩ := read_field usizeC_inv h
  obtain ⟨ones, r2, rfl, l2, h⟩ := read_field usizeC_inv h
  obtain ⟨samples, r3, rfl, l3, h⟩ := read_field intVecC_load_inv h
  obtain ⟨data, r4, rfl, l4, h⟩ := read_field intVecC_load_inv h
  obtain ⟨c, h⟩ := ite_fault_eq_ok h
  rw [bitsColQ_eq, bind_ok, onesColQ_eq, bind_ok] at h
  obtain ⟨Z, hZ, h⟩ := Outcome.bind_eq_ok h
  obtain ⟨ri, hri, h⟩ := Outcome.bind_eq_ok h
  obtain ⟨si, hsi, h⟩ := Outcome.bind_eq_ok h
  obtain ⟨z, hz, h⟩ := Outcome.bind_eq_ok h
  obtain ⟨zi, hzi, h⟩ := Outcome.bind_eq_ok h
  obtain ⟨rfl, rfl⟩ := read_ret h
  refine ⟨?_, l3, l4, Decidable.of_not_not c, l1, l2, hri, hsi, Z, z, hZ, hz, hzi⟩
  simp only [rlC, usizeC, List.append_assoc, List.cons_append, List.nil_append]

/-- `rlWFg` is also necessary: a vector whose integer vectors and counters are serializable round-trips only if
it satisfies `rlWFg` -/
theorem _root_.Sds.Codec2.rlWFg_of_roundtrip (m : Mode) {v : RL} {r : Elems} (hs : intVecWF v.samples)
    (hd : intVecWF v.data) (hlen : v.len < 2 ^ 64) (hones : v.ones < 2 ^ 64)
    (h : (rlC m).load ((rlC m).ser v ++ r) = ok (v, r)) : rlWFg m v :=
  ⟨hs, hd, (rlC_load_inv m h).2.2.2⟩

/-! ## B. the sink protocol: `write_all` calls joined by `?` into a sink with a byte budget -/

section SinkProofs
open Sink

theorem sink_eta (s : Sink) : (⟨s.content, s.budget, s.e⟩ : Sink) = s := rfl

/-- `write_all` on a budgeted sink, closed form: the whole buffer is accepted iff it fits the budget; otherwise
exactly the first `budget` bytes are accepted and the sink's error is returned -/
theorem writeAll_eq (s : Sink) (buf : List UInt8) :
    s.writeAll buf =
      if buf.length ≤ s.budget then (⟨s.content ++ buf, s.budget - buf.length, s.e⟩, ok ())
      else (⟨s.content ++ buf.take s.budget, 0, s.e⟩, fault (.err s.e)) := by
  rcases s with ⟨content, budget, e⟩
  unfold writeAll
  by_cases h0 : buf.length = 0
  · have : buf = [] := List.eq_nil_of_length_eq_zero h0
    subst this
    simp [writeAllLoop]
  · obtain ⟨k, hk⟩ : ∃ k, buf.length + 1 = k + 2 := ⟨buf.length - 1, by omega⟩
    rw [hk]
    unfold writeAllLoop
    rw [if_neg h0]
    unfold write
    by_cases hb : budget = 0
    · subst hb
      simp only [if_true]
      rw [if_neg (by omega)]
      simp
    · simp only [if_neg hb]
      have hn : min buf.length budget ≠ 0 := by omega
      simp only [if_neg hn]
      unfold writeAllLoop
      by_cases hle : buf.length ≤ budget
      · have hm : min buf.length budget = buf.length := by omega
        rw [hm, if_pos (by simp), if_pos hle, List.take_length]
      · have hm : min buf.length budget = budget := by omega
        rw [hm, if_neg (by simp; omega), if_neg hle]
        unfold write
        simp

/-- the `?`-joined sequence, closed form, for **every** list of chunks -/
theorem serializeTo_eq : ∀ (chunks : List (List UInt8)) (s : Sink),
    serializeTo s chunks =
      if chunks.flatten.length ≤ s.budget then
        (⟨s.content ++ chunks.flatten, s.budget - chunks.flatten.length, s.e⟩, ok ())
      else (⟨s.content ++ chunks.flatten.take s.budget, 0, s.e⟩, fault (.err s.e)) := by
  intro chunks
  induction chunks with
  | nil => intro s; simp [serializeTo, sink_eta]
  | cons c cs ih =>
    intro s
    unfold serializeTo
    rw [writeAll_eq]
    by_cases hc : c.length ≤ s.budget
    · rw [if_pos hc]
      simp only []
      rw [ih]
      simp only [List.flatten_cons, List.length_append]
      by_cases ht : cs.flatten.length ≤ s.budget - c.length
      · rw [if_pos ht, if_pos (by omega)]
        simp only [List.append_assoc, Nat.sub_sub]
      · rw [if_neg ht, if_neg (by omega)]
        simp only [List.append_assoc, List.take_append, List.take_of_length_le hc]
    · rw [if_neg hc]
      simp only [List.flatten_cons, List.length_append]
      rw [if_neg (by omega), List.take_append_of_le_length (by omega)]

end SinkProofs

/-- **serialization into a sink with byte budget `b`**, for every codec, every value and **every** partition of
the output bytes into consecutive chunks (one `write_all` per chunk, joined by `?`): with `L` the number of bytes,
`b ≥ L` → `Ok(())` and the sink holds exactly the bytes; `b < L` → the result is the sink's error (never `Ok`), and
the sink holds exactly the first `b` bytes, a strict prefix. -/
theorem serialize_to_budget_sink {α} (c : Codec α) (x : α) (chunks : List (List UInt8))
    (hchunks : chunks.flatten = toBytes (c.ser x)) (b : Nat) (e : ErrKind) :
    (8 * c.size x ≤ b →
      Sink.serializeTo (Sink.new b e) chunks = (⟨toBytes (c.ser x), b - 8 * c.size x, e⟩, ok ())) ∧
    (b < 8 * c.size x →
      (Sink.serializeTo (Sink.new b e) chunks).2 = fault (.err e) ∧
      (Sink.serializeTo (Sink.new b e) chunks).1.content = (toBytes (c.ser x)).take b ∧
      (Sink.serializeTo (Sink.new b e) chunks).1.content.length = b ∧
      (Sink.serializeTo (Sink.new b e) chunks).1.content.length < (toBytes (c.ser x)).length) := by
  have hL : chunks.flatten.length = 8 * c.size x := by rw [hchunks, length_toBytes]; rfl
  rw [serializeTo_eq, hchunks]
  rw [hchunks] at hL
  constructor
  · intro h
    rw [if_pos (by simp only [Sink.new]; omega)]
    simp [Sink.new, hL]
  · intro h
    rw [if_neg (by simp only [Sink.new]; omega)]
    refine ⟨rfl, ?_, ?_, ?_⟩
    · simp [Sink.new]
    · simp only [Sink.new, List.nil_append, List.length_take]; omega
    · simp only [Sink.new, List.nil_append, List.length_take]; omega

end Sds.LoadWF
