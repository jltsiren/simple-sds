/-
Proofs/RawVec: raw vectors behave as plain bit sequences under any operation history,
and the representation is canonical.
-/
import Sds.Model.RawVec
import Sds.Proofs.Bits
set_option linter.unusedSimpArgs false
set_option linter.unusedVariables false

namespace Sds
open Outcome

/-! ### array / reader helpers -/

theorem rd_of_lt (a : Array Word) (k : Nat) (h : k < a.size) : rd a k = a[k] := by
  unfold rd; simp [h]

theorem getBit_of_size_le (a : Array Word) (j : Nat) (h : 64 * a.size ≤ j) : getBit a j = false := by
  unfold getBit
  rw [rd_of_ge _ _ (by omega)]
  simp

theorem getBit_def (a : Array Word) (j : Nat) : getBit a j = (rd a (j / 64)).getLsbD (j % 64) := rfl

theorem getBit_mk (a : Array Word) (k i : Nat) (hi : i < 64) :
    getBit a (64 * k + i) = (rd a k).getLsbD i := by
  unfold getBit
  have e1 : (64 * k + i) / 64 = k := by omega
  have e2 : (64 * k + i) % 64 = i := by omega
  rw [e1, e2]

/-- "exactly as many words as the length needs", without division -/
theorem wordCount_bounds {n s : Nat} (hs : s = (n + 63) / 64) : n ≤ 64 * s ∧ 64 * s < n + 64 := by omega

/-- word arrays of equal size with equal bits are equal -/
theorem data_ext (a b : Array Word) (hs : a.size = b.size) (h : ∀ j, getBit a j = getBit b j) : a = b := by
  apply Array.ext hs
  intro k hk1 hk2
  apply BitVec.eq_of_getLsbD_eq
  intro i hi
  have := h (64 * k + i)
  rw [getBit_mk _ _ _ hi, getBit_mk _ _ _ hi, rd_of_lt _ _ hk1, rd_of_lt _ _ hk2] at this
  exact this

theorem size_resizeArr (a : Array Word) (n : Nat) (x : Word) : (resizeArr a n x).size = n := by
  unfold resizeArr
  split
  · simp; omega
  · simp; omega

theorem rd_resizeArr (a : Array Word) (n : Nat) (x : Word) (k : Nat) :
    rd (resizeArr a n x) k = if k < n then (if k < a.size then rd a k else x) else 0 := by
  unfold resizeArr rd
  split
  · rename_i h
    by_cases hk : k < n
    · have : k < a.size := by omega
      simp [hk, this, Nat.min_eq_left h]
    · simp [hk, Nat.min_eq_left h]
  · rename_i h
    by_cases hk : k < n
    · by_cases hk2 : k < a.size
      · simp [hk, hk2, Array.getElem?_append_left]
      · have h3 : k - a.size < n - a.size := by omega
        simp [hk, hk2, Array.getElem?_append_right (show a.size ≤ k by omega), Array.getElem?_replicate, h3]
    · have h3 : ¬ (k - a.size < n - a.size) := by omega
      simp [hk, Array.getElem?_append_right (show a.size ≤ k by omega), Array.getElem?_replicate, h3]

theorem rd_replicate (n : Nat) (x : Word) (k : Nat) :
    rd (Array.replicate n x) k = if k < n then x else 0 := by
  unfold rd
  by_cases hk : k < n <;> simp [hk, Array.getElem?_replicate]

theorem rd_map (f : Word → Word) (a : Array Word) (k : Nat) :
    rd (a.map f) k = if k < a.size then f (rd a k) else 0 := by
  unfold rd
  by_cases hk : k < a.size <;> simp [hk]

theorem fillerValue_getLsbD (b : Bool) (i : Nat) (hi : i < 64) : (fillerValue b).getLsbD i = b := by
  unfold fillerValue
  cases b
  · simp
  · simp only [if_true]
    rw [BitVec.getLsbD_allOnes]; simp [hi]

namespace RawVec

/-! ### the invariant, bit-level form -/

theorem WF.size_eq {v : RawVec} (h : v.WF) : v.data.size = (v.len + 63) / 64 := h.1

theorem WF.tail_zero {v : RawVec} (h : v.WF) (j : Nat) (hj : v.len ≤ j) : getBit v.data j = false := by
  obtain ⟨hs, ht⟩ := h
  by_cases hjs : 64 * v.data.size ≤ j
  · exact getBit_of_size_le _ _ hjs
  · have hm : v.len % 64 ≠ 0 := by omega
    have hd : j / 64 = v.len / 64 := by omega
    have hjl := Nat.mod_lt j (show 64 > 0 by decide)
    have h0 := ht hm
    have h1 : (rd v.data (v.len / 64) &&& ~~~ lowSet (v.len % 64)).getLsbD (j % 64) = false := by
      rw [h0]; simp
    rw [BitVec.getLsbD_and, BitVec.getLsbD_not, lowSet_getLsbD _ _ hjl] at h1
    have h2 : ¬ (j % 64 < v.len % 64) := by omega
    unfold getBit
    rw [hd]
    simpa [hjl, h2] using h1

/-- converse: exact word count and all bits at or beyond `len` zero give `WF` -/
theorem WF.of_tail_zero {v : RawVec} (hs : v.data.size = (v.len + 63) / 64)
    (ht : ∀ j, v.len ≤ j → getBit v.data j = false) : v.WF := by
  refine ⟨hs, fun hm => ?_⟩
  apply BitVec.eq_of_getLsbD_eq
  intro i hi
  rw [BitVec.getLsbD_and, BitVec.getLsbD_not, lowSet_getLsbD _ _ hi]
  by_cases hil : i < v.len % 64
  · simp [hil]
  · have := ht (64 * (v.len / 64) + i) (by omega)
    rw [getBit_mk _ _ _ hi] at this
    simp [this]

theorem WF_iff (v : RawVec) :
    v.WF ↔ v.data.size = (v.len + 63) / 64 ∧ ∀ j, v.len ≤ j → getBit v.data j = false :=
  ⟨fun h => ⟨h.1, h.tail_zero⟩, fun h => WF.of_tail_zero h.1 h.2⟩

theorem bits_length (v : RawVec) : v.bits.length = v.len := by
  unfold bits; simp

theorem bits_getElem? (v : RawVec) (i : Nat) :
    v.bits[i]? = if i < v.len then some (getBit v.data i) else none :=
  range_map_getElem? _ _ _

/-- characterisation of `bits` used for all operations -/
theorem bits_eq_iff (v : RawVec) (L : List Bool) :
    v.bits = L ↔ L.length = v.len ∧ ∀ i, i < v.len → L[i]? = some (getBit v.data i) :=
  range_map_eq_iff _ _ _

/-! ### canonicity -/

theorem canonical {v w : RawVec} (hv : v.WF) (hw : w.WF) (h : v.bits = w.bits) : v = w := by
  have hl : v.len = w.len := by rw [← bits_length v, ← bits_length w, h]
  have hd : v.data = w.data := by
    apply data_ext
    · rw [hv.1, hw.1, hl]
    · intro j
      by_cases hj : j < v.len
      · have h1 := bits_getElem? v j
        have h2 := bits_getElem? w j
        rw [h] at h1
        rw [h1] at h2
        simp only [hj, hl ▸ hj, if_true] at h2
        exact Option.some.inj h2
      · rw [hv.tail_zero j (by omega), hw.tail_zero j (by omega)]
  cases v; cases w; simp_all

/-! ### setUnusedBits -/

@[simp] theorem len_setUnusedBits (v : RawVec) (b : Bool) : (v.setUnusedBits b).len = v.len := by
  unfold setUnusedBits; simp only []
  split
  · split <;> rfl
  · rfl

@[simp] theorem size_setUnusedBits (v : RawVec) (b : Bool) :
    (v.setUnusedBits b).data.size = v.data.size := by
  unfold setUnusedBits; simp only []
  split
  · split <;> simp
  · rfl

/-- the last word after `set_unused_bits`: below the width the old bit, from the width on `b` -/
theorem tailWord_getLsbD (x : Word) (wd : Nat) (b : Bool) (i : Nat) (hi : i < 64) :
    (if b then x ||| ~~~ lowSet wd else x &&& lowSet wd).getLsbD i = if i < wd then x.getLsbD i else b := by
  cases b <;> by_cases h : i < wd <;> simp [lowSet_getLsbD _ _ hi, h, hi]

theorem getBit_setUnusedBits (v : RawVec) (b : Bool) (hs : v.data.size = (v.len + 63) / 64) (j : Nat) :
    getBit (v.setUnusedBits b).data j =
      if v.len ≤ j ∧ j < 64 * v.data.size then b else getBit v.data j := by
  have hjl := Nat.mod_lt j (show 64 > 0 by decide)
  replace hs := wordCount_bounds hs
  unfold setUnusedBits; simp only []
  split
  · have hd : ∀ x y : Word, (if b = true then ({ v with data := v.data.setIfInBounds (v.len / 64) x } : RawVec)
        else { v with data := v.data.setIfInBounds (v.len / 64) y }).data =
        v.data.setIfInBounds (v.len / 64) (if b then x else y) := by cases b <;> intros <;> rfl
    rw [hd, getBit_set _ _ _ (by omega)]
    by_cases hjw : j / 64 = v.len / 64
    · rw [if_pos hjw, tailWord_getLsbD _ _ _ _ hjl, getBit_def, hjw]
      by_cases h : j % 64 < v.len % 64
      · rw [if_pos h, if_neg (by omega)]
      · rw [if_neg h, if_pos (by omega)]
    · rw [if_neg hjw, if_neg (by omega)]
  · rw [if_neg (by omega)]

/-- re-zeroing the tail of a vector with the exact word count always yields a well-formed vector -/
theorem setUnusedBits_false_WF (v : RawVec) (hs : v.data.size = (v.len + 63) / 64) :
    (v.setUnusedBits false).WF := by
  apply WF.of_tail_zero
  · simp [hs]
  · intro j hj
    rw [len_setUnusedBits] at hj
    rw [getBit_setUnusedBits _ _ hs]
    by_cases hc : j < 64 * v.data.size
    · simp [hj, hc]
    · simp [hc]; exact getBit_of_size_le _ _ (by omega)

theorem bits_eq_of_getBit {v w : RawVec} (hl : v.len = w.len)
    (h : ∀ i, i < v.len → getBit v.data i = getBit w.data i) : v.bits = w.bits := by
  unfold bits
  rw [← hl]
  apply List.map_congr_left
  intro i hi
  exact h i (by simpa using hi)

theorem bits_setUnusedBits (v : RawVec) (b : Bool) (hs : v.data.size = (v.len + 63) / 64) :
    (v.setUnusedBits b).bits = v.bits := by
  apply bits_eq_of_getBit (by simp)
  intro i hi
  rw [len_setUnusedBits] at hi
  rw [getBit_setUnusedBits _ _ hs]
  have : ¬ (v.len ≤ i ∧ i < 64 * v.data.size) := by omega
  simp [this]

/-- a well-formed vector is a fixed point of `set_unused_bits(false)` -/
theorem WF.setUnusedBits_false {v : RawVec} (h : v.WF) : v.setUnusedBits false = v := by
  apply canonical (setUnusedBits_false_WF v h.1) h (bits_setUnusedBits v false h.1)

/-! ### empty / withLen -/

theorem empty_WF : RawVec.empty.WF := by decide

theorem withLen_WF (n : Nat) (b : Bool) : (withLen n b).WF := by
  unfold withLen
  apply setUnusedBits_false_WF
  simp

theorem bits_withLen (n : Nat) (b : Bool) : (withLen n b).bits = List.replicate n b := by
  unfold withLen
  rw [bits_setUnusedBits _ _ (by simp)]
  rw [bits_eq_iff]
  refine ⟨by simp, fun i hi => ?_⟩
  simp only [] at hi
  have hjl := Nat.mod_lt i (show 64 > 0 by decide)
  unfold getBit
  simp only []
  rw [rd_replicate, if_pos (by omega), fillerValue_getLsbD _ _ hjl]
  simp [hi]

@[simp] theorem len_withLen (n : Nat) (b : Bool) : (withLen n b).len = n := by
  unfold withLen; simp

/-! ### pushBit -/

theorem bits_eq_append {v w : RawVec} (L : List Bool) (hl : w.len = v.len + L.length)
    (h1 : ∀ i, i < v.len → getBit w.data i = getBit v.data i)
    (h2 : ∀ i, i < L.length → L[i]? = some (getBit w.data (v.len + i))) : w.bits = v.bits ++ L := by
  rw [bits_eq_iff]
  refine ⟨by simp [bits_length, hl], fun i hi => ?_⟩
  by_cases hiv : i < v.len
  · rw [List.getElem?_append_left (by simpa [bits_length] using hiv), bits_getElem?]
    simp [hiv, h1 i hiv]
  · rw [List.getElem?_append_right (by simp [bits_length]; omega), bits_length, h2 _ (by omega)]
    congr 2; omega

theorem bitWord_shl_getLsbD (b : Bool) (o i : Nat) (hi : i < 64) :
    ((if b then (1 : Word) else 0) <<< o).getLsbD i = (decide (i = o) && b) := by
  cases b
  · simp
  · rw [if_pos rfl, one_shl_getLsbD _ _ hi, Bool.and_true]

theorem getBit_push_zero (a : Array Word) (j : Nat) : getBit (a.push 0) j = getBit a j := by
  unfold getBit
  rw [rd_push]
  split
  · rename_i h; rw [h, rd_of_ge _ _ (Nat.le_refl _)]
  · rfl

theorem getBit_pushBit {v : RawVec} (h : v.WF) (b : Bool) (j : Nat) :
    getBit (v.pushBit b).data j = if j = v.len then b else getBit v.data j := by
  have hs := wordCount_bounds h.1
  have hjl := Nat.mod_lt j (show 64 > 0 by decide)
  unfold pushBit; simp only []
  generalize hd : (if v.len / 64 = v.data.size then v.data.push 0 else v.data) = d
  have hdb : ∀ k, getBit d k = getBit v.data k := by
    intro k; rw [← hd]; split
    · exact getBit_push_zero _ _
    · rfl
  have hds : v.len / 64 < d.size := by
    rw [← hd]; split
    · simp; omega
    · omega
  rw [getBit_set _ _ _ hds]
  by_cases hjw : j / 64 = v.len / 64
  · rw [if_pos hjw, BitVec.getLsbD_or, bitWord_shl_getLsbD _ _ _ hjl, ← hjw, ← getBit_def, hdb]
    by_cases hjv : j = v.len
    · subst hjv
      simp [h.tail_zero _ (Nat.le_refl _)]
    · simp [hjv, show j % 64 ≠ v.len % 64 by omega]
  · rw [if_neg hjw, if_neg (by intro e; exact hjw (by rw [e])), hdb]

@[simp] theorem len_pushBit (v : RawVec) (b : Bool) : (v.pushBit b).len = v.len + 1 := rfl

theorem size_pushBit {v : RawVec} (h : v.WF) (b : Bool) :
    (v.pushBit b).data.size = (v.len + 1 + 63) / 64 := by
  have hs := wordCount_bounds h.1
  unfold pushBit; simp only [Array.size_setIfInBounds]
  split
  · simp; omega
  · omega

theorem pushBit_WF {v : RawVec} (h : v.WF) (b : Bool) : (v.pushBit b).WF := by
  apply WF.of_tail_zero (size_pushBit h b)
  intro j hj
  rw [len_pushBit] at hj
  rw [getBit_pushBit h, if_neg (by omega)]
  exact h.tail_zero j (by omega)

theorem bits_pushBit {v : RawVec} (h : v.WF) (b : Bool) : (v.pushBit b).bits = v.bits ++ [b] := by
  apply bits_eq_append
  · simp
  · intro i hi; rw [getBit_pushBit h, if_neg (by omega)]
  · intro i hi
    have : i = 0 := by simpa using hi
    subst this
    simp [getBit_pushBit h]

theorem ofBits_aux (B : List Bool) (v : RawVec) (h : v.WF) :
    (B.foldl pushBit v).WF ∧ (B.foldl pushBit v).bits = v.bits ++ B := by
  induction B generalizing v with
  | nil => simp [h]
  | cons b B ih =>
    have := ih (v.pushBit b) (pushBit_WF h b)
    rw [bits_pushBit h] at this
    simpa using this

theorem ofBits_WF (B : List Bool) : (ofBits B).WF := (ofBits_aux B empty empty_WF).1

theorem bits_ofBits (B : List Bool) : (ofBits B).bits = B := by
  have := (ofBits_aux B empty empty_WF).2
  simpa [bits, empty, ofBits] using this

/-! ### pushInt -/

theorem pushInt_zero (v : RawVec) (x : Word) : v.pushInt x 0 = v := by
  unfold pushInt; simp

theorem len_pushInt (v : RawVec) (x : Word) (w : Nat) : (v.pushInt x w).len = v.len + w := by
  unfold pushInt; split
  · rename_i h; simp [h]
  · rfl

theorem getBit_pushInt {v : RawVec} (h : v.WF) (x : Word) (w : Nat) (hw : 1 ≤ w) (hw' : w ≤ 64) (j : Nat) :
    getBit (v.pushInt x w).data j =
      if v.len ≤ j ∧ j < v.len + w then x.getLsbD (j - v.len) else getBit v.data j := by
  have hs := wordCount_bounds h.1
  unfold pushInt
  rw [if_neg (by omega)]; simp only []
  generalize hd : (if v.len + w > 64 * v.data.size then v.data.push 0 else v.data) = d
  have hdb : ∀ k, getBit d k = getBit v.data k := by
    intro k; rw [← hd]; split
    · exact getBit_push_zero _ _
    · rfl
  have hds : (v.len + w - 1) / 64 < d.size := by
    rw [← hd]; split
    · simp; omega
    · omega
  rw [getBit_writeInt _ _ _ _ hw hw' hds, hdb]

theorem size_pushInt {v : RawVec} (h : v.WF) (x : Word) (w : Nat) (hw : 1 ≤ w) (hw' : w ≤ 64) :
    (v.pushInt x w).data.size = (v.len + w + 63) / 64 := by
  have hs := wordCount_bounds h.1
  unfold pushInt
  rw [if_neg (by omega)]; simp only [size_writeInt]
  split
  · simp; omega
  · omega

theorem pushInt_WF {v : RawVec} (h : v.WF) (x : Word) (w : Nat) (hw : 1 ≤ w) (hw' : w ≤ 64) :
    (v.pushInt x w).WF := by
  apply WF.of_tail_zero
  · rw [size_pushInt h x w hw hw', len_pushInt]
  · intro j hj
    rw [len_pushInt] at hj
    rw [getBit_pushInt h x w hw hw', if_neg (by omega)]
    exact h.tail_zero j (by omega)

theorem bits_pushInt {v : RawVec} (h : v.WF) (x : Word) (w : Nat) (hw : 1 ≤ w) (hw' : w ≤ 64) :
    (v.pushInt x w).bits = v.bits ++ (List.range w).map (fun i => x.getLsbD i) := by
  apply bits_eq_append
  · simp [len_pushInt]
  · intro i hi; rw [getBit_pushInt h x w hw hw', if_neg (by omega)]
  · intro i hi
    have hi' : i < w := by simpa using hi
    rw [getBit_pushInt h x w hw hw', if_pos (by omega)]
    simp [hi']

/-! ### bit / int / setBit / setInt -/

theorem bit_eq (v : RawVec) (i : Nat) : v.bit i = getBit v.data i := rfl

theorem bit_eq_getElem? (v : RawVec) (i : Nat) (hi : i < v.len) : v.bits[i]? = some (v.bit i) := by
  rw [bits_getElem?]; simp [hi, bit]

/-- a bit below the length is read without a fault -/
theorem bitM_ok {v : RawVec} (hv : v.WF) (i : Nat) (hi : i < v.len) : v.bitM i = .ok (v.bits[i]?.getD false) := by
  unfold bitM
  rw [if_pos (by rw [hv.size_eq]; omega), bit_eq_getElem? v i hi]; rfl

/-- the word index is checked: the bit, or an index panic, for every vector and every index -/
theorem bitM_cases (v : RawVec) (i : Nat) : v.bitM i = .ok (v.bit i) ∨ v.bitM i = .fault (.panic .index) := by
  unfold bitM
  by_cases h : i / 64 < v.data.size
  · left; rw [if_pos h]
  · right; rw [if_neg h]

theorem int_getLsbD (v : RawVec) (off w : Nat) (hw : 1 ≤ w) (hw' : w ≤ 64) (i : Nat) :
    (v.int off w).getLsbD i = (decide (i < w) && getBit v.data (off + i)) := by
  unfold int
  rw [if_neg (by omega), getLsbD_readInt _ _ _ hw hw']

theorem int_zero (v : RawVec) (off : Nat) : v.int off 0 = 0 := by
  unfold int; simp

@[simp] theorem len_setBit (v : RawVec) (i : Nat) (b : Bool) : (v.setBit i b).len = v.len := rfl

theorem getBit_setBit {v : RawVec} (h : v.WF) (i : Nat) (hi : i < v.len) (b : Bool) (j : Nat) :
    getBit (v.setBit i b).data j = if j = i then b else getBit v.data j := by
  have hs := wordCount_bounds h.1
  have hjl := Nat.mod_lt j (show 64 > 0 by decide)
  unfold setBit; simp only []
  rw [getBit_set _ _ _ (by omega)]
  by_cases hjw : j / 64 = i / 64
  · rw [if_pos hjw, BitVec.getLsbD_or, BitVec.getLsbD_and, BitVec.getLsbD_not, one_shl_getLsbD _ _ hjl,
      bitWord_shl_getLsbD _ _ _ hjl, ← hjw, ← getBit_def]
    by_cases hji : j = i
    · subst hji
      simp
    · simp [hji, hjl, show j % 64 ≠ i % 64 by omega]
  · rw [if_neg hjw, if_neg (by intro e; exact hjw (by rw [e]))]

theorem setBit_WF {v : RawVec} (h : v.WF) (i : Nat) (hi : i < v.len) (b : Bool) : (v.setBit i b).WF := by
  apply WF.of_tail_zero
  · simp [setBit, h.1]
  · intro j hj
    rw [len_setBit] at hj
    rw [getBit_setBit h i hi, if_neg (by omega)]
    exact h.tail_zero j hj

theorem bits_setBit {v : RawVec} (h : v.WF) (i : Nat) (hi : i < v.len) (b : Bool) :
    (v.setBit i b).bits = v.bits.set i b := by
  rw [bits_eq_iff]
  refine ⟨by simp [bits_length], fun j hj => ?_⟩
  rw [len_setBit] at hj
  rw [getBit_setBit h i hi, List.getElem?_set, bits_getElem?]
  by_cases hji : i = j
  · subst hji; simp [bits_length, hi]
  · have : ¬ (j = i) := fun e => hji e.symm
    simp [hji, this, hj]

theorem setInt_zero (v : RawVec) (off : Nat) (x : Word) : v.setInt off x 0 = v := by
  unfold setInt; simp

theorem len_setInt (v : RawVec) (off : Nat) (x : Word) (w : Nat) : (v.setInt off x w).len = v.len := by
  unfold setInt; split <;> rfl

theorem getBit_setInt {v : RawVec} (h : v.WF) (off : Nat) (x : Word) (w : Nat) (hw : 1 ≤ w) (hw' : w ≤ 64)
    (hr : off + w ≤ v.len) (j : Nat) :
    getBit (v.setInt off x w).data j =
      if off ≤ j ∧ j < off + w then x.getLsbD (j - off) else getBit v.data j := by
  have hs := wordCount_bounds h.1
  unfold setInt
  rw [if_neg (by omega)]; simp only []
  exact getBit_writeInt _ _ _ _ hw hw' (by omega) j

theorem setInt_WF {v : RawVec} (h : v.WF) (off : Nat) (x : Word) (w : Nat) (hw : 1 ≤ w) (hw' : w ≤ 64)
    (hr : off + w ≤ v.len) : (v.setInt off x w).WF := by
  apply WF.of_tail_zero
  · rw [len_setInt]; unfold setInt; rw [if_neg (by omega)]; simp only [size_writeInt]; exact h.1
  · intro j hj
    rw [len_setInt] at hj
    rw [getBit_setInt h off x w hw hw' hr, if_neg (by omega)]
    exact h.tail_zero j hj

/-- bits inside the field are the low `w` bits of `x`, all other bits are unchanged -/
theorem bits_setInt_getElem? {v : RawVec} (h : v.WF) (off : Nat) (x : Word) (w : Nat) (hw : 1 ≤ w)
    (hw' : w ≤ 64) (hr : off + w ≤ v.len) (j : Nat) :
    (v.setInt off x w).bits[j]? =
      if off ≤ j ∧ j < off + w then some (x.getLsbD (j - off)) else v.bits[j]? := by
  rw [bits_getElem?, bits_getElem?, len_setInt, getBit_setInt h off x w hw hw' hr]
  by_cases hc : off ≤ j ∧ j < off + w
  · have : j < v.len := by omega
    simp [hc, this]
  · simp [hc]

/-- the same as a list equation -/
theorem bits_setInt {v : RawVec} (h : v.WF) (off : Nat) (x : Word) (w : Nat) (hw : 1 ≤ w)
    (hw' : w ≤ 64) (hr : off + w ≤ v.len) :
    (v.setInt off x w).bits =
      v.bits.take off ++ (List.range w).map (fun i => x.getLsbD i) ++ v.bits.drop (off + w) := by
  have e1 : (v.bits.take off).length = off := by rw [List.length_take, bits_length]; omega
  have e2 : ((List.range w).map fun i => x.getLsbD i).length = w := by simp
  apply List.ext_getElem?
  intro j
  rw [bits_setInt_getElem? h off x w hw hw' hr, List.append_assoc]
  by_cases h1 : j < off
  · rw [if_neg (by omega), List.getElem?_append_left (by omega), List.getElem?_take, if_pos h1]
  · rw [List.getElem?_append_right (by omega), e1]
    by_cases h2 : j < off + w
    · rw [if_pos (by omega), List.getElem?_append_left (by omega), range_map_getElem?, if_pos (by omega)]
    · rw [if_neg (by omega), List.getElem?_append_right (by omega), e2, List.getElem?_drop]
      congr 1; omega

/-- read-after-write through the vector API -/
theorem int_setInt {v : RawVec} (h : v.WF) (off : Nat) (x : Word) (w : Nat) (hw : 1 ≤ w)
    (hw' : w ≤ 64) (hr : off + w ≤ v.len) : (v.setInt off x w).int off w = x &&& lowSet w := by
  have hs := wordCount_bounds h.1
  unfold setInt int
  rw [if_neg (by omega), if_neg (by omega)]
  exact readInt_writeInt _ _ _ _ hw hw' (by omega)

/-! ### resize -/

theorem getBit_resizeArr (a : Array Word) (n : Nat) (x : Word) (j : Nat) :
    getBit (resizeArr a n x) j =
      if j < 64 * n then (if j < 64 * a.size then getBit a j else x.getLsbD (j % 64)) else false := by
  rw [getBit_def, rd_resizeArr]
  by_cases h1 : j < 64 * n
  · rw [if_pos (by omega), if_pos h1]
    by_cases h2 : j < 64 * a.size
    · rw [if_pos (by omega), if_pos h2]; rfl
    · rw [if_neg (by omega), if_neg h2]
  · rw [if_neg (by omega), if_neg h1]; simp

@[simp] theorem len_resize (v : RawVec) (n : Nat) (b : Bool) : (v.resize n b).len = n := by
  unfold resize; simp

theorem resize_WF' (v : RawVec) (n : Nat) (b : Bool) : (v.resize n b).WF := by
  unfold resize; simp only []
  apply setUnusedBits_false_WF
  simp [size_resizeArr]

theorem resize_WF {v : RawVec} (h : v.WF) (n : Nat) (b : Bool) : (v.resize n b).WF := resize_WF' v n b

theorem getBit_resize {v : RawVec} (h : v.WF) (n : Nat) (b : Bool) (j : Nat) (hj : j < n) :
    getBit (v.resize n b).data j = if j < v.len then getBit v.data j else b := by
  have hs := wordCount_bounds h.1
  have hjl := Nat.mod_lt j (show 64 > 0 by decide)
  unfold resize; simp only []
  rw [getBit_setUnusedBits _ _ (by simp [size_resizeArr])]
  simp only []
  rw [if_neg (by omega), getBit_resizeArr, if_pos (by omega), fillerValue_getLsbD _ _ hjl]
  by_cases hgrow : n > v.len
  · simp only [hgrow, if_true, size_setUnusedBits, getBit_setUnusedBits _ _ h.1]
    by_cases h1 : j < v.len
    · rw [if_pos (by omega), if_neg (by omega), if_pos h1]
    · by_cases h2 : j < 64 * v.data.size
      · rw [if_pos h2, if_pos (by omega), if_neg h1]
      · rw [if_neg h2, if_neg h1]
  · simp only [hgrow, if_false]
    rw [if_pos (by omega), if_pos (by omega)]

theorem bits_resize {v : RawVec} (h : v.WF) (n : Nat) (b : Bool) :
    (v.resize n b).bits = v.bits.take n ++ List.replicate (n - v.len) b := by
  rw [bits_eq_iff]
  refine ⟨by simp [bits_length]; omega, fun j hj => ?_⟩
  rw [len_resize] at hj
  rw [getBit_resize h n b j hj]
  by_cases h1 : j < v.len
  · rw [if_pos h1, List.getElem?_append_left (by simp [bits_length]; omega), List.getElem?_take,
      if_pos hj, bits_getElem?, if_pos h1]
  · rw [if_neg h1, List.getElem?_append_right (by simp [bits_length]; omega)]
    have : j - (List.take n v.bits).length < n - v.len := by simp [bits_length]; omega
    rw [List.getElem?_replicate, if_pos this]

/-! ### popBit / popInt -/

theorem popBit_empty (v : RawVec) (h : v.len = 0) : v.popBit = (none, v) := by
  unfold popBit; simp [h]

theorem popBit_eq (v : RawVec) (h : v.len ≠ 0) :
    v.popBit = (some (getBit v.data (v.len - 1)), v.resize (v.len - 1) false) := by
  unfold popBit resize
  rw [if_neg h, if_neg (by omega)]
  rfl

theorem popBit_spec {v : RawVec} (hv : v.WF) (h : v.len ≠ 0) :
    v.popBit.1 = some (getBit v.data (v.len - 1)) ∧ v.popBit.2.WF ∧
      v.popBit.2.bits = v.bits.take (v.len - 1) := by
  rw [popBit_eq v h]
  refine ⟨rfl, resize_WF hv _ _, ?_⟩
  simp only []
  rw [bits_resize hv, show v.len - 1 - v.len = 0 by omega]
  simp

/-- the popped bit is the last element of the content -/
theorem popBit_fst {v : RawVec} (h : v.len ≠ 0) : v.popBit.1 = v.bits[v.len - 1]? := by
  rw [popBit_eq v h, bits_getElem?, if_pos (by omega)]

theorem popInt_short (v : RawVec) (w : Nat) (h : v.len < w) : v.popInt w = (none, v) := by
  unfold popInt; rw [if_neg (by omega)]

theorem popInt_zero (v : RawVec) : v.popInt 0 = (some 0, v) := by
  unfold popInt; simp

theorem popInt_eq (v : RawVec) (w : Nat) (hw : 1 ≤ w) (h : w ≤ v.len) :
    v.popInt w = (some (v.int (v.len - w) w), v.resize (v.len - w) false) := by
  unfold popInt resize
  rw [if_pos h, if_neg (by omega), if_neg (by omega)]
  rfl

theorem popInt_spec {v : RawVec} (hv : v.WF) (w : Nat) (hw : 1 ≤ w) (hw' : w ≤ 64) (h : w ≤ v.len) :
    (∃ r, (v.popInt w).1 = some r ∧
      ∀ i, r.getLsbD i = (decide (i < w) && getBit v.data (v.len - w + i))) ∧
    (v.popInt w).2.WF ∧ (v.popInt w).2.bits = v.bits.take (v.len - w) := by
  rw [popInt_eq v w hw h]
  refine ⟨⟨_, rfl, fun i => int_getLsbD v _ w hw hw' i⟩, resize_WF hv _ _, ?_⟩
  simp only []
  rw [bits_resize hv, show v.len - w - v.len = 0 by omega]
  simp

/-! ### countOnes / complement -/

theorem getBit_cons (w : Word) (l : List Word) (i : Nat) :
    getBit (w :: l).toArray (64 + i) = getBit l.toArray i := by
  rw [getBit_def, getBit_def]
  have e1 : (64 + i) / 64 = i / 64 + 1 := by omega
  have e2 : (64 + i) % 64 = i % 64 := by omega
  rw [e1, e2]
  unfold rd
  simp

theorem getBit_cons_lt (w : Word) (l : List Word) (i : Nat) (hi : i < 64) :
    getBit (w :: l).toArray i = w.getLsbD i := by
  rw [getBit_def]
  have e1 : i / 64 = 0 := by omega
  have e2 : i % 64 = i := by omega
  rw [e1, e2]
  unfold rd
  simp

theorem foldl_popcount (l : List Word) (acc : Nat) :
    l.foldl (fun acc w => acc + popcount w) acc = acc + cntF (getBit l.toArray) (64 * l.length) := by
  induction l generalizing acc with
  | nil => simp [cntF]
  | cons w l ih =>
    rw [List.foldl_cons, ih, List.length_cons, show 64 * (l.length + 1) = 64 + 64 * l.length by omega,
      cntF_add]
    have e1 : cntF (getBit (w :: l).toArray) 64 = popcount w := by
      unfold cntF popcount bitsOfWord
      have : List.map (getBit (w :: l).toArray) (List.range 64)
          = List.map (fun i => w.getLsbD i) (List.range 64) := by
        apply List.map_congr_left
        intro i hi
        exact getBit_cons_lt w l i (by simpa using hi)
      rw [this]
    have e2 : cntF (fun i => getBit (w :: l).toArray (64 + i)) (64 * l.length)
        = cntF (getBit l.toArray) (64 * l.length) :=
      cntF_congr _ _ _ (fun i _ => getBit_cons w l i)
    rw [e1, e2]; omega

theorem countOnes_eq_cnt (v : RawVec) : v.countOnes = cntF (getBit v.data) (64 * v.data.size) := by
  unfold countOnes
  rw [← Array.foldl_toList, foldl_popcount]
  simp

theorem countOnes_eq {v : RawVec} (h : v.WF) : v.countOnes = v.bits.count true := by
  have hs := wordCount_bounds h.1
  rw [countOnes_eq_cnt]
  have : 64 * v.data.size = v.len + (64 * v.data.size - v.len) := by omega
  rw [this, cntF_add, cntF_false (fun i => getBit v.data (v.len + i)) _ (fun i _ => h.tail_zero _ (by omega))]
  rfl


@[simp] theorem len_complement (v : RawVec) : v.complement.len = v.len := by
  unfold complement; simp

theorem complement_WF' (v : RawVec) (hs : v.data.size = (v.len + 63) / 64) : v.complement.WF := by
  unfold complement
  apply setUnusedBits_false_WF
  simp [hs]

theorem complement_WF {v : RawVec} (h : v.WF) : v.complement.WF := complement_WF' v h.1

theorem bits_complement {v : RawVec} (h : v.WF) : v.complement.bits = v.bits.map not := by
  have hs := wordCount_bounds h.1
  unfold complement
  rw [bits_setUnusedBits _ _ (by simp [h.1]), bits_eq_iff]
  refine ⟨by simp [bits_length], fun i hi => ?_⟩
  simp only [] at hi
  have hil := Nat.mod_lt i (show 64 > 0 by decide)
  rw [List.getElem?_map, bits_getElem?, if_pos hi, getBit_def, getBit_def]
  simp only []
  rw [rd_map, if_pos (by omega), BitVec.getLsbD_not]
  simp [hil]

/-! ### clear -/

theorem clear_spec (v : RawVec) : (v.clear).WF ∧ (v.clear).bits = [] := by
  refine ⟨empty_WF, ?_⟩
  simp [clear, empty, bits]

/-! ### operation histories -/

/-- the mutating operations of the in-memory API -/
inductive Op
  | pushBit (b : Bool) | pushInt (x : Word) (w : Nat) | setBit (i : Nat) (b : Bool)
  | setInt (off : Nat) (x : Word) (w : Nat) | resize (n : Nat) (b : Bool)
  | popBit | popInt (w : Nat) | complement | clear

/-- effect on the representation -/
def Op.run : Op → RawVec → RawVec
  | .pushBit b, v => v.pushBit b
  | .pushInt x w, v => v.pushInt x w
  | .setBit i b, v => v.setBit i b
  | .setInt off x w, v => v.setInt off x w
  | .resize n b, v => v.resize n b
  | .popBit, v => v.popBit.2
  | .popInt w, v => (v.popInt w).2
  | .complement, v => v.complement
  | .clear, v => v.clear

/-- effect on a plain bit sequence -/
def Op.spec : Op → List Bool → List Bool
  | .pushBit b, L => L ++ [b]
  | .pushInt x w, L => L ++ (List.range w).map (fun i => x.getLsbD i)
  | .setBit i b, L => L.set i b
  | .setInt off x w, L => L.take off ++ (List.range w).map (fun i => x.getLsbD i) ++ L.drop (off + w)
  | .resize n b, L => L.take n ++ List.replicate (n - L.length) b
  | .popBit, L => L.take (L.length - 1)
  | .popInt w, L => if w ≤ L.length then L.take (L.length - w) else L
  | .complement, L => L.map not
  | .clear, _ => []

/-- documented domain of each operation, given the current length -/
def Op.pre : Op → Nat → Prop
  | .pushInt _ w, _ => w ≤ 64
  | .setBit i _, n => i < n
  | .setInt off _ w, n => w ≤ 64 ∧ off + w ≤ n
  | .popInt w, _ => w ≤ 64
  | _, _ => True

theorem Op.step (op : Op) {v : RawVec} (h : v.WF) (hp : op.pre v.len) :
    (op.run v).WF ∧ (op.run v).bits = op.spec v.bits := by
  cases op with
  | pushBit b => exact ⟨pushBit_WF h b, bits_pushBit h b⟩
  | pushInt x w =>
    have hw : w ≤ 64 := hp
    by_cases h0 : w = 0
    · subst h0; simp [Op.run, Op.spec, pushInt_zero, h]
    · exact ⟨pushInt_WF h x w (by omega) hw, bits_pushInt h x w (by omega) hw⟩
  | setBit i b => exact ⟨setBit_WF h i hp b, bits_setBit h i hp b⟩
  | setInt off x w =>
    obtain ⟨hw, hr⟩ : w ≤ 64 ∧ off + w ≤ v.len := hp
    by_cases h0 : w = 0
    · subst h0; simp [Op.run, Op.spec, setInt_zero, h]
    · exact ⟨setInt_WF h off x w (by omega) hw hr, bits_setInt h off x w (by omega) hw hr⟩
  | resize n b =>
    refine ⟨resize_WF h n b, ?_⟩
    simp only [Op.run, Op.spec, bits_resize h, bits_length]
  | popBit =>
    by_cases h0 : v.len = 0
    · simp only [Op.run, Op.spec, popBit_empty v h0, bits_length, h0]
      refine ⟨h, ?_⟩
      have : v.bits = [] := List.eq_nil_of_length_eq_zero (by rw [bits_length, h0])
      simp [this]
    · have := popBit_spec h h0
      simp only [Op.run, Op.spec, bits_length]
      exact ⟨this.2.1, this.2.2⟩
  | popInt w =>
    have hw : w ≤ 64 := hp
    simp only [Op.run, Op.spec, bits_length]
    by_cases hl : w ≤ v.len
    · rw [if_pos hl]
      by_cases h0 : w = 0
      · subst h0; simp [popInt_zero, h, List.take_of_length_le, bits_length]
      · have := popInt_spec h w (by omega) hw hl
        exact ⟨this.2.1, this.2.2⟩
    · rw [if_neg hl, popInt_short v w (by omega)]
      exact ⟨h, rfl⟩
  | complement => exact ⟨complement_WF h, bits_complement h⟩
  | clear => exact clear_spec v

/-- a history is valid when every operation is applied inside its domain -/
def Valid : List Op → List Bool → Prop
  | [], _ => True
  | op :: ops, L => op.pre L.length ∧ Valid ops (op.spec L)

/-- **Raw vectors behave as plain bit sequences under any operation history**: starting from any
well-formed vector, after any valid history the representation is well formed and its content is the
result of running the list-level specification on the initial content. -/
theorem history {v : RawVec} (h : v.WF) (ops : List Op) (hv : Valid ops v.bits) :
    (ops.foldl (fun v op => op.run v) v).WF ∧
      (ops.foldl (fun v op => op.run v) v).bits = ops.foldl (fun L op => op.spec L) v.bits := by
  induction ops generalizing v with
  | nil => exact ⟨h, rfl⟩
  | cons op ops ih =>
    obtain ⟨hp, hrest⟩ := hv
    rw [bits_length] at hp
    obtain ⟨h1, h2⟩ := op.step h hp
    rw [← h2] at hrest
    have := ih h1 hrest
    rw [h2] at this
    exact this

/-- two valid histories with the same list-level result produce identical representations
(same length, same words), hence equal `PartialEq`, serialisation and `count_ones`. -/
theorem history_canonical (ops1 ops2 : List Op) (h1 : Valid ops1 []) (h2 : Valid ops2 [])
    (he : ops1.foldl (fun L op => op.spec L) [] = ops2.foldl (fun L op => op.spec L) []) :
    ops1.foldl (fun v op => op.run v) empty = ops2.foldl (fun v op => op.run v) empty := by
  have hb : empty.bits = [] := rfl
  have r1 := history empty_WF ops1 (by rw [hb]; exact h1)
  have r2 := history empty_WF ops2 (by rw [hb]; exact h2)
  apply canonical r1.1 r2.1
  rw [r1.2, r2.2, hb, he]

end RawVec

end Sds
