/-
Proofs/Supports: the rank / select / select_zero support structures of `BitVector` are optional,
rebuildable and never change answers.
-/
import Sds.Model.Ser
import Sds.Proofs.IntVec
import Sds.Proofs.Rank
import Sds.Proofs.Select
import Sds.Proofs.Codec

namespace Sds.SupportProofs
open Sds Outcome

/-! ## (a) enabling is idempotent -/

theorem enableRank_idem (b : BitVector) : b.enableRank.enableRank = b.enableRank := by
  rcases b with ⟨o, d, r, s, z⟩; cases r <;> rfl

theorem enableSelect_idem (b : BitVector) : b.enableSelect.enableSelect = b.enableSelect := by
  rcases b with ⟨o, d, r, s, z⟩; cases s <;> rfl

theorem enableSelectZero_idem (b : BitVector) :
    b.enableSelectZero.enableSelectZero = b.enableSelectZero := by
  rcases b with ⟨o, d, r, s, z⟩; cases z <;> rfl

/-! ## (b) enabling commutes and never touches `data`, `ones`, `len` -/

theorem enableRank_enableSelect (b : BitVector) :
    b.enableRank.enableSelect = b.enableSelect.enableRank := by
  rcases b with ⟨o, d, r, s, z⟩; cases r <;> cases s <;> rfl

theorem enableRank_enableSelectZero (b : BitVector) :
    b.enableRank.enableSelectZero = b.enableSelectZero.enableRank := by
  rcases b with ⟨o, d, r, s, z⟩; cases r <;> cases z <;> rfl

theorem enableSelect_enableSelectZero (b : BitVector) :
    b.enableSelect.enableSelectZero = b.enableSelectZero.enableSelect := by
  rcases b with ⟨o, d, r, s, z⟩; cases s <;> cases z <;> rfl

/-- the six orders of the three `enable_*` calls all give `enableAll` -/
theorem order_rsz (b : BitVector) : b.enableRank.enableSelect.enableSelectZero = b.enableAll := rfl

theorem order_rzs (b : BitVector) : b.enableRank.enableSelectZero.enableSelect = b.enableAll := by
  rw [← enableSelect_enableSelectZero]; rfl

theorem order_srz (b : BitVector) : b.enableSelect.enableRank.enableSelectZero = b.enableAll := by
  rw [← enableRank_enableSelect]; rfl

theorem order_szr (b : BitVector) : b.enableSelect.enableSelectZero.enableRank = b.enableAll := by
  rw [← enableRank_enableSelectZero, ← enableRank_enableSelect]; rfl

theorem order_zrs (b : BitVector) : b.enableSelectZero.enableRank.enableSelect = b.enableAll := by
  rw [← enableRank_enableSelectZero, ← enableSelect_enableSelectZero]; rfl

theorem order_zsr (b : BitVector) : b.enableSelectZero.enableSelect.enableRank = b.enableAll := by
  rw [← enableSelect_enableSelectZero, ← enableRank_enableSelectZero, ← enableRank_enableSelect]; rfl

theorem enableAll_idem (b : BitVector) : b.enableAll.enableAll = b.enableAll := by
  rcases b with ⟨o, d, r, s, z⟩; cases r <;> cases s <;> cases z <;> rfl

/-- enabling one more support after `enableAll` changes nothing -/
theorem enableAll_enableRank (b : BitVector) : b.enableAll.enableRank = b.enableAll := by
  rcases b with ⟨o, d, r, s, z⟩; cases r <;> cases s <;> cases z <;> rfl
theorem enableAll_enableSelect (b : BitVector) : b.enableAll.enableSelect = b.enableAll := by
  rcases b with ⟨o, d, r, s, z⟩; cases r <;> cases s <;> cases z <;> rfl
theorem enableAll_enableSelectZero (b : BitVector) : b.enableAll.enableSelectZero = b.enableAll := by
  rcases b with ⟨o, d, r, s, z⟩; cases r <;> cases s <;> cases z <;> rfl

/-- … and `enableAll` absorbs a support enabled before it -/
theorem enableRank_enableAll (b : BitVector) : b.enableRank.enableAll = b.enableAll := by
  rcases b with ⟨o, d, r, s, z⟩; cases r <;> cases s <;> cases z <;> rfl
theorem enableSelect_enableAll (b : BitVector) : b.enableSelect.enableAll = b.enableAll := by
  rcases b with ⟨o, d, r, s, z⟩; cases r <;> cases s <;> cases z <;> rfl
theorem enableSelectZero_enableAll (b : BitVector) : b.enableSelectZero.enableAll = b.enableAll := by
  rcases b with ⟨o, d, r, s, z⟩; cases r <;> cases s <;> cases z <;> rfl

/-! the data is never touched -/

@[simp] theorem enableRank_data (b : BitVector) : b.enableRank.data = b.data := by
  rcases b with ⟨o, d, r, s, z⟩; cases r <;> rfl
@[simp] theorem enableRank_ones (b : BitVector) : b.enableRank.ones = b.ones := by
  rcases b with ⟨o, d, r, s, z⟩; cases r <;> rfl
@[simp] theorem enableRank_select (b : BitVector) : b.enableRank.select = b.select := by
  rcases b with ⟨o, d, r, s, z⟩; cases r <;> rfl
@[simp] theorem enableRank_selectZero (b : BitVector) : b.enableRank.selectZero = b.selectZero := by
  rcases b with ⟨o, d, r, s, z⟩; cases r <;> rfl

@[simp] theorem enableSelect_data (b : BitVector) : b.enableSelect.data = b.data := by
  rcases b with ⟨o, d, r, s, z⟩; cases s <;> rfl
@[simp] theorem enableSelect_ones (b : BitVector) : b.enableSelect.ones = b.ones := by
  rcases b with ⟨o, d, r, s, z⟩; cases s <;> rfl
@[simp] theorem enableSelect_rank (b : BitVector) : b.enableSelect.rank = b.rank := by
  rcases b with ⟨o, d, r, s, z⟩; cases s <;> rfl
@[simp] theorem enableSelect_selectZero (b : BitVector) : b.enableSelect.selectZero = b.selectZero := by
  rcases b with ⟨o, d, r, s, z⟩; cases s <;> rfl

@[simp] theorem enableSelectZero_data (b : BitVector) : b.enableSelectZero.data = b.data := by
  rcases b with ⟨o, d, r, s, z⟩; cases z <;> rfl
@[simp] theorem enableSelectZero_ones (b : BitVector) : b.enableSelectZero.ones = b.ones := by
  rcases b with ⟨o, d, r, s, z⟩; cases z <;> rfl
@[simp] theorem enableSelectZero_rank (b : BitVector) : b.enableSelectZero.rank = b.rank := by
  rcases b with ⟨o, d, r, s, z⟩; cases z <;> rfl
@[simp] theorem enableSelectZero_select (b : BitVector) : b.enableSelectZero.select = b.select := by
  rcases b with ⟨o, d, r, s, z⟩; cases z <;> rfl

@[simp] theorem enableRank_len (b : BitVector) : b.enableRank.len = b.len := by
  unfold BitVector.len; rw [enableRank_data]
@[simp] theorem enableSelect_len (b : BitVector) : b.enableSelect.len = b.len := by
  unfold BitVector.len; rw [enableSelect_data]
@[simp] theorem enableSelectZero_len (b : BitVector) : b.enableSelectZero.len = b.len := by
  unfold BitVector.len; rw [enableSelectZero_data]

theorem enableAll_data (b : BitVector) : b.enableAll.data = b.data := by simp [BitVector.enableAll]
theorem enableAll_ones (b : BitVector) : b.enableAll.ones = b.ones := by simp [BitVector.enableAll]
theorem enableAll_len (b : BitVector) : b.enableAll.len = b.len := by simp [BitVector.enableAll]

/-- what is enabled afterwards: a present support is kept, an absent one is built from the data -/
theorem enableRank_rank (b : BitVector) :
    b.enableRank.rank = some (b.rank.getD (RankSup.build b.data)) := by
  rcases b with ⟨o, d, r, s, z⟩; cases r <;> rfl
theorem enableSelect_select (b : BitVector) :
    b.enableSelect.select = some (b.select.getD (SelSup.build b.len (positionsT .ident b.data))) := by
  rcases b with ⟨o, d, r, s, z⟩; cases s <;> rfl
theorem enableSelectZero_selectZero (b : BitVector) :
    b.enableSelectZero.selectZero =
      some (b.selectZero.getD (SelSup.build b.len (positionsT .compl b.data))) := by
  rcases b with ⟨o, d, r, s, z⟩; cases z <;> rfl

/-- a property of the support present after `enable_*`: it holds of the one kept, or of the one built -/
theorem forall_getD {α} {o : Option α} {d : α} {P : α → Prop} (ho : ∀ s, o = some s → P s)
    (hd : o = none → P d) : ∀ s, some (o.getD d) = some s → P s := by
  rintro s ⟨rfl⟩
  cases o with
  | none => exact hd rfl
  | some s0 => exact ho s0 rfl

/-! ## the shape of the built supports

Sizes and well-formedness of what `RankSup.build` / `SelSup.build` produce — the facts the loader of
`BitVector` checks, plus the `usize` bounds serialization needs. -/

/-- the shape of `SelSup.build`: `2⌈m/4096⌉` samples, and the superblock count splits into long and
short superblocks (what `selSupC.load` and `bitVectorC.load` check) -/
theorem selBuild_shape (len : Nat) (pos : Array Nat) :
    (SelSup.build len pos).samples.WF ∧ (SelSup.build len pos).long.WF ∧
    (SelSup.build len pos).short.WF ∧
    (SelSup.build len pos).samples.len = 2 * ((pos.size + 4095) / 4096) ∧
    (SelSup.build len pos).superblocks = (pos.size + 4095) / 4096 ∧
    (SelSup.build len pos).superblocks =
      (SelSup.build len pos).longSuperblocks + (SelSup.build len pos).shortSuperblocks ∧
    (SelSup.build len pos).long.len ≤ pos.size ∧
    (SelSup.build len pos).short.len ≤ 64 * ((pos.size + 4095) / 4096) := by
  obtain ⟨h1, h2, h3, h4⟩ := sbLists_shape len pos.toList ((pos.size + 4095) / 4096)
    (by rw [Array.length_toList]; omega)
  rw [Array.length_toList] at h3 h4
  have wf := fun xs => (IntVec.pack_spec (IntVec.ofList_spec 64 xs (by decide) (by decide)).1).1
  rw [SelSup.build_eq_lists]
  simp only [SelSup.superblocks, SelSup.longSuperblocks, SelSup.shortSuperblocks, IntVec.pack_len, IntVec.ofList_len,
    h1, Nat.mul_div_cancel_left _ (show 0 < 2 by decide)]
  exact ⟨wf _, wf _, wf _, trivial, trivial, h2, by omega, by omega⟩

/-! ### serialized sizes -/

theorem intVecC_ser_length (v : IntVec) : (intVecC.ser v).length = 4 + v.data.data.size := by
  show (BitVec.ofNat 64 v.len :: BitVec.ofNat 64 v.width :: BitVec.ofNat 64 v.data.len ::
    BitVec.ofNat 64 v.data.data.size :: v.data.data.toList).length = _
  simp only [List.length_cons, Array.length_toList]; omega

theorem selSupC_ser_length (s : SelSup) : (selSupC.ser s).length =
    (4 + s.samples.data.data.size) + (4 + s.long.data.data.size) + (4 + s.short.data.data.size) := by
  show (intVecC.ser s.samples ++ intVecC.ser s.long ++ intVecC.ser s.short).length = _
  rw [List.length_append, List.length_append, intVecC_ser_length, intVecC_ser_length,
    intVecC_ser_length]

/-- a well-formed integer vector of fewer than 2^58 items meets the `usize` bounds of its codec -/
theorem intVecWF_of_lt {v : IntVec} (h : v.WF) (hl : v.len < 2 ^ 58) :
    intVecWF v ∧ v.data.data.size ≤ 2 ^ 58 := by
  have hm : v.len * v.width ≤ v.len * 64 := Nat.mul_le_mul_left _ h.2.1
  have h3 := h.2.2.1
  have hs := h.2.2.2.1
  exact ⟨intVecWF_of_bits_lt h (by omega), by omega⟩

/-- the number of long entries stays below 2^58 even for the largest vectors, because a long superblock
spans at least `bit_len(len)^4` positions: `long.len * bit_len(len)^4 ≤ 4096 * len` -/
theorem selBuild_long_lt (len : Nat) (pos : Array Nat) (hlen : len < 2 ^ 64)
    (hs : pos.toList.Pairwise (· < ·)) (hlt : ∀ x, x ∈ pos.toList → x < len) :
    (SelSup.build len pos).long.len < 2 ^ 58 := by
  have hn : pos.toList.length = pos.size := Array.length_toList
  have hm := sorted_length_le hs len hlt
  have hle := (sbLists_shape len pos.toList ((pos.size + 4095) / 4096) (by omega)).2.2.1
  have hspan := (sbLists_content len pos.toList hlen hs hlt ((pos.size + 4095) / 4096) (by omega)).lSpan
  rw [SelSup.build_eq_lists]
  show (IntVec.ofList 64 _).pack.len < _
  rw [IntVec.pack_len, IntVec.ofList_len]
  generalize (sbLists len pos.toList ((pos.size + 4095) / 4096)).L.length = L at hle hspan
  by_cases hsmall : len < 2 ^ 58
  · omega
  · have hb : sbBound len pos.toList ((pos.size + 4095) / 4096) = len := by
      unfold sbBound; rw [if_neg (by omega)]
    rw [hb] at hspan
    have hl : 59 ≤ bitLen (BitVec.ofNat 64 len) := by
      have b := toNat_lt_bitLen (BitVec.ofNat 64 len)
      rw [BitVec.toNat_ofNat, Nat.mod_eq_of_lt hlen] at b
      by_cases hc : bitLen (BitVec.ofNat 64 len) ≤ 58
      · have : 2 ^ bitLen (BitVec.ofNat 64 len) ≤ 2 ^ 58 := Nat.pow_le_pow_right (by decide) hc
        omega
      · omega
    unfold log4 at hspan
    generalize bitLen (BitVec.ofNat 64 len) = l at hspan hl
    have h2 : 59 * 59 ≤ l * l := Nat.mul_le_mul hl hl
    have h4 : (59 * 59) * (59 * 59) ≤ (l * l) * (l * l) := Nat.mul_le_mul h2 h2
    have h5 : L * ((59 * 59) * (59 * 59)) ≤ L * ((l * l) * (l * l)) := Nat.mul_le_mul_left _ h4
    omega

/-- **the built select support is serializable** -/
theorem selBuild_wf (len : Nat) (pos : Array Nat) (hlen : len < 2 ^ 63)
    (hs : pos.toList.Pairwise (· < ·)) (hlt : ∀ x, x ∈ pos.toList → x < len) :
    selSupWF (SelSup.build len pos) ∧
    (SelSup.build len pos).superblocks = (pos.size + 4095) / 4096 ∧
    (selSupC.ser (SelSup.build len pos)).length < 2 ^ 64 := by
  have hn : pos.toList.length = pos.size := Array.length_toList
  have hm := sorted_length_le hs len hlt
  obtain ⟨w1, w2, w3, l1, sb1, sb2, l2, l3⟩ := selBuild_shape len pos
  have hlong := selBuild_long_lt len pos (by omega) hs hlt
  obtain ⟨a1, a2⟩ := intVecWF_of_lt w1 (by omega)
  obtain ⟨b1, b2⟩ := intVecWF_of_lt w2 hlong
  obtain ⟨c1, c2⟩ := intVecWF_of_lt w3 (by omega)
  refine ⟨⟨a1, b1, c1, sb2⟩, sb1, ?_⟩
  rw [selSupC_ser_length]; omega

theorem rankBuild_wf (v : RawVec) (hlen : v.len < 2 ^ 64) :
    rankSupWF (RankSup.build v) ∧ (RankSup.build v).samples.size = (v.len + 511) / 512 ∧
    (rankSupC.ser (RankSup.build v)).length < 2 ^ 64 := by
  have h := build_size v
  refine ⟨?_, h, ?_⟩
  · unfold rankSupWF; omega
  · rw [rankSupC_ser_length]; omega

theorem positionsT_size (tr : Tr) (v : RawVec) :
    (positionsT tr v).size = (bitsT tr v.bits).count true := by
  rw [← Array.length_toList, positionsT_toList, length_onesPos]

theorem positionsT_size_ident (v : RawVec) : (positionsT .ident v).size = v.bits.count true :=
  positionsT_size .ident v

/-- the complemented bits have as many ones as the bits have zeros -/
theorem count_compl (v : RawVec) : (bitsT .compl v.bits).count true = v.len - v.bits.count true := by
  show (v.bits.map not).count true = _
  rw [count_true_map_not, RawVec.bits_length]

theorem positionsT_size_compl (v : RawVec) :
    (positionsT .compl v).size = v.len - v.bits.count true := by
  rw [positionsT_size, count_compl]

theorem selBuild_wf_T (tr : Tr) (v : RawVec) (hlen : v.len < 2 ^ 63) :
    selSupWF (SelSup.build v.len (positionsT tr v)) ∧
    (SelSup.build v.len (positionsT tr v)).superblocks = ((bitsT tr v.bits).count true + 4095) / 4096 ∧
    (selSupC.ser (SelSup.build v.len (positionsT tr v))).length < 2 ^ 64 := by
  have := selBuild_wf v.len (positionsT tr v) hlen
    (by rw [positionsT_toList]; exact onesPos_sorted tr v)
    (by rw [positionsT_toList]; exact onesPos_mem_lt tr v)
  rw [positionsT_size] at this
  exact this

/-! ## (c) every subset of supports can be serialized and loaded back -/

/-- what is assumed of a bitvector before supports are added: well-formed data of fewer than 2^63
bits and a correct `ones` counter -/
structure Sound (b : BitVector) : Prop where
  wf : b.data.WF
  len_lt : b.data.len < 2 ^ 63
  ones_eq : b.ones = b.data.bits.count true

theorem ofRaw_sound {v : RawVec} (hv : v.WF) (hlen : v.len < 2 ^ 63) : Sound (BitVector.ofRaw v) :=
  ⟨hv, hlen, RawVec.countOnes_eq hv⟩

theorem Sound.enableRank {b : BitVector} (h : Sound b) : Sound b.enableRank :=
  ⟨by rw [enableRank_data]; exact h.wf, by rw [enableRank_data]; exact h.len_lt,
   by rw [enableRank_data, enableRank_ones]; exact h.ones_eq⟩
theorem Sound.enableSelect {b : BitVector} (h : Sound b) : Sound b.enableSelect :=
  ⟨by rw [enableSelect_data]; exact h.wf, by rw [enableSelect_data]; exact h.len_lt,
   by rw [enableSelect_data, enableSelect_ones]; exact h.ones_eq⟩
theorem Sound.enableSelectZero {b : BitVector} (h : Sound b) : Sound b.enableSelectZero :=
  ⟨by rw [enableSelectZero_data]; exact h.wf, by rw [enableSelectZero_data]; exact h.len_lt,
   by rw [enableSelectZero_data, enableSelectZero_ones]; exact h.ones_eq⟩

theorem Sound.ones_le {b : BitVector} (h : Sound b) : b.ones ≤ b.data.len := by
  rw [h.ones_eq, ← RawVec.bits_length]; exact List.count_le_length

/-- a bitvector without supports is serializable -/
theorem wf_of_no_supports {b : BitVector} (h : Sound b) (hr : b.rank = none) (hs : b.select = none)
    (hz : b.selectZero = none) : bitVectorWF b := by
  have := h.len_lt
  have := h.ones_le
  refine ⟨⟨h.wf, by omega⟩, h.ones_le, by omega, ?_, ?_, ?_⟩
  · intro s e; rw [hr] at e; cases e
  · intro s e; rw [hs] at e; cases e
  · intro s e; rw [hz] at e; cases e

theorem ofRaw_wf {v : RawVec} (hv : v.WF) (hlen : v.len < 2 ^ 63) : bitVectorWF (BitVector.ofRaw v) :=
  wf_of_no_supports (ofRaw_sound hv hlen) rfl rfl rfl

/-- **enabling a support keeps the vector serializable** -/
theorem enableRank_wf {b : BitVector} (hs : Sound b) (h : bitVectorWF b) : bitVectorWF b.enableRank := by
  obtain ⟨h1, h2, h3, h4, h5, h6⟩ := h
  unfold bitVectorWF
  simp only [enableRank_data, enableRank_ones, enableRank_select, enableRank_selectZero, enableRank_rank]
  exact ⟨h1, h2, h3, forall_getD h4 fun _ => rankBuild_wf b.data (by have := hs.len_lt; omega), h5, h6⟩

theorem enableSelect_wf {b : BitVector} (hs : Sound b) (h : bitVectorWF b) :
    bitVectorWF b.enableSelect := by
  obtain ⟨h1, h2, h3, h4, h5, h6⟩ := h
  unfold bitVectorWF
  simp only [enableSelect_data, enableSelect_ones, enableSelect_rank, enableSelect_selectZero,
    enableSelect_select]
  refine ⟨h1, h2, h3, h4, forall_getD h5 fun _ => ?_, h6⟩
  rw [hs.ones_eq]
  exact selBuild_wf_T .ident b.data hs.len_lt

theorem enableSelectZero_wf {b : BitVector} (hs : Sound b) (h : bitVectorWF b) :
    bitVectorWF b.enableSelectZero := by
  obtain ⟨h1, h2, h3, h4, h5, h6⟩ := h
  unfold bitVectorWF
  simp only [enableSelectZero_data, enableSelectZero_ones, enableSelectZero_rank, enableSelectZero_select,
    enableSelectZero_selectZero]
  refine ⟨h1, h2, h3, h4, h5, forall_getD h6 fun _ => ?_⟩
  rw [hs.ones_eq, ← count_compl]
  exact selBuild_wf_T .compl b.data hs.len_lt

theorem enableAll_wf {b : BitVector} (hs : Sound b) (h : bitVectorWF b) : bitVectorWF b.enableAll :=
  enableSelectZero_wf hs.enableRank.enableSelect
    (enableSelect_wf hs.enableRank (enableRank_wf hs h))

/-- enable the subset of supports selected by the three flags -/
def enableSome (r s z : Bool) (b : BitVector) : BitVector :=
  let b := if r then b.enableRank else b
  let b := if s then b.enableSelect else b
  if z then b.enableSelectZero else b

/-- what every `enable_*` call keeps, every subset of them keeps -/
theorem enableSome_induct {P : BitVector → Prop}
    (hr : ∀ b, P b → P b.enableRank) (hs : ∀ b, P b → P b.enableSelect) (hz : ∀ b, P b → P b.enableSelectZero)
    (r s z : Bool) {b : BitVector} (h : P b) : P (enableSome r s z b) := by
  have step : ∀ (c : Bool) (f : BitVector → BitVector), (∀ b, P b → P (f b)) → ∀ {b}, P b → P (if c then f b else b) := by
    intro c f hf b h
    cases c
    · exact h
    · exact hf b h
  exact step z _ hz (step s _ hs (step r _ hr h))

theorem enableSome_sound (r s z : Bool) {b : BitVector} (h : Sound b) : Sound (enableSome r s z b) :=
  enableSome_induct (fun _ h => h.enableRank) (fun _ h => h.enableSelect) (fun _ h => h.enableSelectZero) r s z h

theorem enableSome_wf (r s z : Bool) {b : BitVector} (hs : Sound b) (h : bitVectorWF b) :
    bitVectorWF (enableSome r s z b) :=
  (enableSome_induct (P := fun b => Sound b ∧ bitVectorWF b)
    (fun _ h => ⟨h.1.enableRank, enableRank_wf h.1 h.2⟩) (fun _ h => ⟨h.1.enableSelect, enableSelect_wf h.1 h.2⟩)
    (fun _ h => ⟨h.1.enableSelectZero, enableSelectZero_wf h.1 h.2⟩) r s z ⟨hs, h⟩).2

theorem enableSome_data (r s z : Bool) (b : BitVector) : (enableSome r s z b).data = b.data :=
  enableSome_induct (P := fun b' => b'.data = b.data) (fun _ h => by rw [enableRank_data, h])
    (fun _ h => by rw [enableSelect_data, h]) (fun _ h => by rw [enableSelectZero_data, h]) r s z rfl

theorem enableSome_ones (r s z : Bool) (b : BitVector) : (enableSome r s z b).ones = b.ones :=
  enableSome_induct (P := fun b' => b'.ones = b.ones) (fun _ h => by rw [enableRank_ones, h])
    (fun _ h => by rw [enableSelect_ones, h]) (fun _ h => by rw [enableSelectZero_ones, h]) r s z rfl

/-- from a vector without supports, exactly the selected subset is present afterwards -/
theorem enableSome_present (r s z : Bool) (v : RawVec) :
    (enableSome r s z (BitVector.ofRaw v)).rank.isSome = r ∧
    (enableSome r s z (BitVector.ofRaw v)).select.isSome = s ∧
    (enableSome r s z (BitVector.ofRaw v)).selectZero.isSome = z := by
  cases r <;> cases s <;> cases z <;> exact ⟨rfl, rfl, rfl⟩

/-- whatever subset was enabled first, enabling everything gives the same value -/
theorem enableSome_enableAll (r s z : Bool) (b : BitVector) :
    (enableSome r s z b).enableAll = b.enableAll :=
  enableSome_induct (P := fun b' => b'.enableAll = b.enableAll) (fun _ h => by rw [enableRank_enableAll, h])
    (fun _ h => by rw [enableSelect_enableAll, h]) (fun _ h => by rw [enableSelectZero_enableAll, h]) r s z rfl

/-- **(c), well-formedness**: `BitVector::from(raw)` with any subset of the supports enabled
satisfies the serialization invariant of `Proofs/Codec`. -/
theorem ofRaw_enableSome_wf {v : RawVec} (hv : v.WF) (hlen : v.len < 2 ^ 62) (r s z : Bool) :
    bitVectorWF (enableSome r s z (BitVector.ofRaw v)) :=
  enableSome_wf r s z (ofRaw_sound hv (by omega)) (ofRaw_wf hv (by omega))

/-- **(c), round trip** for all 8 subsets: the loader returns the very same value (so the same
subset of supports, with identical contents) and exactly the rest of the input. -/
theorem ofRaw_enableSome_roundtrip {v : RawVec} (hv : v.WF) (hlen : v.len < 2 ^ 62) (r s z : Bool)
    (rest : Elems) :
    bitVectorC.load (bitVectorC.ser (enableSome r s z (BitVector.ofRaw v)) ++ rest) =
      ok (enableSome r s z (BitVector.ofRaw v), rest) :=
  bitVectorC_lawful.roundtrip _ rest (ofRaw_enableSome_wf hv hlen r s z)

/-- the same, reading off what the caller observes: the loaded value reports exactly the subset
that was enabled, its data and count are those of the original, and enabling everything on it gives
the same value as enabling everything on the original. -/
theorem ofRaw_enableSome_load {v : RawVec} (hv : v.WF) (hlen : v.len < 2 ^ 62) (r s z : Bool)
    (rest : Elems) :
    ∃ b', bitVectorC.load (bitVectorC.ser (enableSome r s z (BitVector.ofRaw v)) ++ rest) = ok (b', rest) ∧
      b'.rank.isSome = r ∧ b'.select.isSome = s ∧ b'.selectZero.isSome = z ∧
      b'.data = v ∧ b'.ones = v.countOnes ∧
      b'.enableAll = (BitVector.ofRaw v).enableAll ∧
      b'.enableAll = (enableSome r s z (BitVector.ofRaw v)).enableAll := by
  obtain ⟨p1, p2, p3⟩ := enableSome_present r s z v
  exact ⟨_, ofRaw_enableSome_roundtrip hv hlen r s z rest, p1, p2, p3, enableSome_data r s z _,
    enableSome_ones r s z _, enableSome_enableAll r s z _, rfl⟩

/-- every strict prefix of the serialization (of any of the 8 variants) is refused -/
theorem ofRaw_enableSome_prefix {v : RawVec} (hv : v.WF) (hlen : v.len < 2 ^ 62) (r s z : Bool)
    (k : Nat) (hk : k < (bitVectorC.ser (enableSome r s z (BitVector.ofRaw v))).length)
    (y : BitVector) (rest : Elems) :
    bitVectorC.load ((bitVectorC.ser (enableSome r s z (BitVector.ofRaw v))).take k) ≠ ok (y, rest) :=
  bitVectorC_lawful.pfx _ k (ofRaw_enableSome_wf hv hlen r s z) hk y rest

/-- **rebuildable**, general form: any sound, serializable bitvector stays serializable under any
subset of the `enable_*` calls; in particular a loaded vector can get its missing supports rebuilt and
be written again. -/
theorem roundtrip_after_enable {b : BitVector} (hs : Sound b) (h : bitVectorWF b) (r s z : Bool)
    (rest : Elems) :
    bitVectorC.load (bitVectorC.ser (enableSome r s z b) ++ rest) = ok (enableSome r s z b, rest) :=
  bitVectorC_lawful.roundtrip _ rest (enableSome_wf r s z hs h)

/-! ## (d) supports never change answers -/

/-! ### frame: a query only looks at its own support -/

theorem enableSelect_rankQ (b : BitVector) (i : Nat) : b.enableSelect.rankQ i = b.rankQ i := by
  unfold BitVector.rankQ BitVector.countOnes
  rw [enableSelect_len, enableSelect_ones, enableSelect_rank, enableSelect_data]

theorem enableSelectZero_rankQ (b : BitVector) (i : Nat) : b.enableSelectZero.rankQ i = b.rankQ i := by
  unfold BitVector.rankQ BitVector.countOnes
  rw [enableSelectZero_len, enableSelectZero_ones, enableSelectZero_rank, enableSelectZero_data]

theorem enableRank_selectQ (m : Mode) (b : BitVector) (r : Nat) :
    b.enableRank.selectQ m r = b.selectQ m r := by
  unfold BitVector.selectQ BitVector.selectT BitVector.countT BitVector.supT BitVector.countOnes
  simp only [enableRank_ones, enableRank_select, enableRank_data]

theorem enableSelectZero_selectQ (m : Mode) (b : BitVector) (r : Nat) :
    b.enableSelectZero.selectQ m r = b.selectQ m r := by
  unfold BitVector.selectQ BitVector.selectT BitVector.countT BitVector.supT BitVector.countOnes
  simp only [enableSelectZero_ones, enableSelectZero_select, enableSelectZero_data]

theorem enableRank_selectZeroQ (m : Mode) (b : BitVector) (r : Nat) :
    b.enableRank.selectZeroQ m r = b.selectZeroQ m r := by
  unfold BitVector.selectZeroQ BitVector.selectT BitVector.countT BitVector.supT BitVector.countZeros
  simp only [enableRank_ones, enableRank_selectZero, enableRank_data, enableRank_len]

theorem enableSelect_selectZeroQ (m : Mode) (b : BitVector) (r : Nat) :
    b.enableSelect.selectZeroQ m r = b.selectZeroQ m r := by
  unfold BitVector.selectZeroQ BitVector.selectT BitVector.countT BitVector.supT BitVector.countZeros
  simp only [enableSelect_ones, enableSelect_selectZero, enableSelect_data, enableSelect_len]

/-- re-enabling a support that is present is the identity (so it cannot change an answer either) -/
theorem enableRank_of_some {b : BitVector} (h : b.rank.isSome) : b.enableRank = b := by
  rcases b with ⟨o, d, r, s, z⟩; cases r
  · cases h
  · rfl
theorem enableSelect_of_some {b : BitVector} (h : b.select.isSome) : b.enableSelect = b := by
  rcases b with ⟨o, d, r, s, z⟩; cases s
  · cases h
  · rfl
theorem enableSelectZero_of_some {b : BitVector} (h : b.selectZero.isSome) :
    b.enableSelectZero = b := by
  rcases b with ⟨o, d, r, s, z⟩; cases z
  · cases h
  · rfl

/-- `get` never looks at a support -/
theorem enableSome_get (r s z : Bool) (b : BitVector) (i : Nat) :
    (enableSome r s z b).get i = b.get i := by
  unfold BitVector.get; rw [enableSome_data]

/-! ### optional: what a query does without its support -/

theorem rankQ_absent {b : BitVector} (h : b.rank = none) (i : Nat) :
    b.rankQ i = if i ≥ b.len then ok b.ones else fault (.panic .unwrap) := by
  unfold BitVector.rankQ BitVector.countOnes; rw [h]

theorem selectQ_absent {b : BitVector} (h : b.select = none) (m : Mode) (r : Nat) :
    b.selectQ m r = if r ≥ b.ones then ok none else fault (.panic .unwrap) := by
  unfold BitVector.selectQ BitVector.selectT BitVector.supT BitVector.countT BitVector.countOnes
  simp only [h]

theorem selectZeroQ_absent {b : BitVector} (h : b.selectZero = none) (m : Mode) (r : Nat) :
    b.selectZeroQ m r = if r ≥ b.len - b.ones then ok none else fault (.panic .unwrap) := by
  unfold BitVector.selectZeroQ BitVector.selectT BitVector.supT BitVector.countT BitVector.countZeros
  simp only [h]

/-! ### valid supports answer by the specification -/

/-- every support that is present describes the data -/
structure SupValid (b : BitVector) : Prop where
  rank : ∀ s, b.rank = some s → s.Valid b.data
  select : ∀ s, b.select = some s → s.Valid .ident b.data
  selectZero : ∀ s, b.selectZero = some s → s.Valid .compl b.data

theorem supValid_of_no_supports {b : BitVector} (hr : b.rank = none) (hs : b.select = none)
    (hz : b.selectZero = none) : SupValid b :=
  ⟨fun s e => (by rw [hr] at e; cases e), fun s e => (by rw [hs] at e; cases e),
   fun s e => (by rw [hz] at e; cases e)⟩

theorem ofRaw_supValid (v : RawVec) : SupValid (BitVector.ofRaw v) :=
  supValid_of_no_supports rfl rfl rfl

theorem SupValid.enableRank {b : BitVector} (hs : Sound b) (h : SupValid b) : SupValid b.enableRank := by
  refine ⟨?_, by simpa using h.select, by simpa using h.selectZero⟩
  rw [enableRank_rank, enableRank_data]
  exact forall_getD h.rank fun _ => build_valid hs.wf (by have := hs.len_lt; omega)

theorem SupValid.enableSelect {b : BitVector} (hs : Sound b) (h : SupValid b) :
    SupValid b.enableSelect := by
  refine ⟨by simpa using h.rank, ?_, by simpa using h.selectZero⟩
  rw [enableSelect_select, enableSelect_data]
  exact forall_getD h.select fun _ => SelSup.build_valid hs.wf (by have := hs.len_lt; omega) .ident

theorem SupValid.enableSelectZero {b : BitVector} (hs : Sound b) (h : SupValid b) :
    SupValid b.enableSelectZero := by
  refine ⟨by simpa using h.rank, by simpa using h.select, ?_⟩
  rw [enableSelectZero_selectZero, enableSelectZero_data]
  exact forall_getD h.selectZero fun _ => SelSup.build_valid hs.wf (by have := hs.len_lt; omega) .compl

theorem enableSome_supValid (r s z : Bool) {b : BitVector} (hs : Sound b) (h : SupValid b) :
    SupValid (enableSome r s z b) :=
  (enableSome_induct (P := fun b => Sound b ∧ SupValid b)
    (fun _ h => ⟨h.1.enableRank, h.2.enableRank h.1⟩) (fun _ h => ⟨h.1.enableSelect, h.2.enableSelect h.1⟩)
    (fun _ h => ⟨h.1.enableSelectZero, h.2.enableSelectZero h.1⟩) r s z ⟨hs, h⟩).2

/-- the answers with valid supports are those of the specification (re-export of `rankQ_ok`,
`rankZeroQ_ok`, `selectQ_ok`, `selectZeroQ_ok`) -/
theorem rankQ_spec {b : BitVector} (hs : Sound b) (h : SupValid b) (hp : b.rank.isSome) (i : Nat) :
    b.rankQ i = ok (rankSpec b.data.bits i) := by
  obtain ⟨s, e⟩ := Option.isSome_iff_exists.mp hp
  exact rankQ_ok hs.wf rfl e (h.rank s e) hs.ones_eq i

theorem rankZeroQ_spec {b : BitVector} (hs : Sound b) (h : SupValid b) (hp : b.rank.isSome)
    (m : Mode) (i : Nat) : b.rankZeroQ m i = ok (i - rankSpec b.data.bits i) := by
  obtain ⟨s, e⟩ := Option.isSome_iff_exists.mp hp
  exact rankZeroQ_ok hs.wf rfl e (h.rank s e) hs.ones_eq m i

theorem selectQ_spec {b : BitVector} (hs : Sound b) (h : SupValid b) (hp : b.select.isSome)
    (m : Mode) (r : Nat) : b.selectQ m r = ok (selectSpec b.data.bits r) := by
  obtain ⟨s, e⟩ := Option.isSome_iff_exists.mp hp
  exact selectQ_ok hs.wf (by have := hs.len_lt; omega) rfl hs.ones_eq e (h.select s e) m r

theorem selectZeroQ_spec {b : BitVector} (hs : Sound b) (h : SupValid b) (hp : b.selectZero.isSome)
    (m : Mode) (r : Nat) : b.selectZeroQ m r = ok (selectZeroSpec b.data.bits r) := by
  obtain ⟨s, e⟩ := Option.isSome_iff_exists.mp hp
  exact selectZeroQ_ok hs.wf (by have := hs.len_lt; omega) rfl hs.ones_eq e (h.selectZero s e) m r

/-- **never change answers**: two bitvectors over the same data — whatever other supports each of them
carries, however the supports were obtained (built, loaded, …) as long as they are valid — give
the same answers. -/
theorem rankQ_coincide {b1 b2 : BitVector} (hd : b1.data = b2.data)
    (s1 : Sound b1) (s2 : Sound b2) (v1 : SupValid b1) (v2 : SupValid b2)
    (p1 : b1.rank.isSome) (p2 : b2.rank.isSome) (i : Nat) : b1.rankQ i = b2.rankQ i := by
  rw [rankQ_spec s1 v1 p1, rankQ_spec s2 v2 p2, hd]

theorem rankZeroQ_coincide {b1 b2 : BitVector} (hd : b1.data = b2.data)
    (s1 : Sound b1) (s2 : Sound b2) (v1 : SupValid b1) (v2 : SupValid b2)
    (p1 : b1.rank.isSome) (p2 : b2.rank.isSome) (m1 m2 : Mode) (i : Nat) :
    b1.rankZeroQ m1 i = b2.rankZeroQ m2 i := by
  rw [rankZeroQ_spec s1 v1 p1, rankZeroQ_spec s2 v2 p2, hd]

theorem selectQ_coincide {b1 b2 : BitVector} (hd : b1.data = b2.data)
    (s1 : Sound b1) (s2 : Sound b2) (v1 : SupValid b1) (v2 : SupValid b2)
    (p1 : b1.select.isSome) (p2 : b2.select.isSome) (m1 m2 : Mode) (r : Nat) :
    b1.selectQ m1 r = b2.selectQ m2 r := by
  rw [selectQ_spec s1 v1 p1, selectQ_spec s2 v2 p2, hd]

theorem selectZeroQ_coincide {b1 b2 : BitVector} (hd : b1.data = b2.data)
    (s1 : Sound b1) (s2 : Sound b2) (v1 : SupValid b1) (v2 : SupValid b2)
    (p1 : b1.selectZero.isSome) (p2 : b2.selectZero.isSome) (m1 m2 : Mode) (r : Nat) :
    b1.selectZeroQ m1 r = b2.selectZeroQ m2 r := by
  rw [selectZeroQ_spec s1 v1 p1, selectZeroQ_spec s2 v2 p2, hd]

/-- the concrete instance: for `BitVector::from(raw)` the answer of a query is the specification's for
*every* subset of enabled supports containing the one the query needs -/
theorem ofRaw_rankQ {v : RawVec} (hv : v.WF) (hlen : v.len < 2 ^ 63) (s z : Bool) (i : Nat) :
    (enableSome true s z (BitVector.ofRaw v)).rankQ i = ok (rankSpec v.bits i) := by
  have h := rankQ_spec (enableSome_sound true s z (ofRaw_sound hv hlen))
    (enableSome_supValid true s z (ofRaw_sound hv hlen) (ofRaw_supValid v))
    (by rw [(enableSome_present true s z v).1]) i
  rw [enableSome_data] at h; exact h

theorem ofRaw_selectQ {v : RawVec} (hv : v.WF) (hlen : v.len < 2 ^ 63) (r z : Bool) (m : Mode) (k : Nat) :
    (enableSome r true z (BitVector.ofRaw v)).selectQ m k = ok (selectSpec v.bits k) := by
  have h := selectQ_spec (enableSome_sound r true z (ofRaw_sound hv hlen))
    (enableSome_supValid r true z (ofRaw_sound hv hlen) (ofRaw_supValid v))
    (by rw [(enableSome_present r true z v).2.1]) m k
  rw [enableSome_data] at h; exact h

theorem ofRaw_selectZeroQ {v : RawVec} (hv : v.WF) (hlen : v.len < 2 ^ 63) (r s : Bool) (m : Mode)
    (k : Nat) :
    (enableSome r s true (BitVector.ofRaw v)).selectZeroQ m k = ok (selectZeroSpec v.bits k) := by
  have h := selectZeroQ_spec (enableSome_sound r s true (ofRaw_sound hv hlen))
    (enableSome_supValid r s true (ofRaw_sound hv hlen) (ofRaw_supValid v))
    (by rw [(enableSome_present r s true v).2.2]) m k
  rw [enableSome_data] at h; exact h

/-- … and it survives a save / load cycle: the loaded vector answers as the original does -/
theorem loaded_answers {v : RawVec} (hv : v.WF) (hlen : v.len < 2 ^ 62) (r s z : Bool) (rest : Elems) :
    ∃ b', bitVectorC.load (bitVectorC.ser (enableSome r s z (BitVector.ofRaw v)) ++ rest) = ok (b', rest) ∧
      Sound b' ∧ SupValid b' ∧
      (r = true → ∀ i, b'.rankQ i = ok (rankSpec v.bits i)) ∧
      (s = true → ∀ m k, b'.selectQ m k = ok (selectSpec v.bits k)) ∧
      (z = true → ∀ m k, b'.selectZeroQ m k = ok (selectZeroSpec v.bits k)) := by
  have hl : v.len < 2 ^ 63 := by omega
  refine ⟨_, ofRaw_enableSome_roundtrip hv hlen r s z rest,
    enableSome_sound r s z (ofRaw_sound hv hl),
    enableSome_supValid r s z (ofRaw_sound hv hl) (ofRaw_supValid v), ?_, ?_, ?_⟩
  · intro e i; subst e; exact ofRaw_rankQ hv hl s z i
  · intro e m k; subst e; exact ofRaw_selectQ hv hl r z m k
  · intro e m k; subst e; exact ofRaw_selectZeroQ hv hl r s m k

end Sds.SupportProofs
