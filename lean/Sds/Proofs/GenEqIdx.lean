/-
Proofs/GenEqIdx: the index / support functions of `rank_support.rs`, `sparse_vector.rs`, `rl_vector/index.rs` and
`wavelet_matrix/wm_core.rs` as TRANSLATED statement by statement from the source (Generated/FnsIdx.lean) are equal
to the hand-written model definitions that all other theorems are about — under explicit hypotheses: representation
bounds (lengths < 2^64, widths ≤ 64) or hypotheses shown necessary (`rank_unchecked_ne`, `wm_map_down_one_ne`).
-/
import Sds.Generated.FnsIdx
import Sds.Proofs.GenFns
import Sds.Proofs.Tables
import Sds.Proofs.BitsMore
import Sds.Proofs.GenEqBits
import Sds.Proofs.IntVec

namespace Sds.GenEq
open Sds Outcome Generated

/-! ### vocabulary lemmas -/

theorem and_lowSet (i w : Nat) (hw : w ≤ 64) : i &&& (lowSet w).toNat = i % 2 ^ w := by
  rw [toNat_lowSet w hw, Nat.and_two_pow_sub_one_eq_mod]

theorem shiftRight_64 (i : Nat) (hi : i < U64) : i >>> 64 = 0 := by
  rw [Nat.shiftRight_eq_div_pow]; exact Nat.div_eq_of_lt (by rw [U64_eq] at hi; exact hi)

/-! ### rank_support.rs -/

/-- the two final additions of `rank`: sample + relative rank of the word (9 bits) + rank within the word -/
theorem rank_sum (m : Mode) {a ws p : Nat} (ha : a + 575 < U64) (hm : ws < 512) (hp : p ≤ 64) :
    (addM m a ws >>= fun t => addM m t p) = ok (a + ws + p) := by
  rw [addM_ok (by omega), bind_ok, addM_ok (by omega)]

/-- where the 9-bit relative rank of word `x` of a block sits: `(x + 8 - 1) & 7` times 9 is a shift amount below 64 -/
theorem rank_rel (m : Mode) (w : Word) {x : Nat} (hx : x + 8 < U64) {α : Type} (f : Word → Outcome α) :
    (addM m x 8 >>= fun t4 => subM m t4 1 >>= fun t5 => mulM m (t5 &&& 7) 9 >>= fun t6 => shrW m w t6 >>= f) =
      f (w >>> ((x + 7) % 8 * 9)) := by
  have h9 : (x + 7) % 8 * 9 < 64 := by omega
  rw [addM_ok hx, bind_ok, subM_ok (Nat.le_add_left 1 _), bind_ok, and_7, show x + 8 - 1 = x + 7 from rfl,
    mulM_ok (Nat.lt_trans h9 (by decide)), bind_ok, shrW_ok m w h9, bind_ok]

/-- `rank_unchecked`: equal to the model whenever the two final additions do not overflow, which is guaranteed when
the sample of the block of `i` is at most `2^64 - 576` (`hs`; for a support built from a vector, the sample is a rank
and the sum is `rank(i) ≤ len < 2^64`).  No bound on `i` is needed. -/
theorem rank_unchecked_eq' (m : Mode) (s : RankSup) (v : RawVec) (i : Nat)
    (hs : ∀ h : i / 512 < s.samples.size, (s.samples[i / 512]).1.toNat + 575 < U64) :
    gen_RankSupport_rank_unchecked m s v i = RankSup.rankU s v i := by
  have hU := U64_val
  have ho : i % 64 ≤ 64 := Nat.le_of_lt (Nat.mod_lt _ (by decide))
  unfold gen_RankSupport_rank_unchecked RankSup.rankU
  rw [gDiv_bind i (by decide), vsplit_bind]
  dsimp only
  -- block, offset, sample, relative index become variables: the side conditions below are linear
  generalize i / 512 = blk at hs ⊢
  generalize i % 64 = o at ho ⊢
  by_cases hb : blk < s.samples.size
  · have hs := hs hb
    rw [getPairU, dif_pos hb, bind_ok, bind_ok, and_7]
    generalize s.samples[blk] = smp at hs ⊢
    have hr : i / 64 % 8 < 8 := Nat.mod_lt _ (by decide)
    generalize i / 64 % 8 = r at hr ⊢
    rw [rank_rel m _ (by omega), and_511, RawVec.wordU]
    cases getW v.data (i / 64) with
    | fault f => rfl
    | ok w =>
      rw [bind_ok, bind_ok, low_set_unchecked_eq, lowSetU_eq o ho, bind_ok]
      exact rank_sum m hs (Nat.mod_lt _ (by decide)) (popcount_le _)
  · rw [getPairU, dif_neg hb]; rfl

theorem rank_unchecked_eq (m : Mode) (s : RankSup) (v : RawVec) (i : Nat)
    (hs : ∀ k (h : k < s.samples.size), (s.samples[k]).1.toNat + 575 < U64) :
    gen_RankSupport_rank_unchecked m s v i = RankSup.rankU s v i :=
  rank_unchecked_eq' m s v i (fun h => hs _ h)

/-- `hs` is necessary: the model adds in `Nat`, the code in `usize`.  With a sample of `2^64 - 1` (never produced by
`RankSupport::new` for a vector of length < 2^64) the code overflows and the model returns `2^64`. -/
theorem rank_unchecked_ne :
    let s : RankSup := ⟨#[(BitVec.ofNat 64 (2 ^ 64 - 1), 0)]⟩
    let v : RawVec := ⟨64, #[1]⟩
    gen_RankSupport_rank_unchecked .checked s v 1 = fault (.panic .overflow) ∧
    gen_RankSupport_rank_unchecked .wrapping s v 1 = ok 0 ∧
    RankSup.rankU s v 1 = ok (2 ^ 64) := by
  decide

/-- `rank` (the safe entry point): the same computation through bounds-checked reads, i.e. `safely` of the model
(`oob` becomes an index panic).  `hi` is needed: the safe variant computes `word + 8 - 1` WITHOUT masking `word`
first (the unchecked variant computes `(word & 7) + 8 - 1`).  The bound on the sample is used only once the word has
been read. -/
theorem rank_eq_safely' (m : Mode) (s : RankSup) (v : RawVec) (i : Nat) (hi : i < U64)
    (hs : ∀ h : i / 512 < s.samples.size, i / 64 < v.data.size → (s.samples[i / 512]).1.toNat + 575 < U64) :
    gen_RankSupport_rank m s v i = safely (RankSup.rankU s v i) := by
  have hU := U64_val
  have ho : i % 64 ≤ 64 := Nat.le_of_lt (Nat.mod_lt _ (by decide))
  have hwd := div64_lt hi
  unfold gen_RankSupport_rank RankSup.rankU
  rw [gDiv_bind i (by decide), vsplit_bind]
  dsimp only
  generalize i / 512 = blk at hs ⊢
  generalize i % 64 = o at ho ⊢
  generalize i / 64 = wd at hs hwd ⊢
  by_cases hb : blk < s.samples.size
  · have hs := hs hb
    rw [getPairC, dif_pos hb, dif_pos hb, bind_ok, bind_ok]
    generalize s.samples[blk] = smp at hs ⊢
    rw [rank_rel m _ (by omega), ← Nat.mod_add_mod wd 8 7, and_511, RawVec.wordM]
    by_cases hw : wd < v.data.size
    · have hs := hs hw
      rw [getC_ok hw, getW_ok hw, bind_ok, bind_ok, low_set_unchecked_eq, lowSetU_eq o ho, bind_ok]
      exact rank_sum m hs (Nat.mod_lt _ (by decide)) (popcount_le _)
    · rw [getC_fault hw, getW_fault hw]; rfl
  · rw [getPairC, dif_neg hb, dif_neg hb]; rfl

theorem rank_eq_safely (m : Mode) (s : RankSup) (v : RawVec) (i : Nat) (hi : i < U64)
    (hs : ∀ h : i / 512 < s.samples.size, (s.samples[i / 512]).1.toNat + 575 < U64) :
    gen_RankSupport_rank m s v i = safely (RankSup.rankU s v i) :=
  rank_eq_safely' m s v i hi (fun h _ => hs h)

theorem rankU_ok (s : RankSup) (v : RawVec) (i : Nat) (hb : i / 512 < s.samples.size) (hw : i / 64 < v.data.size) :
    ∃ r, RankSup.rankU s v i = ok r := by
  unfold RankSup.rankU
  simp [hb, getW_ok hw, Bind.bind, Outcome.bind, Pure.pure]

/-- block and word in range: the result of the model -/
theorem rank_eq (m : Mode) (s : RankSup) (v : RawVec) (i : Nat) (hi : i < U64)
    (hb : i / 512 < s.samples.size) (hw : i / 64 < v.data.size)
    (hs : (s.samples[i / 512]).1.toNat + 575 < U64) :
    gen_RankSupport_rank m s v i = RankSup.rankU s v i := by
  rw [rank_eq_safely m s v i hi (fun _ => hs)]
  obtain ⟨r, hr⟩ := rankU_ok s v i hb hw
  rw [hr]; rfl

/-- block out of range: index panic (before any arithmetic, so without a bound on `i`) -/
theorem rank_eq_block_out (m : Mode) (s : RankSup) (v : RawVec) (i : Nat) (hb : s.samples.size ≤ i / 512) :
    gen_RankSupport_rank m s v i = fault (.panic .index) := by
  unfold gen_RankSupport_rank
  rw [gDiv_ok _ (by decide), GenFns.split_offset_eq]
  have : ¬ i / 512 < s.samples.size := by omega
  simp [Bind.bind, Outcome.bind, getPairC, this]

/-- block in range, word out of range: index panic -/
theorem rank_eq_word_out (m : Mode) (s : RankSup) (v : RawVec) (i : Nat) (hi : i < U64)
    (hb : i / 512 < s.samples.size) (hw : v.data.size ≤ i / 64) :
    gen_RankSupport_rank m s v i = fault (.panic .index) := by
  rw [rank_eq_safely' m s v i hi (fun _ h => absurd h (Nat.not_lt.2 hw))]
  unfold RankSup.rankU
  dsimp only
  rw [dif_pos hb, getW_fault (Nat.not_lt.2 hw)]
  rfl

/-! ### sparse_vector.rs -/

/-- `split`.  `hw` is necessary (beyond 64 the unchecked mask read is out of the table); `hi` is only used at width 64,
where the code returns high part 0 without shifting. -/
theorem split_eq (m : Mode) (s : Sparse) (i : Nat) (hw : s.width ≤ 64) (hi : s.width = 64 → i < U64) :
    gen_SparseVector_split m s i = ok (s.split i) := by
  unfold gen_SparseVector_split Sparse.split
  have hw' : s.low.width ≤ 64 := hw
  by_cases h : s.low.width < 64
  · simp only [gen_simp, Sparse.width, hw', and_lowSet _ _ hw', h]
  · have h64 : s.low.width = 64 := by omega
    simp only [gen_simp, Sparse.width, h64, Nat.lt_irrefl, Nat.le_refl, and_lowSet _ 64 (Nat.le_refl 64),
      shiftRight_64 i (hi h64)]

/-- `combine`, unconditionally: the code performs `high - low` only when the width is below 64, and so does the model
(beyond that the high part is 0). -/
theorem combine_eq (m : Mode) (s : Sparse) (p : Pos) :
    gen_SparseVector_combine m s p = s.combine m p := by
  unfold gen_SparseVector_combine Sparse.combine
  by_cases h : s.low.width < 64 <;> simp only [gen_simp, Sparse.width, h]

/-- `combine_eq` ignores this hypothesis -/
theorem combine_eq_of_width (m : Mode) (s : Sparse) (p : Pos)
    (_hw : s.width < 64 ∨ (s.width = 64 ∧ p.low ≤ p.high)) :
    gen_SparseVector_combine m s p = s.combine m p :=
  combine_eq m s p

/-- at width 64 with `low > high` and overflow checks on, neither the code nor the model subtracts: both return a
value -/
theorem combine_width64_no_subtraction :
    let s : Sparse := ⟨1, default, ⟨2, 64, ⟨128, #[5, 7]⟩⟩⟩
    gen_SparseVector_combine .checked s ⟨0, 1⟩ = ok (1, 7) ∧
    s.combine .checked ⟨0, 1⟩ = ok (1, 7) := by
  decide

theorem pos_eq (m : Mode) (s : Sparse) (r : Nat) : gen_SparseVector_pos m s r = s.pos m r := by
  unfold gen_SparseVector_pos Sparse.pos
  rw [bind_assoc]

theorem lower_bound_eq (m : Mode) (s : Sparse) (hp : Nat) :
    gen_SparseVector_lower_bound m s hp = s.lowerBound m hp := by
  unfold gen_SparseVector_lower_bound Sparse.lowerBound
  by_cases h0 : hp = 0
  · simp only [gen_simp, h0]
  · simp only [gen_simp, h0, show 1 ≤ hp from Nat.pos_of_ne_zero h0]

theorem upper_bound_eq (m : Mode) (s : Sparse) (hp : Nat) :
    gen_SparseVector_upper_bound m s hp = s.upperBound m hp := by
  unfold gen_SparseVector_upper_bound Sparse.upperBound
  rw [bind_assoc]

/-- `get_buckets` on its domain -/
theorem get_buckets_eq (m : Mode) (univ w : Nat) (hw : w ≤ 64) (hu : univ < U64) :
    gen_SparseBuilder_get_buckets m univ w = ok (Sparse.getBuckets univ w) := by
  unfold gen_SparseBuilder_get_buckets Sparse.getBuckets
  have hU := U64_val
  simp only [gen_simp, hw, and_lowSet _ _ hw]
  by_cases h : w < 64
  · by_cases hr : univ % 2 ^ w = 0
    · simp only [gen_simp, h, hr]
    · have hw0 : w ≠ 0 := by intro h0; subst h0; simp [Nat.mod_one] at hr
      have : univ >>> w ≤ univ / 2 := by
        rw [Nat.shiftRight_eq_div_pow]
        have : 2 ^ 1 ≤ 2 ^ w := Nat.pow_le_pow_right (by decide) (by omega)
        exact Nat.div_le_div_left (by simpa using this) (by decide)
      simp only [gen_simp, h, hr, show univ >>> w + 1 < U64 by omega]
  · by_cases hr : univ % 2 ^ w = 0
    · simp only [gen_simp, h, hr]
    · simp only [gen_simp, h, hr, show 0 + 1 < U64 by decide]

/-! ### rl_vector/index.rs -/

theorem sample_div_round_up_eq (m : Mode) (value n : Nat) (hv : value < U64) :
    gen_SampleIndex_div_round_up m value n = SampleIndex.divRoundUpSafe value n := by
  unfold gen_SampleIndex_div_round_up SampleIndex.divRoundUpSafe
  have hU := U64_val
  by_cases hn : n = 0
  · simp only [gen_simp, gDiv, hn]
  · simp only [gen_simp, hn, boolU]
    by_cases hr : value % n = 0
    · have : value / n ≤ value := Nat.div_le_self _ _
      simp only [gen_simp, hr, show value / n + 0 < U64 by omega]
    · have hn2 : 2 ≤ n := by
        rcases Nat.lt_or_ge n 2 with h | h
        · have : n = 1 := by omega
          subst this; simp [Nat.mod_one] at hr
        · exact h
      have : value / n ≤ value / 2 := Nat.div_le_div_left hn2 (by decide)
      simp only [gen_simp, hr, show value / n + 1 < U64 by omega]

theorem sample_parameters_eq (m : Mode) (values univ : Nat) (hu : univ < U64) :
    gen_SampleIndex_parameters m values univ = SampleIndex.parameters m values univ := by
  unfold gen_SampleIndex_parameters SampleIndex.parameters
  simp only [GenFns.div_round_up_eq, sample_div_round_up_eq _ _ _ hu]

/-- `range`.  `hv`: the sample offset after the one of `value` is representable; `hn`: the number of values is
representable (so that `limit + 1` cannot overflow when `limit < numValues`). -/
theorem sample_range_eq (m : Mode) (s : SampleIndex) (value : Nat)
    (hv : value / s.divisor + 1 < U64) (hn : s.numValues < U64) :
    gen_SampleIndex_range m s value = s.range value := by
  unfold gen_SampleIndex_range SampleIndex.range
  by_cases hd : s.divisor = 0
  · simp only [gen_simp, gDiv, hd]
  · by_cases hl : (s.samples.getOr (value / s.divisor + 1) (BitVec.ofNat 64 s.numValues)).toNat < s.numValues
    · simp only [gen_simp, hd, hv, hl, Nat.lt_of_le_of_lt (Nat.succ_le_of_lt hl) hn]
    · simp only [gen_simp, hd, hv, hl]

/-! ### wavelet_matrix/wm_core.rs -/

theorem wm_bit_value_eq (m : Mode) (c : WMCore) (l : Nat) (h1 : l < c.width) (h2 : c.width ≤ 64) :
    gen_WMCore_bit_value m c l = ok (BitVec.ofNat 64 (c.bitValue l)) := by
  unfold gen_WMCore_bit_value WMCore.bitValue
  simp only [gen_simp, show 1 ≤ c.width by omega, show l ≤ c.width - 1 by omega, show c.width - 1 - l < 64 by omega]
  congr 1
  apply BitVec.eq_of_toNat_eq
  simp [BitVec.toNat_shiftLeft, Nat.shiftLeft_eq]

/-- `map_down_one`: the code adds with the mode's arithmetic -/
theorem wm_map_down_one_eq (m : Mode) (c : WMCore) (i l : Nat) :
    gen_WMCore_map_down_one m c i l =
      (do let b ← c.level l; let r ← b.rankQ i; addM m b.countZeros r) := by
  unfold gen_WMCore_map_down_one
  cases h : c.level l with
  | fault f => rfl
  | ok b => simp only [gen_simp]

/-- … and therefore equals the model (which adds in `Nat`) whenever the sum is representable -/
theorem wm_map_down_one_eq_model (m : Mode) (c : WMCore) (i l : Nat)
    (hs : ∀ b r, c.level l = ok b → b.rankQ i = ok r → b.countZeros + r < U64) :
    gen_WMCore_map_down_one m c i l = c.mapDownOne i l := by
  rw [wm_map_down_one_eq]
  unfold WMCore.mapDownOne
  cases h : c.level l with
  | fault f => rfl
  | ok b =>
    simp only [gen_simp]
    cases h2 : b.rankQ i with
    | fault f => rfl
    | ok r => simp only [gen_simp, hs b r h h2]

/-- the hypothesis is necessary, but only violated by a level of length ≥ 2^64 (not representable) -/
theorem wm_map_down_one_ne :
    let c : WMCore := ⟨#[{ ones := 0, data := ⟨2 ^ 64, #[]⟩ }]⟩
    gen_WMCore_map_down_one .checked c (2 ^ 64) 0 = fault (.panic .overflow) ∧
    c.mapDownOne (2 ^ 64) 0 = ok (2 ^ 64) := by
  decide

theorem wm_map_down_zero_eq (m : Mode) (c : WMCore) (i l : Nat) :
    gen_WMCore_map_down_zero m c i l = c.mapDownZero m i l := by
  unfold gen_WMCore_map_down_zero WMCore.mapDownZero
  exact bind_congr fun b => rfl

theorem wm_map_up_one_eq (m : Mode) (c : WMCore) (i l : Nat) :
    gen_WMCore_map_up_one m c i l = c.mapUpOne m i l := by
  unfold gen_WMCore_map_up_one WMCore.mapUpOne
  cases h : c.level l with
  | fault f => rfl
  | ok b =>
    by_cases hlt : i < b.countZeros
    · simp only [gen_simp, checkedSub, hlt, Nat.not_le_of_lt hlt]
    · simp only [gen_simp, checkedSub, hlt, Nat.le_of_not_lt hlt]

theorem wm_map_up_zero_eq (m : Mode) (c : WMCore) (i l : Nat) :
    gen_WMCore_map_up_zero m c i l = c.mapUpZero m i l := by
  unfold gen_WMCore_map_up_zero WMCore.mapUpZero
  exact bind_congr fun b => rfl

end Sds.GenEq
