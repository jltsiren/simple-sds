/-
Proofs/GenEqSpAll: the translated two-ended iterator over all bits of the Elias–Fano vector (`Generated/FnsSpAll.lean`,
from `sparse_vector.rs`: `Iter::next`, `next_back`, `size_hint`, `SparseVector::iter`) computes the hand-written model
(`SpIter.nextQ` with `skipDupFwd`, `SpIter.nextBackQ` with `skipDupBwd`, `SpIter.remaining`, `Sparse.iter`).

* `next`: the duplicate-skipping loop runs first, `next + 1` afterwards, on both sides; a fault of the inner
  `OneIter::next` propagates from the loop on both sides.  The model increments in `Nat`: `hN` (`next < limit < 2^64`).
* `next_back`: `limit - 1` is computed only when `limit > next`, so the code's subtraction is the model's; the inner
  `OneIter::next_back` is the model's unconditionally — no hypothesis.
* `iter`: `one_iter`, `next`, `next_back` in this order on both sides.

No divergence between the code and the model; the hypotheses are needed: `sp_all_next_ne` (`limit = 2^64`, which the
code cannot represent), `sp_all_size_hint_ne` (`next > limit`).
-/
import Sds.Generated.FnsSpAll
import Sds.Proofs.GenEqSpIter
set_option linter.unusedSimpArgs false
set_option linter.unusedVariables false

namespace Sds.GenEq
open Sds Outcome Generated

/-! ### `Iter::next` -/

/-- `Iter::next`, weakest form.  `hH`, `hL`: for the calls of `OneIter::next`; `hN`: the increment of `next` —
performed only when `next < limit` — does not overflow (the model increments in `Nat`). -/
theorem sp_all_next_eq' (m : Mode) (s : Sparse) (it : SpIter)
    (hH : s.high.data.data.size * 64 < U64) (hL : s.low.len < U64)
    (hN : it.next < it.limit → it.next + 1 < U64) :
    gen_SparseIter_next m s it = SpIter.nextQ m s it := by
  obtain ⟨parent, next, nextSet, limit, lastSet⟩ := it
  unfold gen_SparseIter_next SpIter.nextQ
  simp only
  by_cases h : next ≥ limit
  · simp only [h, decide_true, if_true]; rfl
  · have e1 : addM m next 1 = ok (next + 1) := addM_ok (hN (Nat.lt_of_not_le h))
    simp only [h, decide_false, Bool.false_eq_true, if_false]
    cases nextSet with
    | none => simp only [e1, bind_ok, pure_eq]
    | some value =>
      simp only
      by_cases hv : value = next
      · simp only [hv, decide_true, if_true]
        refine loopM_bind_eq _ _ (fun n st => SpIter.skipDupFwd m s next n st.2 st.1 >>= _) (fun _ => True)
          (fun _ => rfl) (fun n st _ => ?_) (fun _ _ _ _ => trivial) _ (lastSet, parent) trivial
        obtain ⟨ns, it⟩ := st
        rw [SpIter.skipDupFwd]
        simp only [sp_iter_next_eq m s _ hH hL]
        cases SpOneIter.nextQ m s it with
        | fault f => rfl
        | ok r =>
          obtain ⟨o, it'⟩ := r
          cases o with
          | none => simp only [bind_ok, pure_eq, e1]
          | some ab =>
            obtain ⟨a, b⟩ := ab
            by_cases hc : b > next
            · simp only [hc, decide_true, if_true, bind_ok, pure_eq, e1]
            · simp only [hc, decide_false, Bool.false_eq_true, if_false, bind_ok, pure_eq]
      · simp only [hv, decide_false, Bool.false_eq_true, if_false, e1, bind_ok, pure_eq]

/-- `Iter::next` with the limit in `usize` -/
theorem sp_all_next_eq (m : Mode) (s : Sparse) (it : SpIter)
    (hH : s.high.data.data.size * 64 < U64) (hL : s.low.len < U64) (hlim : it.limit < U64) :
    gen_SparseIter_next m s it = SpIter.nextQ m s it :=
  sp_all_next_eq' m s it hH hL (fun h => Nat.lt_of_le_of_lt h hlim)

/-- `Iter::next` with `limit ≤ len` (the iterator invariant) on a vector whose length is a `usize` -/
theorem sp_all_next_eq_of_len (m : Mode) (s : Sparse) (it : SpIter)
    (hH : s.high.data.data.size * 64 < U64) (hL : s.low.len < U64) (hlen : s.len < U64) (hlim : it.limit ≤ s.len) :
    gen_SparseIter_next m s it = SpIter.nextQ m s it :=
  sp_all_next_eq m s it hH hL (Nat.lt_of_le_of_lt hlim hlen)

/-! ### `Iter::next_back` -/

/-- `Iter::next_back`: no hypothesis (`limit - 1` is computed only when `limit > next ≥ 0`, and `OneIter::next_back`
is the model's unconditionally) -/
theorem sp_all_next_back_eq (m : Mode) (s : Sparse) (it : SpIter) :
    gen_SparseIter_next_back m s it = SpIter.nextBackQ m s it := by
  obtain ⟨parent, next, nextSet, limit, lastSet⟩ := it
  unfold gen_SparseIter_next_back SpIter.nextBackQ
  simp only
  by_cases h : next ≥ limit
  · simp only [h, decide_true, if_true]; rfl
  · have e1 : subM m limit 1 = ok (limit - 1) := subM_ok (by omega)
    simp only [h, decide_false, Bool.false_eq_true, if_false, e1, bind_ok]
    cases lastSet with
    | none => rfl
    | some value =>
      simp only
      by_cases hv : value = limit - 1
      · simp only [hv, decide_true, if_true]
        refine loopM_bind_eq _ _ (fun n st => SpIter.skipDupBwd m s (limit - 1) n st.2 st.1 >>= _) (fun _ => True)
          (fun _ => rfl) (fun n st _ => ?_) (fun _ _ _ _ => trivial) _ (nextSet, parent) trivial
        obtain ⟨ls, it⟩ := st
        rw [SpIter.skipDupBwd]
        simp only [sp_iter_next_back_eq]
        cases SpOneIter.nextBackQ m s it with
        | fault f => rfl
        | ok r =>
          obtain ⟨o, it'⟩ := r
          cases o with
          | none => rfl
          | some ab =>
            obtain ⟨a, b⟩ := ab
            by_cases hc : b < limit - 1
            · simp only [hc, decide_true, if_true, bind_ok, pure_eq]
            · simp only [hc, decide_false, Bool.false_eq_true, if_false, bind_ok, pure_eq]
      · simp only [hv, decide_false, Bool.false_eq_true, if_false, bind_ok, pure_eq]

/-! ### `size_hint`, `SparseVector::iter` -/

/-- `Iter::size_hint` under the invariant `next ≤ limit` -/
theorem sp_all_size_hint_eq (m : Mode) (s : Sparse) (it : SpIter) (h : it.next ≤ it.limit) :
    gen_SparseIter_size_hint m s it = ok (it.remaining, some it.remaining) := by
  unfold gen_SparseIter_size_hint SpIter.remaining
  rw [subM_ok h]; rfl

theorem sp_all_iter_eq (m : Mode) (s : Sparse)
    (hH : s.high.data.data.size * 64 < U64) (hL : s.low.len < U64) :
    gen_SparseVector_iter m s = s.iter m := by
  unfold gen_SparseVector_iter Sparse.iter
  rw [sp_one_iter_eq]
  simp only [bind_ok, sp_iter_next_eq m s _ hH hL, sp_iter_next_back_eq]
  cases SpOneIter.nextQ m s (SpOneIter.full s) with
  | fault f => rfl
  | ok r =>
    obtain ⟨o1, it1⟩ := r
    cases o1 with
    | none =>
      simp only [bind_ok, pure_eq]
      cases SpOneIter.nextBackQ m s it1 with
      | fault f => rfl
      | ok r =>
        obtain ⟨o2, it2⟩ := r
        cases o2 with
        | none => rfl
        | some cd => obtain ⟨c, d⟩ := cd; rfl
    | some ab =>
      obtain ⟨a, b⟩ := ab
      simp only [bind_ok, pure_eq]
      cases SpOneIter.nextBackQ m s it1 with
      | fault f => rfl
      | ok r =>
        obtain ⟨o2, it2⟩ := r
        cases o2 with
        | none => rfl
        | some cd => obtain ⟨c, d⟩ := cd; rfl

/-! ### the extra hypotheses are necessary

`limit = 2^64` (not a `usize`) for `next`, `next > limit` for `size_hint`: no divergence. -/

/-- the empty vector (`hH`, `hL` hold) -/
def cexA : Sparse := ⟨0, ⟨0, ⟨0, #[]⟩, none, none, none⟩, ⟨0, 1, ⟨0, #[]⟩⟩⟩

/-- `hN`: `next = 2^64 - 1` below `limit = 2^64` — the code's `next + 1` overflows, the model's does not -/
theorem sp_all_next_ne :
    cexA.high.data.data.size * 64 < U64 ∧ cexA.low.len < U64 ∧
    gen_SparseIter_next .checked cexA ⟨SpOneIter.emptyIter cexA, U64 - 1, none, U64, none⟩
      = fault (.panic .overflow) ∧
    gen_SparseIter_next .wrapping cexA ⟨SpOneIter.emptyIter cexA, U64 - 1, none, U64, none⟩
      = ok (some false, ⟨SpOneIter.emptyIter cexA, 0, none, U64, none⟩) ∧
    SpIter.nextQ .checked cexA ⟨SpOneIter.emptyIter cexA, U64 - 1, none, U64, none⟩
      = ok (some false, ⟨SpOneIter.emptyIter cexA, U64, none, U64, none⟩) ∧
    -- the same on the branch with the duplicate-skipping loop
    gen_SparseIter_next .checked cexA ⟨SpOneIter.emptyIter cexA, U64 - 1, some (U64 - 1), U64, some (U64 - 1)⟩
      = fault (.panic .overflow) ∧
    SpIter.nextQ .checked cexA ⟨SpOneIter.emptyIter cexA, U64 - 1, some (U64 - 1), U64, some (U64 - 1)⟩
      = ok (some true, ⟨SpOneIter.emptyIter cexA, U64, some (U64 - 1), U64, some (U64 - 1)⟩) := by
  decide +kernel

/-- without `next ≤ limit` the subtraction of `size_hint` panics (wraps) -/
theorem sp_all_size_hint_ne :
    gen_SparseIter_size_hint .checked cexA ⟨SpOneIter.emptyIter cexA, 1, none, 0, none⟩
      = fault (.panic .overflow) ∧
    gen_SparseIter_size_hint .wrapping cexA ⟨SpOneIter.emptyIter cexA, 1, none, 0, none⟩
      = ok (U64 - 1, some (U64 - 1)) ∧
    (⟨SpOneIter.emptyIter cexA, 1, none, 0, none⟩ : SpIter).remaining = 0 := by
  decide +kernel

end Sds.GenEq
