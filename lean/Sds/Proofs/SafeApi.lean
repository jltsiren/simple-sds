/-
Proofs/SafeApi:
  A. (C08) the SAFE `Transformation::word` of the public trait (`wordSafeT`) and the safe entry points of the support
     structures (`safely`): never `oob`, for every well-formed raw vector and EVERY index; value in range; panic out of
     range; the mutated guard (`index == last_index` instead of `index >= last_index`) reads out of bounds.
  B. (C07, finding F13) `split` / `combine` of the sparse vector AS FIRST WRITTEN (`splitOld`, `combineOld`) against the
     model's definitions and against a transcription of the guarded (repaired) Rust code (`splitGuarded`,
     `combineGuarded`): equal below width 64, different at width 64; the repaired code is what the model computes.
-/
import Sds.Proofs.Select
import Sds.Proofs.FormatSparse

namespace Sds.SafeApi
open Sds Outcome SupportProofs

/-! ## A. the safe `Transformation::word` -/

/-- a well-formed vector has exactly the words with `64 * i < len` -/
theorem lt_size_iff {v : RawVec} (hv : v.WF) (i : Nat) : i < v.data.size ↔ 64 * i < v.len := by
  rw [hv.1]; omega

/-- in range, the safe and the unchecked variant are the same computation -/
theorem wordSafeT_eq_wordT (tr : Tr) (v : RawVec) (i : Nat) (hi : i < v.data.size) :
    wordSafeT tr v i = wordT tr v i := by
  unfold wordSafeT wordT
  cases tr
  · rw [getC_ok hi, getW_ok hi]
  · simp only [getC_ok hi, getW_ok hi, bind_ok, pure_eq]

/-- in range: the value (`wordTv` of Proofs/Select) -/
theorem wordSafeT_eq (tr : Tr) (v : RawVec) (i : Nat) (hi : i < v.data.size) :
    wordSafeT tr v i = ok (wordTv tr v i) := by
  rw [wordSafeT_eq_wordT tr v i hi, wordT_eq tr v i hi]

/-- out of range (`i ≥ words`): the index panic of the bounds-checked accessor, for both transformations.
The unchecked read of `Complement` is not reached: `i ≥ words ≥ len / 64`. -/
theorem wordSafeT_panic {v : RawVec} (hv : v.WF) (tr : Tr) (i : Nat) (hi : v.data.size ≤ i) :
    wordSafeT tr v i = fault (.panic .index) := by
  have hn : ¬ i < v.data.size := by omega
  unfold wordSafeT
  cases tr
  · simp [getC, hn]
  · have hsz := hv.1
    have hge : i ≥ v.len / 64 := by omega
    simp only [if_pos hge]
    simp [getC, hn]

/-- **never `oob`**: every well-formed vector, every index -/
theorem wordSafeT_ne_oob {v : RawVec} (hv : v.WF) (tr : Tr) (i : Nat) : wordSafeT tr v i ≠ fault .oob := by
  by_cases hi : i < v.data.size
  · rw [wordSafeT_eq tr v i hi]; exact fun h => by cases h
  · rw [wordSafeT_panic hv tr i (by omega)]; exact fun h => by cases h

/-- the two outcomes, exhaustively -/
theorem wordSafeT_cases {v : RawVec} (hv : v.WF) (tr : Tr) (i : Nat) :
    (64 * i < v.len ∧ wordSafeT tr v i = ok (wordTv tr v i)) ∨
    (v.len ≤ 64 * i ∧ wordSafeT tr v i = fault (.panic .index)) := by
  by_cases hi : i < v.data.size
  · exact .inl ⟨(lt_size_iff hv i).mp hi, wordSafeT_eq tr v i hi⟩
  · have : ¬ 64 * i < v.len := fun h => hi ((lt_size_iff hv i).mpr h)
    exact .inr ⟨by omega, wordSafeT_panic hv tr i (by omega)⟩

/-- **in range**: for `64 * i < len` the safe read equals the unchecked one and returns the word whose bit `k` is
bit `64 * i + k` of the transformed bit sequence where that position exists, and 0 beyond `len` -/
theorem wordSafeT_in_range {v : RawVec} (hv : v.WF) (tr : Tr) (i : Nat) (hi : 64 * i < v.len) :
    wordSafeT tr v i = wordT tr v i ∧
    ∃ w, wordSafeT tr v i = ok w ∧ ∀ k, k < 64 →
      (64 * i + k < v.len → (bitsT tr v.bits)[64 * i + k]? = some (w.getLsbD k)) ∧
      (v.len ≤ 64 * i + k → w.getLsbD k = false) := by
  have hsz : i < v.data.size := (lt_size_iff hv i).mpr hi
  refine ⟨wordSafeT_eq_wordT tr v i hsz, wordTv tr v i, wordSafeT_eq tr v i hsz, fun k hk => ⟨fun hlt => ?_, fun hge => ?_⟩⟩
  · have hb := bitsT_getD tr v (64 * i + k)
    have hlen : 64 * i + k < (bitsT tr v.bits).length := by rw [length_bitsT]; exact hlt
    rw [List.getElem?_eq_getElem hlen] at hb ⊢
    simp only [Option.getD_some] at hb
    rw [hb, wordTv_bit hv tr i hsz k hk]
  · rw [wordTv_bit hv tr i hsz k hk, bitT_of_ge tr v _ hge]

/-- the mutated guard: `index == last_index` instead of `index >= last_index` -/
def wordSafeTEq (tr : Tr) (v : RawVec) (index : Nat) : Outcome Word :=
  match tr with
  | .ident => getC v.data index
  | .compl =>
    if index = v.len / 64 then do
      let w ← getC v.data index
      return (~~~ w) &&& lowSet (v.len % 64)
    else do
      let w ← getW v.data index
      return ~~~ w

/-- a well-formed vector of 70 bits (two words) -/
def cexVec : RawVec := ⟨70, #[0x0123456789abcdef, 0x2a]⟩

/-- **the guard is needed as written**: with `==` the call `Complement::word(v, 2)` on a well-formed 70-bit vector
(two words; `last_index = 1`) takes the unchecked branch with an index past the buffer — `oob`; the code as written
panics there -/
theorem wordSafeTEq_oob :
    cexVec.WF ∧ wordSafeTEq .compl cexVec 2 = fault .oob ∧ wordSafeT .compl cexVec 2 = fault (.panic .index) := by
  decide

/-- the safe entry points never yield `oob` -/
theorem safely_ne_oob {α} (x : Outcome α) : safely x ≠ fault .oob := by
  unfold safely
  split
  · exact fun h => by cases h
  · rename_i h
    exact fun e => h (by rw [e])

/-- … and change nothing else -/
theorem safely_eq {α} (x : Outcome α) (h : x ≠ fault .oob) : safely x = x := by
  unfold safely
  split
  · exact absurd rfl h
  · rfl

/-! ## B. F13: `split` / `combine` as first written, the model, and the guarded code -/

theorem shiftAmtOld_lt (m : Mode) (w : Nat) (h : w < 64) : Sparse.shiftAmtOld m w = ok w := by
  simp [Sparse.shiftAmtOld, h]

theorem shiftAmtOld_checked_ge (w : Nat) (h : 64 ≤ w) : Sparse.shiftAmtOld .checked w = fault (.panic .overflow) := by
  have : ¬ w < 64 := by omega
  simp [Sparse.shiftAmtOld, this]

theorem shiftAmtOld_wrapping_ge (w : Nat) (h : 64 ≤ w) : Sparse.shiftAmtOld .wrapping w = ok (w % 64) := by
  have : ¬ w < 64 := by omega
  simp [Sparse.shiftAmtOld, this]

/-- below width 64 the first-written `split` is the model's, in both modes -/
theorem splitOld_eq (m : Mode) (s : Sparse) (i : Nat) (h : s.width < 64) :
    Sparse.splitOld m s i = ok (s.split i) := by
  unfold Sparse.splitOld Sparse.split
  rw [shiftAmtOld_lt m _ h]
  rfl

/-- below width 64 the first-written `combine` is the model's, in both modes -/
theorem combineOld_eq (m : Mode) (s : Sparse) (p : Pos) (h : s.width < 64) :
    Sparse.combineOld m s p = s.combine m p := by
  rw [Sparse.combine_of_lt h]
  unfold Sparse.combineOld
  simp only [shiftAmtOld_lt m _ h, bind_ok]

/-- width 64 (any width ≥ 64), overflow checks on: `split` panics on EVERY index -/
theorem splitOld_checked_w64 (s : Sparse) (i : Nat) (h : 64 ≤ s.width) :
    Sparse.splitOld .checked s i = fault (.panic .overflow) := by
  unfold Sparse.splitOld
  rw [shiftAmtOld_checked_ge _ h]
  rfl

/-- … and `combine` never returns -/
theorem combineOld_checked_w64 (s : Sparse) (p : Pos) (h : 64 ≤ s.width) (r : Nat × Nat) :
    Sparse.combineOld .checked s p ≠ ok r := by
  unfold Sparse.combineOld
  rw [shiftAmtOld_checked_ge _ h]
  cases subM .checked p.high p.low with
  | fault e => exact fun h => by cases h
  | ok d =>
    cases s.low.get p.low with
    | fault e => exact fun h => by cases h
    | ok l => exact fun h => by cases h

/-- width 64, no overflow checks: the shift amount is `64 % 64 = 0`, the high part is the index itself -/
theorem splitOld_wrapping_w64 (s : Sparse) (i : Nat) (h : s.width = 64) :
    Sparse.splitOld .wrapping s i = ok (i, i % 2 ^ 64) := by
  unfold Sparse.splitOld
  rw [shiftAmtOld_wrapping_ge _ (by omega), h]
  rfl

/-- width 64, the model: high part 0, low part the index, for every `usize` index -/
theorem split_w64 (s : Sparse) (i : Nat) (h : s.width = 64) (hi : i < 2 ^ 64) : s.split i = (0, i) := by
  unfold Sparse.split
  rw [h, Nat.shiftRight_eq_div_pow, Nat.div_eq_of_lt hi, Nat.mod_eq_of_lt hi]

/-- at width 64 old and new differ on every index `0 < i < 2^64` -/
theorem splitOld_wrapping_ne_split (s : Sparse) (i : Nat) (h : s.width = 64) (h0 : 0 < i) (hi : i < 2 ^ 64) :
    Sparse.splitOld .wrapping s i ≠ ok (s.split i) := by
  rw [splitOld_wrapping_w64 s i h, split_w64 s i h hi]
  intro e
  injection e with e
  have := congrArg Prod.fst e
  simp only at this
  omega

theorem sp_w64_width : Format2.sp_w64_vec.width = 64 := by decide +kernel

/-- the concrete instance: the loaded 13-element file, index 3 (the one set bit) -/
theorem sp_w64_old_split :
    Sparse.splitOld .checked Format2.sp_w64_vec 3 = fault (.panic .overflow) ∧
    Sparse.splitOld .wrapping Format2.sp_w64_vec 3 = ok (3, 3) ∧
    Format2.sp_w64_vec.split 3 = (0, 3) :=
  ⟨splitOld_checked_w64 _ _ (by rw [sp_w64_width]; exact Nat.le_refl _),
   splitOld_wrapping_w64 _ _ sp_w64_width,
   split_w64 _ _ sp_w64_width (by decide)⟩

/-- every shift by 64 is 0 in a `usize` -/
theorem shl64_mod (d : Nat) : (d <<< 64) % U64 = 0 := by
  rw [Nat.shiftLeft_eq, U64_eq]
  exact Nat.mul_mod_left _ _

/-! ### the guarded (repaired) code, transcribed from `sparse_vector.rs` -/

/-- `Parts { high: if width < 64 { index >> width } else { 0 }, low: index & low_set(width) }` -/
def splitGuarded (s : Sparse) (index : Nat) : Nat × Nat :=
  (if s.width < 64 then index >>> s.width else 0, index &&& (lowSet s.width).toNat)

/-- `let high = if width < 64 { (pos.high - pos.low) << width } else { 0 }; (pos.low, high + low.get(pos.low))` -/
def combineGuarded (m : Mode) (s : Sparse) (p : Pos) : Outcome (Nat × Nat) := do
  let high ← (if s.width < 64 then do
      let d ← subM m p.high p.low
      pure ((d <<< s.width) % U64)
    else pure 0)
  let l ← s.low.get p.low
  let v ← addM m high l.toNat
  return (p.low, v)

/-- the guarded `split` is the model's `split`: every width up to 64, every `usize` index -/
theorem splitGuarded_eq (s : Sparse) (i : Nat) (h : s.width ≤ 64) (hi : i < 2 ^ 64) :
    splitGuarded s i = s.split i := by
  unfold splitGuarded Sparse.split
  rw [toNat_lowSet _ h, Nat.and_two_pow_sub_one_eq_mod]
  by_cases hw : s.width < 64
  · rw [if_pos hw]
  · have hw64 : s.width = 64 := by omega
    rw [if_neg hw, hw64, Nat.shiftRight_eq_div_pow, Nat.div_eq_of_lt hi]

/-- the guarded `combine` is the model's `combine`: every width up to 64, both modes -/
theorem combineGuarded_eq (m : Mode) (s : Sparse) (p : Pos) (h : s.width ≤ 64) :
    combineGuarded m s p = s.combine m p := by
  have _ := h
  rfl

end Sds.SafeApi
