/-
Proofs/GenEqBuild: the two builders (`RLBuilder` of rl_vector.rs, `SparseBuilder` of sparse_vector.rs) and
`SparseVector::select` as TRANSLATED statement by statement from the source (Generated/FnsBuild.lean) are equal to the
hand-written model definitions (Model/RL.lean, Model/Sparse.lean) — under explicit hypotheses.  The model computes in
`Nat` where the code computes in `usize`, so every hypothesis is either a "no overflow" bound on builder fields (each
follows from the builder invariant plus "all lengths < 2^64") or is shown to be necessary by a concrete counterexample.
-/
import Sds.Generated.FnsBuild
import Sds.Proofs.GenFns
import Sds.Proofs.GenEqBits
import Sds.Proofs.GenEqVec
import Sds.Proofs.GenEqIdx
import Sds.Proofs.RL
import Sds.Proofs.Builders

namespace Sds.GenEq
open Sds Outcome Generated

/-! ### rl_vector.rs : RLBuilder -/

theorem rlb_count_zeros_eq (m : Mode) (b : RLBuilder) :
    gen_RLBuilder_count_zeros m b = b.countZeros m := by
  unfold gen_RLBuilder_count_zeros RLBuilder.countZeros
  cases subM m b.len b.ones <;> rfl

/-- `code_len`: `bit_len ≤ 64`, so `div_round_up(bit_len, 3)` cannot overflow -/
theorem rlb_code_len_eq (m : Mode) (v : Nat) :
    gen_RLBuilder_code_len m v = ok (RLBuilder.codeLen v) := by
  unfold gen_RLBuilder_code_len RLBuilder.codeLen
  have hb : bitLen (BitVec.ofNat 64 v) ≤ 64 := by unfold bitLen; omega
  have h1 : addM m (bitLen (BitVec.ofNat 64 v)) 3 = ok (bitLen (BitVec.ofNat 64 v) + 3) :=
    addM_ok (by rw [U64_eq]; omega)
  have h2 : subM m (bitLen (BitVec.ofNat 64 v) + 3) 1 = ok (bitLen (BitVec.ofNat 64 v) + 3 - 1) :=
    subM_ok (by omega)
  simp [bit_len_eq, GenFns.div_round_up_eq, divRoundUp, h1, h2, Bind.bind, Outcome.bind, Pure.pure]

/-- The "no overflow" conditions of a `flush` with a pending run: what the model computes in `Nat` and the code in
`usize`.  (`b.tail ≤ b.run.1` is NOT among them: both sides compute the gap with the mode's subtraction.) -/
structure FlushBounds (b : RLBuilder) : Prop where
  /-- `self.data.len() + units_needed`, `units_needed ≤ 44` -/
  data_lt : b.data.len + 44 < U64
  /-- `self.samples.len() * 64` -/
  samples_lt : b.samples.size * 64 < U64
  /-- `self.ones - self.run.1` for the sample -/
  run_le_ones : b.run.2 ≤ b.ones
  /-- `self.tail = self.run.0 + self.run.1` -/
  run_end_lt : b.run.1 + b.run.2 < U64

/-- the bounds follow from the invariant of reachable builder states and one representation bound on the number of
samples (each sample stands for a block of 64 code units; `Inv` bounds `data.len` by `64 * samples.size`) -/
theorem FlushBounds.of_inv {b : RLBuilder} (h : b.Inv) (hs : 64 * b.samples.size + 44 < U64) : FlushBounds b := by
  have := h.data_le; have := h.run_end; have := h.len_lt
  exact ⟨by omega, by omega, h.run_le_ones, by omega⟩

/-- … and, for the states reachable through `try_set` / `set_len` (`RLBuilder.Abs` bundles `Inv` with the data-level
invariant `DInv`), the bound on the number of samples is itself a consequence of "all lengths < 2^64": `DInv` gives
`64 * (samples.size - 1) ≤ data.len`, and the bit length `4 * data.len` of the code units is a `usize` -/
theorem FlushBounds.of_dinv {b : RLBuilder} {done : List (List (Nat × Nat))} {cur : List (Nat × Nat)}
    (h : b.Inv) (hd : RLBuilder.DInv b done cur) (hraw : b.data.data.len < U64) : FlushBounds b := by
  apply FlushBounds.of_inv h
  have h1 := hd.size
  have h2 := hd.data_len
  have h3 : b.data.data.len = b.data.len * b.data.width := h.data_wf.2.2.1
  rw [h.data_w] at h3
  rw [U64_eq] at hraw ⊢
  split at h1 <;> omega

/-- `flush`, weakest form: the bounds are only needed when there is a pending run -/
theorem rlb_flush_eq' (m : Mode) (b : RLBuilder) (h : b.run.2 ≠ 0 → FlushBounds b) :
    gen_RLBuilder_flush m b = b.flush m := by
  obtain ⟨len, ones, tail, ⟨r1, r2⟩, samples, data⟩ := b
  unfold gen_RLBuilder_flush RLBuilder.flush
  by_cases hr : r2 = 0
  · simp [hr, Pure.pure]
  · obtain ⟨hd, hs, ho, he⟩ := h hr
    simp only at hd hs ho he
    have hr' : ¬ r2 ≤ 0 := fun h => hr (Nat.le_zero.mp h)
    simp only [hr, hr', decide_false, if_false, Bool.false_eq_true, Bind.bind, Outcome.bind, Pure.pure]
    cases hg : subM m r1 tail with
    | fault f => rfl
    | ok g =>
      have hc1 := RLBuilder.codeLen_le g
      have hc2 := RLBuilder.codeLen_le (r2 - 1)
      have e1 : subM m r2 1 = ok (r2 - 1) := subM_ok (Nat.pos_of_ne_zero hr)
      have e2 : addM m (RLBuilder.codeLen g) (RLBuilder.codeLen (r2 - 1)) = ok _ :=
        addM_ok (by rw [U64_eq]; omega)
      have e3 : addM m data.len (RLBuilder.codeLen g + RLBuilder.codeLen (r2 - 1)) = ok _ := addM_ok (by omega)
      have e4 : mulM m samples.size 64 = ok _ := mulM_ok hs
      have e5 : subM m ones r2 = ok (ones - r2) := subM_ok ho
      have e6 : addM m r1 r2 = ok (r1 + r2) := addM_ok he
      simp only [rlb_code_len_eq, e1, e2, e3, e4]
      by_cases hc : data.len + (RLBuilder.codeLen g + RLBuilder.codeLen (r2 - 1)) > samples.size * 64
      · simp only [hc, decide_true, if_true, e5, e6]
      · simp only [hc, decide_false, if_false, Bool.false_eq_true, e6]

/-- `flush` under the explicit bounds -/
theorem rlb_flush_eq (m : Mode) (b : RLBuilder) (hd : b.data.len + 44 < U64) (hs : b.samples.size * 64 < U64)
    (ho : b.run.2 ≤ b.ones) (he : b.run.1 + b.run.2 < U64) :
    gen_RLBuilder_flush m b = b.flush m :=
  rlb_flush_eq' m b fun _ => ⟨hd, hs, ho, he⟩

/-- `flush` on reachable builder states -/
theorem rlb_flush_eq_of_inv (m : Mode) (b : RLBuilder) (h : b.Inv) (hs : 64 * b.samples.size + 44 < U64) :
    gen_RLBuilder_flush m b = b.flush m :=
  rlb_flush_eq' m b fun _ => FlushBounds.of_inv h hs

/-- `flush` on reachable builder states, with ghost block structure: only representation bounds are left -/
theorem rlb_flush_eq_of_dinv (m : Mode) (b : RLBuilder) {done : List (List (Nat × Nat))} {cur : List (Nat × Nat)}
    (h : b.Inv) (hd : RLBuilder.DInv b done cur) (hraw : b.data.data.len < U64) :
    gen_RLBuilder_flush m b = b.flush m :=
  rlb_flush_eq' m b fun _ => FlushBounds.of_dinv h hd hraw

/-- three of the four fields of `FlushBounds` are necessary (no witness for `samples_lt`; all three states violate
`RLBuilder.Inv` or a representation bound):
`run.2 > ones` — the code underflows in `self.ones - self.run.1`, the model records the truncated difference; -/
theorem rlb_flush_ne_ones :
    let b : RLBuilder := { len := 1, ones := 0, tail := 0, run := (0, 1) }
    gen_RLBuilder_flush .checked b = fault (.panic .overflow) ∧
    (b.flush .checked).toOption.map (·.samples) = some #[(0, 0)] := by
  decide +kernel

/-- … `run.1 + run.2 = 2^64` — the code overflows in the new `tail`, the model sets `tail = 2^64`; -/
theorem rlb_flush_ne_end :
    let b : RLBuilder := { len := U64, ones := 1, tail := 0, run := (U64 - 1, 1) }
    gen_RLBuilder_flush .checked b = fault (.panic .overflow) ∧
    (b.flush .checked).toOption.map (·.tail) = some U64 := by
  decide +kernel

/-- … `data.len = 2^64 - 1` — the code overflows in `self.data.len() + units_needed` -/
theorem rlb_flush_ne_data :
    let b : RLBuilder := { len := 1, ones := 1, tail := 0, run := (0, 1), data := ⟨U64 - 1, 4, RawVec.empty⟩ }
    gen_RLBuilder_flush .checked b = fault (.panic .overflow) ∧
    (b.flush .checked).isOk = true := by
  decide +kernel

/-- `set_run_unchecked`, weakest form: the only place where the model leaves `usize` arithmetic is the `flush` of a
pending run, which happens when a non-empty run is set that is not adjacent to `len` -/
theorem rlb_set_run_unchecked_eq' (m : Mode) (b : RLBuilder) (start len : Nat)
    (h : len ≠ 0 → start ≠ b.len → b.run.2 ≠ 0 → FlushBounds b) :
    gen_RLBuilder_set_run_unchecked m b start len = b.setRunUnchecked m start len := by
  unfold gen_RLBuilder_set_run_unchecked RLBuilder.setRunUnchecked
  by_cases hl : len = 0
  · obtain ⟨blen, ones, tail, run, samples, data⟩ := b
    simp [hl, Pure.pure]
  · have hl' : ¬ len ≤ 0 := fun h => hl (Nat.le_zero.mp h)
    by_cases hs : start = b.len
    · obtain ⟨blen, ones, tail, ⟨r1, r2⟩, samples, data⟩ := b
      simp only at hs
      simp only [hl, hl', hs, decide_true, decide_false, if_true, if_false, Bool.false_eq_true,
        Bind.bind, Outcome.bind, Pure.pure]
      cases addM m blen len with
      | fault f => rfl
      | ok a =>
        cases addM m ones len with
        | fault f => rfl
        | ok c => cases addM m r2 len <;> rfl
    · have hfl := rlb_flush_eq' m b (h hl hs)
      have eta : (⟨b.len, b.ones, b.tail, b.run, b.samples, b.data⟩ : RLBuilder) = b := by cases b; rfl
      simp only [hl, hl', hs, decide_false, if_false, Bool.false_eq_true, Bind.bind, Outcome.bind, Pure.pure,
        eta, hfl]
      cases b.flush m with
      | fault f => rfl
      | ok b' =>
        obtain ⟨blen, ones, tail, run, samples, data⟩ := b'
        simp only
        cases addM m start len with
        | fault f => rfl
        | ok a => cases addM m ones len <;> rfl

theorem rlb_set_run_unchecked_eq (m : Mode) (b : RLBuilder) (start len : Nat)
    (hd : b.data.len + 44 < U64) (hs : b.samples.size * 64 < U64)
    (ho : b.run.2 ≤ b.ones) (he : b.run.1 + b.run.2 < U64) :
    gen_RLBuilder_set_run_unchecked m b start len = b.setRunUnchecked m start len :=
  rlb_set_run_unchecked_eq' m b start len fun _ _ _ => ⟨hd, hs, ho, he⟩

theorem rlb_set_run_unchecked_eq_of_inv (m : Mode) (b : RLBuilder) (start len : Nat) (h : b.Inv)
    (hs : 64 * b.samples.size + 44 < U64) :
    gen_RLBuilder_set_run_unchecked m b start len = b.setRunUnchecked m start len :=
  rlb_set_run_unchecked_eq' m b start len fun _ _ _ => FlushBounds.of_inv h hs

theorem rlb_set_run_unchecked_eq_of_dinv (m : Mode) (b : RLBuilder) (start len : Nat)
    {done : List (List (Nat × Nat))} {cur : List (Nat × Nat)}
    (h : b.Inv) (hd : RLBuilder.DInv b done cur) (hraw : b.data.data.len < U64) :
    gen_RLBuilder_set_run_unchecked m b start len = b.setRunUnchecked m start len :=
  rlb_set_run_unchecked_eq' m b start len fun _ _ _ => FlushBounds.of_dinv h hd hraw

/-- `set_bit_unchecked` = `set_run_unchecked(index, 1)` -/
theorem rlb_set_bit_unchecked_eq' (m : Mode) (b : RLBuilder) (i : Nat)
    (h : i ≠ b.len → b.run.2 ≠ 0 → FlushBounds b) :
    gen_RLBuilder_set_bit_unchecked m b i = b.setRunUnchecked m i 1 := by
  unfold gen_RLBuilder_set_bit_unchecked
  have eta : (⟨b.len, b.ones, b.tail, b.run, b.samples, b.data⟩ : RLBuilder) = b := by cases b; rfl
  simp only [eta, rlb_set_run_unchecked_eq' m b i 1 (fun _ => h), Bind.bind, Outcome.bind, Pure.pure]
  cases b.setRunUnchecked m i 1 with
  | fault f => rfl
  | ok b' => cases b'; rfl

theorem rlb_set_bit_unchecked_eq (m : Mode) (b : RLBuilder) (i : Nat)
    (hd : b.data.len + 44 < U64) (hs : b.samples.size * 64 < U64)
    (ho : b.run.2 ≤ b.ones) (he : b.run.1 + b.run.2 < U64) :
    gen_RLBuilder_set_bit_unchecked m b i = b.setRunUnchecked m i 1 :=
  rlb_set_bit_unchecked_eq' m b i fun _ _ => ⟨hd, hs, ho, he⟩

theorem rlb_set_bit_unchecked_eq_of_inv (m : Mode) (b : RLBuilder) (i : Nat) (h : b.Inv)
    (hs : 64 * b.samples.size + 44 < U64) :
    gen_RLBuilder_set_bit_unchecked m b i = b.setRunUnchecked m i 1 :=
  rlb_set_bit_unchecked_eq' m b i fun _ _ => FlushBounds.of_inv h hs

theorem rlb_set_bit_unchecked_eq_of_dinv (m : Mode) (b : RLBuilder) (i : Nat)
    {done : List (List (Nat × Nat))} {cur : List (Nat × Nat)}
    (h : b.Inv) (hd : RLBuilder.DInv b done cur) (hraw : b.data.data.len < U64) :
    gen_RLBuilder_set_bit_unchecked m b i = b.setRunUnchecked m i 1 :=
  rlb_set_bit_unchecked_eq' m b i fun _ _ => FlushBounds.of_dinv h hd hraw

/-- `try_set`.  `hlen` (the argument is a `usize`): the code computes `usize::MAX - len` with the mode's subtraction,
the model in `Nat`. -/
theorem rlb_try_set_eq' (m : Mode) (b : RLBuilder) (start len : Nat) (hlen : len < U64)
    (h : len ≠ 0 → start ≠ b.len → b.run.2 ≠ 0 → FlushBounds b) :
    gen_RLBuilder_try_set m b start len = b.trySet m start len := by
  unfold gen_RLBuilder_try_set RLBuilder.trySet
  have eta : (⟨b.len, b.ones, b.tail, b.run, b.samples, b.data⟩ : RLBuilder) = b := by cases b; rfl
  have e1 : subM m (U64 - 1) len = ok (U64 - 1 - len) := subM_ok (by omega)
  by_cases h1 : start < b.len
  · simp [h1]
  · by_cases h2 : U64 - 1 - len < start
    · simp [h1, h2, e1, Bind.bind, Outcome.bind]
    · simp only [h1, h2, e1, eta, rlb_set_run_unchecked_eq' m b start len h, decide_false, if_false,
        Bool.false_eq_true, Bind.bind, Outcome.bind, Pure.pure]
      cases b.setRunUnchecked m start len with
      | fault f => rfl
      | ok b' => cases b'; rfl

/-- `hlen` is necessary, but only violated by a `len` that is not a `usize` -/
theorem rlb_try_set_ne :
    gen_RLBuilder_try_set .checked {} 1 U64 = fault (.panic .overflow) ∧
    RLBuilder.trySet .checked {} 1 U64 = fault (.err .other) := by
  decide +kernel

theorem rlb_try_set_eq (m : Mode) (b : RLBuilder) (start len : Nat) (hlen : len < U64)
    (hd : b.data.len + 44 < U64) (hs : b.samples.size * 64 < U64)
    (ho : b.run.2 ≤ b.ones) (he : b.run.1 + b.run.2 < U64) :
    gen_RLBuilder_try_set m b start len = b.trySet m start len :=
  rlb_try_set_eq' m b start len hlen fun _ _ _ => ⟨hd, hs, ho, he⟩

theorem rlb_try_set_eq_of_inv (m : Mode) (b : RLBuilder) (start len : Nat) (hlen : len < U64) (h : b.Inv)
    (hs : 64 * b.samples.size + 44 < U64) :
    gen_RLBuilder_try_set m b start len = b.trySet m start len :=
  rlb_try_set_eq' m b start len hlen fun _ _ _ => FlushBounds.of_inv h hs

/-- `try_set` on the states reachable from the empty builder (`RLBuilder.Abs`): only "lengths are `usize`" is left -/
theorem rlb_try_set_eq_of_dinv (m : Mode) (b : RLBuilder) (start len : Nat) (hlen : len < U64)
    {done : List (List (Nat × Nat))} {cur : List (Nat × Nat)}
    (h : b.Inv) (hd : RLBuilder.DInv b done cur) (hraw : b.data.data.len < U64) :
    gen_RLBuilder_try_set m b start len = b.trySet m start len :=
  rlb_try_set_eq' m b start len hlen fun _ _ _ => FlushBounds.of_dinv h hd hraw

/-- `set_len` (the repaired one): flushes only when the vector grows -/
theorem rlb_set_len_eq' (m : Mode) (b : RLBuilder) (len : Nat)
    (h : len > b.len → b.run.2 ≠ 0 → FlushBounds b) :
    gen_RLBuilder_set_len m b len = b.setLen m len := by
  unfold gen_RLBuilder_set_len RLBuilder.setLen
  have eta : (⟨b.len, b.ones, b.tail, b.run, b.samples, b.data⟩ : RLBuilder) = b := by cases b; rfl
  by_cases hc : len > b.len
  · simp only [hc, eta, rlb_flush_eq' m b (h hc), decide_true, if_true, Bind.bind, Outcome.bind, Pure.pure]
    cases b.flush m with
    | fault f => rfl
    | ok b' => cases b'; rfl
  · simp only [hc, eta, decide_false, if_false, Bool.false_eq_true, Bind.bind, Outcome.bind, Pure.pure]

theorem rlb_set_len_eq (m : Mode) (b : RLBuilder) (len : Nat)
    (hd : b.data.len + 44 < U64) (hs : b.samples.size * 64 < U64)
    (ho : b.run.2 ≤ b.ones) (he : b.run.1 + b.run.2 < U64) :
    gen_RLBuilder_set_len m b len = b.setLen m len :=
  rlb_set_len_eq' m b len fun _ _ => ⟨hd, hs, ho, he⟩

theorem rlb_set_len_eq_of_inv (m : Mode) (b : RLBuilder) (len : Nat) (h : b.Inv)
    (hs : 64 * b.samples.size + 44 < U64) :
    gen_RLBuilder_set_len m b len = b.setLen m len :=
  rlb_set_len_eq' m b len fun _ _ => FlushBounds.of_inv h hs

theorem rlb_set_len_eq_of_dinv (m : Mode) (b : RLBuilder) (len : Nat)
    {done : List (List (Nat × Nat))} {cur : List (Nat × Nat)}
    (h : b.Inv) (hd : RLBuilder.DInv b done cur) (hraw : b.data.data.len < U64) :
    gen_RLBuilder_set_len m b len = b.setLen m len :=
  rlb_set_len_eq' m b len fun _ _ => FlushBounds.of_dinv h hd hraw

/-! ### sparse_vector.rs : SparseBuilder, `select` -/

theorem spb_is_multiset_eq (m : Mode) (b : SparseBuilder) :
    gen_SparseBuilder_is_multiset m b = ok (decide (b.increment = 0)) := rfl

theorem spb_capacity_eq (m : Mode) (b : SparseBuilder) : gen_SparseBuilder_capacity m b = ok b.capacity := rfl

theorem spb_universe_eq (m : Mode) (b : SparseBuilder) : gen_SparseBuilder_universe m b = ok b.univ := rfl

theorem spb_next_index_eq (m : Mode) (b : SparseBuilder) : gen_SparseBuilder_next_index m b = ok b.next := rfl

theorem spb_is_empty_eq (m : Mode) (b : SparseBuilder) :
    gen_SparseBuilder_is_empty m b = ok (decide (b.len = 0)) := rfl

theorem spb_is_full_eq (m : Mode) (b : SparseBuilder) : gen_SparseBuilder_is_full m b = ok b.isFull := by
  unfold gen_SparseBuilder_is_full SparseBuilder.isFull
  by_cases h : b.len = b.low.len <;>
    simp [spb_capacity_eq, SparseBuilder.capacity, Bind.bind, Outcome.bind, Pure.pure, h]

/-- `RawVector::set_bit` with the word out of range: the checked word read panics -/
theorem raw_set_bit_out (m : Mode) (v : RawVec) (i : Nat) (b : Bool) (hi : ¬ i / 64 < v.data.size) :
    gen_RawVector_set_bit m v i b = fault (.panic .index) := by
  unfold gen_RawVector_set_bit
  dsimp only
  rw [vsplit_eq]
  have ho : i % 64 < 64 := Nat.mod_lt i (by decide)
  simp [shlW_ok m _ ho, getC_fault hi, Bind.bind, Outcome.bind]

/-- `set_unchecked`.
* `hwf`, `hb`: the low vector is well formed and its bit length is a `usize`;
* `hh`: `parts.high + self.len` does not overflow (on reachable states it is a position in `high`);
* `hn`: `index + self.increment` does not overflow (this also makes `index` a `usize`, used by `split` at width 64);
* `hord`: the code writes the high bit BEFORE the low part, the model checks the low index first.  When the builder is
  full (`len ≥ low.len`, excluded by the safety contract of `set_unchecked`) AND the high position is outside `high`,
  the code panics on the word index and the model on the assertion of `IntVector::set` (`spb_set_unchecked_ne`); in
  all other cases they agree. -/
theorem spb_set_unchecked_eq (m : Mode) (b : SparseBuilder) (i : Nat)
    (hwf : b.low.WF) (hb : b.low.len * b.low.width < U64)
    (hh : i >>> b.low.width + b.len < U64) (hn : i + b.increment < U64)
    (hord : b.len < b.low.len ∨ (i >>> b.low.width + b.len) / 64 < b.high.data.size) :
    gen_SparseBuilder_set_unchecked m b i = b.setUnchecked i := by
  obtain ⟨univ, low, high, len, next, inc⟩ := b
  simp only at hwf hb hh hn hord
  unfold gen_SparseBuilder_set_unchecked SparseBuilder.setUnchecked
  have hsp := split_eq m (⟨univ, default, low⟩ : Sparse) i hwf.2.1 (fun _ => by omega)
  simp only [Sparse.split, Sparse.width] at hsp
  simp only [hsp, addM_ok hh, int_set_eq m low len _ hwf hb, Bind.bind, Outcome.bind, Pure.pure]
  by_cases hl : len < low.len
  · have hw1 : 1 ≤ low.width := hwf.1
    have hlen : len + 1 < U64 := by
      have : low.len * 1 ≤ low.len * low.width := Nat.mul_le_mul_left _ hw1
      omega
    rw [IntVec.set_ok _ _ _ hl]
    by_cases hx : (i >>> low.width + len) / 64 < high.data.size
    · simp only [raw_set_bit_eq m high _ true hx, addM_ok hlen, addM_ok hn, hx, if_true]
    · simp only [raw_set_bit_out m high _ true hx, hx, if_false]
  · have hx : (i >>> low.width + len) / 64 < high.data.size := by
      rcases hord with h | h
      · exact absurd h hl
      · exact h
    rw [IntVec.set_fault _ _ _ (by omega)]
    simp only [raw_set_bit_eq m high _ true hx]

/-- `hord` is necessary: on a full builder whose `high` is too short the two panics differ in kind -/
theorem spb_set_unchecked_ne :
    let b : SparseBuilder := ⟨10, ⟨0, 1, RawVec.empty⟩, ⟨0, #[]⟩, 0, 0, 1⟩
    gen_SparseBuilder_set_unchecked .checked b 0 = fault (.panic .index) ∧
    b.setUnchecked 0 = fault (.panic .assert) := by
  decide +kernel

/-- `hn` is necessary: with `index = usize::MAX` in a non-multiset builder (outside the safety contract unless the
universe is `2^64`, which is not a `usize`) the code overflows in `index + self.increment`, the model stores `2^64` -/
theorem spb_set_unchecked_ne_next :
    let b : SparseBuilder := ⟨U64 - 1, ⟨1, 64, ⟨64, #[0]⟩⟩, ⟨2, #[0]⟩, 0, 0, 1⟩
    gen_SparseBuilder_set_unchecked .checked b (U64 - 1) = fault (.panic .overflow) ∧
    (b.setUnchecked (U64 - 1)).toOption.map (·.next) = some U64 := by
  decide +kernel

/-- `set_unchecked` on reachable builder states within the safety contract (not full, index in the universe) -/
theorem spb_set_unchecked_eq_of_inv (m : Mode) (b : SparseBuilder) (i : Nat) (h : BuildersProofs.SbInv b)
    (hl : b.len < b.low.len) (hi : i < b.univ) (hu : b.univ + b.increment ≤ U64)
    (hb : b.low.len * b.low.width < U64) (hhl : b.high.len < U64) :
    gen_SparseBuilder_set_unchecked m b i = b.setUnchecked i := by
  have := BuildersProofs.hi_lt_high_len h hi hl
  exact spb_set_unchecked_eq m b i h.low_wf hb (by omega) (by omega) (Or.inl hl)

/-- `try_set`.  The checks are the same on both sides; `set_unchecked` is reached with `len ≠ low.len` and
`next ≤ index < univ`, so the hypotheses of `spb_set_unchecked_eq` are only needed there. -/
theorem spb_try_set_eq (m : Mode) (b : SparseBuilder) (i : Nat)
    (hwf : b.low.WF) (hb : b.low.len * b.low.width < U64)
    (hh : i >>> b.low.width + b.len < U64) (hu : b.univ + b.increment ≤ U64)
    (hord : b.len ≤ b.low.len ∨ (i >>> b.low.width + b.len) / 64 < b.high.data.size) :
    gen_SparseBuilder_try_set m b i = b.trySet i := by
  unfold gen_SparseBuilder_try_set SparseBuilder.trySet
  have eta : (⟨b.univ, b.low, b.high, b.len, b.next, b.increment⟩ : SparseBuilder) = b := by cases b; rfl
  simp only [eta, spb_is_full_eq, Bind.bind, Outcome.bind, Pure.pure]
  by_cases hf : b.isFull = true
  · simp [hf]
  · by_cases h1 : i < b.next
    · by_cases h0 : b.increment = 0 <;> simp [hf, h1, h0]
    · by_cases h2 : i ≥ b.univ
      · simp [hf, h1, h2]
      · have hne : b.len ≠ b.low.len := by
          simpa [SparseBuilder.isFull, SparseBuilder.capacity] using hf
        have hord' : b.len < b.low.len ∨ (i >>> b.low.width + b.len) / 64 < b.high.data.size := by
          rcases hord with h | h
          · exact Or.inl (by omega)
          · exact Or.inr h
        simp only [hf, h1, h2, decide_false, if_false, Bool.false_eq_true,
          spb_set_unchecked_eq m b i hwf hb hh (by omega) hord']
        cases b.setUnchecked i with
        | fault f => rfl
        | ok b' => cases b'; rfl

/-- `try_set` on reachable builder states: no condition on the index -/
theorem spb_try_set_eq_of_inv (m : Mode) (b : SparseBuilder) (i : Nat) (h : BuildersProofs.SbInv b)
    (hu : b.univ + b.increment ≤ U64) (hb : b.low.len * b.low.width < U64) (hhl : b.high.len < U64) :
    gen_SparseBuilder_try_set m b i = b.trySet i := by
  by_cases hc : b.isFull = true ∨ i < b.next ∨ i ≥ b.univ
  · rw [BuildersProofs.trySet_reject_of b i hc]
    unfold gen_SparseBuilder_try_set
    have eta : (⟨b.univ, b.low, b.high, b.len, b.next, b.increment⟩ : SparseBuilder) = b := by cases b; rfl
    simp only [eta, spb_is_full_eq, Bind.bind, Outcome.bind, Pure.pure]
    by_cases hf : b.isFull = true
    · simp [hf]
    · by_cases h1 : i < b.next
      · by_cases h0 : b.increment = 0 <;> simp [hf, h1, h0]
      · have h2 : i ≥ b.univ := by
          rcases hc with h | h | h
          · exact absurd h hf
          · exact absurd h h1
          · exact h
        simp [hf, h1, h2]
  · have hf : b.isFull = false := by
      cases hb' : b.isFull
      · rfl
      · exact absurd (Or.inl hb') hc
    have hl : b.len < b.low.len := (BuildersProofs.not_isFull_iff h).mp hf
    have hi : i < b.univ := by omega
    have := BuildersProofs.hi_lt_high_len h hi hl
    exact spb_try_set_eq m b i h.low_wf hb (by omega) hu (Or.inl (by omega))

/-- `select`: unconditional (the model's `combine` follows the code at width 64 as well) -/
theorem sparse_select_eq (m : Mode) (s : Sparse) (r : Nat) :
    gen_SparseVector_select m s r = s.select m r := by
  unfold gen_SparseVector_select Sparse.select
  by_cases hr : r ≥ s.countOnes
  · simp [hr, Pure.pure]
  · simp only [hr, decide_false, if_false, Bool.false_eq_true, pos_eq, Bind.bind, Outcome.bind, Pure.pure]
    cases hp : s.pos m r with
    | fault f => rfl
    | ok p => simp only [combine_eq m s p]

theorem sparse_select_eq_of_encodes (m : Mode) {s : Sparse} {n w : Nat} {P : List Nat} (hs : s.Encodes n w P)
    (r : Nat) : gen_SparseVector_select m s r = s.select m r :=
  sparse_select_eq m s r

/-- on a vector that encodes a sorted list (`Sparse.Encodes`) the result is the specified one -/
theorem sparse_select_spec (m : Mode) {s : Sparse} {n w : Nat} {P : List Nat} (hs : s.Encodes n w P) (r : Nat) :
    gen_SparseVector_select m s r = ok (selectSet P r) := by
  rw [sparse_select_eq_of_encodes m hs r, select_ok hs m r]

end Sds.GenEq
