/-
Proofs/GenEqWM: the query functions of `wavelet_matrix.rs` (`start`, `contains`, `rank`, `inverse_select`, `select`,
`get`, `ValueIter::next`) and the default `predecessor` / `successor` of `ops::VectorIndex`, as TRANSLATED statement by
statement from the source (Generated/FnsWM.lean), are equal to the hand-written model of Model/WM.lean.

Items are `u64` words in the code and naturals in the model: the statements are about `BitVec.ofNat 64 value` with
`hv : value < U64`; results that carry an item (`inverse_select`, `get`) are the model's result with the item as a word.

Hypotheses (beyond `hv`):
* `hw : w.data.width ≤ 64` and `hs` (no level of length ≥ 2^64) where a level loop runs, as in GenEqLoop4.
* `inverse_select` / `get`: the item returned by `map_down` is looked up in `first` as a word; it is `< 2^width ≤ 2^64`
  (`mapDown_lt`, from the invariant of the level loop), so no hypothesis on it is needed.
* `select`: `start.checked_add(rank)?` (`checkedAdd`) is exactly the model's `if s + rank ≥ U64 then none`.
* `ValueIter::next`: `self.rank += 1` is a `usize` addition (`addM`), the model counts in `Nat`: `w.len < U64`
  (precisely: `rank < w.len → rank + 1 < U64`, `wmx_value_iter_next_eq'`).
* `predecessor`: `rank - 1` under `rank > 0` never underflows.
Sharpness: `wmx_start_hv_ne`, `wmx_value_iter_next_hlen_ne`, `wmx_rank_width_ne`; none is a divergence between the
code and the model on values that exist in Rust (`value : u64`, `len : usize`, `width ≤ 64`).
-/
import Sds.Generated.FnsWM
import Sds.Proofs.GenEqLoop4

namespace Sds.GenEq
open Sds Outcome Generated

theorem toNat_ofNat_of_lt {value : Nat} (hv : value < U64) : (BitVec.ofNat 64 value).toNat = value := by
  rw [BitVec.toNat_ofNat]
  exact Nat.mod_eq_of_lt (by rw [U64_eq] at hv; exact hv)

theorem mapDown_lt_U64 (m : Mode) (c : WMCore) (index i v : Nat) (hw : c.width ≤ 64)
    (h : c.mapDown m index = ok (some (i, v))) : v < U64 :=
  U64_eq ▸ Nat.lt_of_lt_of_le (mapDown_lt m c index i v hw h) (Nat.pow_le_pow_right (by decide) hw)

/-! ### wavelet_matrix.rs -/

theorem wmx_start_eq (m : Mode) (w : WM) (value : Nat) (hv : value < U64) :
    gen_WaveletMatrix_start m w (BitVec.ofNat 64 value) = w.start value := by
  unfold gen_WaveletMatrix_start WM.start
  rw [toNat_ofNat_of_lt hv]

theorem wmx_contains_eq (m : Mode) (w : WM) (value : Nat) (hv : value < U64) :
    gen_WaveletMatrix_contains m w (BitVec.ofNat 64 value) = w.contains value := by
  unfold gen_WaveletMatrix_contains WM.contains
  rw [wmx_start_eq m w value hv, toNat_ofNat_of_lt hv]
  by_cases h : value < w.first.len
  · simp only [h, decide_true, if_true, Bind.bind]
  · simp only [h, decide_false, Bool.false_eq_true, if_false]
    rfl

theorem wmx_rank_eq (m : Mode) (w : WM) (index value : Nat) (hv : value < U64) (hw : w.data.width ≤ 64)
    (hs : RankFits w.data) :
    gen_WaveletMatrix_rank m w index (BitVec.ofNat 64 value) = w.rank m index value := by
  unfold gen_WaveletMatrix_rank WM.rank
  rw [wmx_contains_eq m w value hv, wmx_start_eq m w value hv, wm_map_down_with_eq m w.data index value hw hs]

theorem wmx_select_eq (m : Mode) (w : WM) (rank value : Nat) (hv : value < U64) (hw : w.data.width ≤ 64) :
    gen_WaveletMatrix_select m w rank (BitVec.ofNat 64 value) = w.select m rank value := by
  unfold gen_WaveletMatrix_select WM.select
  rw [wmx_contains_eq m w value hv, wmx_start_eq m w value hv]
  simp only [Bind.bind]
  cases w.contains value with
  | fault f => rfl
  | ok b =>
    cases b with
    | false => rfl
    | true =>
      simp only [Outcome.bind, Bool.not_true, Bool.false_eq_true, if_false]
      cases w.start value with
      | fault f => rfl
      | ok s =>
        simp only [checkedAdd]
        by_cases h : s + rank < U64
        · have h' : ¬ s + rank ≥ U64 := Nat.not_le_of_lt h
          simp only [h, h', if_true, if_false, wm_map_up_with_eq m w.data (s + rank) value hw]
        · have h' : s + rank ≥ U64 := Nat.le_of_not_lt h
          simp only [h, h', if_true, if_false]

theorem wmx_inverse_select_eq (m : Mode) (w : WM) (index : Nat) (hw : w.data.width ≤ 64)
    (hs : RankFits w.data) :
    gen_WaveletMatrix_inverse_select m w index =
      (w.inverseSelect m index).bind (fun r => ok (r.map (fun p => (p.1, BitVec.ofNat 64 p.2)))) := by
  unfold gen_WaveletMatrix_inverse_select WM.inverseSelect
  rw [wm_map_down_eq m w.data index hw hs]
  simp only [Bind.bind]
  cases h : w.data.mapDown m index with
  | fault f => rfl
  | ok o =>
    cases o with
    | none => rfl
    | some p =>
      obtain ⟨i, v⟩ := p
      have hv := mapDown_lt_U64 m w.data index i v hw h
      simp only [Outcome.bind, Option.map, wmx_start_eq m w v hv]
      cases w.start v with
      | fault f => rfl
      | ok s => simp only []; cases subM m i s <;> rfl

theorem wmx_get_eq (m : Mode) (w : WM) (index : Nat) (hw : w.data.width ≤ 64)
    (hs : RankFits w.data) :
    gen_WaveletMatrix_get m w index = (w.get m index).bind (fun v => ok (BitVec.ofNat 64 v)) := by
  unfold gen_WaveletMatrix_get WM.get
  rw [wmx_inverse_select_eq m w index hw hs]
  simp only [Bind.bind]
  cases w.inverseSelect m index with
  | fault f => rfl
  | ok o => cases o <;> rfl

/-- `ValueIter::next`: `self.rank += 1` is a `usize` addition, executed only when `rank < len` -/
theorem wmx_value_iter_next_eq' (m : Mode) (w : WM) (value rank : Nat) (hv : value < U64) (hw : w.data.width ≤ 64)
    (hr : rank < w.len → rank + 1 < U64) :
    gen_ValueIter_next m w (BitVec.ofNat 64 value, rank) =
      (w.valueIterNext m value rank).bind (fun r => ok (r.1, (BitVec.ofNat 64 value, r.2))) := by
  unfold gen_ValueIter_next WM.valueIterNext
  simp only [wmx_select_eq m w rank value hv hw]
  by_cases h : rank ≥ w.len
  · simp only [h, decide_true, if_true]; rfl
  · simp only [h, decide_false, Bool.false_eq_true, if_false, Bind.bind]
    cases w.select m rank value with
    | fault f => rfl
    | ok o =>
      cases o with
      | none => rfl
      | some idx =>
        simp only [Outcome.bind, addM_ok (m := m) (a := rank) (b := 1) (hr (Nat.lt_of_not_le h))]
        rfl

theorem wmx_value_iter_next_eq (m : Mode) (w : WM) (value rank : Nat) (hv : value < U64) (hw : w.data.width ≤ 64)
    (hlen : w.len < U64) :
    gen_ValueIter_next m w (BitVec.ofNat 64 value, rank) =
      (w.valueIterNext m value rank).bind (fun r => ok (r.1, (BitVec.ofNat 64 value, r.2))) :=
  wmx_value_iter_next_eq' m w value rank hv hw (fun h => Nat.lt_of_le_of_lt h hlen)

/-! ### default methods of ops.rs -/

theorem wmx_predecessor_eq (m : Mode) (w : WM) (index value : Nat) (hv : value < U64) (hw : w.data.width ≤ 64)
    (hs : RankFits w.data) :
    gen_VectorIndex_predecessor m w index (BitVec.ofNat 64 value) = w.predecessor m index value := by
  unfold gen_VectorIndex_predecessor WM.predecessor
  rw [wmx_rank_eq m w _ value hv hw hs]
  simp only [Bind.bind]
  cases w.rank m (BitVector.satAdd index 1) value with
  | fault f => rfl
  | ok r =>
    simp only [Outcome.bind]
    by_cases h : r > 0
    · simp only [h, decide_true, if_true, subM_ok (m := m) (a := r) (b := 1) h]
    · simp only [h, decide_false, Bool.false_eq_true, if_false]; rfl

theorem wmx_successor_eq (m : Mode) (w : WM) (index value : Nat) (hv : value < U64) (hw : w.data.width ≤ 64)
    (hs : RankFits w.data) :
    gen_VectorIndex_successor m w index (BitVec.ofNat 64 value) = w.successor m index value := by
  unfold gen_VectorIndex_successor WM.successor
  rw [wmx_rank_eq m w index value hv hw hs]
  simp only [Bind.bind]
  cases w.rank m index value <;> rfl

/-! ### the hypotheses are needed -/

/-- `hv` is needed (the statement is about the word `value mod 2^64`): with `value = 2^64` the code looks up the
offset of the word `0`, the model the offset of `2^64`.  Not a divergence: the argument of the Rust function IS a `u64`,
every `value < 2^64` is covered. -/
theorem wmx_start_hv_ne :
    let w : WM := ⟨1, ⟨#[]⟩, ⟨1, 64, ⟨64, #[0]⟩⟩⟩
    gen_WaveletMatrix_start .checked w (BitVec.ofNat 64 (2 ^ 64)) = ok 0 ∧
    w.start (2 ^ 64) = fault (.panic .assert) := by
  decide +kernel

/-- `hlen` of `wmx_value_iter_next_eq` is needed, but only violated by a matrix of length 2^64 (not a `usize`): at the
last rank `2^64 - 1` the code's `self.rank += 1` overflows (panic with overflow checks, 0 without), the model counts in
`Nat`.  The other hypotheses hold (`value = 0`, width 0). -/
theorem wmx_value_iter_next_hlen_ne :
    let w : WM := ⟨2 ^ 64, ⟨#[]⟩, ⟨1, 64, ⟨64, #[0]⟩⟩⟩
    gen_ValueIter_next .checked w (BitVec.ofNat 64 0, 2 ^ 64 - 1) = fault (.panic .overflow) ∧
    gen_ValueIter_next .wrapping w (BitVec.ofNat 64 0, 2 ^ 64 - 1) =
      ok (some (2 ^ 64 - 1, 2 ^ 64 - 1), (BitVec.ofNat 64 0, 0)) ∧
    w.valueIterNext .checked 0 (2 ^ 64 - 1) = ok (some (2 ^ 64 - 1, 2 ^ 64 - 1), 2 ^ 64) ∧
    w.data.width ≤ 64 := by
  decide +kernel

/-- `hw` is needed (inherited from the level loops, `wm_map_down_with_width_ne`): with 65 empty levels `bit_value(0)`
is `1 << 64`.  No such matrix is loaded or built. -/
theorem wmx_rank_width_ne :
    let w : WM := ⟨1, ⟨Array.replicate 65 { ones := 0, data := ⟨0, #[]⟩ }⟩, ⟨1, 64, ⟨64, #[0]⟩⟩⟩
    gen_WaveletMatrix_rank .checked w 0 (BitVec.ofNat 64 0) = fault (.panic .overflow) ∧
    w.rank .checked 0 0 = ok 0 := by
  decide +kernel

end Sds.GenEq
