/-
Proofs/GenEqLoop3: the internals of `rl_vector.rs` (`blocks`, `ones_after`, `decode`, `run_iter`, `iter_for_block`,
`block_for`) as TRANSLATED statement by statement from the source (Generated/FnsLoop.lean; loops are
`loopM fuel step init` over the control type `Ctl`) are equal to the hand-written model definitions of Model/RL.lean
(`RL.blocks`, `RL.onesAfter`, `RL.decode` = `decodeLoop … 23 …`, `RL.runIter`, `RL.iterForBlock`, `RL.blockFor`).

Method: each loop with the statements after it is the model recursion on the same fuel (`loopM_ind`; for `decode`
`loopM_ind_fuel`, the hypothesis being one on what the model answers from a state with the fuel left).

Results and hypotheses:
* `rl_blocks_eq`, `rl_run_iter_eq`: unconditional.
* `rl_ones_after_eq`: `block + 1 < 2^64` and `samples.len ≤ 2^64`.  The first is SHARP on a representable input
  (`rl_ones_after_ne`: `block = usize::MAX`: the code computes `block + 1` in `usize`: panic / wrap to 0 and a read of
  `samples[0]`; the model compares in `Nat` and answers `ones`); every caller passes `block < blocks`, so this is not
  reachable through the public API.
* `rl_iter_for_block_eq`: `block * 64 < 2^64` (sharp, `rl_iter_for_block_ne`; implied by `block < blocks` and
  `blocks = ⌈data.len / 64⌉`, `data.len < 2^64`: `rl_iter_for_block_eq_of_lt`).
* `rl_block_for_eq`: `low ≤ high` (needed, `rl_block_for_ne`: a `usize` subtraction; preserved by the loop since
  `low ≤ mid ≤ high`) and `high < 2^64` (representation bound; the midpoint is `≤ high`; `rl_block_for_high_ne`).
* `rl_decode_eq`: `data.len < 2^64` (representation bound: `offset + 1` after a successful read; `rl_decode_len_ne`) and,
  IN WRAPPING MODE ONLY, "the code at `offset` is not a 23-unit code" (`¬ units23 v offset`).  This is a GENUINE
  DIVERGENCE between the model and the code: at the 23rd unit the shift is 66; with overflow checks both sides panic
  (`overflow`), without them the model has an explicit `fault (.panic .other)` while the real code (`x << shift` in a
  release build) takes the shift modulo 64 and goes on.  `rl_decode_eq_iff` shows that this is the ONLY difference
  (`rl_decode_eq'`: the equation holds iff the model does not answer `panic other`; `decode_wrapping_other_iff`:
  it does exactly on 23-unit codes; `rl_decode_wrapping_ne_other`: the code never does), `rl_decode_ne_23` is a
  concrete witness.  The builder never writes such a code (`rl_decode_encode`: at most 22 units for a 64-bit value),
  `load` does not validate `data`, so the input is reachable from a crafted file in a release build.
  The order of `offset + 1` (before the shift in the code, at the end in the model) is immaterial: the read succeeded,
  so `offset < data.len < 2^64`.
-/
import Sds.Generated.FnsLoop
import Sds.Proofs.GenFns
import Sds.Proofs.GenEqIdx
import Sds.Proofs.GenEqVec
import Sds.Proofs.RL

namespace Sds.GenEq
open Sds Outcome Generated


private theorem loopM_congr3 {σ ρ : Type} {step step' : σ → Outcome (Ctl σ ρ)} (h : ∀ s, step s = step' s)
    (fuel : Nat) (s : σ) : loopM fuel step s = loopM fuel step' s := by
  rw [show step = step' from funext h]

/-! ### `blocks`, `ones_after`, `run_iter`, `iter_for_block` -/

theorem rl_blocks_eq (m : Mode) (v : RL) : gen_RLVector_blocks m v = ok v.blocks := by
  unfold gen_RLVector_blocks RL.blocks
  rw [gDiv_ok _ (by decide)]

theorem rl_ones_after_eq' (m : Mode) (v : RL) (block : Nat) (hb : block + 1 < U64)
    (hs : block + 1 < v.blocks → 2 * (block + 1) < U64) :
    gen_RLVector_ones_after m v block = v.onesAfter block := by
  unfold gen_RLVector_ones_after RL.onesAfter
  rw [rl_blocks_eq]
  simp only [Bind.bind, Outcome.bind, addM_ok hb]
  by_cases h : block + 1 < v.blocks
  · simp only [h, decide_true, if_true, mulM_ok (hs h)]
  · simp only [h, decide_false, Bool.false_eq_true, if_false]; rfl

theorem rl_ones_after_eq (m : Mode) (v : RL) (block : Nat) (hb : block + 1 < U64) (hs : v.samples.len ≤ U64) :
    gen_RLVector_ones_after m v block = v.onesAfter block :=
  rl_ones_after_eq' m v block hb (fun h => by unfold RL.blocks at h; omega)

theorem rl_run_iter_eq (m : Mode) (v : RL) : gen_RLVector_run_iter m v = v.runIter := by
  unfold gen_RLVector_run_iter RL.runIter
  rw [rl_ones_after_eq' m v 0 (by decide) (fun _ => by decide)]

theorem rl_iter_for_block_eq (m : Mode) (v : RL) (block : Nat) (hb : block * 64 < U64) :
    gen_RLVector_iter_for_block m v block = v.iterForBlock block := by
  have hU := U64_val
  unfold gen_RLVector_iter_for_block RL.iterForBlock
  have h : 2 * block + 1 < U64 ∧ block + 1 < U64 ∧ 2 * (block + 1) < U64 := by omega
  rw [rl_ones_after_eq' m v block h.2.1 (fun _ => h.2.2)]
  simp only [Bind.bind, Outcome.bind, mulM_ok (Nat.lt_of_succ_lt h.1), addM_ok h.1, mulM_ok hb]
  by_cases h0 : v.samples.len = 0
  · simp only [h0, decide_true, if_true]
  · simp only [h0, decide_false, Bool.false_eq_true, if_false]

/-- `ones_after` for a block of the vector (what every caller passes) -/
theorem rl_ones_after_eq_of_lt (m : Mode) (v : RL) (block : Nat) (hs : v.samples.len ≤ U64) (hb : block < v.blocks) :
    gen_RLVector_ones_after m v block = v.onesAfter block := by
  have hU := U64_eq
  exact rl_ones_after_eq m v block (by unfold RL.blocks at hb; omega) hs

/-- `iter_for_block` for a block of a vector whose samples cover the data (`blocks = ⌈data.len / 64⌉`, checked by `load`) -/
theorem rl_iter_for_block_eq_of_lt (m : Mode) (v : RL) (block : Nat) (hd : v.data.len ≤ U64)
    (hbl : v.blocks = (v.data.len + 63) / 64) (hb : block < v.blocks) :
    gen_RLVector_iter_for_block m v block = v.iterForBlock block :=
  rl_iter_for_block_eq m v block (by rw [hbl] at hb; omega)

/-! ### `block_for` -/

/-- the midpoint of the binary search lies strictly inside a range of more than one block … -/
theorem mid_bounds (lo hi : Nat) (h : hi - lo > 1) : lo < lo + (hi - lo) / 2 ∧ lo + (hi - lo) / 2 < hi := by omega

/-- … and halves it -/
theorem mid_halves (lo hi k : Nat) (h : hi - lo ≤ 2 * k) :
    hi - (lo + (hi - lo) / 2) ≤ k ∧ lo + (hi - lo) / 2 - lo ≤ k := by omega

/-- `RLVector::block_for` (the binary search over the samples), under the invariant `low ≤ high < 2^64` -/
theorem rl_block_for_eq (m : Mode) (low high value : Nat) (f : Nat → Outcome Nat) (hl : low ≤ high) (hh : high < U64) :
    gen_RLVector_block_for m low high value f = RL.blockFor f value (high + 1) low high := by
  unfold gen_RLVector_block_for
  refine loopM_ind _ _ (fun n (s : Nat × Nat) => RL.blockFor f value n s.2 s.1) (fun s => s.2 ≤ s.1 ∧ s.1 < U64)
    (fun _ => rfl) (fun n s hs R hR => ?_) _ (high, low) ⟨hl, hh⟩
  obtain ⟨high, low⟩ := s
  obtain ⟨hl, hh⟩ := hs
  have h2 : low + (high - low) / 2 < U64 :=
    Nat.lt_of_le_of_lt (Nat.le_trans (Nat.add_le_add_left (Nat.div_le_self _ 2) low)
      (Nat.le_of_eq (Nat.add_sub_cancel' hl))) hh
  rw [RL.blockFor]
  dsimp only
  rw [subM_bind hl]
  by_cases hgt : high - low > 1
  · obtain ⟨h1, h3⟩ := mid_bounds low high hgt
    rw [if_pos (decide_eq_true hgt), if_pos hgt, subM_bind hl, gDiv_bind _ (by decide), addM_bind h2]
    simp only [bind_assoc]
    refine bind_congr fun c => ?_
    by_cases hc : c ≤ value
    · rw [if_pos (decide_eq_true hc), if_pos hc]; exact hR _ ⟨Nat.le_of_lt h3, hh⟩
    · rw [if_neg (mt of_decide_eq_true hc), if_neg hc]; exact hR _ ⟨Nat.le_of_lt h1, Nat.lt_trans h3 hh⟩
  · rw [if_neg (mt of_decide_eq_true hgt), if_neg hgt]; rfl

/-! ### `decode` -/

theorem decodeLoop_succ (m : Mode) (v : RL) (n offset value shift : Nat) :
    RL.decodeLoop m v (n + 1) offset value shift =
      (v.data.get offset).bind (fun code =>
        if shift ≥ 64 then (match m with | .checked => fault (.panic .overflow) | .wrapping => fault (.panic .other))
        else (addM m value (((code.toNat % 8) <<< shift) % U64)).bind (fun value' =>
          if code.toNat / 8 % 2 = 0 then ok (value', offset + 1)
          else RL.decodeLoop m v n (offset + 1) value' (shift + 3))) := rfl

theorem word_and7_shl (c : Word) (s : Nat) : ((c &&& (7 : Word)) <<< s).toNat = ((c.toNat % 8) <<< s) % U64 := by
  rw [BitVec.toNat_shiftLeft, BitVec.toNat_and, U64_eq]
  show (c.toNat &&& 7) <<< s % 2 ^ 64 = _
  rw [and_7]

private theorem nat_and8 (x : Nat) : x &&& 8 = 0 ↔ x / 8 % 2 = 0 := by
  have h8 : (8 : Nat) = 2 ^ 3 := rfl
  have ht : x.testBit 3 = decide (x / 8 % 2 = 1) := by rw [Nat.testBit_eq_decide_div_mod_eq]
  constructor
  · intro h
    have := congrArg (fun y => Nat.testBit y 3) h
    simp only [Nat.testBit_and, h8, Nat.testBit_two_pow, Nat.zero_testBit, decide_true, Bool.and_true] at this
    rw [this] at ht
    simp at ht; omega
  · intro h
    apply Nat.eq_of_testBit_eq
    intro i
    rw [Nat.testBit_and, h8, Nat.testBit_two_pow, Nat.zero_testBit]
    by_cases hi : 3 = i
    · subst hi; rw [ht]; simp; omega
    · simp [hi]

theorem word_and8 (c : Word) : (c &&& (8 : Word)) = (0 : Word) ↔ c.toNat / 8 % 2 = 0 := by
  rw [← BitVec.toNat_inj, BitVec.toNat_and]
  exact nat_and8 c.toNat

/-- `RLVector::decode`, sharpest form: with overflow checks the generated code IS the model; without them it is the
model unless the model takes its `shift ≥ 64` branch (`fault (.panic .other)`), which the code does not have. -/
theorem rl_decode_eq' (m : Mode) (v : RL) (offset : Nat) (hd : v.data.len < U64)
    (h : m = .wrapping → v.decode m offset ≠ fault (.panic .other)) :
    gen_RLVector_decode m v offset = v.decode m offset := by
  unfold gen_RLVector_decode
  refine loopM_ind_fuel _ _ (fun n (s : Nat × Nat × Nat) => RL.decodeLoop m v n s.1 s.2.2 s.2.1)
    (fun n s => m = .wrapping → RL.decodeLoop m v n s.1 s.2.2 s.2.1 ≠ fault (.panic .other)) (fun _ => rfl)
    (fun n s hne R hR => ?_) 23 (offset, 0, 0) h
  obtain ⟨offset, shift, value⟩ := s
  dsimp only at hne ⊢
  rw [decodeLoop_succ] at hne ⊢
  rw [if_pos rfl]
  by_cases hoff : offset < v.data.len
  · rw [IntVec.get_ok _ _ hoff, obind_ok] at hne ⊢
    rw [bind_ok, addM_bind (Nat.lt_of_le_of_lt (Nat.succ_le_of_lt hoff) hd)]
    by_cases hs : shift ≥ 64
    · rw [if_pos hs] at hne ⊢
      cases m with
      | checked => rw [shlW, shAmt, if_neg (Nat.not_lt_of_le hs)]; rfl
      | wrapping => exact absurd rfl (hne rfl)
    · rw [if_neg hs] at hne ⊢
      rw [shlW_bind m _ (Nat.lt_of_not_le hs), word_and7_shl]
      cases ha : addM m value ((((v.data.getRaw offset).toNat % 8) <<< shift) % U64) with
      | fault e => rfl
      | ok value' =>
        rw [ha, obind_ok] at hne
        rw [bind_ok, obind_ok, addM_bind (Nat.lt_trans (Nat.add_lt_add_right (Nat.lt_of_not_le hs) 3) (by decide))]
        by_cases hc : (v.data.getRaw offset).toNat / 8 % 2 = 0
        · rw [if_pos (decide_eq_true ((word_and8 _).2 hc)), if_pos hc]; rfl
        · rw [if_neg hc] at hne
          rw [if_neg (mt of_decide_eq_true (mt (word_and8 _).1 hc)), if_neg hc]
          exact hR _ hne
  · rw [IntVec.get_fault _ _ (Nat.le_of_not_lt hoff)]; rfl

theorem rl_decode_eq_checked (v : RL) (offset : Nat) (hd : v.data.len < U64) :
    gen_RLVector_decode .checked v offset = v.decode .checked offset :=
  rl_decode_eq' .checked v offset hd (fun h => by cases h)

/-- the unit stream at `offset` holds a 23rd code unit after 22 continuation units (flag `8` set): an encoding that
`RLBuilder.encode` never produces for a 64-bit value (at most 22 units) -/
def units23 (v : RL) (offset : Nat) : Prop :=
  offset + 22 < v.data.len ∧ ∀ j, j < 22 → (v.data.getRaw (offset + j)).toNat / 8 % 2 = 1

instance (v : RL) (offset : Nat) : Decidable (units23 v offset) := by unfold units23; exact inferInstance

/-- in wrapping mode the model's `panic other` can only come from the `shift ≥ 64` test -/
theorem decodeLoop_other (v : RL) : ∀ fuel offset value shift,
    RL.decodeLoop .wrapping v fuel offset value shift = fault (.panic .other) →
    ∃ k, k < fuel ∧ 64 ≤ shift + 3 * k ∧ offset + k < v.data.len ∧
      ∀ j, j < k → (v.data.getRaw (offset + j)).toNat / 8 % 2 = 1 := by
  intro fuel
  induction fuel with
  | zero => intro offset value shift h; cases h
  | succ n ih =>
    intro offset value shift h
    rw [decodeLoop_succ] at h
    by_cases hoff : offset < v.data.len
    · rw [IntVec.get_ok _ _ hoff] at h
      simp only [Outcome.bind] at h
      by_cases hs : shift ≥ 64
      · exact ⟨0, Nat.succ_pos n, hs, hoff, fun j hj => absurd hj (Nat.not_lt_zero j)⟩
      · simp only [hs, if_false] at h
        obtain ⟨value', ha⟩ := addM_wrapping_ok value ((((v.data.getRaw offset).toNat % 8) <<< shift) % U64)
        rw [ha] at h
        simp only [] at h
        by_cases hc : (v.data.getRaw offset).toNat / 8 % 2 = 0
        · simp only [hc, if_true] at h; cases h
        · simp only [hc, if_false] at h
          obtain ⟨k, h1, h2, h3, h4⟩ := ih _ _ _ h
          refine ⟨k + 1, Nat.succ_lt_succ h1, by omega, by omega, fun j hj => ?_⟩
          cases j with
          | zero => exact Nat.mod_two_ne_zero.1 hc
          | succ j =>
            have := h4 j (Nat.lt_of_succ_lt_succ hj)
            rw [show offset + (j + 1) = offset + 1 + j from Nat.add_right_comm offset j 1]; exact this
    · have hg : v.data.get offset = fault (.panic .assert) := by simp [IntVec.get, hoff]
      rw [hg] at h
      cases h

/-- … and it does come once `k` continuation units lead to a readable unit at a shift `≥ 64` -/
theorem decodeLoop_other_of (v : RL) : ∀ k fuel offset value shift,
    k < fuel → 64 ≤ shift + 3 * k → shift + 3 * k < 67 → offset + k < v.data.len →
    (∀ j, j < k → (v.data.getRaw (offset + j)).toNat / 8 % 2 = 1) →
    RL.decodeLoop .wrapping v fuel offset value shift = fault (.panic .other) := by
  intro k
  induction k with
  | zero =>
    intro fuel offset value shift hf h1 _ h3 _
    obtain ⟨n, rfl⟩ : ∃ n, fuel = n + 1 := ⟨fuel - 1, (Nat.succ_pred_eq_of_pos hf).symm⟩
    rw [decodeLoop_succ, IntVec.get_ok _ _ (show offset < v.data.len from h3)]
    simp only [Outcome.bind, show shift ≥ 64 from h1, if_true]
  | succ k ih =>
    intro fuel offset value shift hf h1 h2 h3 h4
    obtain ⟨n, rfl⟩ : ∃ n, fuel = n + 1 :=
      ⟨fuel - 1, (Nat.succ_pred_eq_of_pos (Nat.lt_of_le_of_lt (Nat.zero_le _) hf)).symm⟩
    rw [decodeLoop_succ, IntVec.get_ok _ _ (Nat.lt_of_le_of_lt (Nat.le_add_right _ _) h3)]
    obtain ⟨value', ha⟩ := addM_wrapping_ok value ((((v.data.getRaw offset).toNat % 8) <<< shift) % U64)
    have hc := h4 0 (Nat.succ_pos k)
    rw [Nat.add_zero] at hc
    simp only [Outcome.bind, show ¬ shift ≥ 64 by omega, if_false, ha, hc]
    simp only [show ¬ (1 = 0) by decide, if_false]
    exact ih n (offset + 1) value' (shift + 3) (Nat.lt_of_succ_lt_succ hf) (by omega) (by omega) (by omega) (fun j hj => by
      have := h4 (j + 1) (Nat.succ_lt_succ hj)
      rw [show offset + 1 + j = offset + (j + 1) from (Nat.add_right_comm offset j 1).symm]; exact this)

/-- the model's extra panic (wrapping mode) is exactly the 23-unit situation -/
theorem decode_wrapping_other_iff (v : RL) (offset : Nat) :
    v.decode .wrapping offset = fault (.panic .other) ↔ units23 v offset := by
  constructor
  · intro h
    obtain ⟨k, h1, h2, h3, h4⟩ := decodeLoop_other v 23 offset 0 0 h
    have hk : k = 22 := by omega
    subst hk
    exact ⟨h3, h4⟩
  · intro ⟨h3, h4⟩
    exact decodeLoop_other_of v 22 23 offset 0 0 (by omega) (by omega) (by omega) h3 h4

/-- `RLVector::decode`: the generated code is the model whenever, in wrapping mode, the code at `offset` is not a
23-unit code.  (With overflow checks no hypothesis on the stream is needed.) -/
theorem rl_decode_eq (m : Mode) (v : RL) (offset : Nat) (hd : v.data.len < U64)
    (h : m = .wrapping → ¬ units23 v offset) :
    gen_RLVector_decode m v offset = v.decode m offset :=
  rl_decode_eq' m v offset hd (fun hm => by subst hm; rw [Ne, decode_wrapping_other_iff]; exact h rfl)

/-- a stored code of a 64-bit value (at most 22 units) is decoded by the generated code as by the model, in both modes -/
theorem rl_decode_encode (m : Mode) (v : RL) (o x : Nat) (rest : List Nat) (hd : v.data.len < U64) (hx : x < 2 ^ 64)
    (h : v.data.items.drop o = RLBuilder.encodeUnits 23 x ++ rest) :
    gen_RLVector_decode m v o = ok (x, o + RLBuilder.codeLen x) := by
  have hm := RL.decode_encode m v o x rest hx h
  rw [rl_decode_eq' m v o hd (fun _ => by rw [hm]; intro hc; cases hc), hm]

/-! #### the divergence on 23-unit codes (wrapping mode) -/

theorem shlW_wrapping_ok (w : Word) (k : Nat) : ∃ r, shlW .wrapping w k = ok r := by
  unfold shlW shAmt; split <;> exact ⟨_, rfl⟩

/-- the real code never panics with the model's `other`: in wrapping mode `x << shift` masks the shift, and every
other operation of the loop body succeeds except the bounds assertion of `get` -/
theorem rl_decode_wrapping_ne_other (v : RL) (offset : Nat) :
    gen_RLVector_decode .wrapping v offset ≠ fault (.panic .other) := by
  unfold gen_RLVector_decode
  refine loopM_ne_fault (e := .panic .other) _ _ nofun (fun s => ?_) (fun c => ?_) 23 _
  · obtain ⟨offset, shift, value⟩ := s
    dsimp only
    rw [if_pos rfl]
    by_cases hoff : offset < v.data.len
    · obtain ⟨o', h1⟩ := addM_wrapping_ok offset 1
      obtain ⟨w, h2⟩ := shlW_wrapping_ok (v.data.getRaw offset &&& 7) shift
      obtain ⟨v', h3⟩ := addM_wrapping_ok value w.toNat
      obtain ⟨s', h4⟩ := addM_wrapping_ok shift 3
      rw [IntVec.get_ok _ _ hoff, bind_ok, h1, bind_ok, h2, bind_ok, h3, bind_ok, h4, bind_ok]
      split <;> nofun
    · rw [IntVec.get_fault _ _ (Nat.le_of_not_lt hoff)]; nofun
  · cases c <;> nofun

/-- DIVERGENCE, sharpness of the hypothesis of `rl_decode_eq`: on a 23-unit code in wrapping mode the model panics
(`other`), the generated (= real) code goes on with the shift taken modulo 64. -/
theorem rl_decode_ne (v : RL) (offset : Nat) (h : units23 v offset) :
    v.decode .wrapping offset = fault (.panic .other) ∧
    gen_RLVector_decode .wrapping v offset ≠ v.decode .wrapping offset := by
  have hm := (decode_wrapping_other_iff v offset).2 h
  exact ⟨hm, by rw [hm]; exact rl_decode_wrapping_ne_other v offset⟩

/-- hence, for `data.len < 2^64`: generated = model  ⟺  checked mode or no 23-unit code at `offset` -/
theorem rl_decode_eq_iff (m : Mode) (v : RL) (offset : Nat) (hd : v.data.len < U64) :
    gen_RLVector_decode m v offset = v.decode m offset ↔ (m = .wrapping → ¬ units23 v offset) := by
  constructor
  · intro he hm hu
    subst hm
    exact (rl_decode_ne v offset hu).2 he
  · exact rl_decode_eq m v offset hd

/-! ### the hypotheses are needed: concrete witnesses -/

/-- 22 continuation units `0xF` and a final unit `1` (a 23-unit code; `RLBuilder.encode` emits at most 22 units for a
64-bit value, but `load` does not validate `data`) -/
def rl23 : RL := { (default : RL) with data := IntVec.ofList 4 (List.replicate 22 15 ++ [1]) }

/-- 23 continuation units -/
def rl23c : RL := { (default : RL) with data := IntVec.ofList 4 (List.replicate 23 15) }

/-- DIVERGENCE (wrapping mode, 23-unit code): the model panics at the 23rd unit (`shift = 66 ≥ 64`); the code shifts by
`66 % 64 = 2`, adds `1 <<< 2` to `2^64 - 1` with wrap-around and returns `(3, 23)`.  With 23 continuation units the
code reads on (here: past the fuel of the translated loop; the real loop runs to the end of the data and panics in
`get`).  With overflow checks both sides panic with `overflow`. -/
theorem rl_decode_ne_23 :
    units23 rl23 0 ∧
    gen_RLVector_decode .wrapping rl23 0 = ok (3, 23) ∧
    rl23.decode .wrapping 0 = fault (.panic .other) ∧
    gen_RLVector_decode .checked rl23 0 = fault (.panic .overflow) ∧
    rl23.decode .checked 0 = fault (.panic .overflow) ∧
    gen_RLVector_decode .wrapping rl23c 0 = fault .fuel ∧
    rl23c.decode .wrapping 0 = fault (.panic .other) := by
  decide +kernel

/-- `hd` of `rl_decode_eq` is sharp, but only outside the representable range: an `IntVec` header claiming
`len = 2^64 + 1` (no such `Vec` exists) lets `offset + 1` overflow after a successful read at `offset = 2^64 - 1`. -/
theorem rl_decode_len_ne :
    let v : RL := { (default : RL) with data := ⟨U64 + 1, 4, ⟨0, #[]⟩⟩ }
    gen_RLVector_decode .checked v (U64 - 1) = fault (.panic .overflow) ∧
    gen_RLVector_decode .wrapping v (U64 - 1) = ok (0, 0) ∧
    v.decode .checked (U64 - 1) = ok (0, U64) := by
  decide

/-- `hb` of `rl_ones_after_eq` is sharp: for `block = usize::MAX` the code computes `block + 1` as a `usize` (panic with
overflow checks, `0` without, and then reads `samples[0]`), the model compares `2^64 < blocks` in `Nat` and returns
`ones`.  All callers pass `block < blocks`. -/
theorem rl_ones_after_ne :
    let v : RL := { (default : RL) with ones := 7, samples := IntVec.ofList 8 [5, 0, 9, 0] }
    gen_RLVector_ones_after .checked v (U64 - 1) = fault (.panic .overflow) ∧
    gen_RLVector_ones_after .wrapping v (U64 - 1) = ok 5 ∧
    v.onesAfter (U64 - 1) = ok 7 := by
  decide

/-- `hb` of `rl_iter_for_block_eq` is sharp: `block * 64` is a `usize` product in the code, a `Nat` product in the
model (`block = 2^58`). -/
theorem rl_iter_for_block_ne :
    let v : RL := default
    gen_RLVector_iter_for_block .checked v (2 ^ 58) = fault (.panic .overflow) ∧
    gen_RLVector_iter_for_block .wrapping v (2 ^ 58) = ok ⟨0, (0, 0), 0⟩ ∧
    v.iterForBlock (2 ^ 58) = ok ⟨U64, (0, 0), 0⟩ := by
  decide

/-- `hl` of `rl_block_for_eq` is needed: `high - low` is a `usize` subtraction in the code (panic / wrap-around and a
midpoint `2^63` for `low = 1`, `high = 0`), a truncated one in the model (which returns `low`). -/
theorem rl_block_for_ne :
    let f : Nat → Outcome Nat := fun _ => ok 0
    gen_RLVector_block_for .checked 1 0 0 f = fault (.panic .overflow) ∧
    gen_RLVector_block_for .wrapping 1 0 0 f = fault .fuel ∧
    RL.blockFor f 0 1 1 0 = ok 1 := by
  decide

/-- `hh` of `rl_block_for_eq` is needed, but only outside the representable range (`high = 2^65`): the midpoint
`low + (high - low) / 2 = 2^64` is a `usize` sum in the code. -/
theorem rl_block_for_high_ne :
    let f : Nat → Outcome Nat := fun _ => ok 1
    gen_RLVector_block_for .checked 0 (2 * U64) 0 f = fault (.panic .overflow) ∧
    gen_RLVector_block_for .wrapping 0 (2 * U64) 0 f = ok 0 ∧
    RL.blockFor f 0 (2 * U64 + 1) 0 (2 * U64) = ok 0 := by
  decide +kernel

end Sds.GenEq
