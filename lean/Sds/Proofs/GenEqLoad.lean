/-
Proofs/GenEqLoad: the `Serialize::load` functions as TRANSLATED from the source (Generated/FnsLoad.lean) are equal to the
`load` of the hand-written model codecs (Model/Ser, Model/Sparse, Model/WM) — under explicit hypotheses on the stream.

The model computes in `Nat`, the code in `usize`, and every operand is a word READ FROM THE STREAM.  Each hypothesis below
is a predicate on the stream that mirrors the loader ("whenever the loader gets this far, this sum/product of the values
read fits in a `usize`"), and for each there is a stream on which the equation fails without it (`…_load_ne_…`):

* `RawOk`      `len + 63 < 2^64`                          (`bits_to_words(len)`); necessary in the checked build
                                                           (`raw_load_eq_iff_checked`)
* `IntOk`      `RawOk` of the raw vector, `len * width < 2^64`
* (RankSupport: unconditional)
* `SelOk`      `IntOk` three times, `long.len + 4096 < 2^64`, `short.len + 64 < 2^64`
* `BvOk`       `RawOk`, and per PRESENT support `len + 512`, `ones + 4096`, `len - ones + 4096 < 2^64`; the last three
               hold of every stream shorter than `2^57` words (`BvOk_of_length`).  The optional supports are read by the
               generic `Option<T>::load`, i.e. by the model codecs, so no `SelOk` is needed here.
* `SparseOk`   `BvOk`, `IntOk`, `low.width ≤ 64` (`low_set(width)` is a table lookup), `low.len + buckets < 2^64`
* `WmOk`       `IntOk` of `first` (the levels are read by the model's `wmCoreC`)

All of them hold when every word of the stream is below `2^32` (`Small`; not `2^60`: `[2^32, 2^32, 0, 0]` is the
counterexample for `IntVector`), except `low.width ≤ 64`, which stays a hypothesis of `sparse_load_eq_small`.
-/
import Sds.Generated.FnsLoad
import Sds.Proofs.GenFns
import Sds.Proofs.Round
import Sds.Proofs.GenEqIdx
import Sds.Proofs.LoadWF

namespace Sds.GenEq
open Sds Outcome Generated

/-! ### the steps every loader is made of

Both sides of each equation read the same stream with the same loaders in the same order, and the hypothesis of an
equation mirrors the loader: what it asks of a field's stream, and what of the rest once the field is read.  So an
equation is proved by going through the fields in parallel, the hypothesis with them: a field that both sides read with
the same loader (`same_step`), a field whose translated loader is the codec's under its own hypothesis (`field_step`) —
nothing to show when the load fails —, a test of what was read (`ite_congr_neg`), an arithmetic step that the hypothesis
makes exact followed by a comparison (`test_eq`). -/

theorem same_step {α ρ β} {x : Outcome (α × ρ)} {Q : α → ρ → Prop} (h : ∀ a r, x = ok (a, r) → Q a r)
    {f f' : α × ρ → Outcome β} (hf : ∀ a r, x = ok (a, r) → Q a r → f (a, r) = f' (a, r)) : (x >>= f) = (x >>= f') :=
  bind_congr_ok fun p hp => hf p.1 p.2 hp (h p.1 p.2 hp)

theorem field_step {α β} {g : Elems → Outcome (α × Elems)} {c : Codec α} {P : Elems → Prop} {Q : α → Elems → Prop}
    {es : Elems} (hg : ∀ es, P es → g es = c.load es) (h : P es ∧ ∀ a r, c.load es = ok (a, r) → Q a r)
    {f f' : α × Elems → Outcome β} (hf : ∀ a r, c.load es = ok (a, r) → Q a r → f (a, r) = f' (a, r)) :
    (g es >>= f) = (c.load es >>= f') := by
  rw [hg es h.1]
  exact bind_congr_ok fun p hp => hf p.1 p.2 hp (h.2 p.1 p.2 hp)

/-- the translator writes a condition as a `Bool`, the model as a `Prop` -/
theorem ite_congr_neg {α} {c : Prop} {_ : Decidable c} {x a b : α} (h : ¬ c → a = b) :
    (if decide c = true then x else a) = if c then x else b := by
  by_cases hc : c
  · simp [hc]
  · simp [hc, h hc]

/-- `let t ← x; if t != a { return Err(InvalidData) }; k` when `x` does not fail -/
theorem test_eq {β} {x : Outcome Nat} {t : Nat} (hx : x = ok t) (a : Nat) (k : Outcome β) :
    (x >>= fun t' => if decide (t' ≠ a) = true then fault (.err .invalid) else k) =
      if t ≠ a then fault (.err .invalid) else k := by
  subst hx
  exact ite_congr_neg fun _ => rfl

/-! ### superblock counts -/

theorem sel_superblocks_eq (m : Mode) (s : SelSup) :
    gen_SelectSupport_superblocks m s = ok s.superblocks := rfl

theorem sel_long_superblocks_eq (m : Mode) (s : SelSup) (h : s.long.len + 4096 < U64) :
    gen_SelectSupport_long_superblocks m s = ok s.longSuperblocks := by
  unfold gen_SelectSupport_long_superblocks
  rw [bind_of_ok _ (addM_ok h), bind_of_ok _ (subM_ok (by omega)), Nat.add_sub_assoc (by decide)]
  rfl

theorem sel_short_superblocks_eq (m : Mode) (s : SelSup) (h : s.short.len + 64 < U64) :
    gen_SelectSupport_short_superblocks m s = ok s.shortSuperblocks := by
  unfold gen_SelectSupport_short_superblocks
  rw [bind_of_ok _ (addM_ok h), bind_of_ok _ (subM_ok (by omega)), Nat.add_sub_assoc (by decide)]
  rfl

/-! ### RawVector -/

def RawOk (es : Elems) : Prop :=
  ∀ len r data r', usizeC.load es = ok (len, r) → vecU64C.load r = ok (data, r') → len + 63 < U64

theorem raw_load_eq (m : Mode) (es : Elems) (h : RawOk es) :
    gen_RawVector_load m es = rawVecC.load es := by
  unfold gen_RawVector_load rawVecC
  refine bind_congr_ok ?_
  rintro ⟨len, r⟩ h1
  refine bind_congr_ok ?_
  rintro ⟨data, r'⟩ h2
  exact test_eq ((GenFns.bits_to_words_eq m len).trans (bitsToWords_ok m len (h _ _ _ _ h1 h2))) _ _

/-- without the hypothesis: a length word `≥ 2^64 − 63` followed by an empty word vector.  The checked build panics
in `bits_to_words`, the wrapping build ACCEPTS a vector of length `2^64 − 1` without any data word, the model
(Nat arithmetic) refuses with `InvalidData`. -/
theorem raw_load_ne_overflow :
    gen_RawVector_load .checked [0xFFFFFFFFFFFFFFFF#64, 0#64] = fault (.panic .overflow) ∧
    gen_RawVector_load .wrapping [0xFFFFFFFFFFFFFFFF#64, 0#64] = ok (⟨18446744073709551615, #[]⟩, []) ∧
    rawVecC.load [0xFFFFFFFFFFFFFFFF#64, 0#64] = fault (.err .invalid) := by
  decide +kernel

theorem raw_load_ne_checked :
    gen_RawVector_load .checked [0xFFFFFFFFFFFFFFFF#64, 0#64] ≠ rawVecC.load [0xFFFFFFFFFFFFFFFF#64, 0#64] := by
  decide +kernel

theorem raw_load_ne_wrapping :
    gen_RawVector_load .wrapping [0xFFFFFFFFFFFFFFFF#64, 0#64] ≠ rawVecC.load [0xFFFFFFFFFFFFFFFF#64, 0#64] := by
  decide +kernel

/-- in the checked build the hypothesis is also necessary -/
theorem raw_load_eq_iff_checked (es : Elems) : gen_RawVector_load .checked es = rawVecC.load es ↔ RawOk es := by
  refine ⟨fun e len r data r' h1 h2 => ?_, raw_load_eq _ es⟩
  apply Decidable.byContradiction
  intro hn
  unfold gen_RawVector_load rawVecC at e
  dsimp only at e
  rw [h1] at e
  simp only [bind_ok] at e
  rw [h2] at e
  simp only [bind_ok] at e
  rw [GenFns.bits_to_words_eq] at e
  have : bitsToWords .checked len = fault (.panic .overflow) := by
    unfold bitsToWords addM; simp [hn]
  rw [this] at e
  by_cases c : (len + 63) / 64 = data.size <;> simp [c, Pure.pure] at e

/-! ### IntVector -/

def IntOk (es : Elems) : Prop :=
  ∀ len r width r', usizeC.load es = ok (len, r) → usizeC.load r = ok (width, r') →
    RawOk r' ∧ ∀ data r'', rawVecC.load r' = ok (data, r'') → len * width < U64

theorem int_load_eq (m : Mode) (es : Elems) (h : IntOk es) :
    gen_IntVector_load m es = intVecC.load es := by
  unfold gen_IntVector_load intVecC
  refine bind_congr_ok ?_
  rintro ⟨len, r⟩ h1
  refine bind_congr_ok ?_
  rintro ⟨width, r'⟩ h2
  refine field_step (raw_load_eq m) (h _ _ _ _ h1 h2) fun data r'' _ hm => ?_
  exact test_eq (mulM_ok hm) _ _

/-- O8 (DESIGN §7): `len * width` is multiplied unchecked.  `[2^32, 2^32, 0, 0]`: the checked build panics,
the wrapping build ACCEPTS an integer vector of 2^32 elements of width 2^32 over an empty raw vector, the model refuses -/
theorem int_load_ne_overflow :
    gen_IntVector_load .checked [0x100000000#64, 0x100000000#64, 0#64, 0#64] = fault (.panic .overflow) ∧
    gen_IntVector_load .wrapping [0x100000000#64, 0x100000000#64, 0#64, 0#64] =
      ok (⟨4294967296, 4294967296, ⟨0, #[]⟩⟩, []) ∧
    intVecC.load [0x100000000#64, 0x100000000#64, 0#64, 0#64] = fault (.err .invalid) := by
  decide +kernel

theorem int_load_ne_checked :
    gen_IntVector_load .checked [0x100000000#64, 0x100000000#64, 0#64, 0#64] ≠
      intVecC.load [0x100000000#64, 0x100000000#64, 0#64, 0#64] := by
  decide +kernel

theorem int_load_ne_wrapping :
    gen_IntVector_load .wrapping [0x100000000#64, 0x100000000#64, 0#64, 0#64] ≠
      intVecC.load [0x100000000#64, 0x100000000#64, 0#64, 0#64] := by
  decide +kernel

/-- the raw-vector hypothesis is inherited: one element of width `2^64 − 1` over a raw vector whose length word
`2^64 − 1` overflows in `bits_to_words`: accepted by the wrapping build -/
theorem int_load_ne_raw :
    gen_IntVector_load .checked [1#64, 0xFFFFFFFFFFFFFFFF#64, 0xFFFFFFFFFFFFFFFF#64, 0#64] = fault (.panic .overflow) ∧
    gen_IntVector_load .wrapping [1#64, 0xFFFFFFFFFFFFFFFF#64, 0xFFFFFFFFFFFFFFFF#64, 0#64] =
      ok (⟨1, 18446744073709551615, ⟨18446744073709551615, #[]⟩⟩, []) ∧
    intVecC.load [1#64, 0xFFFFFFFFFFFFFFFF#64, 0xFFFFFFFFFFFFFFFF#64, 0#64] = fault (.err .invalid) := by
  decide +kernel

/-! ### RankSupport: unconditional -/

theorem rank_load_eq (m : Mode) (es : Elems) : gen_RankSupport_load m es = rankSupC.load es := rfl

/-! ### SelectSupport -/

def SelOk (es : Elems) : Prop :=
  IntOk es ∧ ∀ a r1, intVecC.load es = ok (a, r1) →
    IntOk r1 ∧ ∀ b r2, intVecC.load r1 = ok (b, r2) →
      IntOk r2 ∧ ∀ c r3, intVecC.load r2 = ok (c, r3) → b.len + 4096 < U64 ∧ c.len + 64 < U64

theorem sel_load_eq (m : Mode) (es : Elems) (h : SelOk es) :
    gen_SelectSupport_load m es = selSupC.load es := by
  unfold gen_SelectSupport_load selSupC
  refine field_step (int_load_eq m) h fun a r1 _ h => ?_
  refine field_step (int_load_eq m) h fun b r2 _ h => ?_
  refine field_step (int_load_eq m) h fun c r3 _ h => ?_
  obtain ⟨hl, hs⟩ := h
  have hsum : SelSup.longSuperblocks ⟨a, b, c⟩ + SelSup.shortSuperblocks ⟨a, b, c⟩ < U64 := by
    have e := U64_eq
    simp only [SelSup.longSuperblocks, SelSup.shortSuperblocks]
    omega
  dsimp only
  rw [bind_of_ok _ (sel_superblocks_eq m _), bind_of_ok _ (sel_long_superblocks_eq m _ hl),
    bind_of_ok _ (sel_short_superblocks_eq m _ hs), bind_of_ok _ (addM_ok hsum)]
  exact ite_congr_neg fun _ => rfl

/-- a long-array length word `2^64 − 1` (width 0, so the integer vector itself is consistent): `len + 4096` overflows.
The checked build panics, the wrapping build ACCEPTS (its long superblock count wraps to 0), the model refuses. -/
theorem sel_load_ne_long :
    gen_SelectSupport_load .checked
      [0#64, 0#64, 0#64, 0#64, 0xFFFFFFFFFFFFFFFF#64, 0#64, 0#64, 0#64, 0#64, 0#64, 0#64, 0#64] = fault (.panic .overflow) ∧
    gen_SelectSupport_load .wrapping
      [0#64, 0#64, 0#64, 0#64, 0xFFFFFFFFFFFFFFFF#64, 0#64, 0#64, 0#64, 0#64, 0#64, 0#64, 0#64] =
        ok (⟨⟨0, 0, ⟨0, #[]⟩⟩, ⟨18446744073709551615, 0, ⟨0, #[]⟩⟩, ⟨0, 0, ⟨0, #[]⟩⟩⟩, []) ∧
    selSupC.load
      [0#64, 0#64, 0#64, 0#64, 0xFFFFFFFFFFFFFFFF#64, 0#64, 0#64, 0#64, 0#64, 0#64, 0#64, 0#64] = fault (.err .invalid) := by
  decide +kernel

/-- the same with the short array: `len + 64` overflows -/
theorem sel_load_ne_short :
    gen_SelectSupport_load .checked
      [0#64, 0#64, 0#64, 0#64, 0#64, 0#64, 0#64, 0#64, 0xFFFFFFFFFFFFFFFF#64, 0#64, 0#64, 0#64] = fault (.panic .overflow) ∧
    gen_SelectSupport_load .wrapping
      [0#64, 0#64, 0#64, 0#64, 0#64, 0#64, 0#64, 0#64, 0xFFFFFFFFFFFFFFFF#64, 0#64, 0#64, 0#64] =
        ok (⟨⟨0, 0, ⟨0, #[]⟩⟩, ⟨0, 0, ⟨0, #[]⟩⟩, ⟨18446744073709551615, 0, ⟨0, #[]⟩⟩⟩, []) ∧
    selSupC.load
      [0#64, 0#64, 0#64, 0#64, 0#64, 0#64, 0#64, 0#64, 0xFFFFFFFFFFFFFFFF#64, 0#64, 0#64, 0#64] = fault (.err .invalid) := by
  decide +kernel

/-! ### BitVector -/

def BvOk (es : Elems) : Prop :=
  ∀ ones r, usizeC.load es = ok (ones, r) →
    RawOk r ∧ ∀ data r1, rawVecC.load r = ok (data, r1) → ones ≤ data.len →
      ∀ rank r2, (optionC rankSupC).load r1 = ok (rank, r2) →
        (rank.isSome → data.len + 512 < U64) ∧
        ((∀ s, rank = some s → s.samples.size = (data.len + 511) / 512) →
          ∀ sel r3, (optionC selSupC).load r2 = ok (sel, r3) →
            (sel.isSome → ones + 4096 < U64) ∧
            ((∀ s, sel = some s → s.superblocks = (ones + 4095) / 4096) →
              ∀ selz r4, (optionC selSupC).load r3 = ok (selz, r4) →
                (selz.isSome → data.len - ones + 4096 < U64)))

theorem div_round_up_ok (m : Mode) (v n k : Nat) (hn : n = k + 1) (h : v + n < U64) :
    gen_div_round_up m v n = ok ((v + k) / n) := by
  rw [GenFns.div_round_up_eq, divRoundUp_ok m v n (by omega) h]
  congr 2
  omega

theorem chk_pass {α} {o : Option α} {f : α → Nat} {t : Nat}
    (c : ¬ (match o with | some s => decide (f s ≠ t) | none => false) = true) : ∀ s, o = some s → f s = t := by
  intro s e
  subst e
  simpa using c

/-- one consistency test of a loader with optional components, model side settled: when the test `c` fails the model
refuses (`hL`), and it remains to compare the rest of the two functions when it passes -/
theorem ite_stage {β} {c : Bool} {L x k k' : Outcome β} (hL : L = if c = true then x else k)
    (hk : ¬ c = true → k = k') : L = if c = true then x else k' := by
  cases c
  · exact hL.trans (hk Bool.false_ne_true)
  · exact hL

/-- the translated test `let t ← x; if a != t { return Err(InvalidData) }` in front of the rest `k` of the function -/
theorem test_ne {β} {x : Outcome Nat} {t : Nat} (hx : x = ok t) (a : Nat) (k : Outcome β) :
    (x >>= fun t' => if decide (a ≠ t') = true then fault (.err .invalid) >>= fun (_ : Unit) => k else k) =
      if decide (a ≠ t) = true then fault (.err .invalid) else k := by
  subst hx
  rfl

/- The translation keeps what follows a `match` on an optional support as a local function (`__do_jp`) called from
every branch.  `extract_lets` gives it a name, so that a test is settled by cases on the option without the rest of the
loader being copied into the cases; `dsimp -zeta` leaves it folded. -/
theorem bv_load_eq (m : Mode) (es : Elems) (h : BvOk es) :
    gen_BitVector_load m es = bitVectorC.load es := by
  unfold gen_BitVector_load bitVectorC
  refine same_step h fun ones r _ h => ?_
  refine field_step (raw_load_eq m) h fun data r1 _ h => ?_
  refine ite_congr_neg fun c0 => ?_
  refine same_step (h (Nat.le_of_not_gt c0)) fun rank r2 _ ⟨hk, h⟩ => ?_
  dsimp -zeta only
  extract_lets _ rest _
  refine ite_stage (k := rest ()) ?_ fun c1 => ?_
  · cases rank with
    | none => rfl
    | some v => exact test_ne (div_round_up_ok m _ 512 511 rfl (hk rfl)) _ _
  refine same_step (h fun s e => by subst e; simpa using c1) fun sel r3 _ ⟨hk2, h⟩ => ?_
  dsimp -zeta only
  extract_lets _ rest2 _
  refine ite_stage (k := rest2 ()) ?_ fun c2 => ?_
  · cases sel with
    | none => rfl
    | some v =>
      refine (bind_of_ok _ (sel_superblocks_eq m v)).trans ?_
      exact test_ne (div_round_up_ok m _ 4096 4095 rfl (hk2 rfl)) _ _
  refine same_step (h fun s e => by subst e; simpa using c2) fun selz r4 _ hk3 => ?_
  dsimp -zeta only
  cases selz with
  | none => rfl
  | some v =>
    refine (bind_of_ok _ (sel_superblocks_eq m v)).trans ?_
    refine (bind_of_ok _ (subM_ok (Nat.le_of_not_gt c0))).trans ?_
    exact test_ne (div_round_up_ok m _ 4096 4095 rfl (hk3 rfl)) _ _

/-! ### SparseVector -/

def SparseOk (es : Elems) : Prop :=
  ∀ len r, usizeC.load es = ok (len, r) →
    BvOk r ∧ ∀ high r1, bitVectorC.load r = ok (high, r1) →
      IntOk r1 ∧ ∀ low r2, intVecC.load r1 = ok (low, r2) →
        low.len = high.enableSelect.enableSelectZero.countOnes →
          low.width ≤ 64 ∧ low.len + Sparse.getBuckets len low.width < U64

theorem sparse_load_eq (m : Mode) (es : Elems) (h : SparseOk es) :
    gen_SparseVector_load m es = sparseC.load es := by
  unfold gen_SparseVector_load sparseC
  refine same_step h fun len r h1 h => ?_
  refine field_step (bv_load_eq m) h fun high r1 _ h => ?_
  refine field_step (int_load_eq m) h fun low r2 _ h => ?_
  refine ite_congr_neg fun c1 => ?_
  obtain ⟨hw, hs⟩ := h (Decidable.not_not.mp c1)
  have hlen : len < U64 := by rw [U64_eq]; exact (LoadWF.usizeC_inv h1).2
  dsimp only
  rw [bind_of_ok _ (get_buckets_eq m len low.width hw hlen), bind_of_ok _ (addM_ok hs)]
  exact ite_congr_neg fun _ => rfl

/-! ### WaveletMatrix -/

def WmOk (es : Elems) : Prop :=
  ∀ len r, usizeC.load es = ok (len, r) → ∀ data r1, wmCoreC.load r = ok (data, r1) → data.len = ok len → IntOk r1

theorem wm_load_eq (m : Mode) (es : Elems) (h : WmOk es) :
    gen_WaveletMatrix_load m es = wmC.load es := by
  unfold gen_WaveletMatrix_load wmC
  refine same_step h fun len r _ h => ?_
  refine same_step h fun data r1 _ h => ?_
  refine bind_congr_ok fun n h3 => ite_congr_neg fun c => ?_
  dsimp only
  rw [int_load_eq m r1 (h (h3.trans (congrArg ok (Decidable.not_not.mp c))))]

/-! ### streams of small words: every hypothesis above holds

`2^32` and not `2^60`: `[2^32, 2^32, 0, 0]` (`int_load_ne_overflow`) consists of words below `2^60`. -/

def Small (es : Elems) : Prop := ∀ w ∈ es, w.toNat < 2 ^ 32

theorem Small.suffix {es r : Elems} (h : Small es) (hs : r <:+ es) : Small r :=
  fun w hw => h w (hs.subset hw)

theorem suffix_of_eq {es a r : Elems} (e : es = a ++ r) : r <:+ es := ⟨a, e.symm⟩

theorem usizeC_suffix {es r : Elems} {n : Nat} (h : usizeC.load es = ok (n, r)) : r <:+ es :=
  suffix_of_eq (a := [BitVec.ofNat 64 n]) (LoadWF.usizeC_inv h).1

theorem vecU64C_suffix {es r : Elems} {a : Array Word} (h : vecU64C.load es = ok (a, r)) : r <:+ es :=
  suffix_of_eq (LoadWF.vecU64C_inv h).1

theorem vecPairC_suffix {es r : Elems} {a : Array (Word × Word)} (h : vecPairC.load es = ok (a, r)) : r <:+ es :=
  suffix_of_eq (LoadWF.vecPairC_inv h).1

theorem rawVecC_suffix {es r : Elems} {v : RawVec} (h : rawVecC.load es = ok (v, r)) : r <:+ es :=
  suffix_of_eq (LoadWF.rawVecC_load_inv h).1

theorem intVecC_suffix {es r : Elems} {v : IntVec} (h : intVecC.load es = ok (v, r)) : r <:+ es :=
  suffix_of_eq (LoadWF.intVecC_load_inv h).1

theorem rankSupC_suffix {es r : Elems} {v : RankSup} (h : rankSupC.load es = ok (v, r)) : r <:+ es :=
  suffix_of_eq (LoadWF.rankSupC_load_inv h).1

theorem selSupC_suffix {es r : Elems} {v : SelSup} (h : selSupC.load es = ok (v, r)) : r <:+ es :=
  suffix_of_eq (LoadWF.selSupC_load_inv h).1

theorem optionC_suffix {α} {c : Codec α} (hc : ∀ es x r, c.load es = ok (x, r) → r <:+ es)
    {es r : Elems} {o : Option α} (h : (optionC c).load es = ok (o, r)) : r <:+ es := by
  obtain ⟨⟨n, r1⟩, h1, h2⟩ := Outcome.bind_eq_ok (x := readElem es) h
  have e0 := LoadWF.readElem_inv h1
  dsimp only at h2
  by_cases c0 : n.toNat = 0
  · rw [if_pos c0] at h2
    injection h2 with h2; injection h2 with h3 h4
    subst h4
    exact suffix_of_eq (a := [n]) e0
  · rw [if_neg c0] at h2
    obtain ⟨⟨x, r2⟩, h3, h4⟩ := Outcome.bind_eq_ok (x := c.load r1) h2
    injection h4 with h4; injection h4 with h5 h6
    subst h6
    exact (hc _ _ _ h3).trans (suffix_of_eq (a := [n]) e0)

theorem bitVectorC_suffix {es r : Elems} {v : BitVector} (h : bitVectorC.load es = ok (v, r)) : r <:+ es := by
  obtain ⟨n1, n2, n3, e, _⟩ := LoadWF.bitVectorC_load_inv h
  exact suffix_of_eq e

theorem wmCoreC_suffix {es r : Elems} {v : WMCore} (h : wmCoreC.load es = ok (v, r)) : r <:+ es := by
  obtain ⟨L, ns, e, _⟩ := LoadWF.wmCoreC_load_inv h
  exact suffix_of_eq (a := BitVec.ofNat 64 v.width :: LoadWF.levelsRaw L ns) e

theorem usizeC_small {es r : Elems} {n : Nat} (hs : Small es) (h : usizeC.load es = ok (n, r)) : n < 2 ^ 32 := by
  obtain ⟨e, hn⟩ := LoadWF.usizeC_inv h
  have := hs (BitVec.ofNat 64 n) (by rw [e]; exact List.mem_cons_self)
  rwa [BitVec.toNat_ofNat, Nat.mod_eq_of_lt hn] at this

theorem rawVecC_small {es r : Elems} {v : RawVec} (hs : Small es) (h : rawVecC.load es = ok (v, r)) :
    v.len < 2 ^ 32 := by
  obtain ⟨e, _, hn⟩ := LoadWF.rawVecC_load_inv h
  have := hs (BitVec.ofNat 64 v.len) (by rw [e]; exact List.mem_cons_self)
  rwa [BitVec.toNat_ofNat, Nat.mod_eq_of_lt hn] at this

theorem intVecC_small {es r : Elems} {v : IntVec} (hs : Small es) (h : intVecC.load es = ok (v, r)) :
    v.len < 2 ^ 32 ∧ v.width < 2 ^ 32 := by
  obtain ⟨e, hn, hw, _⟩ := LoadWF.intVecC_load_inv h
  have h1 := hs (BitVec.ofNat 64 v.len) (by rw [e]; exact List.mem_cons_self)
  have h2 := hs (BitVec.ofNat 64 v.width) (by rw [e]; exact List.mem_cons_of_mem _ List.mem_cons_self)
  rw [BitVec.toNat_ofNat, Nat.mod_eq_of_lt hn] at h1
  rw [BitVec.toNat_ofNat, Nat.mod_eq_of_lt hw] at h2
  exact ⟨h1, h2⟩

theorem RawOk_of_small {es : Elems} (hs : Small es) : RawOk es := by
  intro len r data r' h1 _
  have := usizeC_small hs h1
  rw [U64_eq]; omega

theorem IntOk_of_small {es : Elems} (hs : Small es) : IntOk es := by
  intro len r width r' h1 h2
  have s1 := hs.suffix (usizeC_suffix h1)
  have s2 := s1.suffix (usizeC_suffix h2)
  refine ⟨RawOk_of_small s2, fun data r'' _ => ?_⟩
  have l1 := usizeC_small hs h1
  have l2 := usizeC_small s1 h2
  have := Nat.mul_lt_mul'' l1 l2
  rw [U64_eq]; omega

theorem SelOk_of_small {es : Elems} (hs : Small es) : SelOk es := by
  refine ⟨IntOk_of_small hs, fun a r1 h1 => ?_⟩
  have s1 := hs.suffix (intVecC_suffix h1)
  refine ⟨IntOk_of_small s1, fun b r2 h2 => ?_⟩
  have s2 := s1.suffix (intVecC_suffix h2)
  refine ⟨IntOk_of_small s2, fun c r3 h3 => ?_⟩
  have l1 := (intVecC_small s1 h2).1
  have l2 := (intVecC_small s2 h3).1
  rw [U64_eq]; omega

theorem BvOk_of_small {es : Elems} (hs : Small es) : BvOk es := by
  intro ones r h1
  have s1 := hs.suffix (usizeC_suffix h1)
  refine ⟨RawOk_of_small s1, fun data r1 h2 hle rank r2 _ => ?_⟩
  have l1 := usizeC_small hs h1
  have l2 := rawVecC_small s1 h2
  rw [U64_eq]
  refine ⟨fun _ => by omega, fun _ sel r3 _ => ⟨fun _ => by omega, fun _ selz r4 _ _ => by omega⟩⟩

/-- for `SparseVector::load` small words do not suffice: the width of the low array is a stream word -/
def SparseWidthOk (es : Elems) : Prop :=
  ∀ len r high r1 low r2, usizeC.load es = ok (len, r) → bitVectorC.load r = ok (high, r1) →
    intVecC.load r1 = ok (low, r2) → low.len = high.enableSelect.enableSelectZero.countOnes → low.width ≤ 64

theorem getBuckets_le (univ w : Nat) : Sparse.getBuckets univ w ≤ univ + 1 := by
  unfold Sparse.getBuckets
  have : univ >>> w ≤ univ := by rw [Nat.shiftRight_eq_div_pow]; exact Nat.div_le_self _ _
  dsimp only
  split <;> split <;> omega

theorem SparseOk_of_small {es : Elems} (hs : Small es) (hw : SparseWidthOk es) : SparseOk es := by
  intro len r h1
  have s1 := hs.suffix (usizeC_suffix h1)
  refine ⟨BvOk_of_small s1, fun high r1 h2 => ?_⟩
  have s2 := s1.suffix (bitVectorC_suffix h2)
  refine ⟨IntOk_of_small s2, fun low r2 h3 c => ⟨hw _ _ _ _ _ _ h1 h2 h3 c, ?_⟩⟩
  have l1 := usizeC_small hs h1
  have l2 := (intVecC_small s2 h3).1
  have := getBuckets_le len low.width
  rw [U64_eq]; omega

theorem WmOk_of_small {es : Elems} (hs : Small es) : WmOk es := by
  intro len r h1 data r1 h2 _
  exact IntOk_of_small ((hs.suffix (usizeC_suffix h1)).suffix (wmCoreC_suffix h2))

theorem raw_load_eq_small (m : Mode) (es : Elems) (h : ∀ w ∈ es, w.toNat < 2 ^ 32) :
    gen_RawVector_load m es = rawVecC.load es := raw_load_eq m es (RawOk_of_small h)
theorem int_load_eq_small (m : Mode) (es : Elems) (h : ∀ w ∈ es, w.toNat < 2 ^ 32) :
    gen_IntVector_load m es = intVecC.load es := int_load_eq m es (IntOk_of_small h)
theorem sel_load_eq_small (m : Mode) (es : Elems) (h : ∀ w ∈ es, w.toNat < 2 ^ 32) :
    gen_SelectSupport_load m es = selSupC.load es := sel_load_eq m es (SelOk_of_small h)
theorem bv_load_eq_small (m : Mode) (es : Elems) (h : ∀ w ∈ es, w.toNat < 2 ^ 32) :
    gen_BitVector_load m es = bitVectorC.load es := bv_load_eq m es (BvOk_of_small h)
theorem sparse_load_eq_small (m : Mode) (es : Elems) (h : ∀ w ∈ es, w.toNat < 2 ^ 32) (hw : SparseWidthOk es) :
    gen_SparseVector_load m es = sparseC.load es := sparse_load_eq m es (SparseOk_of_small h hw)
theorem wm_load_eq_small (m : Mode) (es : Elems) (h : ∀ w ∈ es, w.toNat < 2 ^ 32) :
    gen_WaveletMatrix_load m es = wmC.load es := wm_load_eq m es (WmOk_of_small h)

/-! ### counterexamples for the composite loaders -/

/-- inherited from the raw vector: the wrapping build ACCEPTS a bitvector of `2^64 − 1` bits without a data word -/
theorem bv_load_ne_raw :
    gen_BitVector_load .checked [0#64, 0xFFFFFFFFFFFFFFFF#64, 0#64, 0#64, 0#64, 0#64] = fault (.panic .overflow) ∧
    gen_BitVector_load .wrapping [0#64, 0xFFFFFFFFFFFFFFFF#64, 0#64, 0#64, 0#64, 0#64] =
      ok ({ ones := 0, data := ⟨18446744073709551615, #[]⟩ }, []) ∧
    bitVectorC.load [0#64, 0xFFFFFFFFFFFFFFFF#64, 0#64, 0#64, 0#64, 0#64] = fault (.err .invalid) := by
  decide +kernel

/-- `low.width = 65` (the empty sparse vector otherwise): `low_set(65)` indexes past the 65-entry table, so both builds
panic where the model accepts -/
theorem sparse_load_ne_width :
    gen_SparseVector_load .checked [0#64, 0#64, 0#64, 0#64, 0#64, 0#64, 0#64, 0#64, 65#64, 0#64, 0#64] =
      fault (.panic .index) ∧
    gen_SparseVector_load .wrapping [0#64, 0#64, 0#64, 0#64, 0#64, 0#64, 0#64, 0#64, 65#64, 0#64, 0#64] =
      fault (.panic .index) ∧
    (sparseC.load [0#64, 0#64, 0#64, 0#64, 0#64, 0#64, 0#64, 0#64, 65#64, 0#64, 0#64]).isOk = true := by
  decide +kernel

/-- universe `2^64 − 1` with `low.width = 0` and one element: `low.len + buckets = 1 + (2^64 − 1)` overflows in the checked
build; the wrapping build and the model refuse -/
theorem sparse_load_ne_buckets :
    gen_SparseVector_load .checked
      [0xFFFFFFFFFFFFFFFF#64, 1#64, 1#64, 1#64, 1#64, 0#64, 0#64, 0#64, 1#64, 0#64, 0#64, 0#64] =
        fault (.panic .overflow) ∧
    gen_SparseVector_load .wrapping
      [0xFFFFFFFFFFFFFFFF#64, 1#64, 1#64, 1#64, 1#64, 0#64, 0#64, 0#64, 1#64, 0#64, 0#64, 0#64] =
        fault (.err .invalid) ∧
    sparseC.load [0xFFFFFFFFFFFFFFFF#64, 1#64, 1#64, 1#64, 1#64, 0#64, 0#64, 0#64, 1#64, 0#64, 0#64, 0#64] =
      fault (.err .invalid) := by
  decide +kernel

/-- inherited from the integer vector `first`: a one-level wavelet matrix of length 0 followed by `[2^32, 2^32, 0, 0]` -/
theorem wm_load_ne_int :
    gen_WaveletMatrix_load .checked
      [0#64, 1#64, 0#64, 0#64, 0#64, 0#64, 0#64, 0#64, 0x100000000#64, 0x100000000#64, 0#64, 0#64] =
        fault (.panic .overflow) ∧
    (gen_WaveletMatrix_load .wrapping
      [0#64, 1#64, 0#64, 0#64, 0#64, 0#64, 0#64, 0#64, 0x100000000#64, 0x100000000#64, 0#64, 0#64]).isOk = true ∧
    wmC.load [0#64, 1#64, 0#64, 0#64, 0#64, 0#64, 0#64, 0#64, 0x100000000#64, 0x100000000#64, 0#64, 0#64] =
      fault (.err .invalid) := by
  decide +kernel

/-! ### the three size clauses of `BvOk` beyond `RawOk`

They can fail only on a stream of at least `2^57` words (the raw vector must carry `⌈len/64⌉` data words):
`BvOk_of_length`.  On such streams they do fail: `bv_load_ne_rank / _select / _select_zero` below, stated for an
arbitrary block `ws` of `2^58 − 1` data words. -/

def BvRawOk (es : Elems) : Prop := ∀ ones r, usizeC.load es = ok (ones, r) → RawOk r

theorem rawVecC_len_le {es r : Elems} {v : RawVec} (h : rawVecC.load es = ok (v, r)) : v.len ≤ 64 * es.length := by
  obtain ⟨e, hsz, _⟩ := LoadWF.rawVecC_load_inv h
  have : es.length = 2 + v.data.size + r.length := by
    rw [e]; simp [rawVecC, vecU64C]; omega
  omega

theorem BvOk_of_length {es : Elems} (hl : es.length < 2 ^ 57) (h : BvRawOk es) : BvOk es := by
  intro ones r h1
  refine ⟨h _ _ h1, fun data r1 h2 hle rank r2 _ => ?_⟩
  have l1 := rawVecC_len_le h2
  have l2 : r.length < es.length := by rw [(LoadWF.usizeC_inv h1).1]; simp
  rw [U64_eq]
  refine ⟨fun _ => by omega, fun _ sel r3 _ => ⟨fun _ => by omega, fun _ selz r4 _ _ => by omega⟩⟩

theorem bv_load_eq_of_length (m : Mode) (es : Elems) (hl : es.length < 2 ^ 57) (h : BvRawOk es) :
    gen_BitVector_load m es = bitVectorC.load es := bv_load_eq m es (BvOk_of_length hl h)

theorem readN_append (ws rest : Elems) : readN ws.length (ws ++ rest) = ok (ws, rest) := by
  simp [readN]

theorem usizeC_cons (w : Word) (r : Elems) : usizeC.load (w :: r) = ok (w.toNat, r) := rfl

theorem usizeC_cons_inv {w : Word} {t r : Elems} {n : Nat} (h : usizeC.load (w :: t) = ok (n, r)) :
    n = w.toNat ∧ r = t := by
  injection h with h; injection h with h1 h2
  exact ⟨h1.symm, h2.symm⟩

theorem opt_rank_lit (r : Elems) :
    (optionC rankSupC).load (1#64 :: 0#64 :: r) = ok (some ⟨#[]⟩, r) := by
  simp [optionC, rankSupC, vecPairC, readElem, readN, pairsOf, Bind.bind, Outcome.bind, Pure.pure]

theorem opt_none_cons {α} (c : Codec α) (r : Elems) : (optionC c).load (0#64 :: r) = ok (none, r) := by
  simp [optionC, readElem, Bind.bind, Outcome.bind, Pure.pure]

/-- the empty select support as it appears in a file: three empty integer vectors -/
def emptySel : SelSup := ⟨⟨0, 0, ⟨0, #[]⟩⟩, ⟨0, 0, ⟨0, #[]⟩⟩, ⟨0, 0, ⟨0, #[]⟩⟩⟩
def selLit (r : Elems) : Elems :=
  1#64 :: 0#64 :: 0#64 :: 0#64 :: 0#64 :: 0#64 :: 0#64 :: 0#64 :: 0#64 :: 0#64 :: 0#64 :: 0#64 :: 0#64 :: r

theorem opt_sel_lit (r : Elems) : (optionC selSupC).load (selLit r) = ok (some emptySel, r) := by
  simp [selLit, emptySel, optionC, selSupC, intVecC, rawVecC, vecU64C, usizeC, readElem, readN, Bind.bind, Outcome.bind,
    Pure.pure, SelSup.superblocks, SelSup.longSuperblocks, SelSup.shortSuperblocks]

/-- `ones`, the bit length, the word count, the data words, the rest -/
def bigS (wo wL wN : Word) (ws tl : Elems) : Elems := wo :: wL :: wN :: (ws ++ tl)

section big
variable {wL wN : Word} {L : Nat} {ws : Elems}

theorem big_raw (tl : Elems) (hL : wL.toNat = L) (hN : wN.toNat = ws.length) (h64 : (L + 63) / 64 = ws.length) :
    rawVecC.load (wL :: wN :: (ws ++ tl)) = ok (⟨L, ws.toArray⟩, tl) := by
  simp [rawVecC, usizeC, vecU64C, readElem, Bind.bind, Outcome.bind, Pure.pure, hL, hN, readN_append, h64]

theorem big_rawOk (tl : Elems) (hL : wL.toNat = L) (h63 : L + 63 < U64) : RawOk (wL :: wN :: (ws ++ tl)) := by
  intro len r data r' h1 _
  rw [(usizeC_cons_inv h1).1, hL]; exact h63

end big

/-! what the two loaders do once the five loads have succeeded, with every value read symbolic (with literals in their
place the kernel evaluates `x + 4095` in unary when it checks the `rfl` steps): the three tests in order, each with the
rest of the function as its last argument -/

def ckNe {β} (x : Outcome Nat) (a : Nat) (k : Outcome β) : Outcome β :=
  x >>= fun t => if decide (a ≠ t) = true then fault (.err .invalid) else k

def optCk {α β} (o : Option α) (c : α → Outcome β → Outcome β) (k : Outcome β) : Outcome β :=
  match o with
  | some v => c v k
  | none => k

theorem optCk_none {α β} (c : α → Outcome β → Outcome β) (k : Outcome β) : optCk none c k = k := rfl

theorem optCk_fault {α β} {x : Outcome Nat} {e : Fault} {v : α} {f : α → Nat} {k : Outcome β} (hx : x = fault e) :
    optCk (some v) (fun s => ckNe x (f s)) k = fault e := by
  subst hx; rfl

theorem optCk_ok {α β} {x : Outcome Nat} {t : Nat} {v : α} {f : α → Nat} {k : Outcome β} (hx : x = ok t)
    (hf : f v = t) : optCk (some v) (fun s => ckNe x (f s)) k = k := by
  subst hx hf
  exact (if_neg (by simp) : (if decide (f v ≠ f v) = true then _ else _) = _)

section stages
variable {m : Mode} {es r r1 r2 r3 r4 : Elems} {ones : Nat} {data : RawVec} {rank : Option RankSup}
  {sel selz : Option SelSup}

theorem bv_load_of_loads (h1 : usizeC.load es = ok (ones, r)) (hk : RawOk r) (h2 : rawVecC.load r = ok (data, r1))
    (hle : ¬ ones > data.len) (h3 : (optionC rankSupC).load r1 = ok (rank, r2))
    (h4 : (optionC selSupC).load r2 = ok (sel, r3)) (h5 : (optionC selSupC).load r3 = ok (selz, r4)) :
    gen_BitVector_load m es =
      optCk rank (fun s => ckNe (gen_div_round_up m data.len 512) s.samples.size) (
      optCk sel (fun s => ckNe (gen_div_round_up m ones 4096) s.superblocks) (
      optCk selz (fun s => ckNe (gen_div_round_up m (data.len - ones) 4096) s.superblocks) (
      ok ({ ones := ones, data := data, rank := rank, select := sel, selectZero := selz }, r4)))) := by
  unfold gen_BitVector_load
  simp -zeta only [bind_of_ok _ h1, bind_of_ok _ ((raw_load_eq _ _ hk).trans h2), bind_of_ok _ h3,
    bind_of_ok _ h4, bind_of_ok _ h5]
  simp only [hle, decide_false, Bool.false_eq_true, if_false, bind_of_ok _ (subM_ok (Nat.le_of_not_gt hle)),
    bind_of_ok _ (sel_superblocks_eq m _)]
  unfold optCk ckNe
  cases rank <;> cases sel <;> cases selz <;> rfl

theorem ite_eq_left_of {α} {c : Prop} [Decidable c] {x y : α} (h : ¬ c → y = x) : (if c then x else y) = x := by
  by_cases hc : c
  · exact if_pos hc
  · rw [if_neg hc, h hc]

theorem bv_model_of_loads (h1 : usizeC.load es = ok (ones, r)) (h2 : rawVecC.load r = ok (data, r1))
    (hle : ¬ ones > data.len) (h3 : (optionC rankSupC).load r1 = ok (rank, r2))
    (h4 : (optionC selSupC).load r2 = ok (sel, r3)) (h5 : (optionC selSupC).load r3 = ok (selz, r4))
    (hbad : ¬ ((∀ s, rank = some s → s.samples.size = (data.len + 511) / 512) ∧
      (∀ s, sel = some s → s.superblocks = (ones + 4095) / 4096) ∧
      (∀ s, selz = some s → s.superblocks = (data.len - ones + 4095) / 4096))) :
    bitVectorC.load es = fault (.err .invalid) := by
  unfold bitVectorC
  simp only [bind_of_ok _ h1, bind_of_ok _ h2, if_neg hle, bind_of_ok _ h3, bind_of_ok _ h4, bind_of_ok _ h5]
  refine ite_eq_left_of fun c1 => ite_eq_left_of fun c2 => ite_eq_left_of fun c3 => absurd ⟨?_, ?_, ?_⟩ hbad
  · intro s e; subst e; simpa using c1
  · intro s e; subst e; simpa using c2
  · intro s e; subst e; simpa using c3

end stages

theorem big_facts :
    (18446744073709551489#64).toNat = 18446744073709551489 ∧
    (288230376151711743#64).toNat = 288230376151711743 ∧
    (18446744073709551489 + 63) / 64 = 288230376151711743 ∧
    18446744073709551489 + 63 < U64 ∧
    ¬ (0 > 18446744073709551489) ∧
    ¬ (18446744073709551489 > 18446744073709551489) ∧
    gen_div_round_up .checked 18446744073709551489 512 = fault (.panic .overflow) ∧
    gen_div_round_up .wrapping 18446744073709551489 512 = ok 0 ∧
    gen_div_round_up .checked 18446744073709551489 4096 = fault (.panic .overflow) ∧
    gen_div_round_up .wrapping 18446744073709551489 4096 = ok 0 ∧
    gen_div_round_up .checked (18446744073709551489 - 0) 4096 = fault (.panic .overflow) ∧
    gen_div_round_up .wrapping (18446744073709551489 - 0) 4096 = ok 0 ∧
    (#[] : Array (Word × Word)).size ≠ (18446744073709551489 + 511) / 512 ∧
    emptySel.superblocks ≠ (18446744073709551489 + 4095) / 4096 ∧
    emptySel.superblocks ≠ (18446744073709551489 - 0 + 4095) / 4096 := by
  decide +kernel

/-- a bitvector of `2^64 − 127` bits (`2^58 − 1` data words `ws`) with a rank support of no samples: `len + 512` overflows
in `div_round_up`.  The raw vector itself is fine (`len + 63 < 2^64`).  The checked build panics, the wrapping build
ACCEPTS, the model refuses. -/
theorem bv_load_ne_rank (ws : Elems) (hl : ws.length = 288230376151711743) :
    gen_BitVector_load .checked
      (bigS 0#64 18446744073709551489#64 288230376151711743#64 ws [1#64, 0#64, 0#64, 0#64]) = fault (.panic .overflow) ∧
    gen_BitVector_load .wrapping
      (bigS 0#64 18446744073709551489#64 288230376151711743#64 ws [1#64, 0#64, 0#64, 0#64]) =
        ok ({ ones := 0, data := ⟨18446744073709551489, ws.toArray⟩, rank := some ⟨#[]⟩ }, []) ∧
    bitVectorC.load
      (bigS 0#64 18446744073709551489#64 288230376151711743#64 ws [1#64, 0#64, 0#64, 0#64]) = fault (.err .invalid) := by
  obtain ⟨a1, a2, a3, a4, a5, a6, a7, a8, a9, a10, a11, a12, a13, a14, a15⟩ := big_facts
  have hr := big_raw (ws := ws) [1#64, 0#64, 0#64, 0#64] a1 (a2.trans hl.symm) (a3.trans hl.symm)
  have hk := big_rawOk (wN := 288230376151711743#64) (ws := ws) [1#64, 0#64, 0#64, 0#64] a1 a4
  have g := fun m => bv_load_of_loads (m := m) (usizeC_cons 0#64 _) hk hr a5 (opt_rank_lit _) (opt_none_cons _ _)
    (opt_none_cons _ _)
  refine ⟨(g _).trans ?_, (g _).trans ?_, ?_⟩
  · exact optCk_fault a7
  · exact optCk_ok a8 rfl
  · exact bv_model_of_loads (usizeC_cons 0#64 _) hr a5 (opt_rank_lit _) (opt_none_cons _ _) (opt_none_cons _ _)
      fun h => a13 (h.1 _ rfl)

/-- the same vector with `ones = len` and an (empty) select support: `ones + 4096` overflows -/
theorem bv_load_ne_select (ws : Elems) (hl : ws.length = 288230376151711743) :
    gen_BitVector_load .checked
      (bigS 18446744073709551489#64 18446744073709551489#64 288230376151711743#64 ws (0#64 :: selLit [0#64])) =
        fault (.panic .overflow) ∧
    gen_BitVector_load .wrapping
      (bigS 18446744073709551489#64 18446744073709551489#64 288230376151711743#64 ws (0#64 :: selLit [0#64])) =
        ok ({ ones := 18446744073709551489, data := ⟨18446744073709551489, ws.toArray⟩, select := some emptySel }, []) ∧
    bitVectorC.load
      (bigS 18446744073709551489#64 18446744073709551489#64 288230376151711743#64 ws (0#64 :: selLit [0#64])) =
        fault (.err .invalid) := by
  obtain ⟨a1, a2, a3, a4, a5, a6, a7, a8, a9, a10, a11, a12, a13, a14, a15⟩ := big_facts
  have hr := big_raw (ws := ws) (0#64 :: selLit [0#64]) a1 (a2.trans hl.symm) (a3.trans hl.symm)
  have hk := big_rawOk (wN := 288230376151711743#64) (ws := ws) (0#64 :: selLit [0#64]) a1 a4
  have h1 : usizeC.load (bigS 18446744073709551489#64 18446744073709551489#64 288230376151711743#64 ws
      (0#64 :: selLit [0#64])) = ok (18446744073709551489, _) := (usizeC_cons _ _).trans (by rw [a1])
  have g := fun m => bv_load_of_loads (m := m) h1 hk hr a6 (opt_none_cons _ _) (opt_sel_lit _) (opt_none_cons _ _)
  refine ⟨(g _).trans ?_, (g _).trans ?_, ?_⟩
  · exact (optCk_none _ _).trans (optCk_fault a9)
  · exact (optCk_none _ _).trans (optCk_ok a10 rfl)
  · exact bv_model_of_loads h1 hr a6 (opt_none_cons _ _) (opt_sel_lit _) (opt_none_cons _ _)
      fun h => a14 (h.2.1 _ rfl)

/-- the same vector with `ones = 0` and an (empty) select_zero support: `len - ones + 4096` overflows -/
theorem bv_load_ne_select_zero (ws : Elems) (hl : ws.length = 288230376151711743) :
    gen_BitVector_load .checked
      (bigS 0#64 18446744073709551489#64 288230376151711743#64 ws (0#64 :: 0#64 :: selLit [])) =
        fault (.panic .overflow) ∧
    gen_BitVector_load .wrapping
      (bigS 0#64 18446744073709551489#64 288230376151711743#64 ws (0#64 :: 0#64 :: selLit [])) =
        ok ({ ones := 0, data := ⟨18446744073709551489, ws.toArray⟩, selectZero := some emptySel }, []) ∧
    bitVectorC.load
      (bigS 0#64 18446744073709551489#64 288230376151711743#64 ws (0#64 :: 0#64 :: selLit [])) =
        fault (.err .invalid) := by
  obtain ⟨a1, a2, a3, a4, a5, a6, a7, a8, a9, a10, a11, a12, a13, a14, a15⟩ := big_facts
  have hr := big_raw (ws := ws) (0#64 :: 0#64 :: selLit []) a1 (a2.trans hl.symm) (a3.trans hl.symm)
  have hk := big_rawOk (wN := 288230376151711743#64) (ws := ws) (0#64 :: 0#64 :: selLit []) a1 a4
  have g := fun m => bv_load_of_loads (m := m) (usizeC_cons 0#64 _) hk hr a5 (opt_none_cons _ _) (opt_none_cons _ _)
    (opt_sel_lit _)
  refine ⟨(g _).trans ?_, (g _).trans ?_, ?_⟩
  · exact (optCk_none _ _).trans ((optCk_none _ _).trans (optCk_fault a11))
  · exact (optCk_none _ _).trans ((optCk_none _ _).trans (optCk_ok a12 rfl))
  · exact bv_model_of_loads (usizeC_cons 0#64 _) hr a5 (opt_none_cons _ _) (opt_none_cons _ _) (opt_sel_lit _)
      fun h => a15 (h.2.2 _ rfl)

end Sds.GenEq
