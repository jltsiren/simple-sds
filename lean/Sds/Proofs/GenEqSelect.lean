/-
Proofs/GenEqSelect: the two cfg alternatives of `bits::select` as TRANSLATED statement by statement from the source
(Generated/FnsSelect.lean) against the hand-written model (`selectPortable`, `selectPdep` of Model/Bits.lean).

The translated portable path performs MORE checked operations than the model (the SWAR prefix uses the plain `-` and
`+` of the source, `rank + 1`, `relative_rank << 8`, `… + byte` and the final `offset + …` are all plain operators), so
the statement is: whenever the model returns a value, the translated code returns the same value.  Together with
`selectPortable_spec` this gives the specification of the translated code on `rank < popcount n`.
-/
import Sds.Model.Bits
import Sds.Generated.FnsSelect
import Sds.Proofs.Tables
import Sds.Proofs.BitsMore
import Sds.Proofs.GenEqBits

namespace Sds.GenEq
open Sds Outcome Generated

/-! ### checked word operations that cannot fault -/

theorem sel_and255 (x : Nat) : x &&& 255 = x % 256 := Nat.and_two_pow_sub_one_eq_mod x 8

theorem sel_step1 (n : Word) : ((n >>> 1) &&& (6148914691236517205 : Word)).toNat ≤ n.toNat := by
  rw [BitVec.toNat_and, BitVec.toNat_ushiftRight, Nat.shiftRight_eq_div_pow]
  have := @Nat.and_le_left (n.toNat / 2 ^ 1) ((6148914691236517205 : Word)).toNat
  omega

theorem sel_and33 (x : Word) : (x &&& (3689348814741910323 : Word)).toNat ≤ 0x3333333333333333 := by
  rw [BitVec.toNat_and]
  exact Nat.and_le_right

theorem sel_step3 (a b : Word) (ha : a.toNat ≤ 0x3333333333333333) (hb : b.toNat ≤ 0x3333333333333333) :
    (a + b).toNat + ((a + b) >>> 4).toNat < 2 ^ 64 := by
  rw [BitVec.toNat_ushiftRight, Nat.shiftRight_eq_div_pow, BitVec.toNat_add]
  omega

/-! ### the SWAR prefix: the translated code reaches the model's `cumulative` without a fault -/

/-- the translated code after the SWAR prefix sums (the statements from `rank + 1` on) -/
def sel_genTail (m : Mode) (n cumulative : Word) (rank : Nat) : Outcome Nat :=
  addM m rank 1 >>= fun t7 =>
  tableU Generated.PS_OVERFLOW t7 >>= fun t8 =>
  addW m cumulative t8 >>= fun t9 =>
  shlW m cumulative 8 >>= fun t10 =>
  shrW m t10 ((((ctz (t9 &&& (9259542123273814144 : Word))) >>> 3) <<< 3) % 4294967296) >>= fun t11 =>
  subM m rank ((t11).toNat &&& 255) >>= fun t12 =>
  shlU m t12 8 >>= fun t13 =>
  shrW m n ((((ctz (t9 &&& (9259542123273814144 : Word))) >>> 3) <<< 3) % 4294967296) >>= fun t14 =>
  addM m t13 ((t14).toNat &&& 255) >>= fun t15 =>
  tableU Generated.SELECT_IN_BYTE t15 >>= fun t16 =>
  addM m ((((ctz (t9 &&& (9259542123273814144 : Word))) >>> 3) <<< 3) % 4294967296) (t16).toNat

theorem sel_prefix (m : Mode) (n : Word) (rank : Nat) :
    gen_select_portable m n rank = sel_genTail m n (swarC3 n * 0x0101010101010101#64) rank := by
  unfold gen_select_portable
  refine (bind_of_ok _ (shrW_ok m n (by decide : 1 < 64))).trans ?_
  refine (bind_of_ok _ (subW_ok m _ _ (sel_step1 n))).trans ?_
  refine (bind_of_ok _ (shrW_ok m _ (by decide : 2 < 64))).trans ?_
  refine (bind_of_ok _ (addW_ok m _ _ (by
    rw [U64_eq]
    have h1 := sel_and33 (n - ((n >>> 1) &&& (6148914691236517205 : Word)))
    have h2 := sel_and33 ((n - ((n >>> 1) &&& (6148914691236517205 : Word))) >>> 2)
    omega))).trans ?_
  refine (bind_of_ok _ (shrW_ok m _ (by decide : 4 < 64))).trans ?_
  refine (bind_of_ok _ (addW_ok m _ _ (by rw [U64_eq]; exact sel_step3 _ _ (sel_and33 _) (sel_and33 _)))).trans ?_
  rfl


theorem sel_tableU_ok {t : List Nat} {i : Nat} {v : Word} (h : tableU t i = ok v) :
    ∃ x, t[i]? = some x ∧ v = BitVec.ofNat 64 x := by
  unfold tableU at h
  cases hx : t[i]? with
  | none => rw [hx] at h; cases h
  | some x => rw [hx] at h; cases h; exact ⟨x, rfl, rfl⟩

theorem sel_tableU_lt {t : List Nat} {i : Nat} {v : Word} (h : tableU t i = ok v) : i < t.length := by
  obtain ⟨x, hx, _⟩ := sel_tableU_ok h
  exact (List.getElem?_eq_some_iff.1 hx).1

theorem sel_sib_all : SELECT_IN_BYTE.all (fun v => decide (v < 8)) = true := by decide +kernel

theorem sel_sib_small {i : Nat} {v : Word} (h : tableU SELECT_IN_BYTE i = ok v) : v.toNat < 8 := by
  obtain ⟨x, hx, hv⟩ := sel_tableU_ok h
  have hmem : x ∈ SELECT_IN_BYTE := List.mem_of_getElem? hx
  have := List.all_eq_true.1 sel_sib_all x hmem
  have hx8 : x < 8 := by simpa using this
  subst hv
  rw [BitVec.toNat_ofNat]
  exact Nat.lt_of_le_of_lt (Nat.mod_le _ _) hx8

theorem sel_offset_le (w : Word) : ((ctz w) >>> 3) <<< 3 ≤ 64 := by
  have := ctz_le w
  rw [Nat.shiftRight_eq_div_pow, Nat.shiftLeft_eq]
  omega


/-- the statements after the SWAR prefix, against the stages of the model (`spTail`: overflow table and the word
addition; `spGuard`: the byte offset is below 64; `spFinish`: rank within the byte) -/
theorem sel_tail (m : Mode) (n cumulative : Word) (rank p : Nat)
    (h : spTail m n cumulative rank = ok p) : sel_genTail m n cumulative rank = ok p := by
  have hU := U64_val
  unfold spTail at h
  unfold sel_genTail
  cases hov : tableU Generated.PS_OVERFLOW (rank + 1) with
  | fault f => rw [hov] at h; cases h
  | ok ov =>
    rw [bind_of_ok _ hov] at h
    have hidx := sel_tableU_lt hov
    rw [PS_OVERFLOW_ok.2] at hidx
    have h1 : addM m rank 1 = ok (rank + 1) := addM_ok (by omega)
    rw [bind_of_ok _ h1, bind_of_ok _ hov]
    cases hs : addM m cumulative.toNat ov.toNat with
    | fault f => rw [hs] at h; cases h
    | ok s =>
      rw [bind_of_ok _ hs] at h
      have hw : addW m cumulative ov = ok (BitVec.ofNat 64 s) := by
        unfold addW
        rw [bind_of_ok _ hs]
        rfl
      rw [bind_of_ok _ hw, show (9259542123273814144 : Word) = 0x8080808080808080#64 from rfl]
      unfold spAfterAdd spGuard at h
      have hle := sel_offset_le ((BitVec.ofNat 64 s) &&& 0x8080808080808080#64)
      by_cases hge : ((ctz ((BitVec.ofNat 64 s) &&& 0x8080808080808080#64)) >>> 3) <<< 3 ≥ 64
      · rw [if_pos hge] at h
        cases m <;> cases h
      rw [if_neg hge] at h
      rw [Nat.mod_eq_of_lt (Nat.lt_of_le_of_lt hle (by decide))]
      have hoff := Nat.lt_of_not_ge hge
      generalize ((ctz ((BitVec.ofNat 64 s) &&& 0x8080808080808080#64)) >>> 3) <<< 3 = offset at h hoff ⊢
      unfold spFinish at h
      rw [shlW_ok m cumulative (by decide : 8 < 64)]
      simp only [bind_ok]
      rw [shrW_ok m _ hoff, shrW_ok m n hoff]
      simp only [bind_ok, sel_and255]
      cases hrel : subM m rank ((((cumulative <<< 8) >>> offset).toNat) % 256) with
      | fault f => rw [hrel] at h; cases h
      | ok rel =>
        rw [hrel] at h
        simp only [bind_ok] at h ⊢
        cases he : tableU Generated.SELECT_IN_BYTE ((rel <<< 8) + (((n >>> offset).toNat) % 256)) with
        | fault f => rw [he] at h; cases h
        | ok e =>
          rw [he] at h
          simp only [bind_ok, pure_eq] at h
          have hidx := sel_tableU_lt he
          rw [SELECT_IN_BYTE_ok.2] at hidx
          have hsmall := sel_sib_small he
          have hrel8 : rel <<< 8 < 2048 := by omega
          have hshl : shlU m rel 8 = ok (rel <<< 8) := by
            rw [shlU_ok m rel (by decide : 8 < 64), Nat.mod_eq_of_lt (by omega)]
          refine (bind_of_ok _ hshl).trans ?_
          refine (bind_of_ok _ (addM_ok (by omega))).trans ?_
          refine (bind_of_ok _ he).trans ?_
          rw [addM_ok (by omega)]
          exact h

theorem select_portable_of_model_ok (m : Mode) (n : Word) (rank p : Nat)
    (h : selectPortable m n rank = ok p) : gen_select_portable m n rank = ok p := by
  rw [sel_prefix]
  rw [selectPortable_eq] at h
  exact sel_tail m n _ rank p h

theorem select_portable_as_spec (m : Mode) (n : Word) (rank : Nat) (h : rank < popcount n) :
    ∃ p, gen_select_portable m n rank = ok p ∧ selectBits (bitsOfWord n) rank = some p := by
  obtain ⟨p, hp, hs⟩ := selectPortable_spec m n rank h
  exact ⟨p, select_portable_of_model_ok m n rank p hp, hs⟩

theorem select_bmi2_eq (m : Mode) (n : Word) (rank : Nat) (h : rank < 64) :
    gen_select_bmi2 m n rank = ok (selectPdep n rank) := by
  unfold gen_select_bmi2 selectPdep
  rw [shlW_ok m _ h]
  rfl

theorem select_bmi2_as_spec (m : Mode) (n : Word) (rank : Nat) (h : rank < popcount n) :
    ∃ p, gen_select_bmi2 m n rank = ok p ∧ selectBits (bitsOfWord n) rank = some p := by
  have h64 : rank < 64 := by have := popcount_le n; omega
  exact ⟨selectPdep n rank, select_bmi2_eq m n rank h64, selectPdep_spec n rank h⟩

/-! ### non-vacuity: the translated definitions evaluate, inside and outside the precondition -/

example : gen_select_portable .checked 0x8000000000000001#64 1 = ok 63 := by decide +kernel
example : gen_select_portable .wrapping 0x8000000000000001#64 0 = ok 0 := by decide +kernel
example : gen_select_portable .checked 0xFFFFFFFFFFFFFFFF#64 63 = ok 63 := by decide +kernel
example : gen_select_bmi2 .wrapping 0b10110#64 2 = ok 4 := by decide +kernel
example : gen_select_bmi2 .checked 0x8000000000000001#64 1 = ok 63 := by decide +kernel

/-- outside the precondition (`rank ≥ popcount n`), checked build: the shift by 64 panics -/
example : gen_select_portable .checked 0#64 0 = fault (.panic .overflow) := by decide +kernel
/-- outside the precondition, build without overflow checks: the translated code (shift amount masked to 0) returns
64 where the model reports `oob` — the implication of `select_portable_of_model_ok` cannot be reversed -/
example : gen_select_portable .wrapping 0#64 0 = ok 64 ∧ selectPortable .wrapping 0#64 0 = fault .oob := by
  decide +kernel
/-- a rank beyond the overflow table: the unchecked table read is out of bounds -/
example : gen_select_portable .checked 0xFF#64 64 = fault .oob := by decide +kernel
/-- BMI2 path with `rank = 64`: `1 << 64` panics with overflow checks and is `1 << 0` without -/
example : gen_select_bmi2 .checked 1#64 64 = fault (.panic .overflow) ∧ gen_select_bmi2 .wrapping 1#64 64 = ok 0 := by
  decide +kernel

end Sds.GenEq
