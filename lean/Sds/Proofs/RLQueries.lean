/-
Proofs/RLQueries: property C03 — the queries of the run-length encoded bitvector
(`get`, `rank`, `rank_zero`, `select`, `select_zero`, `predecessor`, `successor`) return the defined
answers on every vector produced by `From<RLBuilder>`, and its iterators deliver the bits, the set bits and the
unset bits in order.  Every query starts its run iterator at a cut of the runs (`At`) and walks on from there (`Walk`,
one induction per loop); every iterator has one state relation closed under `next()` (`OneFrom`, `BitFrom`, `ZeroFrom`).
-/
import Sds.Proofs.RL
import Sds.Proofs.Iter

namespace Sds
open Outcome

namespace RLQ
open RunIter RLBuilder SampleIndex

/-! ## 1. well-formed vectors -/

abbrev Blocks := List (List (Nat × Nat))

/-- ones before block `i` -/
def cumL (bl : Blocks) (i : Nat) : Nat := lens (bl.take i).flatten
/-- end of the last run before block `i` -/
def cumS (bl : Blocks) (i : Nat) : Nat := span (bl.take i).flatten

def bitsCol (bl : Blocks) : List Nat := (List.range bl.length).map (cumS bl)
def onesCol (bl : Blocks) : List Nat := (List.range bl.length).map (cumL bl)
def zerosCol (bl : Blocks) : List Nat := (List.range bl.length).map (fun i => cumS bl i - cumL bl i)

/-- the index `SampleIndex::new` returns for no values or an empty universe -/
def TrivialIdx (s : SampleIndex) : Prop :=
  s.numValues = 0 ∧ s.divisor = U64 - 1 ∧ s.samples.len = 1 ∧ (s.samples.getRaw 0).toNat = 0

/-- `GoodB v bl`: `v` is laid out as the blocks `bl` of runs `(gap, len)` (relative to the preceding run). -/
structure GoodB (v : RL) (bl : Blocks) : Prop where
  len_lt : v.len < U64
  samples_len : v.samples.len = 2 * bl.length
  blk_ok : ∀ blk ∈ bl, blk ≠ [] ∧ BlockOK blk
  data : ∀ i (h : i < bl.length), ∃ tail, v.data.items.drop (64 * i) = unitsOf bl[i] ++ tail
  data_len : v.data.len ≤ 64 * bl.length
  ones_smp : ∀ i, i < bl.length → (v.samples.getRaw (2 * i)).toNat = cumL bl i
  bits_smp : ∀ i, i < bl.length → (v.samples.getRaw (2 * i + 1)).toNat = cumS bl i
  ones : v.ones = lens bl.flatten
  span_le : span bl.flatten ≤ v.len
  rank_idx : bl ≠ [] → v.rankIndex.Valid (bitsCol bl) v.len
  sel_idx : bl ≠ [] → v.selectIndex.Valid (onesCol bl) v.ones
  zero_idx : bl ≠ [] → 0 < v.len - v.ones → v.selectZeroIndex.Valid (zerosCol bl) (v.len - v.ones)
  triv : bl = [] → TrivialIdx v.rankIndex ∧ TrivialIdx v.selectZeroIndex

/-- `Good v R`: `v` is a well-formed vector whose runs of ones are `R` (absolute `(start, len)`) -/
def Good (v : RL) (R : List (Nat × Nat)) : Prop := ∃ bl, GoodB v bl ∧ R = absRuns 0 bl.flatten

/-! ### cumulative sums -/

theorem cumL_zero (bl : Blocks) : cumL bl 0 = 0 := rfl
theorem cumS_zero (bl : Blocks) : cumS bl 0 = 0 := rfl

theorem cumL_succ (bl : Blocks) (i : Nat) (h : i < bl.length) : cumL bl (i + 1) = cumL bl i + lens bl[i] :=
  RL.cum_succ bl i h

theorem cumS_succ (bl : Blocks) (i : Nat) (h : i < bl.length) : cumS bl (i + 1) = cumS bl i + span bl[i] := by
  unfold cumS
  rw [List.take_add_one, List.getElem?_eq_getElem h]
  rw [Option.toList_some, List.flatten_append, span_append]
  simp only [List.flatten_cons, List.flatten_nil, List.append_nil]

theorem cumL_length (bl : Blocks) : cumL bl bl.length = lens bl.flatten := by
  unfold cumL; rw [List.take_length]

theorem cumS_length (bl : Blocks) : cumS bl bl.length = span bl.flatten := by
  unfold cumS; rw [List.take_length]

theorem cumS_mono (bl : Blocks) (j k : Nat) (h : j ≤ k) : cumS bl j ≤ cumS bl k :=
  RL.span_take_mono bl j k h

theorem cumL_mono (bl : Blocks) (j k : Nat) (h : j ≤ k) : cumL bl j ≤ cumL bl k :=
  RL.lens_take_mono bl j k h

theorem cumL_le_cumS (bl : Blocks) (j : Nat) : cumL bl j ≤ cumS bl j := lens_le_span _

theorem cumZ_mono (bl : Blocks) (j k : Nat) (h : j ≤ k) : cumS bl j - cumL bl j ≤ cumS bl k - cumL bl k :=
  RL.zeros_take_mono bl j k h

theorem cumL_le (bl : Blocks) (j : Nat) : cumL bl j ≤ lens bl.flatten := by
  rcases Nat.le_total j bl.length with h | h
  · rw [← cumL_length]; exact cumL_mono bl j _ h
  · unfold cumL; rw [List.take_of_length_le h]; exact Nat.le_refl _

theorem cumS_le (bl : Blocks) (j : Nat) : cumS bl j ≤ span bl.flatten := by
  rcases Nat.le_total j bl.length with h | h
  · rw [← cumS_length]; exact cumS_mono bl j _ h
  · unfold cumS; rw [List.take_of_length_le h]; exact Nat.le_refl _

/-! ### the block layout and the iterator at a block start -/

theorem GoodB.blocks {v : RL} {bl : Blocks} (g : GoodB v bl) : v.blocks = bl.length := by
  unfold RL.blocks; rw [g.samples_len]; omega

theorem GoodB.ones_eq {v : RL} {bl : Blocks} (g : GoodB v bl) : v.ones = lensAbs (absRuns 0 bl.flatten) := by
  rw [lensAbs_absRuns]; exact g.ones

theorem GoodB.len_pos_of_blk {bl : Blocks} {v : RL} (g : GoodB v bl) (b : Nat) :
    ∀ p ∈ (bl.drop b).flatten, 1 ≤ p.2 := by
  intro p hp
  obtain ⟨blk, h1, h2⟩ := List.mem_flatten.mp hp
  exact ((g.blk_ok blk (List.mem_of_mem_drop h1)).2.1 p h2).2

theorem GoodB.get_ones {v : RL} {bl : Blocks} (g : GoodB v bl) (i : Nat) (h : i < bl.length) :
    v.samples.get (2 * i) = ok (v.samples.getRaw (2 * i)) :=
  IntVec.get_ok _ _ (by rw [g.samples_len]; omega)

theorem GoodB.get_bits {v : RL} {bl : Blocks} (g : GoodB v bl) (i : Nat) (h : i < bl.length) :
    v.samples.get (2 * i + 1) = ok (v.samples.getRaw (2 * i + 1)) :=
  IntVec.get_ok _ _ (by rw [g.samples_len]; omega)

theorem GoodB.onesAfter {v : RL} {bl : Blocks} (g : GoodB v bl) (i : Nat) (h : i < bl.length) :
    v.onesAfter i = ok (cumL bl (i + 1)) := by
  unfold RL.onesAfter
  rw [g.blocks]
  by_cases hl : i + 1 < bl.length
  · rw [if_pos hl, g.get_ones (i + 1) hl]
    simp only [bind_ok, pure_eq]
    rw [g.ones_smp (i + 1) hl]
  · rw [if_neg hl, g.ones, ← cumL_length]
    rw [show i + 1 = bl.length by omega]

theorem GoodB.layout {v : RL} {bl : Blocks} (g : GoodB v bl) (b : Nat) (hb : b ≤ bl.length) :
    Layout v b (cumL bl b) (bl.drop b) := by
  have := RL.layout_of_blocks v bl (cumL bl) g.blocks (by rw [g.ones, cumL_length]) g.data_len
    (by
      intro i h
      have hm := g.blk_ok bl[i] (List.getElem_mem h)
      exact ⟨hm.1, hm.2, g.data i h, by rw [g.onesAfter i h, cumL_succ bl i h], cumL_succ bl i h⟩)
    (bl.length - b) (by omega)
  rw [show bl.length - (bl.length - b) = b by omega] at this
  exact this

/-- the iterator `iter_for_block(b)` returns -/
def blockIter (bl : Blocks) (b : Nat) : RunIter := ⟨b * 64, (cumL bl b, cumS bl b), cumL bl (b + 1)⟩

theorem GoodB.iterForBlock {v : RL} {bl : Blocks} (g : GoodB v bl) (b : Nat) (hb : b < bl.length) :
    v.iterForBlock b = ok (blockIter bl b) := by
  unfold RL.iterForBlock
  rw [if_neg (by rw [g.samples_len]; omega), g.get_ones b hb, bind_ok, g.get_bits b hb]
  simp only [bind_ok, pure_eq]
  rw [g.onesAfter b hb, g.ones_smp b hb, g.bits_smp b hb]
  rfl

/-! ### inversion of `collect` -/

theorem collect_nil_inv {m : Mode} {v : RL} {fuel : Nat} {it e : RunIter}
    (h : collect m v fuel it = ok ([], e)) : ∃ f, fuel = f + 1 ∧ nextQ m v it = ok (none, e) := by
  cases fuel with
  | zero => cases h
  | succ f =>
    refine ⟨f, rfl, ?_⟩
    rw [collect] at h
    obtain ⟨⟨o, it'⟩, h1, h2⟩ := Outcome.bind_eq_ok h
    cases o with
    | none => cases h2; exact h1
    | some r =>
      obtain ⟨⟨rs, e'⟩, _, h4⟩ := Outcome.bind_eq_ok h2
      cases h4

theorem collect_cons_inv {m : Mode} {v : RL} {fuel : Nat} {it e : RunIter} {x : (Nat × Nat) × (Nat × Nat)}
    {L : List ((Nat × Nat) × (Nat × Nat))}
    (h : collect m v fuel it = ok (x :: L, e)) :
    ∃ f it', fuel = f + 1 ∧ nextQ m v it = ok (some x.1, it') ∧ it'.pos = x.2 ∧
      collect m v f it' = ok (L, e) := by
  cases fuel with
  | zero => cases h
  | succ f =>
    rw [collect] at h
    obtain ⟨⟨o, it'⟩, h1, h2⟩ := Outcome.bind_eq_ok h
    cases o with
    | none => cases h2
    | some r =>
      obtain ⟨⟨rs, e'⟩, h3, h4⟩ := Outcome.bind_eq_ok h2
      cases h4
      exact ⟨f, it', rfl, h1, rfl, h3⟩

/-! ### `collect` from the start of a block -/

theorem drop_cum (bl : Blocks) (b : Nat) :
    cumL bl b + lens (bl.drop b).flatten = lens bl.flatten ∧
    cumS bl b + span (bl.drop b).flatten = span bl.flatten := by
  have h := List.take_append_drop b bl
  constructor
  · unfold cumL; rw [← lens_append, ← List.flatten_append, h]
  · unfold cumS; rw [← span_append, ← List.flatten_append, h]

theorem length_le_units : ∀ (blk : List (Nat × Nat)), (∀ p ∈ blk, p.1 < 2 ^ 64 ∧ 1 ≤ p.2) →
    blk.length ≤ (unitsOf blk).length := by
  intro blk
  induction blk with
  | nil => intro _; simp
  | cons p rs ih2 =>
    intro hp
    have := runUnits_length_pos p.1 p.2 (hp p (by simp)).1
    have := ih2 (fun q hq => hp q (by simp [hq]))
    simp only [unitsOf, List.length_append, List.length_cons]; omega

theorem layout_runs_le {v : RL} : ∀ (bl' : Blocks) (b rank : Nat), Layout v b rank bl' → bl' ≠ [] →
    64 * b + bl'.flatten.length ≤ v.data.len := by
  intro bl'
  induction bl' with
  | nil => intro b rank _ h; exact absurd rfl h
  | cons blk more ih =>
    intro b rank hL _
    have hgt := Layout.data_len_gt hL
    obtain ⟨hne, hp, h64, _, _, hmore⟩ := hL
    have hlen : blk.length ≤ (unitsOf blk).length := length_le_units blk hp
    by_cases hm : more = []
    · subst hm; simp; omega
    · have := ih (b + 1) _ hmore hm
      simp only [List.flatten_cons, List.length_append]; omega

theorem GoodB.collect_block (m : Mode) {v : RL} {bl : Blocks} (g : GoodB v bl) (b : Nat) (hb : b < bl.length) :
    ∃ fuel e, fuel ≤ v.data.len + 2 ∧
      collect m v fuel (blockIter bl b) =
        ok (withPos (cumL bl b) (absRuns (cumS bl b) (bl.drop b).flatten), e) ∧
      e.pos = (lens bl.flatten, span bl.flatten) := by
  have hL := g.layout b (Nat.le_of_lt hb)
  have hdrop : bl.drop b = bl[b] :: bl.drop (b + 1) := List.drop_eq_getElem_cons hb
  obtain ⟨c1, c2⟩ := drop_cum bl b
  have hsp := g.span_le
  have hll := lens_le_span bl.flatten
  have hlt := g.len_lt
  have hfuel := layout_runs_le _ _ _ hL (by
    intro h; have := congrArg List.length h; simp at this; omega)
  have hE : Entry m v (blockIter bl b) b (cumL bl b) (bl.drop b) := by
    rw [hdrop]
    show peek m v _ = readRun m v _ (64 * b) (cumL bl b + lens bl[b])
    have hgt : 64 * b + (unitsOf bl[b]).length ≤ v.data.len := by
      rw [hdrop] at hL; exact Layout.data_len_gt hL
    have hup := unitsOf_length_pos (g.blk_ok _ (List.getElem_mem hb)).1 (g.blk_ok _ (List.getElem_mem hb)).2.1
    have hlp := lens_pos (g.blk_ok _ (List.getElem_mem hb)).1 (g.blk_ok _ (List.getElem_mem hb)).2.1
    rw [peek_inBlock m v _ (by show b * 64 < v.data.len; omega)
      (by show cumL bl b < cumL bl (b + 1); rw [cumL_succ bl b hb]; omega)]
    show readRun m v _ (b * 64) (cumL bl (b + 1)) = _
    rw [cumL_succ bl b hb, Nat.mul_comm]
  obtain ⟨e, h1, h2⟩ := collect_layout m v (bl.drop b) b (cumL bl b) (cumS bl b) (blockIter bl b) hL rfl hE
    (by omega) (by omega)
  exact ⟨_, e, by omega, h1, by rw [h2, c1, c2]⟩

/-! ### the run iterator as a walk over the runs

`collect` with fuel is what the layout lemmas produce; the loops of the queries are easier to follow along
an inductive description of the same thing. -/

theorem nextQ_none_pos {m : Mode} {v : RL} {it e : RunIter} (h : nextQ m v it = ok (none, e)) : e.pos = it.pos := by
  unfold nextQ at h
  obtain ⟨pk, _, h2⟩ := Outcome.bind_eq_ok h
  cases pk with
  | atEnd => cases h2; rfl
  | noMoreBlocks o => cases h2; rfl
  | run s l a => cases h2

theorem peek_of_nextQ_some {m : Mode} {v : RL} {it adv : RunIter} {r : Nat × Nat}
    (h : nextQ m v it = ok (some r, adv)) : peek m v it = ok (.run r.1 r.2 adv) := by
  unfold nextQ at h
  obtain ⟨pk, h1, h2⟩ := Outcome.bind_eq_ok h
  cases pk with
  | atEnd => cases h2
  | noMoreBlocks o => cases h2
  | run s l a => cases h2; exact h1

theorem peek_of_nextQ_none {m : Mode} {v : RL} {it e : RunIter}
    (h : nextQ m v it = ok (none, e)) : peek m v it = ok .atEnd ∨ ∃ o, peek m v it = ok (.noMoreBlocks o) := by
  unfold nextQ at h
  obtain ⟨pk, h1, h2⟩ := Outcome.bind_eq_ok h
  cases pk with
  | atEnd => exact Or.inl h1
  | noMoreBlocks o => exact Or.inr ⟨o, h1⟩
  | run s l a => cases h2

theorem readRun_is_run {m : Mode} {v : RL} {it : RunIter} {off lim : Nat} {pk : Peek}
    (h : readRun m v it off lim = ok pk) : ∃ s l adv, pk = .run s l adv := by
  unfold readRun at h
  obtain ⟨⟨gap, o1⟩, _, h⟩ := Outcome.bind_eq_ok h
  obtain ⟨start, _, h⟩ := Outcome.bind_eq_ok h
  obtain ⟨⟨len, o2⟩, _, h⟩ := Outcome.bind_eq_ok h
  obtain ⟨len1, _, h⟩ := Outcome.bind_eq_ok h
  obtain ⟨r, _, h⟩ := Outcome.bind_eq_ok h
  obtain ⟨e, _, h⟩ := Outcome.bind_eq_ok h
  simp only [pure_eq] at h
  injection h with h
  exact ⟨_, _, _, h.symm⟩

/-- `FusedIterator`, on any state of any vector: the state left by a `None` answers `None` and does not move -/
theorem nextQ_fused (m : Mode) (v : RL) (it e : RunIter) (h : nextQ m v it = ok (none, e)) :
    nextQ m v e = ok (none, e) ∧ e.pos = it.pos := by
  by_cases h1 : v.data.len ≤ it.offset
  · rw [nextQ_atEnd m v it h1] at h
    injection h with h; injection h with _ h; subst h
    exact ⟨nextQ_atEnd m v it h1, rfl⟩
  · have hno : ∀ off lim, peek m v it = readRun m v it off lim → False := by
      intro off lim hp
      rcases peek_of_nextQ_none h with h2 | ⟨o, h2⟩
      · rw [hp] at h2; obtain ⟨_, _, _, h3⟩ := readRun_is_run h2; cases h3
      · rw [hp] at h2; obtain ⟨_, _, _, h3⟩ := readRun_is_run h2; cases h3
    by_cases hr : it.pos.1 < it.limit
    · exact absurd (peek_inBlock m v it (by omega) hr) (fun hp => hno _ _ hp)
    · by_cases hb : v.blocks ≤ (it.offset + 63) / 64
      · rw [nextQ_noMoreBlocks m v it (by omega) (by omega) hb] at h
        injection h with h; injection h with _ h; subst h
        refine ⟨?_, rfl⟩
        by_cases h2 : v.data.len ≤ (it.offset + 63) / 64 * 64
        · exact nextQ_atEnd m v _ h2
        · have e1 : ((it.offset + 63) / 64 * 64 + 63) / 64 = (it.offset + 63) / 64 := by omega
          have := nextQ_noMoreBlocks m v { it with offset := (it.offset + 63) / 64 * 64 } (by
            show (it.offset + 63) / 64 * 64 < v.data.len; omega) (by show it.limit ≤ it.pos.1; omega) (by
            show v.blocks ≤ ((it.offset + 63) / 64 * 64 + 63) / 64; rw [e1]; exact hb)
          rw [this]
          simp only [e1]
      · cases hl : v.onesAfter ((it.offset + 63) / 64) with
        | ok l => exact absurd (peek_nextBlock m v it (by omega) (by omega) (by omega) l hl) (fun hp => hno _ _ hp)
        | fault f =>
          exfalso
          have hp : peek m v it = fault f := by
            unfold peek
            rw [if_neg (by omega)]
            simp only [rank, if_pos (show it.pos.1 ≥ it.limit by omega),
              if_neg (show ¬ (it.offset + 63) / 64 ≥ v.blocks by omega), hl, bind_fault]
          rcases peek_of_nextQ_none h with h2 | ⟨o, h2⟩ <;> rw [hp] at h2 <;> cases h2

/-- `Walk m v it r p rs e`: the iterator `it` stands at rank `r` and position `p`; successive `next()` deliver
the runs `rs` (each `(gap, len)` relative to its predecessor), then `None`, leaving the iterator `e` -/
inductive Walk (m : Mode) (v : RL) : RunIter → Nat → Nat → List (Nat × Nat) → RunIter → Prop
  | done {it e : RunIter} {r p : Nat} : it.pos = (r, p) → nextQ m v it = ok (none, e) → e.pos = (r, p) →
      Walk m v it r p [] e
  | run {it it' e : RunIter} {r p g l : Nat} {rs : List (Nat × Nat)} : it.pos = (r, p) →
      nextQ m v it = ok (some (p + g, l), it') → Walk m v it' (r + l) (p + g + l) rs e →
      Walk m v it r p ((g, l) :: rs) e

theorem Walk.pos {m : Mode} {v : RL} {it e : RunIter} {r p : Nat} {rs : List (Nat × Nat)}
    (w : Walk m v it r p rs e) : it.pos = (r, p) := by
  cases w <;> assumption

theorem Walk.of_collect {m : Mode} {v : RL} : ∀ (rs : List (Nat × Nat)) (r p fuel : Nat) (it e : RunIter),
    collect m v fuel it = ok (withPos r (absRuns p rs), e) → it.pos = (r, p) →
    Walk m v it r p rs e ∧ rs.length < fuel := by
  intro rs
  induction rs with
  | nil =>
    intro r p fuel it e hc hit
    obtain ⟨f, rfl, hn⟩ := collect_nil_inv hc
    exact ⟨.done hit hn (by rw [nextQ_none_pos hn, hit]), Nat.succ_pos f⟩
  | cons q rs ih =>
    intro r p fuel it e hc hit
    obtain ⟨f, it', rfl, hn, hp, hc'⟩ := collect_cons_inv hc
    obtain ⟨w, hf⟩ := ih _ _ f it' e hc' hp
    exact ⟨.run hit hn w, Nat.succ_lt_succ hf⟩

/-- the walk from the start of block `b`; `data.len + 2` is the fuel every query gives its loop -/
theorem GoodB.walk_block (m : Mode) {v : RL} {bl : Blocks} (g : GoodB v bl) (b : Nat) (hb : b < bl.length) :
    ∃ e, Walk m v (blockIter bl b) (cumL bl b) (cumS bl b) (bl.drop b).flatten e ∧
      (bl.drop b).flatten.length < v.data.len + 2 := by
  obtain ⟨fuel, e, hf, hc, _⟩ := g.collect_block m b hb
  obtain ⟨w, hl⟩ := Walk.of_collect _ _ _ _ _ _ hc rfl
  exact ⟨e, w, Nat.lt_of_lt_of_le hl hf⟩

theorem fuel_succ {n F : Nat} (h : n < F) : ∃ F', F = F' + 1 :=
  Nat.exists_eq_add_one_of_ne_zero (Nat.ne_zero_of_lt h)

/-! ## 2. block location -/

theorem bitsCol_length (bl : Blocks) : (bitsCol bl).length = bl.length := by simp [bitsCol]
theorem onesCol_length (bl : Blocks) : (onesCol bl).length = bl.length := by simp [onesCol]
theorem zerosCol_length (bl : Blocks) : (zerosCol bl).length = bl.length := by simp [zerosCol]

theorem bitsCol_get (bl : Blocks) (i : Nat) (h : i < (bitsCol bl).length) : (bitsCol bl)[i] = cumS bl i := by
  simp [bitsCol]
theorem onesCol_get (bl : Blocks) (i : Nat) (h : i < (onesCol bl).length) : (onesCol bl)[i] = cumL bl i := by
  simp [onesCol]
theorem zerosCol_get (bl : Blocks) (i : Nat) (h : i < (zerosCol bl).length) :
    (zerosCol bl)[i] = cumS bl i - cumL bl i := by
  simp [zerosCol]

/-- what the three `iter_for_*` share: a valid sample index over a monotone column `col` of the samples followed by
`block_for` over a reader `f` of that column finds the **last** block `b` with `col b ≤ x`; `iter_for_block` then
gives its iterator -/
theorem GoodB.locate_block {v : RL} {bl : Blocks} (g : GoodB v bl) {s : SampleIndex} {univ : Nat} {col : Nat → Nat}
    {f : Nat → Outcome Nat} (hv : s.Valid ((List.range bl.length).map col) univ)
    (hf : ∀ i, i < bl.length → f i = ok (col i)) (hmono : ∀ i j, i ≤ j → col i ≤ col j) (x : Nat) (hx : x < univ) :
    ∃ b, b < bl.length ∧
      (do let (lo, hi) ← s.range x
          let block ← RL.blockFor f x 70 lo hi
          v.iterForBlock block) = ok (blockIter bl b) ∧
      col b ≤ x ∧ ∀ j, b < j → j < bl.length → x < col j := by
  have hlen : ((List.range bl.length).map col).length = bl.length := by simp
  obtain ⟨lo, hi, h1, h2, h3, ⟨h4, h5⟩, h6⟩ := range_spec hv x hx
  rw [hlen] at h3
  have hnlt := hv.numValues_lt
  rw [hlen, U64_eq] at hnlt
  have h5' : col lo ≤ x := by simpa using h5
  obtain ⟨b, e, b1, b2, b3, b4⟩ := RL.blockFor_70 f col x lo hi h2 (by omega)
    (fun i _ hi' => hf i (by omega)) (fun i j _ hij _ => hmono i j hij) h5'
  have hb : b < bl.length := by omega
  refine ⟨b, hb, ?_, b3, ?_⟩
  · rw [h1]
    simp only [bind_ok]
    rw [e, bind_ok, g.iterForBlock b hb]
  · intro j hbj hjn
    by_cases hjh : j < hi
    · exact b4 j hbj hjh
    · rcases h6 with h6 | ⟨h7, h8⟩
      · rw [hlen] at h6; omega
      · have h8' : x < col hi := by simpa using h8
        have := hmono hi j (by omega)
        omega

/-- **block location for `iter_for_bit`**: for `index < len` the iterator stands at the start of the last
block whose first position (end of the last run before it) is `≤ index` -/
theorem GoodB.iterForBit {v : RL} {bl : Blocks} (g : GoodB v bl) (hne : bl ≠ []) (index : Nat)
    (hi : index < v.len) :
    ∃ b, b < bl.length ∧ v.iterForBit index = ok (blockIter bl b) ∧ cumS bl b ≤ index ∧
      ∀ j, b < j → j < bl.length → index < cumS bl j := by
  unfold RL.iterForBit
  rw [if_neg (Nat.not_le.mpr hi)]
  exact g.locate_block (g.rank_idx hne) (fun i hi => by
    show (v.samples.get (2 * i + 1) >>= fun x => pure x.toNat) = _
    rw [g.get_bits i hi, bind_ok, pure_eq, g.bits_smp i hi]) (cumS_mono bl) index hi

/-- **block location for `iter_for_one`**: the last block with at most `rank` ones before it -/
theorem GoodB.iterForOne {v : RL} {bl : Blocks} (g : GoodB v bl) (hne : bl ≠ []) (rank : Nat)
    (hi : rank < v.ones) :
    ∃ b, b < bl.length ∧ v.iterForOne rank = ok (blockIter bl b) ∧ cumL bl b ≤ rank ∧
      ∀ j, b < j → j < bl.length → rank < cumL bl j := by
  unfold RL.iterForOne
  rw [if_neg (Nat.not_le.mpr hi)]
  exact g.locate_block (g.sel_idx hne) (fun i hi => by
    show (v.samples.get (2 * i) >>= fun x => pure x.toNat) = _
    rw [g.get_ones i hi, bind_ok, pure_eq, g.ones_smp i hi]) (cumL_mono bl) rank hi

/-- **block location for `iter_for_zero`**: the last block with at most `rank` zeros before it (the
number of zeros before a block may repeat — e.g. 0 for blocks 0 and 1 when the vector starts with a run
that fills block 0 —, and the *last* such block is the right one) -/
theorem GoodB.iterForZero (m : Mode) {v : RL} {bl : Blocks} (g : GoodB v bl) (hne : bl ≠ []) (rank : Nat)
    (hi : rank < v.len - v.ones) :
    ∃ b, b < bl.length ∧ v.iterForZero m rank = ok (blockIter bl b) ∧ cumS bl b - cumL bl b ≤ rank ∧
      ∀ j, b < j → j < bl.length → rank < cumS bl j - cumL bl j := by
  unfold RL.iterForZero RL.countZeros
  rw [if_neg (Nat.not_le.mpr hi)]
  exact g.locate_block (col := fun i => cumS bl i - cumL bl i) (g.zero_idx hne (Nat.zero_lt_of_lt hi)) (fun i hi => by
    show (v.samples.get (2 * i + 1) >>= fun a => v.samples.get (2 * i) >>= fun b => subM m a.toNat b.toNat) = _
    rw [g.get_bits i hi, bind_ok, g.get_ones i hi, bind_ok, g.bits_smp i hi, g.ones_smp i hi,
      subM_ok (cumL_le_cumS bl i)]) (cumZ_mono bl) rank hi

/-! ### the vector without runs -/

theorem TrivialIdx.range {s : SampleIndex} (h : TrivialIdx s) (x : Nat) (hx : x < U64 - 1) :
    s.range x = ok (0, 0) := by
  obtain ⟨h1, h2, h3, h4⟩ := h
  unfold SampleIndex.range
  rw [h2, if_neg (by decide), Nat.div_eq_of_lt hx]
  simp only [IntVec.getOr_def, h3, h1, Nat.zero_add]
  rw [if_pos (by omega), if_neg (by omega), h4]
  rfl

/-- the iterator every `iter_for_*` returns on a vector without runs -/
def nilIter (v : RL) : RunIter := ⟨0, (0, 0), v.ones⟩

theorem GoodB.iterForBlock_nil {v : RL} (g : GoodB v []) : v.iterForBlock 0 = ok (nilIter v) := by
  unfold RL.iterForBlock RL.onesAfter
  rw [if_pos (by rw [g.samples_len]; rfl), g.blocks, if_neg (by simp)]
  rfl

theorem GoodB.iterForBit_nil {v : RL} (g : GoodB v []) (i : Nat) (hi : i < v.len) :
    v.iterForBit i = ok (nilIter v) := by
  have := g.len_lt
  unfold RL.iterForBit
  rw [if_neg (by omega), (g.triv rfl).1.range i (by omega)]
  simp only [bind_ok]
  rw [show RL.blockFor _ i 70 0 0 = ok 0 from rfl, bind_ok, g.iterForBlock_nil]

theorem GoodB.iterForZero_nil (m : Mode) {v : RL} (g : GoodB v []) (r : Nat) (hr : r < v.len - v.ones) :
    v.iterForZero m r = ok (nilIter v) := by
  have := g.len_lt
  unfold RL.iterForZero RL.countZeros
  rw [if_neg (by omega), (g.triv rfl).2.range r (by omega)]
  simp only [bind_ok]
  rw [show RL.blockFor _ r 70 0 0 = ok 0 from rfl, bind_ok, g.iterForBlock_nil]

theorem GoodB.nextQ_nil (m : Mode) {v : RL} (g : GoodB v []) : nextQ m v (nilIter v) = ok (none, nilIter v) :=
  nextQ_atEnd m v _ (by have := g.data_len; simp at this; show v.data.len ≤ 0; omega)

theorem blockIter_zero (bl : Blocks) : blockIter bl 0 = ⟨0, (0, 0), cumL bl 1⟩ := rfl

theorem GoodB.runIter {v : RL} {bl : Blocks} (g : GoodB v bl) :
    v.runIter = ok (if bl = [] then nilIter v else blockIter bl 0) := by
  unfold RL.runIter
  by_cases hne : bl = []
  · subst hne
    unfold RL.onesAfter
    rw [g.blocks, if_neg (by simp)]; rfl
  · have hb : 0 < bl.length := List.length_pos_iff.mpr hne
    rw [g.onesAfter 0 hb, if_neg hne]; rfl

/-! ### the run iterator at a cut of the runs

What the queries and the iterators know of the vector: where the run iterator stands among its runs. -/

/-- `At m v bl it A rs`: the run iterator `it` stands on the walk over the runs of `bl`, the runs `A` behind it and the
runs `rs` ahead (both relative, `(gap, len)`); `data.len + 2`, the fuel every query gives its loop, suffices for `rs` -/
structure At (m : Mode) (v : RL) (bl : Blocks) (it : RunIter) (A rs : List (Nat × Nat)) : Prop where
  split : bl.flatten = A ++ rs
  walk : ∃ e, Walk m v it (lens A) (span A) rs e
  fuel : rs.length < v.data.len + 2

section
variable {m : Mode} {v : RL} {bl : Blocks} {it : RunIter} {A rs : List (Nat × Nat)}

theorem At.abs (a : At m v bl it A rs) : absRuns 0 A ++ absRuns (span A) rs = absRuns 0 bl.flatten := by
  rw [a.split, absRuns_append, Nat.zero_add]

theorem At.pos (g : GoodB v bl) (a : At m v bl it A rs) : (∀ q ∈ A, 1 ≤ q.2) ∧ ∀ q ∈ rs, 1 ≤ q.2 := by
  have := g.len_pos_of_blk 0
  rw [List.drop_zero, a.split] at this
  exact ⟨fun q hq => this q (List.mem_append_left _ hq), fun q hq => this q (List.mem_append_right _ hq)⟩

theorem At.ones (g : GoodB v bl) (a : At m v bl it A rs) : lens A + lens rs = v.ones := by
  rw [g.ones, a.split, lens_append]

theorem At.span_le (g : GoodB v bl) (a : At m v bl it A rs) : span A + span rs ≤ v.len := by
  have := g.span_le; rwa [a.split, span_append] at this

end

theorem GoodB.at_block (m : Mode) {v : RL} {bl : Blocks} (g : GoodB v bl) (b : Nat) (hb : b < bl.length) :
    At m v bl (blockIter bl b) (bl.take b).flatten (bl.drop b).flatten := by
  obtain ⟨e, w, hf⟩ := g.walk_block m b hb
  exact ⟨by rw [← List.flatten_append, List.take_append_drop], ⟨e, w⟩, hf⟩

theorem GoodB.at_nil (m : Mode) {v : RL} (g : GoodB v []) : At m v [] (nilIter v) [] [] :=
  ⟨rfl, ⟨_, .done rfl (g.nextQ_nil m) rfl⟩, Nat.succ_pos _⟩

theorem GoodB.runIter_at (m : Mode) {v : RL} {bl : Blocks} (g : GoodB v bl) :
    ∃ it, v.runIter = ok it ∧ At m v bl it [] bl.flatten := by
  rw [g.runIter]
  by_cases hne : bl = []
  · subst hne; exact ⟨_, rfl, g.at_nil m⟩
  · rw [if_neg hne]
    have := g.at_block m 0 (List.length_pos_iff.mpr hne)
    rw [List.drop_zero] at this
    exact ⟨_, rfl, this⟩

/-- **where `iter_for_bit` / `iter_for_one` / `iter_for_zero` start**, with or without blocks: at a state of the walk
such that the runs behind it end at or before `index` / hold at most `rank` ones / leave at most `rank` zeros -/
theorem GoodB.iterForBit_at (m : Mode) {v : RL} {bl : Blocks} (g : GoodB v bl) (index : Nat) (hi : index < v.len) :
    ∃ it A rs, v.iterForBit index = ok it ∧ At m v bl it A rs ∧ span A ≤ index := by
  by_cases hne : bl = []
  · subst hne; exact ⟨_, _, _, g.iterForBit_nil index hi, g.at_nil m, Nat.zero_le _⟩
  · obtain ⟨b, hb, e1, h1, _⟩ := g.iterForBit hne index hi
    exact ⟨_, _, _, e1, g.at_block m b hb, h1⟩

theorem GoodB.iterForOne_at (m : Mode) {v : RL} {bl : Blocks} (g : GoodB v bl) (rank : Nat) (hr : rank < v.ones) :
    ∃ it A rs, v.iterForOne rank = ok it ∧ At m v bl it A rs ∧ lens A ≤ rank := by
  have hne : bl ≠ [] := by
    intro h; subst h; have := g.ones; simp [lens] at this; omega
  obtain ⟨b, hb, e1, h1, _⟩ := g.iterForOne hne rank hr
  exact ⟨_, _, _, e1, g.at_block m b hb, h1⟩

theorem GoodB.iterForZero_at (m : Mode) {v : RL} {bl : Blocks} (g : GoodB v bl) (rank : Nat)
    (hr : rank < v.countZeros) :
    ∃ it A rs z, v.iterForZero m rank = ok it ∧ At m v bl it A rs ∧ span A = lens A + z ∧ z ≤ rank := by
  by_cases hne : bl = []
  · subst hne; exact ⟨_, _, _, 0, g.iterForZero_nil m rank hr, g.at_nil m, rfl, Nat.zero_le _⟩
  · obtain ⟨b, hb, e1, h1, _⟩ := g.iterForZero m hne rank hr
    exact ⟨_, _, _, _, e1, g.at_block m b hb, (Nat.add_sub_cancel' (cumL_le_cumS bl b)).symm, h1⟩

/-! ## 3. reference answers on run lists -/

/-- number of set positions below `i` (runs as absolute `(start, len)`) -/
def rankR : List (Nat × Nat) → Nat → Nat
  | [], _ => 0
  | p :: rs, i => min p.2 (i - p.1) + rankR rs i

def getR : List (Nat × Nat) → Nat → Bool
  | [], _ => false
  | p :: rs, i => (decide (p.1 ≤ i) && decide (i < p.1 + p.2)) || getR rs i

/-- position of the set bit of rank `r` -/
def selectR : List (Nat × Nat) → Nat → Option Nat
  | [], _ => none
  | p :: rs, r => if r < p.2 then some (p.1 + r) else selectR rs (r - p.2)

/-- position of the unset bit of rank `r` in a vector of length `len`; `prev` = end of the previous run -/
def selectZeroFrom (len : Nat) : Nat → List (Nat × Nat) → Nat → Option Nat
  | prev, [], r => if prev + r < len then some (prev + r) else none
  | prev, p :: rs, r => if prev + r < p.1 then some (prev + r) else selectZeroFrom len (p.1 + p.2) rs (r - (p.1 - prev))

def selectZeroR (len : Nat) (R : List (Nat × Nat)) (r : Nat) : Option Nat := selectZeroFrom len 0 R r

/-- nearest set bit at or after `x`, with its rank -/
def succR (R : List (Nat × Nat)) (x : Nat) : Option (Nat × Nat) :=
  (selectR R (rankR R x)).map fun p => (rankR R x, p)

/-- nearest set bit at or before `x`, with its rank -/
def predR (R : List (Nat × Nat)) (x : Nat) : Option (Nat × Nat) :=
  if rankR R (x + 1) = 0 then none
  else (selectR R (rankR R (x + 1) - 1)).map fun p => (rankR R (x + 1) - 1, p)

theorem rankR_append (a b : List (Nat × Nat)) (i : Nat) : rankR (a ++ b) i = rankR a i + rankR b i := by
  induction a with
  | nil => simp [rankR]
  | cons p a ih => simp only [List.cons_append, rankR, ih]; omega

theorem rankR_abs_le (rs : List (Nat × Nat)) : ∀ (p0 i : Nat), i ≤ p0 → rankR (absRuns p0 rs) i = 0 := by
  induction rs with
  | nil => intro p0 i _; rfl
  | cons p rs ih =>
    intro p0 i h
    simp only [absRuns, rankR]
    rw [ih (p0 + p.1 + p.2) i (by omega)]
    omega

theorem rankR_abs_ge (rs : List (Nat × Nat)) : ∀ (p0 i : Nat), p0 + span rs ≤ i →
    rankR (absRuns p0 rs) i = lens rs := by
  induction rs with
  | nil => intro p0 i _; rfl
  | cons p rs ih =>
    intro p0 i h
    simp only [span] at h
    simp only [absRuns, rankR, lens]
    rw [ih (p0 + p.1 + p.2) i (by omega)]
    omega

/-! the first run `(g, l)` after position `p`, seen from `x`: it begins at or after `x`, it is around `x`, it ends
at or before `x` -/

theorem rankR_run_after {p g l x : Nat} (rs : List (Nat × Nat)) (h : x ≤ p + g) :
    rankR (absRuns p ((g, l) :: rs)) x = 0 := by
  simp only [absRuns, rankR]
  rw [rankR_abs_le rs _ _ (Nat.le_trans h (Nat.le_add_right _ _)), Nat.sub_eq_zero_of_le h, Nat.min_zero]

theorem rankR_run_in {p g l x : Nat} (rs : List (Nat × Nat)) (h1 : p + g ≤ x) (h2 : x ≤ p + g + l) :
    rankR (absRuns p ((g, l) :: rs)) x = x - (p + g) := by
  simp only [absRuns, rankR]
  rw [rankR_abs_le rs _ _ h2, Nat.min_eq_right (by omega)]; rfl

theorem rankR_run_before {p g l x : Nat} (rs : List (Nat × Nat)) (h : p + g + l ≤ x) :
    rankR (absRuns p ((g, l) :: rs)) x = l + rankR (absRuns (p + g + l) rs) x := by
  simp only [absRuns, rankR]
  rw [Nat.min_eq_left (by omega)]

/-- `rank_at(x)` of an iterator at `(r + l, p + g + l)` right after a run around `x` -/
theorem rankAt_in_run {p g l x : Nat} (r : Nat) (h1 : p + g ≤ x) (h2 : x ≤ p + g + l) :
    p + g + l - x ≤ r + l ∧ r + l - (p + g + l - x) = r + (x - (p + g)) := by
  omega

/-! ## 4. `rank` -/

theorem rankLoop_run {m : Mode} {v : RL} {it it' : RunIter} {s l : Nat} (index F : Nat)
    (h : nextQ m v it = ok (some (s, l), it')) :
    RL.rankLoop m v index (F + 1) it =
      if s ≥ index then subM m it'.pos.1 l
      else if it'.pos.2 ≥ index then (subM m it'.pos.2 index >>= fun d => subM m it'.pos.1 d)
      else RL.rankLoop m v index F it' := by
  rw [RL.rankLoop, h]; rfl

theorem Walk.rankLoop {m : Mode} {v : RL} (index : Nat) {it e : RunIter} {r p : Nat} {rs : List (Nat × Nat)}
    (w : Walk m v it r p rs e) : ∀ F, rs.length < F →
    RL.rankLoop m v index F it = ok (r + rankR (absRuns p rs) index) := by
  induction w with
  | @done it e r p hit hn he =>
    intro F hF
    obtain ⟨F, rfl⟩ := fuel_succ hF
    rw [RL.rankLoop, hn]
    show ok e.pos.1 = _
    rw [he]; rfl
  | @run it it' e r p g l rs hit hn w ih =>
    intro F hF
    obtain ⟨F, rfl⟩ := fuel_succ hF
    rw [rankLoop_run index F hn, w.pos]
    by_cases c1 : p + g ≥ index
    · rw [if_pos c1, subM_ok (Nat.le_add_left _ _), rankR_run_after rs c1, Nat.add_sub_cancel]; rfl
    · rw [if_neg c1]
      by_cases c2 : p + g + l ≥ index
      · obtain ⟨a1, a2⟩ := rankAt_in_run r (Nat.le_of_not_ge c1) c2
        rw [if_pos c2, subM_ok c2, bind_ok, subM_ok a1, a2, rankR_run_in rs (Nat.le_of_not_ge c1) c2]
      · rw [if_neg c2, ih F (Nat.lt_of_succ_lt_succ hF), rankR_run_before rs (Nat.le_of_not_ge c2), Nat.add_assoc]

theorem nextQ_emptyIter (m : Mode) (v : RL) : nextQ m v (emptyIter v) = ok (none, emptyIter v) :=
  nextQ_atEnd m v _ (Nat.le_refl _)

/-- **rank**: for every argument (`i ≥ len` gives the number of ones) -/
theorem GoodB.rank (m : Mode) {v : RL} {bl : Blocks} (g : GoodB v bl) (i : Nat) :
    v.rank m i = ok (rankR (absRuns 0 bl.flatten) i) := by
  unfold RL.rank
  have hsp := g.span_le
  by_cases hi : i < v.len
  · obtain ⟨it, A, rs, e1, a, h1⟩ := g.iterForBit_at m i hi
    obtain ⟨e, w⟩ := a.walk
    rw [e1, bind_ok, w.rankLoop i _ a.fuel, ← a.abs, rankR_append, rankR_abs_ge _ 0 i (by rw [Nat.zero_add]; exact h1)]
  · have : v.iterForBit i = ok (emptyIter v) := by unfold RL.iterForBit; rw [if_pos (by omega)]
    rw [this, bind_ok, RL.rankLoop, nextQ_emptyIter]
    simp only [bind_ok, pure_eq]
    rw [rankR_abs_ge _ 0 i (by omega), ← g.ones]; rfl

theorem rankR_abs_le_index (rs : List (Nat × Nat)) : ∀ (p0 i : Nat), rankR (absRuns p0 rs) i ≤ i - p0 := by
  induction rs with
  | nil => intro p0 i; simp [absRuns, rankR]
  | cons p rs ih =>
    intro p0 i
    simp only [absRuns, rankR]
    have := ih (p0 + p.1 + p.2) i
    omega

/-- **rank_zero** is `index - rank(index)` for every argument: the number of unset positions below `i`
for `i ≤ len`, and `i - ones` beyond the length (the value is *not* clamped to `len - ones`) -/
theorem GoodB.rankZero (m : Mode) {v : RL} {bl : Blocks} (g : GoodB v bl) (i : Nat) :
    v.rankZero m i = ok (i - rankR (absRuns 0 bl.flatten) i) := by
  unfold RL.rankZero
  rw [g.rank m i, bind_ok, subM_ok (by have := rankR_abs_le_index bl.flatten 0 i; omega)]

/-! ## 5. `get` -/

theorem getR_append (a b : List (Nat × Nat)) (i : Nat) : getR (a ++ b) i = (getR a i || getR b i) := by
  induction a with
  | nil => simp [getR]
  | cons p a ih => simp only [List.cons_append, getR, ih, Bool.or_assoc]

theorem getR_abs_lt (rs : List (Nat × Nat)) : ∀ (p0 i : Nat), i < p0 → getR (absRuns p0 rs) i = false := by
  induction rs with
  | nil => intro p0 i _; rfl
  | cons p rs ih =>
    intro p0 i h
    simp only [absRuns, getR]
    rw [ih (p0 + p.1 + p.2) i (by omega)]
    simp; omega

theorem getR_abs_ge (rs : List (Nat × Nat)) : ∀ (p0 i : Nat), p0 + span rs ≤ i →
    getR (absRuns p0 rs) i = false := by
  induction rs with
  | nil => intro p0 i _; rfl
  | cons p rs ih =>
    intro p0 i h
    simp only [span] at h
    simp only [absRuns, getR]
    rw [ih (p0 + p.1 + p.2) i (by omega)]
    simp; omega

/-! the first run `(g, l)` after position `p`, seen from `y` -/

theorem getR_run_after {p g l y : Nat} (rs : List (Nat × Nat)) (h : y < p + g) :
    getR (absRuns p ((g, l) :: rs)) y = false := by
  simp only [absRuns, getR]
  rw [getR_abs_lt rs _ _ (Nat.lt_of_lt_of_le h (Nat.le_add_right _ _)), decide_eq_false (Nat.not_le_of_gt h)]; rfl

theorem getR_run_in {p g l y : Nat} (rs : List (Nat × Nat)) (h1 : p + g ≤ y) (h2 : y < p + g + l) :
    getR (absRuns p ((g, l) :: rs)) y = true := by
  simp only [absRuns, getR]
  rw [decide_eq_true h1, decide_eq_true h2]; rfl

theorem getR_run_before {p g l y : Nat} (rs : List (Nat × Nat)) (h : p + g + l ≤ y) :
    getR (absRuns p ((g, l) :: rs)) y = getR (absRuns (p + g + l) rs) y := by
  simp only [absRuns, getR]
  rw [decide_eq_false (Nat.not_lt.mpr h), Bool.and_false, Bool.false_or]

theorem getLoop_run {m : Mode} {v : RL} {it it' : RunIter} {s l : Nat} (index F : Nat)
    (h : nextQ m v it = ok (some (s, l), it')) :
    RL.getLoop m v index (F + 1) it =
      if s > index then ok false else if index < it'.pos.2 then ok true else RL.getLoop m v index F it' := by
  rw [RL.getLoop, h]; rfl

theorem Walk.getLoop {m : Mode} {v : RL} (index : Nat) {it e : RunIter} {r p : Nat} {rs : List (Nat × Nat)}
    (w : Walk m v it r p rs e) : ∀ F, rs.length < F →
    RL.getLoop m v index F it = ok (getR (absRuns p rs) index) := by
  induction w with
  | @done it e r p hit hn he =>
    intro F hF
    obtain ⟨F, rfl⟩ := fuel_succ hF
    rw [RL.getLoop, hn]; rfl
  | @run it it' e r p g l rs hit hn w ih =>
    intro F hF
    obtain ⟨F, rfl⟩ := fuel_succ hF
    rw [getLoop_run index F hn, w.pos]
    by_cases c1 : p + g > index
    · rw [if_pos c1, getR_run_after rs c1]
    · rw [if_neg c1]
      by_cases c2 : index < p + g + l
      · rw [if_pos c2, getR_run_in rs (Nat.le_of_not_gt c1) c2]
      · rw [if_neg c2, ih F (Nat.lt_of_succ_lt_succ hF), getR_run_before rs (Nat.le_of_not_lt c2)]

/-- **get**: for every argument (`false` at and beyond the length) -/
theorem GoodB.get (m : Mode) {v : RL} {bl : Blocks} (g : GoodB v bl) (i : Nat) :
    v.get m i = ok (getR (absRuns 0 bl.flatten) i) := by
  unfold RL.get
  have hsp := g.span_le
  by_cases hi : i < v.len
  · obtain ⟨it, A, rs, e1, a, h1⟩ := g.iterForBit_at m i hi
    obtain ⟨e, w⟩ := a.walk
    rw [e1, bind_ok, w.getLoop i _ a.fuel, ← a.abs, getR_append, getR_abs_ge _ 0 i (by rw [Nat.zero_add]; exact h1),
      Bool.false_or]
  · have : v.iterForBit i = ok (emptyIter v) := by unfold RL.iterForBit; rw [if_pos (by omega)]
    rw [this, bind_ok, RL.getLoop, nextQ_emptyIter]
    simp only [bind_ok, pure_eq]
    rw [getR_abs_ge _ 0 i (by omega)]

/-! ## 6. one-iterators: `select`, `select_iter`, `one_iter`, `successor`, `predecessor`

All five leave a one-iterator `⟨it, false, k⟩` whose run iterator `it` lies on the walk and whose rank `k` lies
in the run `it` delivered last (`OneAt`); from such a state the iterator delivers the set bits of rank
`k, k+1, …` (`OneFrom.some` / `OneFrom.none`). -/

theorem selectR_append_ge (a b : List (Nat × Nat)) : ∀ (r : Nat), lensAbs a ≤ r →
    selectR (a ++ b) r = selectR b (r - lensAbs a) := by
  induction a with
  | nil => intro r _; simp [lensAbs]
  | cons p a ih =>
    intro r h
    simp only [lensAbs] at h
    simp only [List.cons_append, selectR, lensAbs]
    rw [if_neg (by omega), ih _ (by omega)]
    congr 1; omega

theorem selectR_append_lt (a b : List (Nat × Nat)) : ∀ (r : Nat), r < lensAbs a →
    selectR (a ++ b) r = selectR a r := by
  induction a with
  | nil => intro r h; simp [lensAbs] at h
  | cons p a ih =>
    intro r h
    simp only [lensAbs] at h
    simp only [List.cons_append, selectR]
    by_cases c : r < p.2
    · rw [if_pos c, if_pos c]
    · rw [if_neg c, if_neg c, ih _ (by omega)]

theorem selectR_none_le : ∀ (R : List (Nat × Nat)) (r : Nat), selectR R r = none → lensAbs R ≤ r := by
  intro R
  induction R with
  | nil => intro r _; simp [lensAbs]
  | cons p R ih =>
    intro r h
    simp only [selectR] at h
    by_cases c : r < p.2
    · rw [if_pos c] at h; cases h
    · rw [if_neg c] at h
      have := ih _ h
      simp only [lensAbs]; omega

theorem selectR_ge (R : List (Nat × Nat)) (r : Nat) (h : lensAbs R ≤ r) : selectR R r = none := by
  have := selectR_append_ge R [] r h
  rwa [List.append_nil] at this

theorem lensAbs_append (a b : List (Nat × Nat)) : lensAbs (a ++ b) = lensAbs a + lensAbs b := by
  induction a with
  | nil => simp [lensAbs]
  | cons p a ih => simp only [List.cons_append, lensAbs, ih]; omega

theorem lensAbs_snoc {pre : List (Nat × Nat)} {r : Nat} (hl : lensAbs pre = r) (s l : Nat) :
    lensAbs (pre ++ [(s, l)]) = r + l := by
  rw [lensAbs_append, hl]; rfl

theorem oneIter_nextQ_stay (m : Mode) (v : RL) (it : RunIter) (r : Nat) (h1 : r < it.pos.1)
    (h2 : it.pos.1 - r ≤ it.pos.2) :
    RLOneIter.nextQ m v ⟨it, false, r⟩ = ok (some (r, it.pos.2 - (it.pos.1 - r)), ⟨it, false, r + 1⟩) := by
  unfold RLOneIter.nextQ
  have hc : ¬ ((!false && decide (r ≥ it.rank)) = true) := by
    simp only [Bool.not_false, Bool.true_and, decide_eq_true_eq]
    exact Nat.not_le_of_gt h1
  simp only [if_neg hc, pure_eq, bind_ok, Bool.false_eq_true, if_false]
  unfold RunIter.offsetFor
  rw [show it.rank = it.pos.1 from rfl, show it.offsetBits = it.pos.2 from rfl, subM_ok (Nat.le_of_lt h1), bind_ok,
    subM_ok h2, bind_ok]

/-- `FusedIterator`: after a `None` the iterator stays where it is -/
theorem oneIter_nextQ_done (m : Mode) (v : RL) (st : RLOneIter) (h : st.gotNone = true) :
    st.nextQ m v = ok (none, st) := by
  unfold RLOneIter.nextQ
  simp only [h, Bool.not_true, Bool.false_and, Bool.false_eq_true, if_false, pure_eq, bind_ok, if_true]

theorem oneIter_nextQ_empty (m : Mode) (v : RL) :
    RLOneIter.nextQ m v (RLOneIter.emptyIter v) = ok (none, RLOneIter.emptyIter v) :=
  oneIter_nextQ_done m v _ rfl

/-- at the end of the current run the iterator fetches the next one -/
theorem oneIter_nextQ_step (m : Mode) (v : RL) {it it' : RunIter} {r p s l : Nat} (hit : it.pos = (r, p))
    (h : nextQ m v it = ok (some (s, l), it')) (hp : it'.pos = (r + l, s + l)) :
    RLOneIter.nextQ m v ⟨it, false, r⟩ = ok (some (r, s), ⟨it', false, r + 1⟩) := by
  unfold RLOneIter.nextQ
  have hc : ((!false && decide (r ≥ it.rank)) = true) := by
    simp only [Bool.not_false, Bool.true_and, decide_eq_true_eq]
    show it.pos.1 ≤ r; rw [hit]; exact Nat.le_refl r
  simp only [if_pos hc, h, pure_eq, bind_ok, Option.isNone_some, Bool.false_eq_true, if_false]
  unfold RunIter.offsetFor
  rw [show it'.rank = it'.pos.1 from rfl, show it'.offsetBits = it'.pos.2 from rfl, hp]
  simp only []
  rw [subM_ok (Nat.le_add_right _ _), bind_ok, Nat.add_sub_cancel_left, subM_ok (Nat.le_add_left _ _), bind_ok,
    Nat.add_sub_cancel]

theorem oneIter_nextQ_end (m : Mode) (v : RL) {it e : RunIter} {r p : Nat} (hit : it.pos = (r, p))
    (h : nextQ m v it = ok (none, e)) :
    RLOneIter.nextQ m v ⟨it, false, r⟩ = ok (none, ⟨e, true, r⟩) := by
  unfold RLOneIter.nextQ
  have hc : ((!false && decide (r ≥ it.rank)) = true) := by
    simp only [Bool.not_false, Bool.true_and, decide_eq_true_eq]
    show it.pos.1 ≤ r; rw [hit]; exact Nat.le_refl r
  simp only [if_pos hc, h, pure_eq, bind_ok, Option.isNone_none, if_true]

/-- `InLast R r p k`: the ranks from `k` up to `r` lie in a run of `R` that ends at position `p` -/
def InLast (R : List (Nat × Nat)) (r p k : Nat) : Prop :=
  ∀ j, k ≤ j → j < r → selectR R j = some (p - (r - j)) ∧ r - j ≤ p

theorem InLast.of_le {R : List (Nat × Nat)} {r p k : Nat} (h : r ≤ k) : InLast R r p k :=
  fun _ h1 h2 => absurd (Nat.lt_of_lt_of_le h2 h) (Nat.not_lt_of_ge h1)

theorem InLast.mono {R : List (Nat × Nat)} {r p k k' : Nat} (h : InLast R r p k) (hk : k ≤ k') : InLast R r p k' :=
  fun j h1 h2 => h j (Nat.le_trans hk h1) h2

/-- after the run `(s, l)` all its ranks lie in the last run -/
theorem InLast.snoc {pre : List (Nat × Nat)} {r k : Nat} (hl : lensAbs pre = r) (hk : r ≤ k) (s l : Nat) :
    InLast (pre ++ [(s, l)]) (r + l) (s + l) k := by
  intro j h1 h2
  rw [selectR_append_ge _ _ _ (by omega), hl]
  simp only [selectR]
  rw [if_pos (by omega)]
  exact ⟨by congr 1; omega, by omega⟩

theorem InLast.append {pre : List (Nat × Nat)} {r p k : Nat} (h : InLast pre r p k) (hl : lensAbs pre = r)
    (post : List (Nat × Nat)) : InLast (pre ++ post) r p k := by
  intro j h1 h2
  rw [selectR_append_lt _ _ _ (by omega)]
  exact h j h1 h2

/-- `OneAt m v R it k`: `it` lies on the walk over the runs `R`, and the ranks from `k` up to the rank of `it`
lie in the run it delivered last -/
inductive OneAt (m : Mode) (v : RL) (R : List (Nat × Nat)) (it : RunIter) (k : Nat) : Prop
  | mk (pre rs : List (Nat × Nat)) (r p : Nat) (e : RunIter) : pre ++ absRuns p rs = R → Walk m v it r p rs e →
      lensAbs pre = r → r ≤ p → InLast pre r p k → (∀ q ∈ rs, 1 ≤ q.2) → OneAt m v R it k

theorem OneAt.rank_le {m : Mode} {v : RL} {R : List (Nat × Nat)} {it : RunIter} {k : Nat}
    (h : OneAt m v R it k) : it.pos.1 ≤ lensAbs R := by
  obtain ⟨pre, rs, r, p, e, rfl, w, hl, _, _, _⟩ := h
  rw [w.pos, lensAbs_append, hl]; exact Nat.le_add_right _ _

/-- inside the run: the bit of rank `k` is at distance `rank - k` before the position of `it` -/
theorem OneAt.select {m : Mode} {v : RL} {R : List (Nat × Nat)} {it : RunIter} {k : Nat}
    (h : OneAt m v R it k) (hk : k < it.pos.1) :
    selectR R k = some (it.pos.2 - (it.pos.1 - k)) ∧ it.pos.1 - k ≤ it.pos.2 := by
  obtain ⟨pre, rs, r, p, e, rfl, w, hl, _, hsel, _⟩ := h
  rw [w.pos] at hk ⊢
  exact hsel.append hl _ k (Nat.le_refl k) hk

theorem At.oneAt {m : Mode} {v : RL} {bl : Blocks} {it : RunIter} {A rs : List (Nat × Nat)} (g : GoodB v bl)
    (a : At m v bl it A rs) {k : Nat} (hk : InLast (absRuns 0 A) (lens A) (span A) k) :
    OneAt m v (absRuns 0 bl.flatten) it k :=
  let ⟨e, w⟩ := a.walk
  ⟨_, _, _, _, e, a.abs, w, lensAbs_absRuns 0 _, lens_le_span A, hk, (a.pos g).2⟩

/-- `OneFrom m v R st k`: the one-iterator `st` is about to deliver the set bits of rank `k, k+1, …` of `R`: it has seen
`None` (as `empty_iter` has from the start) and there is no such bit, or its run iterator lies on the walk and `k` in the
run delivered last -/
def OneFrom (m : Mode) (v : RL) (R : List (Nat × Nat)) (st : RLOneIter) (k : Nat) : Prop :=
  (st.gotNone = true ∧ st.rank = v.ones ∧ lensAbs R ≤ k) ∨
    ∃ it, st = ⟨it, false, k⟩ ∧ k ≤ it.pos.1 ∧ OneAt m v R it k

section
variable {m : Mode} {v : RL} {R : List (Nat × Nat)} {st : RLOneIter} {k : Nat}

/-- **`next()` with a set bit of rank `k`** delivers it; the state then stands for rank `k + 1` -/
theorem OneFrom.some (h : OneFrom m v R st k) (hk : k < lensAbs R) :
    ∃ st', st.nextQ m v = ok (some (k, (selectR R k).getD 0), st') ∧ OneFrom m v R st' (k + 1) := by
  rcases h with ⟨_, _, hge⟩ | ⟨it, rfl, hkr, hA⟩
  · exact absurd hk (Nat.not_lt_of_ge hge)
  · by_cases hlt : k < it.pos.1
    · -- inside the run delivered last: the run iterator does not move
      obtain ⟨s1, s2⟩ := hA.select hlt
      obtain ⟨pre, rs, r, p, e, hR, w, hl, hrp, hsel, hpos⟩ := hA
      exact ⟨_, by rw [oneIter_nextQ_stay m v it k hlt s2, s1]; rfl,
        .inr ⟨it, rfl, hlt, pre, rs, r, p, e, hR, w, hl, hrp, hsel.mono (Nat.le_succ k), hpos⟩⟩
    · -- at its end: the walk hands over the next run
      obtain ⟨pre, rs, r, p, e, rfl, w, hl, hrp, hsel, hpos⟩ := hA
      obtain rfl : k = r := by rw [w.pos] at hkr hlt; exact Nat.le_antisymm hkr (Nat.le_of_not_lt hlt)
      cases w with
      | done hit hn he =>
        rw [lensAbs_append, hl] at hk
        exact absurd hk (Nat.lt_irrefl _)
      | @run _ it' _ _ _ g l rs hit hn w =>
        have hl1 : 1 ≤ l := hpos (g, l) (List.mem_cons_self ..)
        have hs : selectR (pre ++ absRuns p ((g, l) :: rs)) k = some (p + g) := by
          rw [selectR_append_ge _ _ _ (Nat.le_of_eq hl), hl, Nat.sub_self]
          simp only [absRuns, selectR]
          rw [if_pos (show 0 < l from hl1)]; rfl
        refine ⟨_, by rw [oneIter_nextQ_step m v hit hn w.pos, hs]; rfl, .inr ⟨it', rfl, ?_,
          pre ++ [(p + g, l)], rs, k + l, p + g + l, e, by rw [List.append_assoc]; rfl, w, lensAbs_snoc hl _ _,
          by omega, InLast.snoc hl (Nat.le_succ k) _ _, fun q hq => hpos q (List.mem_cons_of_mem _ hq)⟩⟩
        rw [w.pos]; exact Nat.add_le_add_left hl1 k

/-- **`next()` with no set bit of rank `k`** answers `None` -/
theorem OneFrom.none (ho : v.ones = lensAbs R) (h : OneFrom m v R st k) (hk : lensAbs R ≤ k) :
    ∃ st', st.nextQ m v = ok (none, st') ∧ OneFrom m v R st' k := by
  rcases h with ⟨hg, hr, hge⟩ | ⟨it, rfl, hkr, hA⟩
  · exact ⟨st, oneIter_nextQ_done m v st hg, .inl ⟨hg, hr, hge⟩⟩
  · have hle := hA.rank_le
    obtain ⟨pre, rs, r, p, e, rfl, w, hl, hrp, hsel, hpos⟩ := hA
    rw [w.pos] at hkr hle
    obtain rfl : k = r := Nat.le_antisymm hkr (Nat.le_trans hle hk)
    cases w with
    | done hit hn he =>
      exact ⟨_, oneIter_nextQ_end m v hit hn, .inl ⟨rfl, by show k = v.ones; rw [ho, lensAbs_append, hl]; rfl, hk⟩⟩
    | @run _ it' _ _ _ g l rs hit hn w =>
      have hl1 : 1 ≤ l := hpos (g, l) (List.mem_cons_self ..)
      rw [lensAbs_append, hl, lensAbs_absRuns] at hk
      simp only [lens] at hk
      omega

/-- the first item is the set bit of rank `k`, if there is one -/
theorem OneFrom.next (ho : v.ones = lensAbs R) (h : OneFrom m v R st k) :
    ∃ st', st.nextQ m v = ok ((selectR R k).map fun p => (k, p), st') := by
  cases hs : selectR R k with
  | none =>
    obtain ⟨st', h1, _⟩ := h.none ho (selectR_none_le R k hs)
    exact ⟨st', h1⟩
  | some x =>
    obtain ⟨st', h1, _⟩ := h.some (Nat.lt_of_not_ge fun hge => by rw [selectR_ge R k hge] at hs; cases hs)
    exact ⟨st', by rw [h1, hs]; rfl⟩

theorem OneFrom.rank_add (h : OneFrom m v R st k) (ho : v.ones = lensAbs R) : st.rank + (v.ones - k) = v.ones := by
  rcases h with ⟨_, hr, hk⟩ | ⟨it, rfl, hk, h⟩
  · rw [hr]; omega
  · have := h.rank_le
    show k + _ = _; omega

end

/-! ### `select`, `select_iter` -/

theorem advanceTo_false (m : Mode) (v : RL) (rank : Nat) : ∀ (F : Nat) (it : RunIter),
    RL.advanceTo m v rank false F it = RL.advanceTo m v (rank + 1) true F it := by
  intro F
  induction F with
  | zero => intro it; rfl
  | succ F ih =>
    intro it
    rw [RL.advanceTo, RL.advanceTo]
    simp only [Bool.false_eq_true, if_false, if_true, Nat.lt_succ_iff, ih]

/-- `advance_to` (strict) stops at the first state with at least `t` ones before it; a rank `k ≥ t - 1` then lies
in the run delivered last -/
theorem Walk.advanceTo {m : Mode} {v : RL} (t k : Nat) (ht : t ≤ k + 1) {it e : RunIter} {r p : Nat}
    {rs : List (Nat × Nat)} (w : Walk m v it r p rs e) : ∀ (pre : List (Nat × Nat)) (F : Nat),
      lensAbs pre = r → r ≤ p → InLast pre r p k → (∀ q ∈ rs, 1 ≤ q.2) → t ≤ r + lens rs → rs.length < F →
      ∃ it', RL.advanceTo m v t true F it = ok it' ∧ t ≤ it'.pos.1 ∧ OneAt m v (pre ++ absRuns p rs) it' k := by
  induction w with
  | @done it e r p hit hn he =>
    intro pre F hl hrp hsel hpos hlt hF
    obtain ⟨F, rfl⟩ := fuel_succ hF
    refine ⟨it, ?_, by rw [hit]; exact hlt, ⟨pre, [], r, p, e, rfl, .done hit hn he, hl, hrp, hsel, hpos⟩⟩
    rw [RL.advanceTo]
    simp only [if_true]
    rw [if_neg (by show ¬ it.pos.1 < t; rw [hit]; exact Nat.not_lt_of_ge hlt)]; rfl
  | @run it it' e r p g l rs hit hn w ih =>
    intro pre F hl hrp hsel hpos hlt hF
    obtain ⟨F, rfl⟩ := fuel_succ hF
    rw [RL.advanceTo]
    simp only [if_true]
    by_cases c : r < t
    · obtain ⟨it'', a1, a2, a3⟩ := ih (pre ++ [(p + g, l)]) F (lensAbs_snoc hl _ _) (by omega)
        (InLast.snoc hl (by omega) _ _) (fun q hq => hpos q (List.mem_cons_of_mem _ hq))
        (by simp only [lens] at hlt; omega) (Nat.lt_of_succ_lt_succ hF)
      refine ⟨it'', ?_, a2, ?_⟩
      · rw [if_pos (by show it.pos.1 < t; rw [hit]; exact c), hn]; exact a1
      · rw [List.append_assoc] at a3; exact a3
    · refine ⟨it, ?_, by rw [hit]; exact Nat.le_of_not_lt c,
        ⟨pre, (g, l) :: rs, r, p, e, rfl, .run hit hn w, hl, hrp, hsel, hpos⟩⟩
      rw [if_neg (by show ¬ it.pos.1 < t; rw [hit]; exact c)]; rfl

/-- `iter_for_one(k)` followed by `advance_to(t)`, `t ≤ k + 1` (`select`: `t = k + 1`, `select_iter`: `t = k`) -/
theorem GoodB.advance_from (m : Mode) {v : RL} {bl : Blocks} (g : GoodB v bl) (t k : Nat) (ht : t ≤ k + 1)
    (hk : k < v.ones) :
    ∃ it it', v.iterForOne k = ok it ∧ RL.advanceTo m v t true (v.data.len + 2) it = ok it' ∧ t ≤ it'.pos.1 ∧
      OneAt m v (absRuns 0 bl.flatten) it' k := by
  obtain ⟨it, A, rs, e1, a, h1⟩ := g.iterForOne_at m k hk
  obtain ⟨e, w⟩ := a.walk
  obtain ⟨it', a1, a2, a3⟩ := w.advanceTo t k ht (absRuns 0 A) _ (lensAbs_absRuns 0 _) (lens_le_span A)
    (InLast.of_le h1) (a.pos g).2 (by rw [a.ones g]; omega) a.fuel
  exact ⟨it, it', e1, a1, a2, a.abs ▸ a3⟩

/-- **select**: for every argument (`none` iff `r ≥ ones`) -/
theorem GoodB.select (m : Mode) {v : RL} {bl : Blocks} (g : GoodB v bl) (r : Nat) :
    v.select m r = ok (selectR (absRuns 0 bl.flatten) r) := by
  unfold RL.select
  by_cases hr : r ≥ v.ones
  · rw [if_pos hr, selectR_ge _ r (g.ones_eq ▸ hr)]
  · obtain ⟨it, it', e1, a1, a2, a3⟩ := g.advance_from m (r + 1) r (Nat.le_refl _) (Nat.lt_of_not_ge hr)
    obtain ⟨s1, s2⟩ := a3.select a2
    rw [if_neg hr, e1, bind_ok, advanceTo_false, a1, bind_ok]
    unfold RunIter.offsetFor
    rw [show it'.rank = it'.pos.1 from rfl, show it'.offsetBits = it'.pos.2 from rfl,
      subM_ok (Nat.le_of_lt a2), bind_ok, subM_ok s2, bind_ok, s1]
    rfl

/-- **`select_iter(rank)`** delivers the set bits of rank `rank, rank+1, …` -/
theorem GoodB.selectIter_from (m : Mode) {v : RL} {bl : Blocks} (g : GoodB v bl) (rank : Nat) :
    ∃ st, v.selectIter m rank = ok st ∧ OneFrom m v (absRuns 0 bl.flatten) st rank := by
  unfold RL.selectIter
  by_cases hr : rank ≥ v.ones
  · rw [if_pos hr]
    exact ⟨_, rfl, .inl ⟨rfl, rfl, g.ones_eq ▸ hr⟩⟩
  · obtain ⟨it, it', e1, a1, a2, a3⟩ := g.advance_from m rank rank (Nat.le_succ _) (Nat.lt_of_not_ge hr)
    rw [if_neg hr, e1, bind_ok, a1, bind_ok]
    exact ⟨_, rfl, .inr ⟨it', rfl, a2, a3⟩⟩

/-- **`one_iter()`** delivers the set bits from rank 0 -/
theorem GoodB.oneIter_from (m : Mode) {v : RL} {bl : Blocks} (g : GoodB v bl) :
    ∃ st, v.oneIter = ok st ∧ OneFrom m v (absRuns 0 bl.flatten) st 0 := by
  unfold RL.oneIter
  obtain ⟨it, e1, a⟩ := g.runIter_at m
  rw [e1, bind_ok]
  exact ⟨_, rfl, .inr ⟨_, rfl, Nat.zero_le _, a.oneAt g (InLast.of_le (Nat.zero_le _))⟩⟩

/-! ### `successor` -/

theorem succLoop_run {m : Mode} {v : RL} {it it' : RunIter} {s l : Nat} (value F : Nat)
    (h : nextQ m v it = ok (some (s, l), it')) :
    RL.succLoop m v value (F + 1) it =
      if s > value then (subM m it'.pos.1 l >>= fun r => pure (some (it', r)))
      else if it'.pos.2 > value then
        ((subM m it'.pos.2 value >>= fun d => subM m it'.pos.1 d) >>= fun r => pure (some (it', r)))
      else RL.succLoop m v value F it' := by
  rw [RL.succLoop, h]; rfl

/-- the loop of `successor` stops after the first run that ends after `value`, with the rank of the successor;
it returns `None` when every run ends at or before `value` -/
theorem Walk.succLoop {m : Mode} {v : RL} (value : Nat) {it e : RunIter} {r p : Nat} {rs : List (Nat × Nat)}
    (w : Walk m v it r p rs e) : ∀ (pre : List (Nat × Nat)) (F : Nat),
      lensAbs pre = r → r ≤ p → (∀ q ∈ rs, 1 ≤ q.2) → rs.length < F →
      (RL.succLoop m v value F it = ok none ∧ rankR (absRuns p rs) value = lens rs) ∨
      ∃ it', RL.succLoop m v value F it = ok (some (it', r + rankR (absRuns p rs) value)) ∧
        r + rankR (absRuns p rs) value < it'.pos.1 ∧
        OneAt m v (pre ++ absRuns p rs) it' (r + rankR (absRuns p rs) value) := by
  induction w with
  | @done it e r p hit hn he =>
    intro pre F _ _ _ hF
    obtain ⟨F, rfl⟩ := fuel_succ hF
    exact .inl ⟨by rw [RL.succLoop, hn]; rfl, rfl⟩
  | @run it it' e r p g l rs hit hn w ih =>
    intro pre F hl hrp hpos hF
    obtain ⟨F, rfl⟩ := fuel_succ hF
    have hl1 := hpos (g, l) (List.mem_cons_self ..)
    have hpos' : ∀ q ∈ rs, 1 ≤ q.2 := fun q hq => hpos q (List.mem_cons_of_mem _ hq)
    -- the state after this run, for a rank `k` inside it
    have hat : ∀ k, r ≤ k → OneAt m v (pre ++ absRuns p ((g, l) :: rs)) it' k := fun k hk =>
      ⟨pre ++ [(p + g, l)], rs, _, _, e, by rw [List.append_assoc]; rfl, w, lensAbs_snoc hl _ _, by omega,
        InLast.snoc hl hk _ _, hpos'⟩
    rw [succLoop_run value F hn, w.pos]
    by_cases c1 : p + g > value
    · rw [if_pos c1, subM_ok (Nat.le_add_left _ _), bind_ok, Nat.add_sub_cancel, rankR_run_after rs (Nat.le_of_lt c1)]
      exact .inr ⟨it', rfl, by rw [w.pos]; exact Nat.add_lt_add_left hl1 r, hat _ (Nat.le_refl _)⟩
    · rw [if_neg c1]
      by_cases c2 : p + g + l > value
      · obtain ⟨a1, a2⟩ := rankAt_in_run r (Nat.le_of_not_gt c1) (Nat.le_of_lt c2)
        rw [if_pos c2, subM_ok (Nat.le_of_lt c2), bind_ok, subM_ok a1, bind_ok, a2,
          rankR_run_in rs (Nat.le_of_not_gt c1) (Nat.le_of_lt c2)]
        exact .inr ⟨it', rfl, by rw [w.pos]; show _ < r + l; omega, hat _ (Nat.le_add_right _ _)⟩
      · rw [if_neg c2, rankR_run_before rs (Nat.le_of_not_gt c2), ← Nat.add_assoc]
        rcases ih (pre ++ [(p + g, l)]) F (lensAbs_snoc hl _ _) (by omega) hpos' (Nat.lt_of_succ_lt_succ hF) with
          ⟨a1, a2⟩ | ⟨it'', a1, a2, a3⟩
        · exact .inl ⟨a1, by rw [a2]; rfl⟩
        · rw [List.append_assoc] at a3
          exact .inr ⟨it'', a1, a2, a3⟩

/-- **`successor(x)`** delivers the set bits from rank `rank(x)` (= number of set bits before `x`) on -/
theorem GoodB.successor_from (m : Mode) {v : RL} {bl : Blocks} (g : GoodB v bl) (x : Nat) :
    ∃ st, v.successor m x = ok st ∧ OneFrom m v (absRuns 0 bl.flatten) st (rankR (absRuns 0 bl.flatten) x) := by
  unfold RL.successor
  have hsp := g.span_le
  by_cases hx : x ≥ v.len
  · rw [if_pos hx]
    exact ⟨_, rfl, .inl ⟨rfl, rfl, by rw [rankR_abs_ge _ 0 x (by omega), lensAbs_absRuns]; exact Nat.le_refl _⟩⟩
  · rw [if_neg hx]
    obtain ⟨it, A, rs, e1, a, h1⟩ := g.iterForBit_at m x (Nat.lt_of_not_ge hx)
    obtain ⟨e, w⟩ := a.walk
    rw [e1, bind_ok, ← a.abs, rankR_append, rankR_abs_ge _ 0 x (by rw [Nat.zero_add]; exact h1)]
    rcases w.succLoop x (absRuns 0 A) _ (lensAbs_absRuns 0 _) (lens_le_span A) (a.pos g).2 a.fuel with
      ⟨a1, a2⟩ | ⟨it', a1, a2, a3⟩
    · rw [a1, a2]
      exact ⟨_, rfl, .inl ⟨rfl, rfl, by rw [lensAbs_append, lensAbs_absRuns, lensAbs_absRuns]; exact Nat.le_refl _⟩⟩
    · rw [a1]
      exact ⟨_, rfl, .inr ⟨it', rfl, Nat.le_of_lt a2, a3⟩⟩

/-- **successor**: the returned iterator's first item is the nearest set bit at or after `x` with its
rank; the iterator is empty when there is none (in particular for `x ≥ len`) -/
theorem GoodB.successor (m : Mode) {v : RL} {bl : Blocks} (g : GoodB v bl) (x : Nat) :
    ∃ oi oi', v.successor m x = ok oi ∧ oi.nextQ m v = ok (succR (absRuns 0 bl.flatten) x, oi') := by
  obtain ⟨st, h1, h2⟩ := g.successor_from m x
  obtain ⟨st', h3⟩ := h2.next g.ones_eq
  exact ⟨st, st', h1, h3⟩

/-! ### `predecessor` -/

theorem selectR_last (rs : List (Nat × Nat)) (p0 : Nat) (hne : rs ≠ []) (hpos : ∀ p ∈ rs, 1 ≤ p.2) :
    selectR (absRuns p0 rs) (lens rs - 1) = some (p0 + span rs - 1) := by
  obtain rfl | ⟨rs, x, rfl⟩ := List.eq_nil_or_concat rs
  · exact absurd rfl hne
  · have hx := hpos x (by simp)
    rw [List.concat_eq_append, absRuns_append, lens_append, span_append,
      selectR_append_ge _ _ _ (by rw [lensAbs_absRuns]; exact Nat.le_sub_one_of_lt (by simp only [lens]; omega)),
      lensAbs_absRuns]
    simp only [absRuns, selectR, lens, span]
    rw [if_pos (by omega)]
    congr 1; omega

/-- the rank `predecessor` computes from the position `(r, p)` its loop stops at (`rl_vector.rs`,
`let rank = if iter.offset() > value …`) -/
def kOf (value r p : Nat) : Nat := if p > value then r - (p - value) else r - 1

/-- what the `predecessor` loop knows at an iterator position `(r, p)` about the runs `R` met so far: when the
position is past `value`, `value` lies in the last run; otherwise all `r` ones are at or before `value` -/
def PredRank (R : List (Nat × Nat)) (value r p : Nat) : Prop :=
  (p > value → p - value ≤ r) ∧ rankR R (value + 1) = if p > value then r - (p - value) + 1 else r

/-- runs that start after `value` change nothing -/
theorem PredRank.append {pre : List (Nat × Nat)} {value r p : Nat} (h : PredRank pre value r p)
    {post : List (Nat × Nat)} (hz : rankR post (value + 1) = 0) : PredRank (pre ++ post) value r p :=
  ⟨h.1, by rw [rankR_append, hz, h.2]; rfl⟩

/-- accepting a run `(s, l)` that starts at or before `value`: the rank `predecessor` would compute afterwards lies
in that run -/
theorem PredRank.snoc {pre : List (Nat × Nat)} {value r p : Nat} (h : PredRank pre value r p) (hp : p ≤ value)
    (s l : Nat) (hs : s ≤ value) (hl : 1 ≤ l) :
    r ≤ kOf value (r + l) (s + l) ∧ PredRank (pre ++ [(s, l)]) value (r + l) (s + l) := by
  have hr : rankR pre (value + 1) = r := by rw [h.2, if_neg (Nat.not_lt.mpr hp)]
  unfold PredRank kOf
  rw [rankR_append, hr]
  simp only [rankR]
  by_cases c : s + l > value
  · simp only [if_pos c]; omega
  · simp only [if_neg c]; omega

theorem predLoop_stop {m : Mode} {v : RL} {it adv : RunIter} {s l : Nat} (value F : Nat)
    (h : peek m v it = ok (.run s l adv)) :
    RL.predLoop m v value (F + 1) it = if s ≤ value then RL.predLoop m v value F adv else ok it := by
  rw [RL.predLoop, h]; rfl

/-- the loop of `predecessor` (`advance_if` with a closure that refuses the first run starting after `value`;
a refused run leaves the iterator untouched) stops in a state on the walk that knows the rank of `value + 1` -/
theorem Walk.predLoop {m : Mode} {v : RL} (value : Nat) {it e : RunIter} {r p : Nat} {rs : List (Nat × Nat)}
    (w : Walk m v it r p rs e) : ∀ (pre : List (Nat × Nat)) (F : Nat),
      lensAbs pre = r → r ≤ p → (∀ q ∈ rs, 1 ≤ q.2) → rs.length < F →
      InLast pre r p (kOf value r p) → PredRank pre value r p →
      ∃ it', RL.predLoop m v value F it = ok it' ∧
        OneAt m v (pre ++ absRuns p rs) it' (kOf value it'.pos.1 it'.pos.2) ∧
        PredRank (pre ++ absRuns p rs) value it'.pos.1 it'.pos.2 := by
  induction w with
  | @done it e r p hit hn he =>
    intro pre F hl hrp hpos hF hsel hP
    obtain ⟨F, rfl⟩ := fuel_succ hF
    refine ⟨it, ?_, ?_, ?_⟩
    · rw [RL.predLoop]
      rcases peek_of_nextQ_none hn with h | ⟨o, h⟩ <;> rw [h] <;> rfl
    · rw [hit]; exact ⟨pre, [], r, p, e, rfl, .done hit hn he, hl, hrp, hsel, hpos⟩
    · rw [hit]; exact hP.append rfl
  | @run it it' e r p g l rs hit hn w ih =>
    intro pre F hl hrp hpos hF hsel hP
    obtain ⟨F, rfl⟩ := fuel_succ hF
    have hl1 := hpos (g, l) (List.mem_cons_self ..)
    rw [predLoop_stop value F (peek_of_nextQ_some hn)]
    by_cases c : p + g ≤ value
    · rw [if_pos c]
      have hpv : p ≤ value := Nat.le_trans (Nat.le_add_right p g) c
      obtain ⟨hk, hP'⟩ := hP.snoc hpv (p + g) l c hl1
      obtain ⟨it'', a1, a2, a3⟩ := ih (pre ++ [(p + g, l)]) F (lensAbs_snoc hl _ _)
        (Nat.add_le_add_right (Nat.le_trans hrp (Nat.le_add_right p g)) l)
        (fun q hq => hpos q (List.mem_cons_of_mem _ hq)) (Nat.lt_of_succ_lt_succ hF) (InLast.snoc hl hk _ _) hP'
      rw [List.append_assoc] at a2 a3
      exact ⟨it'', a1, a2, a3⟩
    · rw [if_neg c]
      refine ⟨it, rfl, ?_, ?_⟩
      · rw [hit]; exact ⟨pre, (g, l) :: rs, r, p, e, rfl, .run hit hn w, hl, hrp, hsel, hpos⟩
      · rw [hit]
        have hv : value + 1 ≤ p + g := Nat.succ_le_of_lt (Nat.lt_of_not_le c)
        exact hP.append (rankR_run_after rs hv)

/-- the rank of the set bit `predecessor(x)` starts at: that of the nearest set bit at or before `x`, or the number
of ones when there is none -/
def predStart (R : List (Nat × Nat)) (x : Nat) : Nat :=
  if rankR R (x + 1) = 0 then lensAbs R else rankR R (x + 1) - 1

/-- arguments beyond the last position count the same ones as the last position -/
theorem rankR_clamp (rs : List (Nat × Nat)) (len x : Nat) (hsp : span rs ≤ len) (h0 : len ≠ 0) :
    rankR (absRuns 0 rs) (x + 1) = rankR (absRuns 0 rs) (min x (len - 1) + 1) := by
  by_cases hx : x < len
  · rw [Nat.min_eq_left (Nat.le_sub_one_of_lt hx)]
  · have h1 : len - 1 + 1 = len := Nat.succ_pred_eq_of_ne_zero h0
    rw [Nat.min_eq_right (Nat.le_trans (Nat.sub_le _ _) (Nat.le_of_not_lt hx)), h1,
      rankR_abs_ge _ 0 _ (by rw [Nat.zero_add]; exact Nat.le_trans hsp (Nat.le_succ_of_le (Nat.le_of_not_lt hx))),
      rankR_abs_ge _ 0 _ (by rw [Nat.zero_add]; exact hsp)]

/-- at the start of a block that begins at or before `value`: the last run before it ends at `cumS bl b ≤ value`,
so all ones before the block are at or before `value`, and the last of them is the end of that run -/
theorem pred_start (A : List (Nat × Nat)) (value : Nat) (hA : ∀ q ∈ A, 1 ≤ q.2) (h1 : span A ≤ value) :
    InLast (absRuns 0 A) (lens A) (span A) (kOf value (lens A) (span A)) ∧
    PredRank (absRuns 0 A) value (lens A) (span A) := by
  have hgt : ¬ span A > value := Nat.not_lt.mpr h1
  refine ⟨?_, fun h => absurd h hgt, ?_⟩
  · unfold kOf
    rw [if_neg hgt]
    intro j j1 j2
    obtain rfl : j = lens A - 1 := by omega
    have hcl := lens_le_span A
    have hne' : A ≠ [] := fun h => by rw [h] at j2; exact Nat.not_lt_zero _ j2
    have := selectR_last _ 0 hne' hA
    rw [Nat.zero_add] at this
    refine ⟨this.trans ?_, by omega⟩
    congr 1
    omega
  · rw [if_neg hgt, rankR_abs_ge _ 0 _ (by rw [Nat.zero_add]; exact Nat.le_succ_of_le h1)]

/-- **`predecessor(x)`** delivers the predecessor and the set bits after it; arguments `x ≥ len` behave like
`len - 1` -/
theorem GoodB.predecessor_from (m : Mode) {v : RL} {bl : Blocks} (g : GoodB v bl) (x : Nat) :
    ∃ st, v.predecessor m x = ok st ∧ OneFrom m v (absRuns 0 bl.flatten) st (predStart (absRuns 0 bl.flatten) x) := by
  unfold RL.predecessor predStart
  by_cases h0 : v.len = 0
  · have hsp := g.span_le
    rw [if_pos h0, rankR_abs_ge _ 0 (x + 1) (by omega), if_pos (by have := lens_le_span bl.flatten; omega)]
    exact ⟨_, rfl, .inl ⟨rfl, rfl, Nat.le_refl _⟩⟩
  · rw [if_neg h0, rankR_clamp _ v.len x g.span_le h0]
    have hv : min x (v.len - 1) < v.len :=
      Nat.lt_of_le_of_lt (Nat.min_le_right _ _) (Nat.sub_lt (Nat.pos_of_ne_zero h0) Nat.one_pos)
    generalize min x (v.len - 1) = value at *
    simp only []
    obtain ⟨it, A, rs, e1, a, h1⟩ := g.iterForBit_at m value hv
    obtain ⟨e, w⟩ := a.walk
    obtain ⟨hsel, hP⟩ := pred_start A value (a.pos g).1 h1
    obtain ⟨it', a1, a2, a3, a4⟩ := w.predLoop value _ _ (lensAbs_absRuns 0 _) (lens_le_span A) (a.pos g).2 a.fuel
      hsel hP
    rw [a.abs] at a2 a4
    rw [e1, bind_ok, a1, bind_ok, show it'.rank = it'.pos.1 from rfl, show it'.offsetBits = it'.pos.2 from rfl]
    unfold RunIter.rankAt
    rw [show it'.rank = it'.pos.1 from rfl, show it'.offsetBits = it'.pos.2 from rfl]
    generalize hr' : it'.pos.1 = r at *
    generalize it'.pos.2 = p at *
    by_cases hr : r = 0
    · have hle : ¬ p > value := fun h => by rw [hr] at a3; exact absurd (a3 h) (Nat.not_le.mpr (Nat.sub_pos_of_lt h))
      rw [if_pos hr, a4, if_neg hle, if_pos hr]
      exact ⟨_, rfl, .inl ⟨rfl, rfl, Nat.le_refl _⟩⟩
    · rw [if_neg hr]
      unfold kOf at a2
      by_cases hgt : p > value
      · rw [if_pos hgt] at a2 a4
        rw [if_pos hgt, subM_ok (Nat.le_of_lt hgt), bind_ok, subM_ok (a3 hgt), bind_ok, a4,
          if_neg (Nat.succ_ne_zero _), Nat.add_sub_cancel]
        exact ⟨_, rfl, .inr ⟨it', rfl, hr' ▸ Nat.sub_le _ _, a2⟩⟩
      · rw [if_neg hgt] at a2 a4
        rw [if_neg hgt, subM_ok (Nat.pos_of_ne_zero hr), bind_ok, a4, if_neg hr]
        exact ⟨_, rfl, .inr ⟨it', rfl, hr' ▸ Nat.sub_le _ _, a2⟩⟩

/-- **predecessor**: the returned iterator's first item is the nearest set bit at or before `x` with its
rank; the iterator is empty when there is none; arguments `x ≥ len` behave like `len - 1` -/
theorem GoodB.predecessor (m : Mode) {v : RL} {bl : Blocks} (g : GoodB v bl) (x : Nat) :
    ∃ oi oi', v.predecessor m x = ok oi ∧ oi.nextQ m v = ok (predR (absRuns 0 bl.flatten) x, oi') := by
  obtain ⟨st, h1, h2⟩ := g.predecessor_from m x
  obtain ⟨st', h3⟩ := h2.next g.ones_eq
  refine ⟨st, st', h1, ?_⟩
  rw [h3]
  unfold predR predStart
  by_cases c : rankR (absRuns 0 bl.flatten) (x + 1) = 0
  · rw [if_pos c, if_pos c, selectR_ge _ _ (Nat.le_refl _)]; rfl
  · rw [if_neg c, if_neg c]

/-! ## 7. `select_zero` -/

theorem selectZeroFrom_none (len : Nat) (rs : List (Nat × Nat)) : ∀ (p0 r : Nat), p0 + span rs ≤ len →
    len - p0 - lens rs ≤ r → selectZeroFrom len p0 (absRuns p0 rs) r = none := by
  induction rs with
  | nil =>
    intro p0 r h1 h2
    simp only [lens] at h2
    simp only [absRuns, selectZeroFrom]
    rw [if_neg (by omega)]
  | cons p rs ih =>
    intro p0 r h1 h2
    simp only [lens] at h2
    simp only [span] at h1
    have := lens_le_span rs
    simp only [absRuns, selectZeroFrom]
    rw [if_neg (by omega), ih _ _ (by omega) (by omega)]

theorem selectZeroFrom_append (len : Nat) (rest : List (Nat × Nat)) (a : List (Nat × Nat)) :
    ∀ (p0 r : Nat), span a - lens a ≤ r →
    selectZeroFrom len p0 (absRuns p0 a ++ rest) r =
      selectZeroFrom len (p0 + span a) rest (r - (span a - lens a)) := by
  induction a with
  | nil => intro p0 r _; simp [absRuns, span, lens]
  | cons p a ih =>
    intro p0 r h
    simp only [span, lens] at h
    have := lens_le_span a
    simp only [absRuns, List.cons_append, selectZeroFrom, span, lens]
    rw [if_neg (by omega), ih _ _ (by omega)]
    congr 1 <;> omega

theorem selectZeroFrom_gap (len p0 : Nat) (p : Nat × Nat) (rs : List (Nat × Nat)) (j : Nat) (hj : j < p.1) :
    selectZeroFrom len p0 (absRuns p0 (p :: rs)) j = some (p0 + j) := by
  simp only [absRuns, selectZeroFrom]
  rw [if_pos (by omega)]

theorem selectZeroFrom_skip (len p0 : Nat) (p : Nat × Nat) (rs : List (Nat × Nat)) (j : Nat) :
    selectZeroFrom len p0 (absRuns p0 (p :: rs)) (p.1 + j) =
      selectZeroFrom len (p0 + p.1 + p.2) (absRuns (p0 + p.1 + p.2) rs) j := by
  simp only [absRuns, selectZeroFrom]
  rw [if_neg (by omega)]
  congr 1; omega

/-- one round of the loop of `select_zero` / `select_zero_iter` that reads a run; `z` = zeros before the end of that run -/
theorem selectZeroLoop_some {m : Mode} {v : RL} {rank F ones r z : Nat} {it it' : RunIter} {y : Nat × Nat}
    (hn : nextQ m v it = ok (some y, it')) (hp : it'.pos = (r, r + z)) (hu : rank + ones < U64) :
    RL.selectZeroLoop m v rank (F + 1) it ones =
      if z > rank then ok (rank + ones, it', false) else RL.selectZeroLoop m v rank F it' r := by
  rw [RL.selectZeroLoop, hn]
  show (subM m it'.pos.2 it'.pos.1 >>= fun rz =>
    if rz > rank then (addM m rank ones >>= fun q => pure (q, it', false))
    else RL.selectZeroLoop m v rank F it' it'.pos.1) = _
  rw [hp, subM_ok (Nat.le_add_right r z), bind_ok, Nat.add_sub_cancel_left]
  split
  · rw [addM_ok hu]; rfl
  · rfl

theorem selectZeroLoop_none {m : Mode} {v : RL} {rank F ones : Nat} {it e : RunIter}
    (hn : nextQ m v it = ok (none, e)) (hu : rank + ones < U64) :
    RL.selectZeroLoop m v rank (F + 1) it ones = ok (rank + ones, e, true) := by
  rw [RL.selectZeroLoop, hn]
  simp only [bind_ok]
  rw [addM_ok hu]; rfl

/-! ### the zero iterator

`select_zero_iter` returns a zero iterator and `select_zero` the position it stands at, so the states of the zero
iterator come before the loop. -/

theorem zero_nextQ_stay (m : Mode) (v : RL) (it : RunIter) (k x : Nat) (hrq : it.pos.1 ≤ it.pos.2)
    (hk : k < it.pos.2 - it.pos.1) (hcz : k < v.countZeros) :
    RLZeroIter.nextQ m v ⟨it, false, (k, x)⟩ = ok (some (k, x), ⟨it, false, (k + 1, x + 1)⟩) := by
  unfold RLZeroIter.nextQ RunIter.rankZero
  rw [show it.rank = it.pos.1 from rfl, show it.offsetBits = it.pos.2 from rfl, subM_ok hrq, bind_ok]
  have hc : ¬ ((!false && decide (k ≥ it.pos.2 - it.pos.1)) = true) := by
    simp only [Bool.not_false, Bool.true_and, decide_eq_true_eq]; omega
  simp only [if_neg hc, pure_eq, bind_ok, if_neg (show ¬ k ≥ v.countZeros by omega)]

theorem zero_nextQ_fetch (m : Mode) (v : RL) {it it' : RunIter} {r z : Nat} (o : Option (Nat × Nat)) (x : Nat)
    (hit : it.pos = (r, r + z)) (hn : nextQ m v it = ok (o, it')) :
    RLZeroIter.nextQ m v ⟨it, false, (z, x)⟩ =
      if z ≥ v.countZeros then ok (none, ⟨it', o.isNone, (z, r + z)⟩)
      else ok (some (z, r + z), ⟨it', o.isNone, (z + 1, r + z + 1)⟩) := by
  unfold RLZeroIter.nextQ RunIter.rankZero
  rw [show it.rank = it.pos.1 from rfl, show it.offsetBits = it.pos.2 from rfl, hit,
    subM_ok (Nat.le_add_right r z), bind_ok, Nat.add_sub_cancel_left]
  have hc : ((!false && decide (z ≥ z)) = true) := by
    simp only [Bool.not_false, Bool.true_and, decide_eq_true_eq]; exact Nat.le_refl z
  simp only [if_pos hc, hn, pure_eq, bind_ok]

theorem zero_nextQ_tail (m : Mode) (v : RL) (it : RunIter) (k x : Nat) (hrq : it.pos.1 ≤ it.pos.2) :
    RLZeroIter.nextQ m v ⟨it, true, (k, x)⟩ =
      if k ≥ v.countZeros then ok (none, ⟨it, true, (k, x)⟩)
      else ok (some (k, x), ⟨it, true, (k + 1, x + 1)⟩) := by
  unfold RLZeroIter.nextQ RunIter.rankZero
  rw [show it.rank = it.pos.1 from rfl, show it.offsetBits = it.pos.2 from rfl, subM_ok hrq, bind_ok]
  simp only [Bool.not_true, Bool.false_and, Bool.false_eq_true, if_false, pure_eq, bind_ok]

/-- `sel` maps the ranks `z, …, z+n-1` to the consecutive positions `x, …, x+n-1` -/
def Consec (sel : Nat → Option Nat) (z x n : Nat) : Prop := ∀ j, j < n → sel (z + j) = some (x + j)

theorem Consec.first {sel : Nat → Option Nat} {z x n : Nat} (h : Consec sel z x n) (hn : 0 < n) : sel z = some x :=
  h 0 hn

theorem Consec.rest {sel : Nat → Option Nat} {z x n : Nat} (h : Consec sel z x n) :
    Consec sel (z + 1) (x + 1) (n - 1) := fun j hj => by
  rw [Nat.add_assoc z 1 j, Nat.add_assoc x 1 j]; exact h (1 + j) (by omega)

/-- at a state of the walk with `r` ones and `z` zeros behind it and the runs `rs` ahead: the runs ahead lie inside the
vector, and from rank `z` on `sel` is `select_zero` over them -/
structure ZCtx (v : RL) (sel : Nat → Option Nat) (r z : Nat) (rs : List (Nat × Nat)) : Prop where
  span_le : r + z + span rs ≤ v.len
  zeros : v.countZeros + (r + lens rs) = v.len
  sel_eq : ∀ j, sel (z + j) = selectZeroFrom v.len (r + z) (absRuns (r + z) rs) j

section
variable {m : Mode} {v : RL} {sel : Nat → Option Nat}

theorem ZCtx.le {r z : Nat} {rs : List (Nat × Nat)} (c : ZCtx v sel r z rs) : z ≤ v.countZeros := by
  have := c.span_le; have := c.zeros; have := lens_le_span rs; omega

/-- after the last run: the zeros up to the length -/
theorem ZCtx.done {r z : Nat} (c : ZCtx v sel r z []) : Consec sel z (r + z) (v.countZeros - z) := fun j hj => by
  have := c.zeros
  simp only [lens, Nat.add_zero] at this
  rw [c.sel_eq j]
  simp only [absRuns, selectZeroFrom]
  rw [if_pos (by omega)]

/-- the zeros of the gap before the next run -/
theorem ZCtx.gap {r z g l : Nat} {rs : List (Nat × Nat)} (c : ZCtx v sel r z ((g, l) :: rs)) :
    Consec sel z (r + z) g := fun j hj => by
  rw [c.sel_eq j, selectZeroFrom_gap _ _ (g, l) _ _ hj]

theorem ZCtx.skip {r z g l : Nat} {rs : List (Nat × Nat)} (c : ZCtx v sel r z ((g, l) :: rs)) :
    ZCtx v sel (r + l) (z + g) rs := by
  have e : r + l + (z + g) = r + z + g + l := by omega
  refine ⟨?_, ?_, fun j => ?_⟩
  · have := c.span_le; simp only [span] at this; omega
  · have := c.zeros; simp only [lens] at this; omega
  · rw [Nat.add_assoc, c.sel_eq, selectZeroFrom_skip _ _ (g, l), e]

/-- `ZeroFrom m v sel st`: the zero iterator `st` is about to deliver the unset bits of rank `st.pos.1, st.pos.1 + 1, …`
as `sel` numbers them.  Either its run iterator has returned `None` and the remaining zeros are consecutive; or the run
iterator stands on the walk with `z` zeros behind it, of which those from `st.pos.1` on (the rest of the gap before the
run read last) are still to come.  Every run ahead follows a gap: the iterator takes the position after a run for a
zero without looking. -/
inductive ZeroFrom (m : Mode) (v : RL) (sel : Nat → Option Nat) : RLZeroIter → Prop
  | tail {it : RunIter} {k x : Nat} : nextQ m v it = ok (none, it) → it.pos.1 ≤ it.pos.2 → k ≤ v.countZeros →
      Consec sel k x (v.countZeros - k) → ZeroFrom m v sel ⟨it, true, (k, x)⟩
  | gap {it e : RunIter} {r z k x : Nat} {rs : List (Nat × Nat)} : Walk m v it r (r + z) rs e → ZCtx v sel r z rs →
      (∀ q ∈ rs, 1 ≤ q.1 ∧ 1 ≤ q.2) → k ≤ z → Consec sel k x (z - k) → ZeroFrom m v sel ⟨it, false, (k, x)⟩

theorem ZeroFrom.le {st : RLZeroIter} (h : ZeroFrom m v sel st) : st.pos.1 ≤ v.countZeros := by
  cases h with
  | tail _ _ hk _ => exact hk
  | gap _ c _ hk _ => exact Nat.le_trans hk c.le

/-- the walk has ended at `e` with `r` ones behind: from any rank `k ≥ z` on the zeros are at `r + k` -/
theorem ZeroFrom.of_done {it e : RunIter} {r z k : Nat} (hn : nextQ m v it = ok (none, e)) (he : e.pos = (r, r + z))
    (c : ZCtx v sel r z []) (hk : z ≤ k) (hk' : k ≤ v.countZeros) : ZeroFrom m v sel ⟨e, true, (k, r + k)⟩ := by
  refine .tail (nextQ_fused m v it e hn).1 (by rw [he]; exact Nat.le_add_right _ _) hk' fun j hj => ?_
  obtain ⟨d, rfl⟩ := Nat.exists_eq_add_of_le hk
  have := c.done (d + j) (by omega)
  rw [← Nat.add_assoc, ← Nat.add_assoc] at this
  rw [← Nat.add_assoc r]; exact this

/-- the run `(g, l)` has just been read: the zeros of rank `z ≤ k ≤ z + g` of the gap before it are at `r + k` -/
theorem ZeroFrom.of_run {it' e : RunIter} {r z g l k : Nat} {rs : List (Nat × Nat)}
    (w : Walk m v it' (r + l) (r + z + g + l) rs e) (c : ZCtx v sel r z ((g, l) :: rs))
    (hpos : ∀ q ∈ rs, 1 ≤ q.1 ∧ 1 ≤ q.2) (hk : z ≤ k) (hk' : k ≤ z + g) :
    ZeroFrom m v sel ⟨it', false, (k, r + k)⟩ := by
  have e : r + z + g + l = r + l + (z + g) := by omega
  refine .gap (e ▸ w) c.skip hpos hk' fun j hj => ?_
  obtain ⟨d, rfl⟩ := Nat.exists_eq_add_of_le hk
  have := c.gap (d + j) (by omega)
  rw [← Nat.add_assoc, ← Nat.add_assoc] at this
  rw [← Nat.add_assoc r]; exact this

/-- **one `next()` of the zero iterator**: the unset bit of rank `st.pos.1` while there is one, then `None` -/
theorem ZeroFrom.step {st : RLZeroIter} (h : ZeroFrom m v sel st) :
    ∃ st', ZeroFrom m v sel st' ∧
      if st.pos.1 < v.countZeros then
        st.nextQ m v = ok (some (st.pos.1, (sel st.pos.1).getD 0), st') ∧ st'.pos.1 = st.pos.1 + 1
      else st.nextQ m v = ok (none, st') ∧ st'.pos.1 = st.pos.1 := by
  cases h with
  | @tail it k x hf hrq hk hc =>
    rw [zero_nextQ_tail m v it k x hrq]
    by_cases c : k < v.countZeros
    · refine ⟨⟨it, true, (k + 1, x + 1)⟩, .tail hf hrq c (by rw [Nat.sub_succ]; exact hc.rest), ?_⟩
      rw [if_pos c, if_neg (Nat.not_le.mpr c), hc.first (Nat.sub_pos_of_lt c)]
      exact ⟨rfl, rfl⟩
    · exact ⟨_, .tail hf hrq hk hc, by rw [if_neg c, if_pos (Nat.le_of_not_lt c)]; exact ⟨rfl, rfl⟩⟩
  | @gap it e r z k x rs w c hpos hk hc =>
    by_cases c1 : k < z
    · -- inside the gap: the run iterator does not move
      have hz := c.le
      refine ⟨⟨it, false, (k + 1, x + 1)⟩, .gap w c hpos c1 (by rw [Nat.sub_succ]; exact hc.rest), ?_⟩
      rw [if_pos (Nat.lt_of_lt_of_le c1 hz), zero_nextQ_stay m v it k x (by rw [w.pos]; exact Nat.le_add_right _ _)
        (by rw [w.pos]; show k < r + z - r; omega) (Nat.lt_of_lt_of_le c1 hz), hc.first (Nat.sub_pos_of_lt c1)]
      exact ⟨rfl, rfl⟩
    · -- at its end: the walk hands over the next run, or ends
      obtain rfl : k = z := Nat.le_antisymm hk (Nat.le_of_not_lt c1)
      cases w with
      | done hit hn he =>
        rw [zero_nextQ_fetch m v none x hit hn]
        by_cases c2 : k < v.countZeros
        · refine ⟨_, ZeroFrom.of_done hn he c (Nat.le_succ k) c2, ?_⟩
          rw [if_pos c2, if_neg (Nat.not_le.mpr c2), c.done.first (Nat.sub_pos_of_lt c2)]
          exact ⟨rfl, rfl⟩
        · refine ⟨_, ZeroFrom.of_done hn he c (Nat.le_refl k) c.le, ?_⟩
          rw [if_neg c2, if_pos (Nat.le_of_not_lt c2)]
          exact ⟨rfl, rfl⟩
      | @run _ it' _ _ _ g l rs' hit hn w' =>
        have hg := (hpos (g, l) (List.mem_cons_self ..)).1
        have c2 : k < v.countZeros := Nat.lt_of_lt_of_le (Nat.lt_add_of_pos_right hg) c.skip.le
        refine ⟨_, ZeroFrom.of_run w' c (fun q hq => hpos q (List.mem_cons_of_mem _ hq)) (Nat.le_succ k)
          (Nat.add_le_add_left hg k), ?_⟩
        rw [zero_nextQ_fetch m v (some (r + k + g, l)) x hit hn, if_pos c2, if_neg (Nat.not_le.mpr c2),
          c.gap.first hg]
        exact ⟨rfl, rfl⟩

/-- the loop of `select_zero` / `select_zero_iter` from a state of the walk with at most `rank` zeros behind it: it
finds the unset bit of rank `rank` and (the runs ahead being separated) leaves a zero iterator that continues from
there -/
theorem Walk.selectZeroLoop_from (rank : Nat) (hlen : v.len < U64) (hrk : rank < v.countZeros) {it e : RunIter}
    {r p : Nat} {rs : List (Nat × Nat)} (w : Walk m v it r p rs e) : ∀ z F, rs.length < F → p = r + z →
      ZCtx v sel r z rs → z ≤ rank → (∀ q ∈ rs, 1 ≤ q.2) →
      ∃ q it' gn, RL.selectZeroLoop m v rank F it r = ok (q, it', gn) ∧ sel rank = some q ∧
        ((∀ q ∈ rs.drop 1, 1 ≤ q.1) → ZeroFrom m v sel ⟨it', gn, (rank, q)⟩) := by
  induction w with
  | @done it e r p hit hn he =>
    intro z F hF hp c hz _
    obtain ⟨F, rfl⟩ := fuel_succ hF
    subst hp
    obtain ⟨d, rfl⟩ := Nat.exists_eq_add_of_le hz
    have hu : z + d + r < U64 := by have := c.zeros; omega
    refine ⟨_, e, true, selectZeroLoop_none hn hu, ?_, fun _ => ?_⟩
    · rw [c.done d (by omega)]; congr 1; omega
    · rw [Nat.add_comm _ r]; exact ZeroFrom.of_done hn he c hz (Nat.le_of_lt hrk)
  | @run it it' e r p g l rs hit hn w ih =>
    intro z F hF hp c hz hpos
    obtain ⟨F, rfl⟩ := fuel_succ hF
    subst hp
    have hu : rank + r < U64 := by have := c.zeros; omega
    have hq' : r + z + g + l = r + l + (z + g) := by omega
    rw [selectZeroLoop_some hn (hq' ▸ w.pos) hu]
    by_cases hfound : z + g > rank
    · obtain ⟨d, rfl⟩ := Nat.exists_eq_add_of_le hz
      rw [if_pos hfound, Nat.add_comm _ r]
      refine ⟨_, it', false, rfl, ?_, fun hgap => ZeroFrom.of_run w c (fun q hq =>
        ⟨hgap q (by simpa using hq), hpos q (List.mem_cons_of_mem _ hq)⟩) hz (Nat.le_of_lt hfound)⟩
      rw [c.gap d (by omega)]; congr 1; omega
    · rw [if_neg hfound]
      obtain ⟨q, it'', gn, a1, a2, a3⟩ := ih (z + g) F (Nat.lt_of_succ_lt_succ hF) hq' c.skip (Nat.le_of_not_gt hfound)
        (fun q hq => hpos q (List.mem_cons_of_mem _ hq))
      exact ⟨q, it'', gn, a1, a2, fun hgap => a3 fun q hq => hgap q (by simpa using List.mem_of_mem_drop hq)⟩

end

section
variable {m : Mode} {v : RL} {bl : Blocks}

theorem At.zctx {it : RunIter} {A rs : List (Nat × Nat)} (g : GoodB v bl) (a : At m v bl it A rs) {z : Nat}
    (hz : span A = lens A + z) : ZCtx v (selectZeroR v.len (absRuns 0 bl.flatten)) (lens A) z rs := by
  have hsp := a.span_le g
  have hones := a.ones g
  have := lens_le_span rs
  refine ⟨by rw [← hz]; exact hsp, by show v.len - v.ones + _ = _; omega, fun j => ?_⟩
  unfold selectZeroR
  rw [← a.abs, selectZeroFrom_append v.len _ A 0 (z + j) (by omega), Nat.zero_add, hz,
    show z + j - (lens A + z - lens A) = j by omega]

/-- with separated runs, every run but the first of the vector follows a gap -/
theorem At.gaps {it : RunIter} {A rs : List (Nat × Nat)} (a : At m v bl it A rs)
    (hgap : ∀ q ∈ bl.flatten.tail, 1 ≤ q.1) : ∀ q ∈ rs.drop 1, 1 ≤ q.1 := by
  intro q hq
  apply hgap
  rw [a.split]
  cases A with
  | nil => exact List.drop_one ▸ hq
  | cons x A' => exact List.mem_append_right _ (List.mem_of_mem_drop hq)

/-- `iter_for_zero(rank)` followed by the loop -/
theorem GoodB.selectZeroLoop_from (m : Mode) (g : GoodB v bl) (rank : Nat) (hr : rank < v.countZeros) :
    ∃ it q it' gn, v.iterForZero m rank = ok it ∧
      RL.selectZeroLoop m v rank (v.data.len + 2) it it.rank = ok (q, it', gn) ∧
      selectZeroR v.len (absRuns 0 bl.flatten) rank = some q ∧
      ((∀ q ∈ bl.flatten.tail, 1 ≤ q.1) →
        ZeroFrom m v (selectZeroR v.len (absRuns 0 bl.flatten)) ⟨it', gn, (rank, q)⟩) := by
  obtain ⟨it, A, rs, z, e1, a, hz, hzr⟩ := g.iterForZero_at m rank hr
  obtain ⟨e, w⟩ := a.walk
  obtain ⟨q, it', gn, a1, a2, a3⟩ := w.selectZeroLoop_from rank g.len_lt hr z _ a.fuel hz (a.zctx g hz) hzr (a.pos g).2
  exact ⟨it, q, it', gn, e1, by rw [show it.rank = lens A from congrArg Prod.fst w.pos]; exact a1, a2,
    fun hgap => a3 (a.gaps hgap)⟩

/-- **select_zero**: for every argument (`none` iff `r ≥ len - ones`) -/
theorem GoodB.selectZero (m : Mode) (g : GoodB v bl) (r : Nat) :
    v.selectZero m r = ok (selectZeroR v.len (absRuns 0 bl.flatten) r) := by
  unfold RL.selectZero
  by_cases hr : r ≥ v.countZeros
  · have hsp := g.span_le
    rw [if_pos hr]; unfold selectZeroR
    rw [selectZeroFrom_none _ _ 0 r (by omega) (by rw [← g.ones]; exact hr)]
  · obtain ⟨it, q, it', gn, a1, a2, a3, _⟩ := g.selectZeroLoop_from m r (Nat.lt_of_not_ge hr)
    rw [if_neg hr, a1, bind_ok, a2, a3]; rfl

/-- **`select_zero_iter(rank)`** continues with the unset bits of rank `rank, rank + 1, …` (this needs every run but the
first to be separated from its predecessor, as maximal runs are) -/
theorem GoodB.selectZeroIter_from (m : Mode) (g : GoodB v bl)
    (hgap : ∀ q ∈ bl.flatten.tail, 1 ≤ q.1) (rank : Nat) :
    ∃ st, v.selectZeroIter m rank = ok st ∧ st.pos.1 = min rank v.countZeros ∧
      ZeroFrom m v (selectZeroR v.len (absRuns 0 bl.flatten)) st := by
  unfold RL.selectZeroIter
  by_cases hr : rank ≥ v.countZeros
  · have hle : v.ones ≤ v.len := by have := g.span_le; have := g.ones; have := lens_le_span bl.flatten; omega
    rw [if_pos hr]
    exact ⟨_, rfl, (Nat.min_eq_right hr).symm, .tail (nextQ_emptyIter m v) hle (Nat.le_refl _)
      (by rw [Nat.sub_self]; exact fun _ h => absurd h (Nat.not_lt_zero _))⟩
  · obtain ⟨it, q, it', gn, a1, a2, _, a4⟩ := g.selectZeroLoop_from m rank (Nat.lt_of_not_ge hr)
    rw [if_neg hr, a1, bind_ok, a2]
    exact ⟨_, rfl, (Nat.min_eq_left (Nat.le_of_not_ge hr)).symm, a4 hgap⟩

/-- **`zero_iter()`** starts at rank 0 -/
theorem GoodB.zeroIter_from (m : Mode) (g : GoodB v bl)
    (hgap : ∀ q ∈ bl.flatten.tail, 1 ≤ q.1) :
    ∃ st, v.zeroIter m = ok st ∧ st.pos.1 = 0 ∧ ZeroFrom m v (selectZeroR v.len (absRuns 0 bl.flatten)) st := by
  unfold RL.zeroIter
  obtain ⟨it, e1, a⟩ := g.runIter_at m
  obtain ⟨e, w⟩ := a.walk
  have c := a.zctx g (z := 0) rfl
  have hg := a.gaps hgap
  have hp := (a.pos g).2
  rw [e1, bind_ok]
  generalize selectZeroR v.len (absRuns 0 bl.flatten) = sel at c ⊢
  generalize bl.flatten = R at w c hg hp
  cases w with
  | done hit hn he =>
    rw [hn]
    exact ⟨_, rfl, rfl, ZeroFrom.of_done (r := 0) (z := 0) hn he c (Nat.le_refl 0) (Nat.zero_le _)⟩
  | @run _ it1 _ _ _ g0 l rest hit hn w1 =>
    rw [hn]
    exact ⟨_, rfl, rfl, ZeroFrom.of_run (r := 0) (z := 0) w1 c (fun q hq =>
      ⟨hg q (by simpa using hq), hp q (List.mem_cons_of_mem _ hq)⟩) (Nat.le_refl 0) (Nat.zero_le _)⟩

end

/-! ## 8. towards `Good` for built and loaded vectors: maximal runs are separated; the three sample indexes of a
block list (`cols_index`).  `From<RLBuilder>` itself: `RL.Built.goodB` in Proofs/Glue4 -/

/-- runs separated by at least one position, the first starting at or after `lo` -/
def Sep : Nat → List (Nat × Nat) → Prop
  | _, [] => True
  | lo, r :: rs => lo ≤ r.1 ∧ Sep (r.1 + r.2 + 1) rs

theorem Sep.mono {lo lo' : Nat} {l : List (Nat × Nat)} (h : lo' ≤ lo) (hs : Sep lo l) : Sep lo' l := by
  cases l with
  | nil => trivial
  | cons r rs => exact ⟨Nat.le_trans h hs.1, hs.2⟩

theorem Sep.lead {i k : Nat} {R' : List (Nat × Nat)} (h : Sep (i + k + 1) R') :
    Sep i (if k = 0 then R' else (i, k) :: R') := by
  by_cases hk : k = 0
  · rw [if_pos hk]; exact Sep.mono (by omega) h
  · rw [if_neg hk]; exact ⟨Nat.le_refl _, h⟩

/-- a pending run `(s, l)` is prolonged by the `k` leading set bits of `bs`; without a pending run these
`k` bits are a run of their own (none when `k = 0`).  The rest `R'` is the same, and begins after a gap. -/
theorem runsOf_lead : ∀ (bs : List Bool) (i : Nat), ∃ k R', (∀ s l, runsOf bs i (some (s, l)) = (s, l + k) :: R') ∧
    runsOf bs i none = (if k = 0 then R' else (i, k) :: R') ∧ Sep (i + k + 1) R' := by
  intro bs
  induction bs with
  | nil => intro i; exact ⟨0, [], fun _ _ => rfl, rfl, trivial⟩
  | cons b bs ih =>
    intro i
    obtain ⟨k, R', h1, h2, h3⟩ := ih (i + 1)
    cases b with
    | true =>
      refine ⟨k + 1, R', fun s l => ?_, ?_, by rw [← Nat.add_assoc, Nat.add_right_comm i k 1]; exact h3⟩
      · show runsOf bs (i + 1) (some (s, l + 1)) = _
        rw [h1, Nat.add_assoc, Nat.add_comm 1 k]
      · show runsOf bs (i + 1) (some (i, 1)) = _
        rw [h1, if_neg (Nat.succ_ne_zero k), Nat.add_comm 1 k]
    | false =>
      exact ⟨0, runsOf bs (i + 1) none, fun _ _ => rfl, rfl, h2 ▸ h3.lead⟩

theorem runsOf_sep (bs : List Bool) (i : Nat) : Sep i (runsOf bs i none) := by
  obtain ⟨k, R', _, h2, h3⟩ := runsOf_lead bs i
  exact h2 ▸ h3.lead

theorem maximalRuns_sep (B : List Bool) : Sep 0 (maximalRuns B) := runsOf_sep B 0

theorem sep_abs_gap : ∀ (rs : List (Nat × Nat)) (pos : Nat), Sep (pos + 1) (absRuns pos rs) →
    ∀ p ∈ rs, 1 ≤ p.1 := by
  intro rs
  induction rs with
  | nil => intro pos _ p hp; cases hp
  | cons q rs ih =>
    intro pos hs p hp
    simp only [absRuns] at hs
    obtain ⟨h1, h2⟩ := hs
    rcases List.mem_cons.mp hp with h | h
    · subst h; show 1 ≤ p.1; simp only [] at h1; omega
    · exact ih (pos + q.1 + q.2) h2 p h

/-- in the relative encoding of separated runs every run but the first has a positive gap -/
theorem sep_gap_tail {p : Nat × Nat} {rest : List (Nat × Nat)} (h : Sep 0 (absRuns 0 (p :: rest))) :
    ∀ q ∈ rest, 1 ≤ q.1 := by
  simp only [absRuns] at h
  exact sep_abs_gap rest _ h.2

theorem sep_gap_tail' (rel : List (Nat × Nat)) (h : Sep 0 (absRuns 0 rel)) : ∀ p ∈ rel.tail, 1 ≤ p.1 := by
  cases rel with
  | nil => intro p hp; cases hp
  | cons q rs => exact sep_gap_tail h

/-! ### columns -/

/-- **`SampleIndex::new` on a column** `f 0, …, f (n - 1)` of a non-decreasing `f` with `f 0 = 0`, below a non-empty
universe: it is built (both modes), and it is valid when there are values -/
theorem new_col (m : Mode) (f : Nat → Nat) (n univ : Nat) (h0 : f 0 = 0) (hmono : ∀ i j, i ≤ j → f i ≤ f j)
    (hlt : univ ≠ 0 → ∀ i, i < n → f i < univ) (hn : n + 8 < U64) (hu : univ < U64) :
    ∃ s, SampleIndex.new m ((List.range n).map f) univ = ok s ∧
      (0 < n → univ ≠ 0 → s.Valid ((List.range n).map f) univ) := by
  by_cases hu0 : univ = 0
  · obtain ⟨s, hs⟩ := new_univ_zero_ok m ((List.range n).map f)
    exact ⟨s, hu0 ▸ hs, fun _ h => absurd hu0 h⟩
  cases n with
  | zero => obtain ⟨s, hs⟩ := new_nil_ok m univ; exact ⟨s, hs, fun h => absurd h (Nat.lt_irrefl 0)⟩
  | succ k =>
    have hnd : NonDec ((List.range (k + 1)).map f) := fun i j hij _ => by
      simp only [List.getElem_map, List.getElem_range]; exact hmono i j hij
    have hall : ∀ x ∈ (List.range (k + 1)).map f, x < univ := fun x hx => by
      obtain ⟨i, hi, rfl⟩ := List.mem_map.mp hx
      exact hlt hu0 i (List.mem_range.mp hi)
    have hlen : ((List.range (k + 1)).map f).length = k + 1 := by simp
    have hr : (List.range (k + 1)).map f = 0 :: (List.range k).map (fun i => f (i + 1)) := by
      rw [List.range_succ_eq_map, List.map_cons, List.map_map, h0]; rfl
    rw [hr] at hnd hall hlen ⊢
    obtain ⟨s, e, hv, _⟩ := new_valid m _ univ hnd hall (by unfold NoOverflow; rw [hlen]; exact hn) hu
    exact ⟨s, e, fun _ _ => hv⟩

theorem new_nil_trivial (m : Mode) (univ : Nat) {s : SampleIndex} (h : SampleIndex.new m [] univ = ok s) :
    TrivialIdx s := by
  obtain ⟨d, e, _, d2, d3, d4⟩ := IntVec.withLen_spec_rl 1 1 0 (by omega) (by omega)
  unfold SampleIndex.new at h
  simp only [e, bind_ok, pure_eq] at h
  injection h with h; subst h
  exact ⟨rfl, rfl, d2, IntVec.getRaw_of_items (d := d) (by rw [d2]; omega) (by rw [d4, d2]; rfl)⟩

theorem cumS_lt (bl : Blocks) (hblk : ∀ blk ∈ bl, blk ≠ [] ∧ BlockOK blk) (i : Nat) (h : i < bl.length) :
    cumL bl i < lens bl.flatten ∧ cumS bl i < span bl.flatten := by
  have hm := hblk bl[i] (List.getElem_mem h)
  have h1 := lens_pos hm.1 hm.2.1
  have h2 := lens_le_span bl[i]
  have := cumL_succ bl i h
  have := cumS_succ bl i h
  have := cumL_le bl (i + 1)
  have := cumS_le bl (i + 1)
  omega

/-- with positive gaps after the first run, strictly fewer zeros precede a block than the vector has -/
theorem cumZ_lt (bl : Blocks) (hblk : ∀ blk ∈ bl, blk ≠ [] ∧ BlockOK blk) {p : Nat × Nat}
    {rest : List (Nat × Nat)} (hfl : bl.flatten = p :: rest) (hgap : ∀ q ∈ rest, 1 ≤ q.1)
    (i : Nat) (h1 : 1 ≤ i) (h : i < bl.length) :
    cumS bl i - cumL bl i + 1 ≤ span bl.flatten - lens bl.flatten := by
  have hsplit : bl.flatten = (bl.take i).flatten ++ (bl.drop i).flatten := by
    rw [← List.flatten_append, List.take_append_drop]
  have hdrop : bl.drop i = bl[i] :: bl.drop (i + 1) := List.drop_eq_getElem_cons h
  have hA : 1 ≤ lens (bl.take i).flatten := by
    have h0 : 0 < bl.length := by omega
    have hm := hblk bl[0] (List.getElem_mem h0)
    have := lens_pos hm.1 hm.2.1
    have hs := cumL_succ bl 0 h0
    rw [Nat.zero_add] at hs
    have := cumL_mono bl 1 i h1
    have : cumL bl 0 = 0 := rfl
    show 1 ≤ cumL bl i
    omega
  have hne := (hblk bl[i] (List.getElem_mem h)).1
  cases hAe : (bl.take i).flatten with
  | nil => rw [hAe] at hA; simp [lens] at hA
  | cons a A' =>
    cases hBe : bl[i] with
    | nil => exact absurd hBe hne
    | cons d D' =>
      have hd : d ∈ rest := by
        rw [hsplit, hAe, hdrop, hBe] at hfl
        simp only [List.flatten_cons, List.cons_append] at hfl
        injection hfl with _ hfl
        rw [← hfl]; simp
      have hd1 := hgap d hd
      obtain ⟨e2, e1⟩ := drop_cum bl i
      rw [hdrop, hBe] at e1 e2
      simp only [List.flatten_cons, List.cons_append, span, lens] at e1 e2
      have := lens_le_span (D' ++ (bl.drop (i + 1)).flatten)
      have := cumL_le_cumS bl i
      omega

/-- **the three indexes of a block list** (`len` bits, every block holds a run, every run but the first follows an unset
bit, so that the zero column stays below the number of zeros): `SampleIndex::new` builds them, in both modes, and they
are what `GoodB` asks for -/
theorem cols_index (m : Mode) (bl : Blocks) (hblk : ∀ blk ∈ bl, blk ≠ [] ∧ BlockOK blk) (hblen : bl.length + 8 < U64)
    {len ones : Nat} (hones : lens bl.flatten = ones) (hspan : span bl.flatten ≤ len) (hlt : len < U64)
    (hgap : ∀ q ∈ bl.flatten.tail, 1 ≤ q.1) :
    ∃ ri si zi, SampleIndex.new m (bitsCol bl) len = ok ri ∧ SampleIndex.new m (onesCol bl) ones = ok si ∧
      SampleIndex.new m (zerosCol bl) (len - ones) = ok zi ∧
      (bl ≠ [] → ri.Valid (bitsCol bl) len ∧ si.Valid (onesCol bl) ones ∧
        (0 < len - ones → zi.Valid (zerosCol bl) (len - ones))) ∧
      (bl = [] → TrivialIdx ri ∧ TrivialIdx zi) := by
  have hll := lens_le_span bl.flatten
  have hS : ∀ i, i < bl.length → cumL bl i < ones ∧ cumS bl i < len := fun i hi => by
    have := cumS_lt bl hblk i hi; omega
  obtain ⟨ri, n1, v1⟩ := new_col m (cumS bl) bl.length len rfl (cumS_mono bl) (fun _ i hi => (hS i hi).2) hblen hlt
  obtain ⟨si, n2, v2⟩ := new_col m (cumL bl) bl.length ones rfl (cumL_mono bl) (fun _ i hi => (hS i hi).1) hblen
    (by omega)
  obtain ⟨zi, n3, v3⟩ := new_col m (fun i => cumS bl i - cumL bl i) bl.length (len - ones) rfl (cumZ_mono bl)
    (fun hz i hi => by
      by_cases hi0 : i = 0
      · subst hi0; show cumS bl 0 - cumL bl 0 < _; rw [cumS_zero, cumL_zero]; omega
      · cases hfe : bl.flatten with
        | nil => have := (cumS_lt bl hblk i hi).1; rw [hfe] at this; exact absurd this (Nat.not_lt_zero _)
        | cons p rest =>
          have := cumZ_lt bl hblk hfe (by rw [hfe] at hgap; exact hgap) i (by omega) hi
          show cumS bl i - cumL bl i < _
          omega) hblen (by omega)
  refine ⟨ri, si, zi, n1, n2, n3, fun hne => ?_,
    fun hnil => by subst hnil; exact ⟨new_nil_trivial m _ n1, new_nil_trivial m _ n3⟩⟩
  have hpos := List.length_pos_iff.mpr hne
  have := hS 0 hpos
  exact ⟨v1 hpos (by omega), v2 hpos (by omega), fun hz => v3 hpos (by omega)⟩

/-! ## 9. the queries on `Good` vectors -/

section
variable (m : Mode) {v : RL} {R : List (Nat × Nat)} (g : Good v R)
include g

theorem Good.rank (i : Nat) : v.rank m i = ok (rankR R i) := by
  obtain ⟨bl, gb, rfl⟩ := g; exact gb.rank m i

theorem Good.rankZero (i : Nat) : v.rankZero m i = ok (i - rankR R i) := by
  obtain ⟨bl, gb, rfl⟩ := g; exact gb.rankZero m i

theorem Good.get (i : Nat) : v.get m i = ok (getR R i) := by
  obtain ⟨bl, gb, rfl⟩ := g; exact gb.get m i

theorem Good.select (r : Nat) : v.select m r = ok (selectR R r) := by
  obtain ⟨bl, gb, rfl⟩ := g; exact gb.select m r

theorem Good.selectZero (r : Nat) : v.selectZero m r = ok (selectZeroR v.len R r) := by
  obtain ⟨bl, gb, rfl⟩ := g; exact gb.selectZero m r

theorem Good.successor (x : Nat) :
    ∃ oi oi', v.successor m x = ok oi ∧ oi.nextQ m v = ok (succR R x, oi') := by
  obtain ⟨bl, gb, rfl⟩ := g; exact gb.successor m x

theorem Good.predecessor (x : Nat) :
    ∃ oi oi', v.predecessor m x = ok oi ∧ oi.nextQ m v = ok (predR R x, oi') := by
  obtain ⟨bl, gb, rfl⟩ := g; exact gb.predecessor m x

end

/-- ascending runs of positive length, the first starting at or after `lo` -/
def Asc : Nat → List (Nat × Nat) → Prop
  | _, [] => True
  | lo, r :: rs => lo ≤ r.1 ∧ 1 ≤ r.2 ∧ Asc (r.1 + r.2) rs

theorem asc_abs : ∀ (rs : List (Nat × Nat)) (pos : Nat), (∀ p ∈ rs, 1 ≤ p.2) → Asc pos (absRuns pos rs) := by
  intro rs
  induction rs with
  | nil => intro _ _; trivial
  | cons p rs ih =>
    intro pos h
    exact ⟨Nat.le_add_right _ _, h p (by simp), ih _ (fun q hq => h q (by simp [hq]))⟩

theorem abs_inside : ∀ (rs : List (Nat × Nat)) (pos : Nat), ∀ r ∈ absRuns pos rs, r.1 + r.2 ≤ pos + span rs := by
  intro rs
  induction rs with
  | nil => intro pos r hr; cases hr
  | cons p rs ih =>
    intro pos r hr
    simp only [absRuns] at hr
    simp only [span]
    rcases List.mem_cons.mp hr with h | h
    · subst h; show pos + p.1 + p.2 ≤ _; omega
    · have := ih _ r h; omega

/-- what `Good v R` says about `R`: ascending runs of positive length inside `0 .. len`, `len < 2^64`,
and `ones` is their total length -/
theorem Good.facts {v : RL} {R : List (Nat × Nat)} (g : Good v R) :
    v.len < U64 ∧ v.ones = lensAbs R ∧ Asc 0 R ∧ ∀ r ∈ R, r.1 + r.2 ≤ v.len := by
  obtain ⟨bl, gb, rfl⟩ := g
  have hpos : ∀ p ∈ bl.flatten, 1 ≤ p.2 := by
    have := gb.len_pos_of_blk 0; rwa [List.drop_zero] at this
  refine ⟨gb.len_lt, gb.ones_eq, asc_abs _ 0 hpos, ?_⟩
  intro r hr
  have := abs_inside _ 0 r hr
  have := gb.span_le
  omega

/-! ## 10. the reference answers are those of the bit sequence -/

/-- for a query `f` that does not tell a run from its two adjacent halves, a pending run that ends at `i` may be
put in front of the runs found from `i` on -/
theorem runsOf_some {α : Type} (f : List (Nat × Nat) → α)
    (hglue : ∀ s l k R, f ((s, l) :: (s + l, k) :: R) = f ((s, l + k) :: R)) (bs : List Bool) (i s l : Nat)
    (h : s + l = i) : f (runsOf bs i (some (s, l))) = f ((s, l) :: runsOf bs i none) := by
  obtain ⟨k, R', h1, h2, _⟩ := runsOf_lead bs i
  rw [h1, h2]
  by_cases hk : k = 0
  · rw [if_pos hk, hk]; rfl
  · rw [if_neg hk, ← h, hglue]

theorem rankSpec_zero (B : List Bool) : rankSpec B 0 = 0 := by simp [rankSpec]
theorem rankSpec_nil (n : Nat) : rankSpec [] n = 0 := by simp [rankSpec]
theorem rankSpec_cons (b : Bool) (bs : List Bool) (n : Nat) :
    rankSpec (b :: bs) (n + 1) = (if b then 1 else 0) + rankSpec bs n := by
  cases b <;> simp [rankSpec, List.take_succ_cons] <;> omega

theorem rankR_glue (s l k x : Nat) (R : List (Nat × Nat)) :
    rankR ((s, l) :: (s + l, k) :: R) x = rankR ((s, l + k) :: R) x := by
  simp only [rankR, ← Nat.add_assoc]
  congr 1
  rcases Nat.le_total x (s + l) with h | h
  · rw [Nat.sub_eq_zero_of_le h, Nat.min_zero, Nat.min_eq_right (by omega), Nat.min_eq_right (by omega)]; rfl
  · obtain ⟨y, rfl⟩ : ∃ y, x = s + l + y := ⟨x - (s + l), by omega⟩
    rw [Nat.add_sub_cancel_left, Nat.add_assoc s, Nat.add_sub_cancel_left, Nat.min_eq_left (Nat.le_add_right l y),
      Nat.add_min_add_left]

theorem rankR_runsOf : ∀ (bs : List Bool) (i x : Nat), rankR (runsOf bs i none) x = rankSpec bs (x - i) := by
  intro bs
  induction bs with
  | nil => intro i x; rw [rankSpec_nil]; rfl
  | cons b bs ih =>
    intro i x
    have hstep : rankR (runsOf (b :: bs) i none) x =
        min (if b then 1 else 0) (x - i) + rankSpec bs (x - (i + 1)) := by
      cases b with
      | true =>
        show rankR (runsOf bs (i + 1) (some (i, 1))) x = _
        rw [runsOf_some (rankR · x) (fun s l k R => rankR_glue s l k x R) bs (i + 1) i 1 rfl]
        simp only [rankR, ih, if_true]
      | false =>
        show rankR (runsOf bs (i + 1) none) x = _
        rw [ih, if_neg Bool.false_ne_true, Nat.zero_min, Nat.zero_add]
    rw [hstep]
    rcases Nat.lt_or_ge i x with hx | hx
    · obtain ⟨k, rfl⟩ : ∃ k, x = i + (k + 1) := ⟨x - i - 1, by omega⟩
      rw [Nat.add_sub_cancel_left, show i + (k + 1) - (i + 1) = k by omega, rankSpec_cons]
      congr 1
      cases b
      · exact Nat.zero_min _
      · exact Nat.min_eq_left (Nat.succ_pos k)
    · rw [Nat.sub_eq_zero_of_le hx, Nat.sub_eq_zero_of_le (Nat.le_succ_of_le hx), rankSpec_zero, rankSpec_zero,
        Nat.min_zero]

theorem rankR_maximalRuns (B : List Bool) (i : Nat) : rankR (maximalRuns B) i = rankSpec B i :=
  rankR_runsOf B 0 i

/-- the bit at position `i` (`false` beyond the end) -/
def getSpec (B : List Bool) (i : Nat) : Bool := B.getD i false

theorem getR_runsOf : ∀ (bs : List Bool) (i x : Nat),
    getR (runsOf bs i none) x = (decide (i ≤ x) && getSpec bs (x - i)) := by
  intro bs
  induction bs with
  | nil => intro i x; simp [runsOf, getR, getSpec]
  | cons b bs ih =>
    intro i x
    have hstep : getR (runsOf (b :: bs) i none) x =
        ((b && decide (x = i)) || (decide (i + 1 ≤ x) && getSpec bs (x - (i + 1)))) := by
      cases b with
      | true =>
        show getR (runsOf bs (i + 1) (some (i, 1))) x = _
        rw [runsOf_some (getR · x) (fun s l k R => by
          simp only [getR, ← Bool.or_assoc]; congr 1
          rw [Bool.eq_iff_iff]; simp; omega) bs (i + 1) i 1 rfl]
        simp only [getR, ih, Bool.true_and]
        congr 1
        by_cases h : x = i <;> simp [h]; omega
      | false =>
        show getR (runsOf bs (i + 1) none) x = _
        rw [ih]; simp
    rw [hstep]
    rcases Nat.lt_or_ge i x with hx | hx
    · obtain ⟨k, hk⟩ : ∃ k, x - i = k + 1 := ⟨x - i - 1, by omega⟩
      rw [hk, show x - (i + 1) = k by omega, decide_eq_false (show ¬ x = i by omega),
        decide_eq_true (show i + 1 ≤ x from hx), decide_eq_true (Nat.le_of_lt hx)]
      simp [getSpec]
    · rw [decide_eq_false (show ¬ i + 1 ≤ x by omega)]
      by_cases h : x = i
      · subst h; simp [getSpec]
      · rw [decide_eq_false h, decide_eq_false (show ¬ i ≤ x by omega)]; simp

theorem getR_maximalRuns (B : List Bool) (i : Nat) : getR (maximalRuns B) i = getSpec B i := by
  have := getR_runsOf B 0 i
  unfold maximalRuns
  simpa using this

theorem map_add_add (o : Option Nat) (a b : Nat) : (o.map (· + a)).map (· + b) = o.map (· + (b + a)) := by
  cases o <;> simp; omega

theorem selectR_runsOf : ∀ (bs : List Bool) (i r : Nat),
    selectR (runsOf bs i none) r = (selectBits bs r).map (· + i) := by
  intro bs
  induction bs with
  | nil => intro i r; rfl
  | cons b bs ih =>
    intro i r
    cases b with
    | true =>
      show selectR (runsOf bs (i + 1) (some (i, 1))) r = _
      rw [runsOf_some (selectR · r) (fun s l k R => by
        simp only [selectR]
        by_cases c : r < l
        · rw [if_pos c, if_pos (by omega)]
        · rw [if_neg c]
          by_cases c' : r - l < k
          · rw [if_pos c', if_pos (by omega)]; congr 1; omega
          · rw [if_neg c', if_neg (by omega)]; congr 1; omega) bs (i + 1) i 1 rfl]
      simp only [selectR, ih]
      cases r with
      | zero => simp [selectBits]
      | succ r =>
        rw [if_neg (by omega)]
        simp only [selectBits, Nat.add_sub_cancel, map_add_add]
    | false =>
      show selectR (runsOf bs (i + 1) none) r = _
      rw [ih]
      simp only [selectBits, map_add_add]

theorem selectR_maximalRuns (B : List Bool) (r : Nat) : selectR (maximalRuns B) r = selectSpec B r := by
  have := selectR_runsOf B 0 r
  unfold maximalRuns selectSpec
  rw [this]
  cases selectBits B r <;> simp

theorem selectZero_runsOf : ∀ (bs : List Bool) (i prev r : Nat), prev ≤ i →
    selectZeroFrom (i + bs.length) prev (runsOf bs i none) r =
      if r < i - prev then some (prev + r) else (selectBits (bs.map not) (r - (i - prev))).map (· + i) := by
  intro bs
  induction bs with
  | nil =>
    intro i prev r hp
    simp only [runsOf, selectZeroFrom, List.length_nil, Nat.add_zero, List.map_nil, selectBits, Option.map_none]
    by_cases c : r < i - prev
    · rw [if_pos c, if_pos (by omega)]
    · rw [if_neg c, if_neg (by omega)]
  | cons b bs ih =>
    intro i prev r hp
    rw [show i + (b :: bs).length = i + 1 + bs.length by simp; omega]
    cases b with
    | true =>
      show selectZeroFrom _ prev (runsOf bs (i + 1) (some (i, 1))) r = _
      rw [runsOf_some (selectZeroFrom _ prev · r) (fun s l k R => by
        simp only [selectZeroFrom]
        by_cases c : prev + r < s
        · rw [if_pos c, if_pos c]
        · rw [if_neg c, if_neg c, if_neg (by omega), Nat.sub_self, Nat.sub_zero, Nat.add_assoc s l k]) bs (i + 1) i 1 rfl]
      simp only [selectZeroFrom]
      by_cases c : r < i - prev
      · rw [if_pos c, if_pos (by omega)]
      · rw [if_neg c, if_neg (by omega), ih (i + 1) (i + 1) _ (Nat.le_refl _), if_neg (by omega)]
        simp only [List.map_cons, Bool.not_true, selectBits, map_add_add, Nat.sub_self, Nat.sub_zero]
    | false =>
      show selectZeroFrom _ prev (runsOf bs (i + 1) none) r = _
      rw [ih (i + 1) prev r (by omega)]
      by_cases c : r < i - prev
      · rw [if_pos c, if_pos (by omega)]
      · rw [if_neg c]
        obtain ⟨k, hk⟩ : ∃ k, r = (i - prev) + k := ⟨r - (i - prev), by omega⟩
        subst hk
        rw [Nat.add_sub_cancel_left]
        cases k with
        | zero =>
          rw [if_pos (by omega)]
          simp only [List.map_cons, Bool.not_false, selectBits, Option.map_some]
          congr 1; omega
        | succ k =>
          rw [if_neg (by omega), show i - prev + (k + 1) - (i + 1 - prev) = k by omega]
          simp only [List.map_cons, Bool.not_false, selectBits, map_add_add]

theorem selectZeroR_maximalRuns (B : List Bool) (r : Nat) :
    selectZeroR B.length (maximalRuns B) r = selectZeroSpec B r := by
  have := selectZero_runsOf B 0 0 r (Nat.le_refl _)
  unfold maximalRuns selectZeroSpec selectZeroR
  rw [Nat.zero_add] at this
  rw [this, if_neg (by omega)]
  cases selectBits (B.map not) (r - (0 - 0)) <;> simp

theorem succR_maximalRuns (B : List Bool) (x : Nat) : succR (maximalRuns B) x = succSpec B x := by
  unfold succR
  rw [IterProofs.succSpec_eq, rankR_maximalRuns, selectR_maximalRuns, selectSpec_eq_onesPos]
  cases (onesPos B)[rankSpec B x]? <;> rfl

theorem predR_maximalRuns (B : List Bool) (x : Nat) : predR (maximalRuns B) x = predSpec B x := by
  have h := IterProofs.predSpec_eq .ident (RawVec.ofBits B) x
  rw [RawVec.bits_ofBits, IterProofs.bitsT_ident] at h
  unfold predR
  rw [h, rankR_maximalRuns, selectR_maximalRuns, selectSpec_eq_onesPos]
  by_cases c : rankSpec B (x + 1) = 0
  · rw [if_pos c, if_pos c]
  · rw [if_neg c, if_neg c]
    have hlt : rankSpec B (x + 1) - 1 < (onesPos B).length := by
      have := IterProofs.rankSpec_le_P B (x + 1); omega
    rw [List.getElem?_eq_getElem hlt]
    rfl

/-! ## 11. property C03 for built vectors -/

/-! ## 12. iterators

Each of the three iterators counts (ranks of set bits, positions, ranks of unset bits); a state that is about to deliver
the item numbered `a` stands for the window `[a, n)` of the item function (`win`, Proofs/IterSim.lean).  The step
lemmas (`OneFrom.some` / `.none`, `BitFrom.step`, `ZeroFrom.step`) are the pop facts; running to exhaustion follows
by `FwdSim.drain`. -/

section Counter
open Iter2
variable {σ α : Type} {next : σ → Outcome (Option α × σ)} {Inv : σ → Prop} {pos : σ → Nat} {n : Nat} {f : Nat → α}

/-- the state `st` of an iterator that counts stands for the items `f (pos st), …, f (n - 1)` -/
def CountRel (Inv : σ → Prop) (pos : σ → Nat) (n : Nat) (f : Nat → α) (st : σ) (d : List α) : Prop :=
  Inv st ∧ d = win f (pos st) n

/-- **an iterator that counts**: below `n` a step delivers `f (pos st)` and counts on, from `n` on it answers `None`
and stays -/
theorem counter_fwdSim (h : ∀ st, Inv st → ∃ st', Inv st' ∧
      if pos st < n then next st = ok (some (f (pos st)), st') ∧ pos st' = pos st + 1
      else next st = ok (none, st') ∧ pos st' = pos st) : FwdSim next (CountRel Inv pos n f) := by
  constructor
  · intro st ⟨hi, hd⟩
    obtain ⟨st', h1, h2⟩ := h st hi
    rw [if_neg (Nat.not_lt.mpr (win_eq_nil hd))] at h2
    exact ⟨st', h2.1, h1, by rw [h2.2]; exact hd⟩
  · intro st x d ⟨hi, hd⟩
    obtain ⟨hab, rfl, hd'⟩ := win_eq_cons hd
    obtain ⟨st', h1, h2⟩ := h st hi
    rw [if_pos hab] at h2
    exact ⟨st', h2.1, h1, by rw [h2.2]; exact hd'⟩

/-- the counter and the items left add up to `n` -/
theorem CountRel.count (hle : ∀ st, Inv st → pos st ≤ n) {st : σ} {d : List α} (h : CountRel Inv pos n f st d) :
    pos st + d.length = n := by
  rw [h.2, win_length]
  exact Nat.add_sub_cancel' (hle st h.1)

end Counter

/-! ### the one-iterators -/

/-- call `next()` until `None`, collecting the items -/
def drainOne (m : Mode) (v : RL) : Nat → RLOneIter → Outcome (List (Nat × Nat))
  | 0, _ => fault .fuel
  | f + 1, st => do
    let (o, st') ← st.nextQ m v
    match o with
    | none => return []
    | some x => do
      let xs ← drainOne m v f st'
      return x :: xs

/-- the item of rank `j` of a select function -/
abbrev selItem (sel : Nat → Option Nat) (j : Nat) : Nat × Nat := (j, (sel j).getD 0)

/-- the items `(rank, position)` for ranks `k, …, k+n-1` of a select function -/
def selItems (sel : Nat → Option Nat) (k n : Nat) : List (Nat × Nat) := (List.range n).map fun i => selItem sel (k + i)

theorem selItems_eq_win (sel : Nat → Option Nat) (k n : Nat) : selItems sel k n = Iter2.win (selItem sel) k (k + n) := by
  rw [Iter2.win, Nat.add_sub_cancel_left]; rfl

/-- the items `(rank, position)` of the set bits with ranks `k, k+1, …, k+n-1` -/
abbrev oneItems (R : List (Nat × Nat)) : Nat → Nat → List (Nat × Nat) := selItems (selectR R)

theorem selItems_fst (sel : Nat → Option Nat) (n k : Nat) : (selItems sel k n).map (·.1) = List.range' k n := by
  simp [selItems, List.range'_eq_map_range]

theorem selItems_snd (sel : Nat → Option Nat) (P : List Nat) (hsel : ∀ j, sel j = P[j]?) (n k : Nat)
    (h : k + n ≤ P.length) : (selItems sel k n).map (·.2) = (P.drop k).take n := by
  apply List.ext_getElem
  · simp [selItems]; omega
  · intro i h1 h2
    simp [selItems, hsel]
    rw [List.getElem?_eq_getElem (by simp at h2; omega)]; rfl

theorem oneItems_fst (R : List (Nat × Nat)) (n k : Nat) : (oneItems R k n).map (·.1) = List.range' k n :=
  selItems_fst _ n k

section
variable {m : Mode} {v : RL} {R : List (Nat × Nat)}

/-- the one-iterator `st` stands for the items `d`: those from some rank `k` on -/
def OneSt (m : Mode) (v : RL) (R : List (Nat × Nat)) (st : RLOneIter) (d : List (Nat × Nat)) : Prop :=
  ∃ k, OneFrom m v R st k ∧ d = Iter2.win (selItem (selectR R)) k (lensAbs R)

theorem one_fwdSim (ho : v.ones = lensAbs R) : Iter2.FwdSim (RLOneIter.nextQ m v) (OneSt m v R) := by
  constructor
  · intro st ⟨k, h, hd⟩
    obtain ⟨st', h1, h2⟩ := h.none ho (Iter2.win_eq_nil hd)
    exact ⟨st', h1, k, h2, hd⟩
  · intro st x d ⟨k, h, hd⟩
    obtain ⟨hk, rfl, hd'⟩ := Iter2.win_eq_cons hd
    obtain ⟨st', h1, h2⟩ := h.some hk
    exact ⟨st', h1, k + 1, h2, hd'⟩

theorem OneFrom.drain (ho : v.ones = lensAbs R) {st : RLOneIter} {k F : Nat} (h : OneFrom m v R st k)
    (hF : lensAbs R - k < F) : drainOne m v F st = ok (oneItems R k (lensAbs R - k)) := by
  -- the `match` of `drainOne` and that of `drain_of` are different auxiliary functions, equal constructor by constructor
  have D := (one_fwdSim (m := m) ho).drain_of (dr := drainOne m v) fun f it => by
    rw [drainOne]; congr 1; funext ⟨o, st'⟩; cases o <;> rfl
  rw [oneItems, selItems_eq_win]
  by_cases hk : k ≤ lensAbs R
  · rw [Nat.add_sub_cancel' hk]
    exact D _ ⟨k, h, rfl⟩ F (by rw [Iter2.win_length]; exact hF)
  · rw [Iter2.win_of_le _ (by omega)]
    exact D [] ⟨k, h, (Iter2.win_of_le _ (by omega)).symm⟩ F (Nat.zero_lt_of_lt hF)

end

theorem GoodB.drain_from {m : Mode} {v : RL} {bl : Blocks} (g : GoodB v bl) {st : RLOneIter} {k F : Nat}
    (h : OneFrom m v (absRuns 0 bl.flatten) st k) (hF : v.ones - k < F) :
    drainOne m v F st = ok (oneItems (absRuns 0 bl.flatten) k (v.ones - k)) := by
  rw [g.ones_eq] at hF ⊢; exact h.drain g.ones_eq hF

/-- **`one_iter()`** enumerates the set bits in order, each with its rank, then returns `None` -/
theorem GoodB.oneIter_drain (m : Mode) {v : RL} {bl : Blocks} (g : GoodB v bl) (F : Nat) (hF : v.ones + 1 ≤ F) :
    ∃ st, v.oneIter = ok st ∧ drainOne m v F st = ok (oneItems (absRuns 0 bl.flatten) 0 v.ones) := by
  obtain ⟨st, h1, h2⟩ := g.oneIter_from m
  exact ⟨st, h1, g.drain_from h2 hF⟩

/-- **`select_iter(rank)`** enumerates the set bits of rank `rank, rank+1, …` in order, then `None` -/
theorem GoodB.selectIter_drain (m : Mode) {v : RL} {bl : Blocks} (g : GoodB v bl) (rank F : Nat)
    (hF : v.ones - rank + 1 ≤ F) :
    ∃ st, v.selectIter m rank = ok st ∧
      drainOne m v F st = ok (oneItems (absRuns 0 bl.flatten) rank (v.ones - rank)) := by
  obtain ⟨st, h1, h2⟩ := g.selectIter_from m rank
  exact ⟨st, h1, g.drain_from h2 hF⟩

/-- the positions enumerated by the one-iterators are the set positions of the bit sequence, in order -/
theorem oneItems_snd (B : List Bool) (n k : Nat) (h : k + n ≤ B.count true) :
    (oneItems (maximalRuns B) k n).map (·.2) = ((onesPos B).drop k).take n :=
  selItems_snd _ (onesPos B) (fun j => by rw [selectR_maximalRuns, selectSpec_eq_onesPos]) n k
    (by rw [length_onesPos]; exact h)

theorem oneItems_all (B : List Bool) :
    (oneItems (maximalRuns B) 0 (B.count true)).map (·.2) = onesPos B := by
  rw [oneItems_snd B _ 0 (by omega), List.drop_zero, ← length_onesPos, List.take_length]

/-! ### `iter()` : all bits -/

def drainBits (m : Mode) (v : RL) : Nat → RLIter → Outcome (List Bool)
  | 0, _ => fault .fuel
  | f + 1, st => do
    let (o, st') ← st.nextQ m v
    match o with
    | none => return []
    | some x => do
      let xs ← drainBits m v f st'
      return x :: xs

/-- the bits at positions `x, x+1, …, x+n-1` -/
def bitItems (R : List (Nat × Nat)) (x n : Nat) : List Bool := (List.range n).map fun i => getR R (x + i)

theorem bitItems_eq_win (R : List (Nat × Nat)) (x n : Nat) : bitItems R x n = Iter2.win (getR R) x (x + n) := by
  rw [Iter2.win, Nat.add_sub_cancel_left]; rfl

theorem iter_nextQ_stay (m : Mode) (v : RL) (it : RunIter) (s l x : Nat) (h : x < s + l) :
    RLIter.nextQ m v ⟨it, some (s, l), x⟩ = ok (some (decide (x + 1 > s)), ⟨it, some (s, l), x + 1⟩) := by
  unfold RLIter.nextQ
  simp only [if_neg (show ¬ x ≥ s + l by omega), pure_eq, bind_ok]

theorem iter_nextQ_fetch (m : Mode) (v : RL) (it it' : RunIter) (s l s' l' x : Nat) (h : x ≥ s + l)
    (hn : nextQ m v it = ok (some (s', l'), it')) :
    RLIter.nextQ m v ⟨it, some (s, l), x⟩ = ok (some (decide (x + 1 > s')), ⟨it', some (s', l'), x + 1⟩) := by
  unfold RLIter.nextQ
  simp only [if_pos h, hn, pure_eq, bind_ok]

theorem iter_nextQ_fetch_none (m : Mode) (v : RL) (it e : RunIter) (s l x : Nat) (h : x ≥ s + l)
    (hn : nextQ m v it = ok (none, e)) :
    RLIter.nextQ m v ⟨it, some (s, l), x⟩ =
      if x ≥ v.len then ok (none, ⟨e, none, x⟩) else ok (some false, ⟨e, none, x + 1⟩) := by
  unfold RLIter.nextQ
  simp only [if_pos h, hn, pure_eq, bind_ok]

theorem iter_nextQ_tail (m : Mode) (v : RL) (it : RunIter) (x : Nat) :
    RLIter.nextQ m v ⟨it, none, x⟩ =
      if x ≥ v.len then ok (none, ⟨it, none, x⟩) else ok (some false, ⟨it, none, x + 1⟩) := by
  unfold RLIter.nextQ
  simp only [pure_eq, bind_ok]

section
variable {m : Mode} {v : RL} {R : List (Nat × Nat)}

/-- `BitFrom m v R st`: the bit iterator `st` is about to deliver the bits `getR R` from position `st.pos` on.  Either
its run iterator has returned `None` and only unset bits are left; or it holds the run `(s, l)` read last, its run
iterator stands right after that run, and up to there the bits are those of the gap before `s` and of the run. -/
inductive BitFrom (m : Mode) (v : RL) (R : List (Nat × Nat)) : RLIter → Prop
  | tail {it : RunIter} {x : Nat} : x ≤ v.len → (∀ y, x ≤ y → getR R y = false) → BitFrom m v R ⟨it, none, x⟩
  | run {it e : RunIter} {r p s l x : Nat} {rs : List (Nat × Nat)} : Walk m v it r p rs e → s + l = p → x ≤ p →
      (∀ y, x ≤ y → y < p → getR R y = decide (y + 1 > s)) → (∀ y, p ≤ y → getR R y = getR (absRuns p rs) y) →
      (∀ q ∈ rs, 1 ≤ q.2) → p + span rs ≤ v.len → BitFrom m v R ⟨it, some (s, l), x⟩

theorem BitFrom.le {st : RLIter} (h : BitFrom m v R st) : st.pos ≤ v.len := by
  cases h with
  | tail hx _ => exact hx
  | run _ _ hx _ _ _ hsp => exact Nat.le_trans hx (Nat.le_trans (Nat.le_add_right _ _) hsp)

/-- **one `next()` of the bit iterator**: the bit at `st.pos` while this is a position of the vector, then `None` -/
theorem BitFrom.step {st : RLIter} (h : BitFrom m v R st) : ∃ st', BitFrom m v R st' ∧
    if st.pos < v.len then st.nextQ m v = ok (some (getR R st.pos), st') ∧ st'.pos = st.pos + 1
    else st.nextQ m v = ok (none, st') ∧ st'.pos = st.pos := by
  cases h with
  | @tail it x hx hz =>
    rw [iter_nextQ_tail]
    by_cases c : x < v.len
    · exact ⟨⟨it, none, x + 1⟩, .tail c fun y hy => hz y (Nat.le_of_succ_le hy), by
        rw [if_pos c, if_neg (Nat.not_le.mpr c), hz x (Nat.le_refl x)]; exact ⟨rfl, rfl⟩⟩
    · exact ⟨_, .tail hx hz, by rw [if_neg c, if_pos (Nat.le_of_not_lt c)]; exact ⟨rfl, rfl⟩⟩
  | @run it e r p s l x rs w hsl hx h1 h2 hpos hsp =>
    by_cases c1 : x < p
    · -- in the gap or the run held: the run iterator does not move
      refine ⟨⟨it, some (s, l), x + 1⟩, .run w hsl c1 (fun y hy => h1 y (Nat.le_of_succ_le hy)) h2 hpos hsp, ?_⟩
      rw [if_pos (Nat.lt_of_lt_of_le c1 (Nat.le_trans (Nat.le_add_right _ _) hsp)),
        iter_nextQ_stay m v it s l x (hsl ▸ c1), h1 x (Nat.le_refl x) c1]
      exact ⟨rfl, rfl⟩
    · -- at its end: the walk hands over the next run, or ends
      obtain rfl : x = p := Nat.le_antisymm hx (Nat.le_of_not_lt c1)
      cases w with
      | done hit hn he =>
        have hz : ∀ y, x ≤ y → getR R y = false := fun y hy => h2 y hy
        rw [iter_nextQ_fetch_none m v it e s l x (Nat.le_of_eq hsl) hn]
        by_cases c : x < v.len
        · exact ⟨⟨e, none, x + 1⟩, .tail c fun y hy => hz y (Nat.le_of_succ_le hy), by
            rw [if_pos c, if_neg (Nat.not_le.mpr c), hz x (Nat.le_refl x)]; exact ⟨rfl, rfl⟩⟩
        · exact ⟨_, .tail hsp hz, by rw [if_neg c, if_pos (Nat.le_of_not_lt c)]; exact ⟨rfl, rfl⟩⟩
      | @run _ it' _ _ _ g l' rs' hit hn w' =>
        have hl' := hpos (g, l') (List.mem_cons_self ..)
        rw [span] at hsp
        have hg : ∀ y, x ≤ y → y < x + g + l' → getR R y = decide (y + 1 > x + g) := fun y a1 a2 => by
          rw [h2 y a1]
          by_cases c : y < x + g
          · rw [getR_run_after rs' c, decide_eq_false (by omega)]
          · rw [getR_run_in rs' (Nat.le_of_not_lt c) a2, decide_eq_true (by omega)]
        refine ⟨⟨it', some (x + g, l'), x + 1⟩, .run w' rfl (by omega) (fun y a1 a2 => hg y (Nat.le_of_succ_le a1) a2)
          (fun y hy => (h2 y (by omega)).trans (getR_run_before rs' hy))
          (fun q hq => hpos q (List.mem_cons_of_mem _ hq)) (by omega), ?_⟩
        rw [if_pos (show x < v.len by omega), iter_nextQ_fetch m v it it' s l (x + g) l' x (Nat.le_of_eq hsl) hn,
          hg x (Nat.le_refl x) (by omega)]
        exact ⟨rfl, rfl⟩

theorem bit_fwdSim (m : Mode) (v : RL) (R : List (Nat × Nat)) :
    Iter2.FwdSim (RLIter.nextQ m v) (CountRel (BitFrom m v R) (·.pos) v.len (getR R)) :=
  counter_fwdSim fun _ h => h.step

theorem BitFrom.drain {st : RLIter} (h : BitFrom m v R st) {F : Nat} (hF : v.len - st.pos < F) :
    drainBits m v F st = ok (bitItems R st.pos (v.len - st.pos)) := by
  rw [bitItems_eq_win, Nat.add_sub_cancel' h.le]
  exact (bit_fwdSim m v R).drain_of (fun f it => by rw [drainBits]; congr 1; funext ⟨o, st'⟩; cases o <;> rfl) _ ⟨h, rfl⟩ F
    (by rw [Iter2.win_length]; exact hF)

end

/-- **`iter()`** starts at position 0 -/
theorem GoodB.iter_from (m : Mode) {v : RL} {bl : Blocks} (g : GoodB v bl) :
    ∃ st, v.iter = ok st ∧ st.pos = 0 ∧ BitFrom m v (absRuns 0 bl.flatten) st := by
  unfold RL.iter
  obtain ⟨it, e1, a⟩ := g.runIter_at m
  obtain ⟨e, w⟩ := a.walk
  rw [e1, bind_ok]
  exact ⟨_, rfl, rfl, .run w rfl (Nat.le_refl _) (fun _ _ h => absurd h (Nat.not_lt_zero _)) (fun _ _ => rfl)
    (a.pos g).2 (a.span_le g)⟩

/-- **`iter()`** enumerates the bits at positions `0 … len-1` in order, then returns `None` -/
theorem GoodB.iter_drain (m : Mode) {v : RL} {bl : Blocks} (g : GoodB v bl) (F : Nat) (hF : v.len + 1 ≤ F) :
    ∃ st, v.iter = ok st ∧ drainBits m v F st = ok (bitItems (absRuns 0 bl.flatten) 0 v.len) := by
  obtain ⟨st, h1, h2, h3⟩ := g.iter_from m
  exact ⟨st, h1, by rw [h3.drain (by rw [h2]; exact hF), h2]; rfl⟩

/-- the bits of the maximal runs of `B` are `B` -/
theorem win_getR_all (B : List Bool) : Iter2.win (getR (maximalRuns B)) 0 B.length = B := by
  rw [Iter2.win_zero]
  apply List.ext_getElem
  · simp
  · intro i h1 h2
    simp only [List.getElem_map, List.getElem_range, getR_maximalRuns, getSpec]
    simp [List.getD_eq_getElem?_getD, h2]

theorem bitItems_all (B : List Bool) : bitItems (maximalRuns B) 0 B.length = B := by
  rw [bitItems_eq_win, Nat.zero_add, win_getR_all]

/-! ### `zero_iter()` : the unset bits -/

def drainZero (m : Mode) (v : RL) : Nat → RLZeroIter → Outcome (List (Nat × Nat))
  | 0, _ => fault .fuel
  | f + 1, st => do
    let (o, st') ← st.nextQ m v
    match o with
    | none => return []
    | some x => do
      let xs ← drainZero m v f st'
      return x :: xs

theorem zero_fwdSim (m : Mode) (v : RL) (sel : Nat → Option Nat) :
    Iter2.FwdSim (RLZeroIter.nextQ m v) (CountRel (ZeroFrom m v sel) (·.pos.1) v.countZeros (selItem sel)) :=
  counter_fwdSim fun _ h => h.step

theorem ZeroFrom.drain {m : Mode} {v : RL} {sel : Nat → Option Nat} {st : RLZeroIter} (h : ZeroFrom m v sel st)
    {F : Nat} (hF : v.countZeros - st.pos.1 < F) :
    drainZero m v F st = ok (selItems sel st.pos.1 (v.countZeros - st.pos.1)) := by
  rw [selItems_eq_win, Nat.add_sub_cancel' h.le]
  exact (zero_fwdSim m v sel).drain_of (fun f it => by rw [drainZero]; congr 1; funext ⟨o, st'⟩; cases o <;> rfl) _ ⟨h, rfl⟩ F
    (by rw [Iter2.win_length]; exact hF)

/-- **`zero_iter()`** enumerates the unset bits in order, each with its rank, then returns `None`
(this needs every run but the first to be separated from its predecessor, as maximal runs are) -/
theorem GoodB.zeroIter_drain (m : Mode) {v : RL} {bl : Blocks} (g : GoodB v bl)
    (hgap : ∀ q ∈ bl.flatten.tail, 1 ≤ q.1) (F : Nat) (hF : v.countZeros + 1 ≤ F) :
    ∃ st, v.zeroIter m = ok st ∧
      drainZero m v F st = ok (selItems (selectZeroR v.len (absRuns 0 bl.flatten)) 0 v.countZeros) := by
  obtain ⟨st, h1, h2, h3⟩ := g.zeroIter_from m hgap
  exact ⟨st, h1, by rw [h3.drain (by rw [h2]; exact hF), h2]; rfl⟩

theorem count_map_not (B : List Bool) : (B.map not).count true = B.count false := by
  induction B with
  | nil => rfl
  | cons x xs ih => cases x <;> simp [ih]

theorem length_zerosPos (B : List Bool) : (zerosPos B).length = B.count false := by
  unfold zerosPos
  rw [length_onesFrom, count_map_not]

theorem zeroIter_spec (m : Mode) {v : RL} (B : List Bool) (hg : Good v (maximalRuns B)) (e1 : v.len = B.length)
    (e3 : v.countZeros = B.count false) (F : Nat) (hF : v.countZeros + 1 ≤ F) :
    ∃ st items, v.zeroIter m = ok st ∧ drainZero m v F st = ok items ∧
      items.map (·.2) = zerosPos B ∧ items.map (·.1) = List.range (B.count false) := by
  obtain ⟨bl, g, hR⟩ := hg
  obtain ⟨st, h1, h2⟩ := g.zeroIter_drain m (sep_gap_tail' _ (hR ▸ maximalRuns_sep B)) F hF
  rw [← hR, e1, e3] at h2
  refine ⟨st, _, h1, h2, ?_, by rw [selItems_fst, List.range_eq_range']⟩
  rw [selItems_snd _ (zerosPos B) (fun j => by
    rw [selectZeroR_maximalRuns]; unfold selectZeroSpec zerosPos
    exact selectSpec_eq_onesPos (B.map not) j) _ 0 (by rw [length_zerosPos]; omega), List.drop_zero, ← length_zerosPos, List.take_length]

end RLQ
end Sds
