/-
Proofs/GenEqBv: the methods of `bit_vector.rs` (`BitVector` and the `Transformation` impls `Identity` / `Complement`)
as TRANSLATED statement by statement from the source (Generated/FnsBv.lean) are equal to the hand-written model
definitions of Model/BitVector.lean that all other theorems are about.  The only hypothesis that is ever needed is the
one inherited from `rank_unchecked` (`hs`: every rank sample is at most `2^64 - 576`, so the two final additions do
not overflow); it is shown to be necessary by a concrete counterexample (`bv_rank_ne`).
-/
import Sds.Generated.FnsBv
import Sds.Proofs.GenFns
import Sds.Proofs.Tables
import Sds.Proofs.GenEqBits
import Sds.Proofs.GenEqVec
import Sds.Proofs.GenEqIdx

namespace Sds.GenEq
open Sds Outcome Generated


theorem unwrapM_none {α} : unwrapM (none : Option α) = fault (.panic .unwrap) := rfl
theorem unwrapM_some {α} (a : α) : unwrapM (some a) = ok a := rfl

attribute [gen_simp] unwrapM_none unwrapM_some


theorem bv_len_eq (m : Mode) (b : BitVector) : gen_BitVector_len m b = ok b.len := rfl

theorem bv_count_ones_eq (m : Mode) (b : BitVector) : gen_BitVector_count_ones m b = ok b.countOnes := rfl

theorem bv_get_eq (m : Mode) (b : BitVector) (i : Nat) : gen_BitVector_get m b i = b.get i := by
  unfold gen_BitVector_get BitVector.get
  simp only [gen_simp]

theorem bv_iter_eq (m : Mode) (b : BitVector) : gen_BitVector_iter m b = ok ⟨0, b.len⟩ := rfl

theorem bv_one_iter_eq (m : Mode) (b : BitVector) : gen_BitVector_one_iter m b = ok (OneIterSt.full .ident b) := rfl

theorem bv_zero_iter_eq (m : Mode) (b : BitVector) : gen_BitVector_zero_iter m b = ok (OneIterSt.full .compl b) := rfl

/-! ### rank -/

/-- `rank`: only the sample of the block of `i` matters -/
theorem bv_rank_eq' (m : Mode) (b : BitVector) (i : Nat)
    (hs : ∀ s, b.rank = some s → ∀ h : i / 512 < s.samples.size, (s.samples[i / 512]).1.toNat + 575 < U64) :
    gen_BitVector_rank m b i = b.rankQ i := by
  unfold gen_BitVector_rank BitVector.rankQ
  by_cases hi : i ≥ b.len
  · simp only [gen_simp, hi]
  · cases hr : b.rank with
    | none => simp only [gen_simp, hi]
    | some s => simp only [gen_simp, hi, rank_unchecked_eq' m s b.data i (hs s hr)]

theorem bv_rank_eq (m : Mode) (b : BitVector) (i : Nat)
    (hs : ∀ s, b.rank = some s → ∀ k (h : k < s.samples.size), (s.samples[k]).1.toNat + 575 < U64) :
    gen_BitVector_rank m b i = b.rankQ i :=
  bv_rank_eq' m b i (fun s hr h => hs s hr _ h)

/-- `hs` is necessary (inherited from `rank_unchecked`): the model adds in `Nat`, the code in `usize`.  With a sample
of `2^64 - 1` (never produced by `RankSupport::new` for a vector of length < 2^64) the code overflows and the model
returns `2^64`. -/
theorem bv_rank_ne :
    let b : BitVector := { ones := 1, data := ⟨64, #[1]⟩, rank := some ⟨#[(BitVec.ofNat 64 (2 ^ 64 - 1), 0)]⟩ }
    gen_BitVector_rank .checked b 1 = fault (.panic .overflow) ∧
    gen_BitVector_rank .wrapping b 1 = ok 0 ∧
    b.rankQ 1 = ok (2 ^ 64) := by
  decide +kernel

/-! ### select -/

theorem bv_selectT_ident (m : Mode) (b : BitVector) (r : Nat) :
    gen_BitVector_select m b r = b.selectT .ident m r := by
  unfold gen_BitVector_select BitVector.selectT
  simp only [BitVector.countT, BitVector.supT]
  by_cases hr : r ≥ b.countOnes
  · simp only [gen_simp, hr]
  · cases hsel : b.select <;> simp only [gen_simp, hr]

theorem bv_selectT_compl (m : Mode) (b : BitVector) (r : Nat) :
    gen_BitVector_select_zero m b r = b.selectT .compl m r := by
  unfold gen_BitVector_select_zero BitVector.selectT
  simp only [BitVector.countT, BitVector.supT]
  by_cases hr : r ≥ b.countZeros
  · simp only [gen_simp, hr]
  · cases hsel : b.selectZero <;> simp only [gen_simp, hr]

theorem bv_select_eq (m : Mode) (b : BitVector) (r : Nat) : gen_BitVector_select m b r = b.selectQ m r :=
  bv_selectT_ident m b r

theorem bv_select_zero_eq (m : Mode) (b : BitVector) (r : Nat) :
    gen_BitVector_select_zero m b r = b.selectZeroQ m r :=
  bv_selectT_compl m b r

theorem bv_select_iter_eq (m : Mode) (b : BitVector) (r : Nat) :
    gen_BitVector_select_iter m b r = b.selectIterT .ident m r := by
  unfold gen_BitVector_select_iter BitVector.selectIterT
  simp only [BitVector.countT, BitVector.supT]
  by_cases hr : r ≥ b.countOnes
  · simp only [gen_simp, hr]
  · cases hsel : b.select <;> simp only [gen_simp, hr]

theorem bv_select_zero_iter_eq (m : Mode) (b : BitVector) (r : Nat) :
    gen_BitVector_select_zero_iter m b r = b.selectIterT .compl m r := by
  unfold gen_BitVector_select_zero_iter BitVector.selectIterT
  simp only [BitVector.countT, BitVector.supT]
  by_cases hr : r ≥ b.countZeros
  · simp only [gen_simp, hr]
  · cases hsel : b.selectZero <;> simp only [gen_simp, hr]

/-! ### predecessor / successor -/

theorem bv_predecessor_eq' (m : Mode) (b : BitVector) (v : Nat)
    (hs : ∀ s, b.rank = some s → ∀ h : BitVector.satAdd v 1 / 512 < s.samples.size,
      (s.samples[BitVector.satAdd v 1 / 512]).1.toNat + 575 < U64) :
    gen_BitVector_predecessor m b v = b.predecessorQ m v := by
  unfold gen_BitVector_predecessor BitVector.predecessorQ
  rw [bv_rank_eq' m b _ hs]
  refine bind_congr fun rank => ?_
  by_cases h0 : rank = 0
  · simp only [gen_simp, h0]
  · simp only [gen_simp, h0, show 1 ≤ rank from Nat.pos_of_ne_zero h0, bv_select_iter_eq]

theorem bv_predecessor_eq (m : Mode) (b : BitVector) (v : Nat)
    (hs : ∀ s, b.rank = some s → ∀ k (h : k < s.samples.size), (s.samples[k]).1.toNat + 575 < U64) :
    gen_BitVector_predecessor m b v = b.predecessorQ m v :=
  bv_predecessor_eq' m b v (fun s hr h => hs s hr _ h)

theorem bv_successor_eq' (m : Mode) (b : BitVector) (v : Nat)
    (hs : ∀ s, b.rank = some s → ∀ h : v / 512 < s.samples.size, (s.samples[v / 512]).1.toNat + 575 < U64) :
    gen_BitVector_successor m b v = b.successorQ m v := by
  unfold gen_BitVector_successor BitVector.successorQ
  rw [bv_rank_eq' m b _ hs]
  refine bind_congr fun rank => ?_
  by_cases h0 : rank ≥ b.countOnes <;> simp only [gen_simp, h0, bv_select_iter_eq]

theorem bv_successor_eq (m : Mode) (b : BitVector) (v : Nat)
    (hs : ∀ s, b.rank = some s → ∀ k (h : k < s.samples.size), (s.samples[k]).1.toNat + 575 < U64) :
    gen_BitVector_successor m b v = b.successorQ m v :=
  bv_successor_eq' m b v (fun s hr h => hs s hr _ h)

/-! ### `Transformation` for `Identity` -/

theorem identity_bit_eq (m : Mode) (b : BitVector) (i : Nat) : gen_Identity_bit m b i = b.get i := by
  unfold gen_Identity_bit
  rw [bv_get_eq]

theorem identity_word_eq (m : Mode) (b : BitVector) (i : Nat) :
    gen_Identity_word m b i = wordSafeT .ident b.data i := by
  unfold gen_Identity_word wordSafeT
  rw [raw_word_eq]
  rfl

theorem identity_word_unchecked_eq (m : Mode) (b : BitVector) (i : Nat) :
    gen_Identity_word_unchecked m b i = wordT .ident b.data i := by
  unfold gen_Identity_word_unchecked wordT
  rw [raw_word_unchecked_eq]
  rfl

theorem identity_count_ones_eq (m : Mode) (b : BitVector) : gen_Identity_count_ones m b = ok b.countOnes := rfl

/-! ### `Transformation` for `Complement` -/

theorem complement_bit_eq (m : Mode) (b : BitVector) (i : Nat) :
    gen_Complement_bit m b i = (do let x ← b.get i; return !x) := by
  unfold gen_Complement_bit
  rw [bv_get_eq]

/-- `Complement::word_unchecked`.  No bound on `b.len` is needed: `split_offset` is a shift and a mask, and the
offset `len % 64` is always a valid index of the `LOW_SET` table. -/
theorem complement_word_unchecked_eq' (m : Mode) (b : BitVector) (i : Nat) :
    gen_Complement_word_unchecked m b i = wordT .compl b.data i := by
  unfold gen_Complement_word_unchecked wordT
  by_cases hi : i ≥ b.data.len / 64 <;>
    simp only [gen_simp, BitVector.len, RawVec.wordU, Nat.le_of_lt (mod64_lt b.data.len), hi]

theorem complement_word_eq' (m : Mode) (b : BitVector) (i : Nat) :
    gen_Complement_word m b i = wordSafeT .compl b.data i := by
  unfold gen_Complement_word wordSafeT
  by_cases hi : i ≥ b.data.len / 64 <;>
    simp only [gen_simp, BitVector.len, RawVec.wordU, RawVec.wordM, Nat.le_of_lt (mod64_lt b.data.len), hi]

/-- the forms with the representation bound `len < 2^64` in the signature (the bound is not used) -/
theorem complement_word_unchecked_eq (m : Mode) (b : BitVector) (i : Nat) (_ : b.len < U64) :
    gen_Complement_word_unchecked m b i = wordT .compl b.data i := complement_word_unchecked_eq' m b i

theorem complement_word_eq (m : Mode) (b : BitVector) (i : Nat) (_ : b.len < U64) :
    gen_Complement_word m b i = wordSafeT .compl b.data i := complement_word_eq' m b i

theorem complement_count_ones_eq (m : Mode) (b : BitVector) : gen_Complement_count_ones m b = ok b.countZeros := rfl

end Sds.GenEq

