/-
Proofs/Round: the rounding helpers equal their mathematical values on their documented domains;
F12: the helpers as first coded fault at the last value of the domain.
-/
import Sds.Model.Bits

namespace Sds
open Outcome

/-- "add `c`, divide by `d`", the shape of both `*_to_words` helpers -/
theorem addM_div_ok {m : Mode} {n c : Nat} (d : Nat) (h : n + c < U64) :
    (addM m n c >>= fun a => pure (a / d)) = ok ((n + c) / d) := by
  rw [addM_ok h]; rfl

/-- … followed by "multiply by `d`", the shape of both `round_up_to_word_*` helpers: the product is
at most `n + c`, so it cannot overflow either -/
theorem addM_div_mulM_ok {m : Mode} {n c : Nat} (d : Nat) (h : n + c < U64) :
    ((addM m n c >>= fun a => pure (a / d)) >>= fun w => mulM m w d) = ok ((n + c) / d * d) := by
  rw [addM_div_ok d h]
  exact mulM_ok (Nat.lt_of_le_of_lt (Nat.div_mul_le_self _ _) h)

theorem bitsToWords_ok (m : Mode) (n : Nat) (h : n + 63 < U64) : bitsToWords m n = ok ((n + 63) / 64) :=
  addM_div_ok 64 h

theorem bytesToWords_ok (m : Mode) (n : Nat) (h : n + 7 < U64) : bytesToWords m n = ok ((n + 7) / 8) :=
  addM_div_ok 8 h

theorem wordsToBits_ok (m : Mode) (n : Nat) (h : n * 64 < U64) : wordsToBits m n = ok (n * 64) := mulM_ok h
theorem wordsToBytes_ok (m : Mode) (n : Nat) (h : n * 8 < U64) : wordsToBytes m n = ok (n * 8) := mulM_ok h

theorem roundUpToWordBits_ok (m : Mode) (n : Nat) (h : n + 63 < U64) :
    roundUpToWordBits m n = ok (((n + 63) / 64) * 64) :=
  addM_div_mulM_ok 64 h

theorem roundUpToWordBytes_ok (m : Mode) (n : Nat) (h : n + 7 < U64) :
    roundUpToWordBytes m n = ok (((n + 7) / 8) * 8) :=
  addM_div_mulM_ok 8 h

theorem divRoundUp_ok (m : Mode) (v n : Nat) (hn : n ≠ 0) (h : v + n < U64) :
    divRoundUp m v n = ok ((v + n - 1) / n) := by
  unfold divRoundUp
  rw [addM_ok h]
  simp only [bind_ok]
  rw [subM_ok (by omega)]
  simp [hn]

/-- F12: as originally coded the helpers fail at the last value of the documented domain (checked builds) -/
theorem bitsToWordsOld_counterexample :
    U64 - 64 + 63 < U64 ∧ bitsToWordsOld .checked (U64 - 64) = fault (.panic .overflow) := by decide
theorem bytesToWordsOld_counterexample :
    U64 - 8 + 7 < U64 ∧ bytesToWordsOld .checked (U64 - 8) = fault (.panic .overflow) := by decide

theorem splitOffset_eq (n : Nat) : splitOffset n = (n / 64, n % 64) := by
  unfold splitOffset
  rw [Nat.shiftRight_eq_div_pow]
  congr 1
  exact Nat.and_two_pow_sub_one_eq_mod n 6

theorem bitOffset_ok (m : Mode) (i o : Nat) (h : i * 64 + o < U64) : bitOffset m i o = ok (i * 64 + o) := by
  unfold bitOffset
  have e : (i <<< 6) % U64 = i * 64 := by
    rw [Nat.shiftLeft_eq]; apply Nat.mod_eq_of_lt; omega
  rw [e, addM_ok h]

end Sds
