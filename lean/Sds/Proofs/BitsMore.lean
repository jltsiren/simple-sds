/-
Proofs/BitsMore: specifications of the bit counting primitives and of the two in-word select paths.
-/
import Sds.Proofs.Tables
set_option linter.unusedSimpArgs false
set_option linter.unusedVariables false

namespace Sds
open Outcome Generated

/-! ### ctz -/

theorem ctzFrom_spec (w : Word) : ∀ (fuel i : Nat),
    i ≤ ctzFrom w fuel i ∧ ctzFrom w fuel i ≤ i + fuel ∧
    (∀ j, i ≤ j → j < ctzFrom w fuel i → w.getLsbD j = false) ∧
    (ctzFrom w fuel i < i + fuel → w.getLsbD (ctzFrom w fuel i) = true)
  | 0, i => by simp [ctzFrom]; intro j h1 h2; omega
  | fuel + 1, i => by
    unfold ctzFrom
    by_cases hb : w.getLsbD i = true
    · simp only [hb, if_true]
      refine ⟨Nat.le_refl _, by omega, ?_, fun _ => trivial⟩
      intro j h1 h2; omega
    · have hb' : w.getLsbD i = false := by simpa using hb
      simp only [hb', Bool.false_eq_true, if_false]
      have ih := ctzFrom_spec w fuel (i + 1)
      refine ⟨by omega, by omega, ?_, ?_⟩
      · intro j h1 h2
        by_cases hj : j = i
        · subst hj; simpa using hb
        · exact ih.2.2.1 j (by omega) h2
      · intro h; exact ih.2.2.2 (by omega)

theorem exists_bit_of_ne_zero (w : Word) (h : w ≠ 0) : ∃ i, i < 64 ∧ w.getLsbD i = true := by
  apply Classical.byContradiction
  intro hn
  apply h
  apply BitVec.eq_of_getLsbD_eq
  intro i hi
  have : ¬ w.getLsbD i = true := fun hb => hn ⟨i, hi, hb⟩
  simpa using this

theorem ctz_zero : ctz (0 : Word) = 64 := by decide

theorem ctz_le (w : Word) : ctz w ≤ 64 := by
  have := (ctzFrom_spec w 64 0).2.1; unfold ctz; omega

theorem ctz_spec (w : Word) (h : w ≠ 0) :
    ctz w < 64 ∧ w.getLsbD (ctz w) = true ∧ ∀ j, j < ctz w → w.getLsbD j = false := by
  obtain ⟨i, hi, hb⟩ := exists_bit_of_ne_zero w h
  have s := ctzFrom_spec w 64 0
  unfold ctz
  have hlt : ctzFrom w 64 0 < 64 := by
    apply Classical.byContradiction
    intro hn
    have := s.2.2.1 i (by omega) (by omega)
    rw [hb] at this; cases this
  exact ⟨hlt, s.2.2.2 (by omega), fun j hj => s.2.2.1 j (by omega) hj⟩

/-- uniqueness of the first set bit -/
theorem ctz_eq_of (w : Word) (p : Nat) (hp : p < 64) (hb : w.getLsbD p = true)
    (hlow : ∀ j, j < p → w.getLsbD j = false) : ctz w = p := by
  have hne : w ≠ 0 := by
    intro h; subst h; simp at hb
  obtain ⟨h1, h2, h3⟩ := ctz_spec w hne
  by_cases hlt : ctz w < p
  · have := hlow _ hlt; rw [h2] at this; cases this
  · by_cases hgt : p < ctz w
    · have := h3 _ hgt; rw [hb] at this; cases this
    · omega

/-! ### clz -/

theorem reverse_getLsbD (w : Word) (j : Nat) (hj : j < 64) : w.reverse.getLsbD j = w.getLsbD (63 - j) := by
  rw [BitVec.getLsbD_reverse, BitVec.getMsbD]; simp [hj]

/-- scanning down from bit `k - 1` is scanning the reversed word up from bit `64 - k` -/
theorem clzBelow_eq_ctzFrom (w : Word) : ∀ k, k ≤ 64 →
    clzBelow w k + (64 - k) = ctzFrom w.reverse k (64 - k)
  | 0, _ => rfl
  | k + 1, hk => by
    rw [clzBelow, ctzFrom, reverse_getLsbD _ _ (by omega), show 63 - (64 - (k + 1)) = k by omega,
      show 64 - (k + 1) + 1 = 64 - k by omega, ← clzBelow_eq_ctzFrom w k (by omega)]
    split <;> omega

/-- LZCNT is TZCNT of the reversed word -/
theorem clz_eq_ctz_reverse (w : Word) : clz w = ctz w.reverse := clzBelow_eq_ctzFrom w 64 (Nat.le_refl _)

theorem clz_zero : clz (0 : Word) = 64 := by decide

theorem clz_le (w : Word) : clz w ≤ 64 := by rw [clz_eq_ctz_reverse]; exact ctz_le _

theorem clz_spec (w : Word) (h : w ≠ 0) :
    clz w < 64 ∧ w.getLsbD (63 - clz w) = true ∧
      ∀ j, 63 - clz w < j → j < 64 → w.getLsbD j = false := by
  have hr : w.reverse ≠ 0 := by
    obtain ⟨i, hi, hb⟩ := exists_bit_of_ne_zero w h
    intro e
    have := reverse_getLsbD w (63 - i) (by omega)
    rw [e, show 63 - (63 - i) = i by omega, hb] at this
    simp at this
  obtain ⟨h1, h2, h3⟩ := ctz_spec _ hr
  rw [clz_eq_ctz_reverse]
  refine ⟨h1, by rw [← reverse_getLsbD _ _ h1]; exact h2, fun j hj1 hj2 => ?_⟩
  have := h3 (63 - j) (by omega)
  rw [reverse_getLsbD _ _ (by omega), show 63 - (63 - j) = j by omega] at this
  exact this

/-! ### bit_len -/

theorem or_one_ne_zero (n : Word) : n ||| 1 ≠ 0 := by
  intro h
  have : (n ||| 1).getLsbD 0 = true := by simp
  rw [h] at this; simp at this

theorem bitLen_zero : bitLen (0 : Word) = 1 := by decide

theorem bitLen_spec (n : Word) :
    1 ≤ bitLen n ∧ bitLen n ≤ 64 ∧ n.toNat < 2 ^ bitLen n ∧
      (n ≠ 0 → 2 ^ (bitLen n - 1) ≤ n.toNat) := by
  obtain ⟨h1, h2, h3⟩ := clz_spec (n ||| 1) (or_one_ne_zero n)
  unfold bitLen
  refine ⟨by omega, by omega, ?_, ?_⟩
  · -- all bits from `bitLen n` on are clear
    apply Nat.lt_pow_two_of_testBit
    intro j hj
    show n.getLsbD j = false
    by_cases hj64 : j < 64
    · have := h3 j (by omega) hj64
      rw [BitVec.getLsbD_or, Bool.or_eq_false_iff] at this
      exact this.1
    · exact BitVec.getLsbD_of_ge _ _ (by omega)
  · -- bit `bitLen n - 1` is set, unless that is bit 0, where `n ≠ 0` is enough
    intro hne
    rw [show 64 - clz (n ||| 1) - 1 = 63 - clz (n ||| 1) by omega]
    by_cases hc : 63 - clz (n ||| 1) = 0
    · have : n.toNat ≠ 0 := fun h0 => hne (BitVec.eq_of_toNat_eq h0)
      rw [hc]; omega
    · generalize 63 - clz (n ||| 1) = k at h2 hc ⊢
      rw [BitVec.getLsbD_or, show (1 : Word).getLsbD k = false by simp [BitVec.getLsbD_one, hc],
        Bool.or_false] at h2
      exact Nat.ge_two_pow_of_testBit h2

/-! ### reverse_low -/

theorem reverseLow_getLsbD (n : Word) (bits i : Nat) (h1 : 1 ≤ bits) (h2 : bits ≤ 64) :
    (reverseLow n bits).getLsbD i = (decide (i < bits) && n.getLsbD (bits - 1 - i)) := by
  unfold reverseLow
  rw [BitVec.getLsbD_ushiftRight, BitVec.getLsbD_reverse, BitVec.getMsbD]
  by_cases hi : i < bits
  · have e : 64 - 1 - (64 - bits + i) = bits - 1 - i := by omega
    have h3 : 64 - bits + i < 64 := by omega
    simp [hi, e, h3]
  · have h3 : ¬ (64 - bits + i < 64) := by omega
    simp [hi, h3]

/-! ### selectBits -/

theorem selectBits_isSome : ∀ (B : List Bool) (r : Nat),
    (selectBits B r).isSome = decide (r < B.count true)
  | [], r => by simp [selectBits]
  | true :: bs, 0 => by simp [selectBits]
  | true :: bs, r + 1 => by
    simp [selectBits, selectBits_isSome bs r]
  | false :: bs, r => by
    simp [selectBits, selectBits_isSome bs r]

theorem selectBits_spec : ∀ (B : List Bool) (r p : Nat),
    selectBits B r = some p ↔ (p < B.length ∧ B[p]? = some true ∧ (B.take p).count true = r)
  | [], r, p => by simp [selectBits]
  | true :: bs, 0, 0 => by simp [selectBits]
  | true :: bs, 0, q + 1 => by simp [selectBits]
  | true :: bs, r + 1, 0 => by simp [selectBits]
  | false :: bs, r, 0 => by simp [selectBits]
  -- in the two remaining cases the answer is one more than the answer for the tail
  | true :: bs, r + 1, q + 1 => by
    simp [selectBits, selectBits_spec bs r q]
  | false :: bs, r, q + 1 => by
    simp [selectBits, selectBits_spec bs r q]

theorem selectBits_lt_length (B : List Bool) (r p : Nat) (h : selectBits B r = some p) :
    p < B.length := ((selectBits_spec B r p).1 h).1

theorem selectBits_unique (B : List Bool) (r p q : Nat) (hp : selectBits B r = some p)
    (hq : selectBits B r = some q) : p = q := by
  rw [hp] at hq; exact Option.some.inj hq

theorem bitsOfWord_length (w : Word) : (bitsOfWord w).length = 64 := by simp [bitsOfWord]

theorem bitsOfWord_getElem? (w : Word) (p : Nat) (hp : p < 64) :
    (bitsOfWord w)[p]? = some (w.getLsbD p) := by
  simp [bitsOfWord, hp]

/-- select in a list given by its entries, stated with the entries and their running count -/
theorem selectBits_range_map_iff (f : Nat → Bool) (m r p : Nat) :
    selectBits ((List.range m).map f) r = some p ↔ (p < m ∧ f p = true ∧ cntF f p = r) := by
  rw [selectBits_spec, List.length_map, List.length_range]
  constructor
  · rintro ⟨h1, h2, h3⟩
    rw [range_map_getElem?, if_pos h1] at h2
    rw [map_range_take _ _ _ (by omega)] at h3
    exact ⟨h1, Option.some.inj h2, h3⟩
  · rintro ⟨h1, h2, h3⟩
    rw [range_map_getElem?, if_pos h1, map_range_take _ _ _ (by omega)]
    exact ⟨h1, by rw [h2], h3⟩

/-- in-word select, stated with bits and ranks of the word -/
theorem selectBits_word_iff (w : Word) (r p : Nat) :
    selectBits (bitsOfWord w) r = some p ↔
      (p < 64 ∧ w.getLsbD p = true ∧ cntF (fun i => w.getLsbD i) p = r) :=
  selectBits_range_map_iff _ 64 r p

theorem selectBits_word_exists (w : Word) (r : Nat) (h : r < popcount w) :
    ∃ p, selectBits (bitsOfWord w) r = some p := by
  have := selectBits_isSome (bitsOfWord w) r
  have h' : r < (bitsOfWord w).count true := h
  rw [decide_eq_true h'] at this
  exact Option.isSome_iff_exists.1 this


/-! ### PDEP and the BMI2 select path -/

/-- rank of position `j` in `w`: number of set bits strictly below `j` -/
def rankW (w : Word) (j : Nat) : Nat := cntF (fun i => w.getLsbD i) j

theorem rankW_succ (w : Word) (j : Nat) :
    rankW w (j + 1) = rankW w j + (if w.getLsbD j then 1 else 0) := cntF_succ _ _

/-- PDEP loop invariant: the source cursor is `rankW mask i` -/
theorem pdepAux_getLsbD (src mask : Word) : ∀ (fuel i : Nat) (acc : Word) (j : Nat), j < 64 →
    (pdepAux src mask fuel i (rankW mask i) acc).getLsbD j =
      (acc.getLsbD j ||
        (decide (i ≤ j ∧ j < i + fuel) && mask.getLsbD j && src.getLsbD (rankW mask j)))
  | 0, i, acc, j, hj => by
    have : ¬ (i ≤ j ∧ j < i) := by omega
    simp [pdepAux, this]
  | fuel + 1, i, acc, j, hj => by
    -- one round of the loop, whatever the mask bit is
    have step : pdepAux src mask (fuel + 1) i (rankW mask i) acc =
        pdepAux src mask fuel (i + 1) (rankW mask (i + 1))
          (if (mask.getLsbD i && src.getLsbD (rankW mask i)) = true then acc ||| ((1 : Word) <<< i)
           else acc) := by
      rw [pdepAux, rankW_succ]
      cases mask.getLsbD i <;> simp
    have hacc : ∀ c : Bool, (if c = true then acc ||| ((1 : Word) <<< i) else acc).getLsbD j =
        (acc.getLsbD j || (c && decide (j = i))) := by
      intro c
      cases c
      · simp
      · rw [if_pos rfl, BitVec.getLsbD_or, one_shl_getLsbD _ _ hj, Bool.true_and]
    rw [step, pdepAux_getLsbD src mask fuel (i + 1) _ j hj, hacc]
    by_cases hji : j = i
    · subst hji
      rw [decide_eq_false (show ¬ (j + 1 ≤ j ∧ j < j + 1 + fuel) by omega),
        decide_eq_true (show j ≤ j ∧ j < j + (fuel + 1) by omega)]
      simp
    · rw [show decide (i + 1 ≤ j ∧ j < i + 1 + fuel) = decide (i ≤ j ∧ j < i + (fuel + 1)) from
        decide_eq_decide.2 (by omega)]
      simp [hji]

/-- PDEP, bit by bit: bit `j` of the result is set iff bit `j` of the mask is set and the source bit
whose index is the rank of `j` in the mask is set. -/
theorem pdep_getLsbD (src mask : Word) (j : Nat) (hj : j < 64) :
    (pdep src mask).getLsbD j = (mask.getLsbD j && src.getLsbD (rankW mask j)) := by
  unfold pdep
  have := pdepAux_getLsbD src mask 64 0 0 j hj
  have h0 : rankW mask 0 = 0 := rfl
  rw [h0] at this
  rw [this]
  have : (0 ≤ j ∧ j < 0 + 64) := by omega
  simp [this]

theorem rankW_le (w : Word) (j : Nat) : rankW w j ≤ j := cntF_le _ _

/-- BMI2 path of in-word select is correct for every word and every rank below the population count -/
theorem selectPdep_spec (n : Word) (r : Nat) (h : r < popcount n) :
    selectBits (bitsOfWord n) r = some (selectPdep n r) := by
  obtain ⟨p, hp⟩ := selectBits_word_exists n r h
  have hr64 : r < 64 := by have := popcount_le n; omega
  obtain ⟨hp1, hp2, hp3⟩ := (selectBits_word_iff n r p).1 hp
  have hbit : ∀ j, j < 64 → (pdep ((1 : Word) <<< r) n).getLsbD j =
      (n.getLsbD j && decide (rankW n j = r)) := by
    intro j hj
    rw [pdep_getLsbD _ _ _ hj, one_shl_getLsbD _ _ (by have := rankW_le n j; omega)]
  have : selectPdep n r = p := by
    unfold selectPdep
    apply ctz_eq_of _ p hp1
    · rw [hbit p hp1, hp2]
      have : rankW n p = r := hp3
      simp [this]
    · intro j hj
      rw [hbit j (by omega)]
      cases hb : n.getLsbD j
      · rfl
      · by_cases hrk : rankW n j = r
        · have := (selectBits_word_iff n r j).2 ⟨by omega, hb, hrk⟩
          have := selectBits_unique _ _ _ _ hp this
          omega
        · simp [hrk]
  rw [this]; exact hp


/-! ### numbers as little-endian lists of bytes -/

/-- `0x0101…01` with `k` bytes -/
def rep : Nat → Nat
  | 0 => 0
  | k + 1 => 1 + 256 * rep k

/-- value of a little-endian list of bytes -/
def bv : List Nat → Nat
  | [] => 0
  | b :: bs => b + 256 * bv bs

theorem rep_succ_mul (c k : Nat) : c * rep (k + 1) = c + 256 * (c * rep k) := by
  show c * (1 + 256 * rep k) = _
  rw [Nat.mul_add, Nat.mul_one, Nat.mul_left_comm]

theorem rep_succ_top : ∀ k, rep (k + 1) = rep k + 256 ^ k
  | 0 => rfl
  | k + 1 => by
    show 1 + 256 * rep (k + 1) = 1 + 256 * rep k + 256 ^ (k + 1)
    rw [rep_succ_top k, Nat.pow_succ']; omega

theorem bv_lt : ∀ bs : List Nat, (∀ b ∈ bs, b < 256) → bv bs < 256 ^ bs.length
  | [], _ => Nat.one_pos
  | b :: bs, h => by
    obtain ⟨hb, h'⟩ := List.forall_mem_cons.1 h
    have ih := bv_lt bs h'
    rw [List.length_cons, Nat.pow_succ']
    simp only [bv]; omega

theorem bv_byte : ∀ bs : List Nat, (∀ b ∈ bs, b < 256) → ∀ k, bv bs / 256 ^ k % 256 = bs.getD k 0
  | [], _, k => by simp [bv]
  | b :: bs, h, 0 => by
    have hb := h b (by simp)
    simp only [bv, Nat.pow_zero, Nat.div_one, List.getD_cons_zero]; omega
  | b :: bs, h, k + 1 => by
    obtain ⟨hb, h'⟩ := List.forall_mem_cons.1 h
    rw [Nat.pow_succ', ← Nat.div_div_eq_div_mul, show bv (b :: bs) / 256 = bv bs by simp only [bv]; omega]
    exact bv_byte bs h' k

/-- the bytes of a number, read back -/
theorem bv_bytes : ∀ (k X : Nat), bv ((List.range k).map fun i => X / 256 ^ i % 256) = X % 256 ^ k
  | 0, X => by simp [bv, Nat.mod_one]
  | k + 1, X => by
    have ih := bv_bytes k (X / 256)
    simp only [Nat.div_div_eq_div_mul, ← Nat.pow_succ'] at ih
    simp only [List.range_succ_eq_map, List.map_cons, List.map_map, bv, Function.comp_def, Nat.succ_eq_add_one,
      ih, Nat.pow_zero, Nat.div_one]
    rw [Nat.pow_succ', Nat.mod_mul]

theorem bv_add_rep (c : Nat) : ∀ bs : List Nat, bv bs + c * rep bs.length = bv (bs.map (· + c))
  | [] => rfl
  | b :: bs => by
    simp only [List.length_cons, List.map_cons, bv, rep_succ_mul, ← bv_add_rep c bs]; omega

theorem bv_map_add (f g : Nat → Nat) : ∀ bs : List Nat,
    bv (bs.map f) + bv (bs.map g) = bv (bs.map fun b => f b + g b)
  | [] => rfl
  | b :: bs => by simp only [List.map_cons, bv, ← bv_map_add f g bs]; omega

theorem bv_sub_map (g : Nat → Nat) (hg : ∀ b, g b ≤ b) : ∀ bs : List Nat,
    bv (bs.map g) ≤ bv bs ∧ bv bs - bv (bs.map g) = bv (bs.map fun b => b - g b)
  | [] => ⟨Nat.le_refl _, rfl⟩
  | b :: bs => by
    have := hg b
    have := bv_sub_map g hg bs
    simp only [List.map_cons, bv]; omega

/-! ### SWAR byte-wise population counts -/

/-- One byte lane of "shift right by `s`, then mask": what the shift brings in from the next byte is
masked away as long as the per-byte mask `m` fits into the low `8 - s` bits. -/
theorem lane_shr_and (s m : Nat) (hm : m < 2 ^ (8 - s)) (b X Y : Nat) (hb : b < 256) :
    ((b + 256 * X) / 2 ^ s) &&& (m + 256 * Y) = ((b / 2 ^ s) &&& m) + 256 * ((X / 2 ^ s) &&& Y) := by
  have hm8 : m < 2 ^ 8 := Nat.lt_of_lt_of_le hm (Nat.pow_le_pow_right (by decide) (by omega))
  have hbm : (b / 2 ^ s) &&& m < 2 ^ 8 := Nat.lt_of_le_of_lt Nat.and_le_right hm8
  have e : ∀ c Z, c + 256 * Z = 2 ^ 8 * Z + c := by omega
  rw [e, e, e]
  apply Nat.eq_of_testBit_eq
  intro i
  rw [Nat.testBit_and, Nat.testBit_div_two_pow, Nat.testBit_two_pow_mul_add _ hb,
    Nat.testBit_two_pow_mul_add _ hm8, Nat.testBit_two_pow_mul_add _ hbm]
  by_cases hi : i < 8
  · by_cases his : i + s < 8
    · simp [hi, his, Nat.testBit_and, Nat.testBit_div_two_pow]
    · have : m.testBit i = false :=
        Nat.testBit_lt_two_pow (Nat.lt_of_lt_of_le hm (Nat.pow_le_pow_right (by decide) (by omega)))
      simp [hi, this, Nat.testBit_and]
  · have e : i + s - 8 = i - 8 + s := by omega
    simp [hi, show ¬ i + s < 8 by omega, e, Nat.testBit_and, Nat.testBit_div_two_pow]

theorem and_split (a m X Y : Nat) (ha : a < 256) (hm : m < 256) :
    (a + 256 * X) &&& (m + 256 * Y) = (a &&& m) + 256 * (X &&& Y) := by
  simpa using lane_shr_and 0 m hm a X Y ha

/-- "shift right by `s`, then mask every byte with `m`" acts on each byte separately -/
theorem bv_shr_and (s m : Nat) (hm : m < 2 ^ (8 - s)) : ∀ bs : List Nat, (∀ b ∈ bs, b < 256) →
    (bv bs / 2 ^ s) &&& (m * rep bs.length) = bv (bs.map fun b => (b / 2 ^ s) &&& m)
  | [], _ => by simp [bv, rep]
  | b :: bs, h => by
    obtain ⟨hb, h'⟩ := List.forall_mem_cons.1 h
    simp only [List.length_cons, List.map_cons, bv]
    rw [rep_succ_mul, lane_shr_and s m hm b _ _ hb, bv_shr_and s m hm bs h']

theorem bv_and (m : Nat) (hm : m < 256) (bs : List Nat) (h : ∀ b ∈ bs, b < 256) :
    bv bs &&& (m * rep bs.length) = bv (bs.map (· &&& m)) := by
  simpa using bv_shr_and 0 m hm bs h

def f1 (b : Nat) : Nat := b - ((b / 2) &&& 0x55)
def f2 (b : Nat) : Nat := (b &&& 0x33) + ((b / 4) &&& 0x33)
def f3 (b : Nat) : Nat := (b + b / 16) &&& 0x0F
def pop8 (b : Nat) : Nat := (byteBits b).count true

/-- the three steps on one byte: after the second both nibbles hold at most 4, the third yields the
population count -/
theorem byte_pop : ∀ b, b < 256 →
    f2 (f1 b) % 16 ≤ 4 ∧ f2 (f1 b) / 16 ≤ 4 ∧ f3 (f2 (f1 b)) = pop8 b := by
  decide +kernel

theorem S1_bv (bs : List Nat) (h : ∀ b ∈ bs, b < 256) :
    bv bs - ((bv bs / 2) &&& (0x55 * rep bs.length)) = bv (bs.map f1) := by
  rw [bv_shr_and 1 0x55 (by decide) bs h]
  exact (bv_sub_map _ (fun b => Nat.le_trans Nat.and_le_left (Nat.div_le_self b 2)) bs).2

theorem S2_bv (bs : List Nat) (h : ∀ b ∈ bs, b < 256) :
    (bv bs &&& (0x33 * rep bs.length)) + ((bv bs / 4) &&& (0x33 * rep bs.length)) = bv (bs.map f2) := by
  rw [bv_and 0x33 (by decide) bs h, bv_shr_and 2 0x33 (by decide) bs h]
  exact bv_map_add _ _ bs

/-- Here the bytes are added before they are masked, so the sum must stay inside its byte: both
nibbles of every byte are at most 4. -/
theorem S3_bv : ∀ bs : List Nat, (∀ b ∈ bs, b % 16 ≤ 4 ∧ b / 16 ≤ 4) →
    (bv bs + bv bs / 16) &&& (0x0F * rep bs.length) = bv (bs.map f3)
  | [], _ => by simp [bv]
  | b :: bs, h => by
    obtain ⟨⟨hb1, hb2⟩, h'⟩ := List.forall_mem_cons.1 h
    have hX : bv bs % 16 ≤ 4 := by
      cases bs with
      | nil => simp [bv]
      | cons c cs => have := (h' c (by simp)).1; simp only [bv]; omega
    simp only [List.length_cons, List.map_cons, bv]
    have e : b + 256 * bv bs + (b + 256 * bv bs) / 16 =
        (b + b / 16 + 16 * (bv bs % 16)) + 256 * (bv bs + bv bs / 16) := by omega
    have e16 : ∀ x, x &&& 0x0F = x % 16 := fun x => Nat.and_two_pow_sub_one_eq_mod x 4
    rw [rep_succ_mul, e, and_split _ _ _ _ (by omega) (by decide), S3_bv bs h', e16, f3, e16,
      Nat.add_mul_mod_self_left]

/-- the three SWAR steps turn every byte into its population count -/
theorem swar_bv (bs : List Nat) (h : ∀ b ∈ bs, b < 256) :
    let k := bs.length
    let c1 := bv bs - ((bv bs / 2) &&& (0x55 * rep k))
    let c2 := (c1 &&& (0x33 * rep k)) + ((c1 / 4) &&& (0x33 * rep k))
    (c2 + c2 / 16) &&& (0x0F * rep k) = bv (bs.map pop8) := by
  intro k c1 c2
  have hf1 : ∀ b ∈ bs.map f1, b < 256 :=
    List.forall_mem_map.2 fun b hb => Nat.lt_of_le_of_lt (Nat.sub_le _ _) (h b hb)
  have hf2 : ∀ b ∈ (bs.map f1).map f2, b % 16 ≤ 4 ∧ b / 16 ≤ 4 :=
    List.forall_mem_map.2 (List.forall_mem_map.2 fun b hb =>
      ⟨(byte_pop b (h b hb)).1, (byte_pop b (h b hb)).2.1⟩)
  have h1 : c1 = bv (bs.map f1) := S1_bv bs h
  have h2 : c2 = bv ((bs.map f1).map f2) := by
    show (c1 &&& _) + _ = _
    rw [h1, ← S2_bv _ hf1, List.length_map]
  have h3 := S3_bv _ hf2
  rw [List.length_map, List.length_map] at h3
  rw [h2, h3, List.map_map, List.map_map]
  exact congrArg bv (List.map_congr_left fun b hb => (byte_pop b (h b hb)).2.2)

/-! ### the bytes of a word and the cumulative counts -/

/-- byte `k` of a word -/
def byteOf (n : Word) (k : Nat) : Nat := n.toNat / 256 ^ k % 256

def bsOf (n : Word) : List Nat := (List.range 8).map (byteOf n)

theorem byteOf_lt (n : Word) (k : Nat) : byteOf n k < 256 := Nat.mod_lt _ (by decide)

theorem bsOf_lt (n : Word) : ∀ b ∈ bsOf n, b < 256 := by
  intro b hb
  obtain ⟨k, _, rfl⟩ := List.mem_map.1 hb
  exact byteOf_lt n k

theorem bv_bsOf (n : Word) : bv (bsOf n) = n.toNat :=
  (bv_bytes 8 n.toNat).trans (Nat.mod_eq_of_lt n.isLt)

theorem rep8 : rep 8 = 0x0101010101010101 := by decide

def swarC3 (n : Word) : Word :=
  let c1 := n - ((n >>> 1) &&& 0x5555555555555555#64)
  let c2 := (c1 &&& 0x3333333333333333#64) + ((c1 >>> 2) &&& 0x3333333333333333#64)
  (c2 + (c2 >>> 4)) &&& 0x0F0F0F0F0F0F0F0F#64

theorem swarC3_toNat (n : Word) : (swarC3 n).toNat = bv ((bsOf n).map pop8) := by
  have key := swar_bv (bsOf n) (bsOf_lt n)
  have hl : (bsOf n).length = 8 := by simp [bsOf]
  simp only [hl, rep8, bv_bsOf, Nat.reduceMul] at key
  rw [← key]
  unfold swarC3
  simp only []
  -- no step wraps around: the subtrahend is at most `n / 2`, the summands are masked
  have e1 := BitVec.toNat_sub_of_le (x := n) (y := (n >>> 1) &&& 0x5555555555555555#64) (by
    rw [BitVec.le_def, BitVec.toNat_and, BitVec.toNat_ushiftRight]
    exact Nat.le_trans Nat.and_le_left (Nat.shiftRight_le _ _))
  generalize n - ((n >>> 1) &&& 0x5555555555555555#64) = c1 at e1 ⊢
  have hA : (c1 &&& 0x3333333333333333#64).toNat ≤ 0x3333333333333333 := by
    rw [BitVec.toNat_and]; exact Nat.and_le_right
  have hB : ((c1 >>> 2) &&& 0x3333333333333333#64).toNat ≤ 0x3333333333333333 := by
    rw [BitVec.toNat_and]; exact Nat.and_le_right
  have e2 := BitVec.toNat_add_of_lt (x := c1 &&& 0x3333333333333333#64)
    (y := (c1 >>> 2) &&& 0x3333333333333333#64) (by omega)
  generalize (c1 &&& 0x3333333333333333#64) + ((c1 >>> 2) &&& 0x3333333333333333#64) = c2 at e2 ⊢
  have e3 := BitVec.toNat_add_of_lt (x := c2) (y := c2 >>> 4) (by
    rw [BitVec.toNat_ushiftRight, Nat.shiftRight_eq_div_pow]; omega)
  simp only [BitVec.toNat_and, e3, BitVec.toNat_ushiftRight, e2, e1, Nat.shiftRight_eq_div_pow,
    BitVec.toNat_ofNat, Nat.reducePow, Nat.reduceMod]

theorem testBit_byte (X k i : Nat) (hi : i < 8) :
    (X / 256 ^ k % 256).testBit i = X.testBit (8 * k + i) := by
  have e : (256 : Nat) ^ k = 2 ^ (8 * k) := by rw [Nat.pow_mul]
  rw [e, show (256 : Nat) = 2 ^ 8 from rfl, Nat.testBit_mod_two_pow, Nat.testBit_div_two_pow]
  simp [hi, Nat.add_comm]

theorem byteOf_testBit (n : Word) (k i : Nat) (hi : i < 8) :
    (byteOf n k).testBit i = n.getLsbD (8 * k + i) := testBit_byte n.toNat k i hi

/-- the bits of byte `k` are bits `8k .. 8k+7` of the word -/
theorem byteBits_byteOf (n : Word) (k : Nat) :
    byteBits (byteOf n k) = (List.range 8).map fun i => n.getLsbD (8 * k + i) :=
  List.map_congr_left fun i hi => byteOf_testBit n k i (List.mem_range.1 hi)

theorem pop8_byteOf (n : Word) (k : Nat) :
    pop8 (byteOf n k) = cntF (fun i => n.getLsbD (8 * k + i)) 8 := by
  unfold pop8; rw [byteBits_byteOf]; rfl

theorem rankW_add (n : Word) (a b : Nat) :
    rankW n (a + b) = rankW n a + cntF (fun i => n.getLsbD (a + i)) b := cntF_add _ a b

theorem rankW_byte (n : Word) (k : Nat) :
    rankW n (8 * k + 8) = rankW n (8 * k) + pop8 (byteOf n k) := by
  rw [rankW_add, pop8_byteOf]

theorem pop8_le (b : Nat) : pop8 b ≤ 8 := by
  unfold pop8 byteBits
  exact Nat.le_trans (List.count_le_length) (by simp)

theorem rankW_le64 (n : Word) (j : Nat) : rankW n j ≤ 64 := by
  by_cases h : j ≤ 64
  · have := rankW_le n j; omega
  · unfold rankW
    rw [cntF_split _ 64 j (by omega), cntF_false _ (j - 64)]
    · have := cntF_le (fun i => n.getLsbD i) 64; omega
    · intro i _; exact BitVec.getLsbD_of_ge _ _ (by omega)

theorem rankW_mono (n : Word) (a b : Nat) (h : a ≤ b) : rankW n a ≤ rankW n b := cntF_mono _ a b h

theorem rankW_64 (n : Word) : rankW n 64 = popcount n := rfl

/-- running sums of a list, starting from `a` -/
def sums (a : Nat) : List Nat → List Nat
  | [] => []
  | b :: bs => (a + b) :: sums (a + b) bs

/-- Multiplying by `0x0101…01`, truncated to `k + 1` bytes: the lowest byte stays, and is added to
every byte above it. -/
theorem mul_rep_step (b X k : Nat) (hb : b < 256) :
    (b + 256 * X) * rep (k + 1) % 256 ^ (k + 1) = b + 256 * ((b + X) * rep k % 256 ^ k) := by
  have e : (b + 256 * X) * rep (k + 1) = b + 256 * ((b + X) * rep k + X * 256 ^ k) := by
    have := rep_succ_top k
    rw [show rep (k + 1) = 1 + 256 * rep k from rfl] at this
    rw [rep_succ_mul]
    grind
  rw [e, Nat.pow_succ', Nat.mod_mul, Nat.add_mul_mod_self_left, Nat.mod_eq_of_lt hb,
    show ∀ Z, (b + 256 * Z) / 256 = Z by omega, Nat.add_mul_mod_self_right]

/-- … hence the product holds the running sums of the bytes, as long as these stay below 256 -/
theorem mul_rep_sums : ∀ (bs : List Nat) (a : Nat), (∀ c ∈ sums a bs, c < 256) →
    (a + bv bs) * rep bs.length % 256 ^ bs.length = bv (sums a bs)
  | [], a, _ => by simp [rep, sums, bv, Nat.mod_one]
  | b :: bs, a, h => by
    obtain ⟨hb, h'⟩ := List.forall_mem_cons.1 h
    rw [List.length_cons, show a + bv (b :: bs) = (a + b) + 256 * bv bs by simp only [bv]; omega,
      mul_rep_step _ _ _ hb, mul_rep_sums bs (a + b) h']
    rfl

theorem sums_rankW (n : Word) : ∀ len j,
    sums (rankW n (8 * j)) (((List.range' j len).map (byteOf n)).map pop8) =
      (List.range' j len).map fun k => rankW n (8 * k + 8)
  | 0, j => rfl
  | len + 1, j => by
    simp only [List.range'_succ, List.map_cons, sums]
    rw [← rankW_byte, show 8 * j + 8 = 8 * (j + 1) by omega, sums_rankW n len (j + 1)]

/-- eight bytes packed little-endian -/
def packQ (q : Nat → Nat) : Nat := bv ((List.range 8).map q)

/-- `cumulative`: byte `k` holds the number of set bits below position `8k+8` -/
theorem cumulative_toNat (n : Word) :
    (swarC3 n * 0x0101010101010101#64).toNat = packQ fun k => rankW n (8 * k + 8) := by
  have hc : sums 0 ((bsOf n).map pop8) = (List.range 8).map fun k => rankW n (8 * k + 8) := by
    rw [List.range_eq_range']; exact sums_rankW n 8 0
  have h := mul_rep_sums ((bsOf n).map pop8) 0 (by
    rw [hc]
    intro c hc'
    obtain ⟨k, _, rfl⟩ := List.mem_map.1 hc'
    exact Nat.lt_of_le_of_lt (rankW_le64 n _) (by decide))
  rw [hc, Nat.zero_add, List.length_map, bsOf, List.length_map, List.length_range, rep8] at h
  rw [BitVec.toNat_mul, swarC3_toNat, packQ, ← h]
  rfl

theorem pack_lt (q : Nat → Nat) (hq : ∀ k, q k < 256) : packQ q < 2 ^ 64 := by
  have := bv_lt ((List.range 8).map q) (by simpa using fun k _ => hq k)
  simpa [packQ] using this

theorem pack_byte (q : Nat → Nat) (hq : ∀ k, q k < 256) (k : Nat) (hk : k < 8) :
    packQ q / 256 ^ k % 256 = q k := by
  rw [packQ, bv_byte _ (by simpa using fun k _ => hq k)]
  simp [hk]

theorem pack_add_const (q : Nat → Nat) (c : Nat) :
    packQ q + c * 0x0101010101010101 = packQ (fun k => q k + c) := by
  have := bv_add_rep c ((List.range 8).map q)
  rw [List.length_map, List.length_range, rep8, List.map_map] at this
  exact this

/-- byte `k` of `X << 8` in a 64-bit word is byte `k - 1` of `X` -/
theorem shl8_byte (X k : Nat) (hk : k < 8) :
    (X * 256 % 2 ^ 64) / 256 ^ k % 256 = if k = 0 then 0 else X / 256 ^ (k - 1) % 256 := by
  cases k with
  | zero => simp only [Nat.pow_zero, Nat.div_one, if_true]; omega
  | succ j =>
    have e64 : 2 ^ 64 = 256 ^ (j + 1) * 256 ^ (7 - j) := by
      rw [← Nat.pow_add, show j + 1 + (7 - j) = 8 by omega]
    have hd : 256 ∣ 256 ^ (7 - j) := by simpa using Nat.pow_dvd_pow 256 (show 1 ≤ 7 - j by omega)
    rw [e64, Nat.mod_mul_right_div_self, Nat.mod_mod_of_dvd _ hd, Nat.pow_succ,
      Nat.mul_div_mul_right _ _ (by decide)]
    simp

theorem testBit7 (t : Nat) (ht : t < 256) : t.testBit 7 = decide (128 ≤ t) := by
  rw [Nat.testBit_eq_decide_div_mod_eq]
  by_cases h : 128 ≤ t
  · have : t / 2 ^ 7 % 2 = 1 := by omega
    simp [h, this]
  · have : ¬ (t / 2 ^ 7 % 2 = 1) := by omega
    simp [h, this]

theorem mask80_getLsbD : ∀ j, j < 64 → (0x8080808080808080#64).getLsbD j = decide (j % 8 = 7) := by
  decide

/-- select inside byte `k` lifts to select in the word -/
theorem select_in_byte_lift (n : Word) (r k : Nat) (hk : k < 8) (hlo : rankW n (8 * k) ≤ r)
    (hhi : r < rankW n (8 * k + 8)) :
    ∃ e, e < 8 ∧ selectBits (byteBits (byteOf n k)) (r - rankW n (8 * k)) = some e ∧
      selectBits (bitsOfWord n) r = some (8 * k + e) := by
  have hb := rankW_byte n k
  have hsome := selectBits_isSome (byteBits (byteOf n k)) (r - rankW n (8 * k))
  have hlt : r - rankW n (8 * k) < (byteBits (byteOf n k)).count true := by
    show _ < pop8 (byteOf n k); omega
  rw [decide_eq_true hlt] at hsome
  obtain ⟨e, he⟩ := Option.isSome_iff_exists.1 hsome
  -- read `e` as a position among bits `8k ..` of the word, then as a position in the word
  have he' := he
  rw [byteBits_byteOf, selectBits_range_map_iff] at he'
  obtain ⟨h1, h2, h3⟩ := he'
  refine ⟨e, h1, he, (selectBits_word_iff n r (8 * k + e)).2 ⟨by omega, h2, ?_⟩⟩
  show rankW n (8 * k + e) = r
  rw [rankW_add, h3]; omega

/-- least index where a sequence exceeds `r` -/
theorem first_exceeds (q : Nat → Nat) (r : Nat) : ∀ n, q n > r →
    ∃ k, k ≤ n ∧ q k > r ∧ ∀ j, j < k → q j ≤ r
  | 0, h => ⟨0, Nat.le_refl _, h, fun j hj => by omega⟩
  | n + 1, h => by
    by_cases hex : ∃ j, j ≤ n ∧ q j > r
    · obtain ⟨j, hj, hq⟩ := hex
      obtain ⟨k, hk, h1, h2⟩ := first_exceeds q r j hq
      exact ⟨k, by omega, h1, h2⟩
    · refine ⟨n + 1, Nat.le_refl _, h, ?_⟩
      intro j hj
      apply Classical.byContradiction
      intro hc
      exact hex ⟨j, by omega, by omega⟩

/-- last step of `selectPortable`: rank inside the byte and the in-byte table -/
def spFinish (m : Mode) (n cumulative : Word) (rank offset : Nat) : Outcome Nat :=
  subM m rank ((((cumulative <<< 8) >>> offset).toNat) % 256) >>= fun rel =>
  tableU Generated.SELECT_IN_BYTE ((rel <<< 8) + (((n >>> offset).toNat) % 256)) >>= fun e =>
  pure (offset + e.toNat)

/-- the shift guard of `selectPortable` -/
def spGuard (m : Mode) (n cumulative : Word) (rank offset : Nat) : Outcome Nat :=
  if offset ≥ 64 then
    (match m with
     | .checked => fault (.panic .overflow)
     | .wrapping => fault .oob)
  else spFinish m n cumulative rank offset

def spAfterAdd (m : Mode) (n cumulative : Word) (rank s : Nat) : Outcome Nat :=
  spGuard m n cumulative rank
    (((ctz ((BitVec.ofNat 64 s) &&& 0x8080808080808080#64)) >>> 3) <<< 3)

/-- the part of `selectPortable` after the SWAR prefix sums -/
def spTail (m : Mode) (n cumulative : Word) (rank : Nat) : Outcome Nat :=
  tableU Generated.PS_OVERFLOW (rank + 1) >>= fun ov =>
  addM m cumulative.toNat ov.toNat >>= fun s =>
  spAfterAdd m n cumulative rank s

theorem selectPortable_eq (m : Mode) (n : Word) (r : Nat) :
    selectPortable m n r = spTail m n (swarC3 n * 0x0101010101010101#64) r := rfl

/-- bits of the overflow mask: bit `8k+7` is set iff the cumulative count of byte `k` exceeds `r` -/
theorem mask_getLsbD (q : Nat → Nat) (r : Nat) (hq : ∀ k, q k ≤ 64) (hr : r < 64) (j : Nat) (hj : j < 64) :
    ((BitVec.ofNat 64 (packQ (fun k => q k + (127 - r)))) &&& 0x8080808080808080#64).getLsbD j =
      (decide (j % 8 = 7) && decide (r < q (j / 8))) := by
  rw [BitVec.getLsbD_and, mask80_getLsbD j hj, BitVec.getLsbD_ofNat]
  by_cases h7 : j % 8 = 7
  · have ej : j = 8 * (j / 8) + 7 := by omega
    have hk : j / 8 < 8 := by omega
    have ht : ∀ k, (fun k => q k + (127 - r)) k < 256 := by
      intro k; have := hq k; show q k + (127 - r) < 256; omega
    have hb := testBit_byte (packQ (fun k => q k + (127 - r))) (j / 8) 7 (by omega)
    rw [pack_byte _ ht _ hk, ← ej] at hb
    rw [← hb, testBit7 _ (ht (j / 8))]
    have := hq (j / 8)
    by_cases hc : r < q (j / 8)
    · have : 128 ≤ q (j / 8) + (127 - r) := by omega
      simp [hj, h7, hc, this]
    · have : ¬ 128 ≤ q (j / 8) + (127 - r) := by omega
      simp [hj, h7, hc, this]
  · simp [h7]

theorem ctz_mask (q : Nat → Nat) (r k0 : Nat) (hq : ∀ k, q k ≤ 64) (hr : r < 64) (hk0 : k0 < 8)
    (h1 : r < q k0) (h2 : ∀ j, j < k0 → q j ≤ r) :
    ctz ((BitVec.ofNat 64 (packQ (fun k => q k + (127 - r)))) &&& 0x8080808080808080#64) = 8 * k0 + 7 := by
  apply ctz_eq_of _ _ (by omega)
  · rw [mask_getLsbD q r hq hr _ (by omega)]
    have e1 : (8 * k0 + 7) % 8 = 7 := by omega
    have e2 : (8 * k0 + 7) / 8 = k0 := by omega
    simp [e1, e2, h1]
  · intro j hj
    rw [mask_getLsbD q r hq hr _ (by omega)]
    by_cases h7 : j % 8 = 7
    · have : ¬ r < q (j / 8) := by
        have := h2 (j / 8) (by omega); omega
      simp [this]
    · simp [h7]

theorem psOverflow_read (r : Nat) (hr : r < 64) :
    tableU PS_OVERFLOW (r + 1) = ok (BitVec.ofNat 64 ((127 - r) * 0x0101010101010101)) := by
  unfold tableU
  rw [PS_OVERFLOW_get (r + 1) (by omega)]
  have : 128 - (r + 1) = 127 - r := by omega
  rw [this]

theorem psOverflow_toNat (r : Nat) (hr : r < 64) :
    (BitVec.ofNat 64 ((127 - r) * 0x0101010101010101)).toNat = (127 - r) * 0x0101010101010101 := by
  rw [BitVec.toNat_ofNat]; apply Nat.mod_eq_of_lt; omega

theorem cum_prev (cum : Word) (q : Nat → Nat) (hq256 : ∀ k, q k < 256) (k0 : Nat) (hk0' : k0 < 8)
    (hC : cum.toNat = packQ q) :
    ((cum <<< 8) >>> (8 * k0)).toNat % 256 = if k0 = 0 then 0 else q (k0 - 1) := by
  rw [BitVec.toNat_ushiftRight, BitVec.toNat_shiftLeft, hC, Nat.shiftLeft_eq,
    Nat.shiftRight_eq_div_pow, Nat.pow_mul, shl8_byte _ _ hk0']
  split
  · rfl
  · exact pack_byte q hq256 _ (by omega)

theorem word_byte (n : Word) (k0 : Nat) : (n >>> (8 * k0)).toNat % 256 = byteOf n k0 := by
  rw [BitVec.toNat_ushiftRight, Nat.shiftRight_eq_div_pow, Nat.pow_mul]; rfl

theorem selectInByte_read (b rel e : Nat) (hb : b < 256) (hrel : rel < 8)
    (hsel : selectBits (byteBits b) rel = some e) :
    tableU SELECT_IN_BYTE ((rel <<< 8) + b) = ok (BitVec.ofNat 64 e) := by
  have e0 : (rel <<< 8) + b = rel * 256 + b := by rw [Nat.shiftLeft_eq]
  rw [e0]
  unfold tableU
  rw [SELECT_IN_BYTE_get _ (by omega)]
  have e1 : (rel * 256 + b) % 256 = b := by omega
  have e2 : (rel * 256 + b) / 256 = rel := by omega
  simp only [selectInByteNat, e1, e2, hsel, Option.getD_some]

theorem spTail_run (m : Mode) (n cum : Word) (q : Nat → Nat) (r k0 e : Nat)
    (hC : cum.toNat = packQ q) (hq : ∀ k, q k ≤ 64) (hr : r < 64) (hk0' : k0 < 8)
    (hk1 : r < q k0) (hk2 : ∀ j, j < k0 → q j ≤ r)
    (hprev : (if k0 = 0 then 0 else q (k0 - 1)) = rankW n (8 * k0))
    (hlo : rankW n (8 * k0) ≤ r) (hrel : r - rankW n (8 * k0) < 8) (he8 : e < 8)
    (hsel : selectBits (byteBits (byteOf n k0)) (r - rankW n (8 * k0)) = some e) :
    spTail m n cum r = ok (8 * k0 + e) := by
  have hq256 : ∀ k, q k < 256 := fun k => by have := hq k; omega
  have hs : packQ q + (127 - r) * 0x0101010101010101 = packQ (fun k => q k + (127 - r)) :=
    pack_add_const q (127 - r)
  have hslt : packQ q + (127 - r) * 0x0101010101010101 < U64 := by
    rw [hs, U64_eq]; apply pack_lt; intro k; have := hq k; show q k + (127 - r) < 256; omega
  have hctz := ctz_mask q r k0 hq hr hk0' hk1 hk2
  have hoff : ((8 * k0 + 7) >>> 3) <<< 3 = 8 * k0 := by
    rw [Nat.shiftRight_eq_div_pow, Nat.shiftLeft_eq]; omega
  have hnot : ¬ (8 * k0 ≥ 64) := by omega
  have hprevN := cum_prev cum q hq256 k0 hk0' hC
  rw [hprev] at hprevN
  have heN : (BitVec.ofNat 64 e).toNat = e := by
    rw [BitVec.toNat_ofNat]; apply Nat.mod_eq_of_lt; omega
  unfold spTail
  rw [psOverflow_read r hr, bind_ok, psOverflow_toNat r hr, hC, addM_ok hslt, bind_ok, hs]
  unfold spAfterAdd
  rw [hctz, hoff]
  unfold spGuard
  rw [if_neg hnot]
  unfold spFinish
  rw [hprevN, subM_ok hlo, bind_ok, word_byte,
    selectInByte_read _ _ _ (byteOf_lt n k0) hrel hsel, bind_ok, heN]
  rfl

/-- Portable (SWAR) path of in-word select is correct, in both arithmetic modes, for every word and
every rank below the population count; in particular no step faults. -/
theorem selectPortable_spec (m : Mode) (n : Word) (r : Nat) (h : r < popcount n) :
    ∃ p, selectPortable m n r = Outcome.ok p ∧ selectBits (bitsOfWord n) r = some p := by
  have hr : r < 64 := by have := popcount_le n; omega
  have hq : ∀ k, rankW n (8 * k + 8) ≤ 64 := fun k => rankW_le64 n _
  have hq7 : rankW n (8 * 7 + 8) > r := by
    show rankW n 64 > r; rw [rankW_64]; exact h
  obtain ⟨k0, hk0, hk1, hk2⟩ := first_exceeds (fun k => rankW n (8 * k + 8)) r 7 hq7
  have hk0' : k0 < 8 := by omega
  have hprev : (if k0 = 0 then 0 else rankW n (8 * (k0 - 1) + 8)) = rankW n (8 * k0) := by
    by_cases hz : k0 = 0
    · subst hz; rfl
    · have : 8 * (k0 - 1) + 8 = 8 * k0 := by omega
      rw [if_neg hz, this]
  have hlo : rankW n (8 * k0) ≤ r := by
    rw [← hprev]
    by_cases hz : k0 = 0
    · rw [if_pos hz]; exact Nat.zero_le _
    · rw [if_neg hz]; exact hk2 _ (by omega)
  obtain ⟨e, he8, hsel, hword⟩ := select_in_byte_lift n r k0 hk0' hlo hk1
  have hrel : r - rankW n (8 * k0) < 8 := by
    have := rankW_byte n k0
    have := pop8_le (byteOf n k0)
    have : rankW n (8 * k0 + 8) > r := hk1
    omega
  refine ⟨8 * k0 + e, ?_, hword⟩
  rw [selectPortable_eq]
  exact spTail_run m n _ (fun k => rankW n (8 * k + 8)) r k0 e (cumulative_toNat n) hq hr hk0' hk1 hk2
    hprev hlo hrel he8 hsel

end Sds
