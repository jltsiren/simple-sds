/-
Proofs/Glue4: glue lemmas used by the property files C03, C11, C13, C16 (and Proofs/FormatRL, FormatSparse).

* C13: `View.option` over a truncated file (`option_cut`, `option_vecU64_truncated`,
  `option_none_truncated`) — the option view has no bounds test of its own beyond the first one; a cut
  inside the payload is reported by the inner constructor, and the error is passed on unchanged.
* C16 / C03: a history of run-length builder calls in which the caller ignores `Err` results
  (`BuildersProofs.rlRun`) is the history of its accepted calls (`rlAccepted`, `rlRun_accepted`), so the
  round-trip theorem `RL.build_iterate_calls` (below, stated for accepted calls) applies to it.
* C03: the run-length builder accepts every increasing list of non-overlapping runs followed by `set_len`
  (`RL.RunsFrom`, `RL.callsOf`, `RL.runBCalls_accepts`), and the bit sequence those calls describe is the
  explicit one (`RL.runBits`, `RL.callsOf_spec`).
* C11: copying an arbitrary list of positions into a plain vector (`copyPositions_spec`); the positions of
  the ones of `bitsOfSet P n` are `P` again (`onesPos_bitsOfSet`); the closed form of the sparse vector built
  from `(w, n, P)` (`Sparse.ofValues_closed_form`); the bit sequence described by one `set_bit` per set
  position followed by `set_len` is the bit sequence itself (`RL.bitCalls_spec`).
* C03 / C07 / C11 / C16: the vector `From<RLBuilder>` returns, described once (`RL.Built`, `RL.ofBuilder_built`; for a
  call history `RL.build_built`): `RLQ.GoodB` (`Built.goodB`), the block bound (`RL.blocks_bound`) and the round trip
  `RL.build_iterate_calls` are read off it.  `From<RLBuilder>` never faults on a builder reached by accepted calls
  (`RL.ofBuilder_ok`), hence the unconditional round trips `RL.build_iterate_calls_total` and
  `BuildersProofs.rl_history_roundtrip_total`.
-/
import Sds.Proofs.Mapper
import Sds.Proofs.Codec
import Sds.Proofs.Codec2
import Sds.Proofs.Builders
import Sds.Proofs.RL
import Sds.Proofs.RLQueries
import Sds.Proofs.Glue
import Sds.Proofs.Glue2
import Sds.Proofs.Sparse2


namespace Sds
open Outcome

/-! ### C13: `MappedOption` over a file that was cut short -/

/-- the length word of a present value was read, and the inner constructor (run at `offset + 1`) refuses:
the option view is refused with the same fault -/
theorem option_cut (m : Mode) (inner : Array Word → Nat → Outcome View) (file : Array Word)
    (pre rest : List Word) (dl : Nat) (e : Fault)
    (hf : file.toList = pre ++ BitVec.ofNat 64 dl :: rest) (hpos : 0 < dl) (hdl : dl < U64)
    (hsz : pre.length + 1 < U64) (hin : inner file (pre.length + 1) = fault e) :
    View.option m inner file pre.length = fault e := by
  have hsize : file.size = pre.length + (1 + rest.length) := by
    rw [size_eq_of_toList hf]; simp only [List.length_append, List.length_cons]; omega
  have hat : fileAt file pre.length = ok dl := by
    rw [fileAt_of_toList hf, toNat_ofNat64_map hdl]
  unfold View.option
  have h1 : ¬ (pre.length ≥ file.size) := by omega
  rw [if_neg h1, hat]
  simp only [bind_ok]
  rw [if_pos hpos, addM_ok hsz]
  simp only [bind_ok]
  rw [hin]
  rfl

/-- an absent value occupies one element; the only truncation removes it -/
theorem option_none_truncated (m : Mode) {α} (c : Codec α) (inner : Array Word → Nat → Outcome View)
    (pre : List Word) (j : Nat) (hj : j < ((optionC c).ser (none : Option α)).length) :
    View.option m inner (pre ++ ((optionC c).ser (none : Option α)).take j).toArray pre.length =
      fault (.err .eof) := by
  rw [optionC_ser_none] at hj ⊢
  have : j = 0 := by simpa using hj
  subst this
  exact option_refuses m inner _ _ (by simp)

/-- `Option<Vec<u64>>`, value present, file cut anywhere inside the structure (before the length word, right
after it, inside the inner vector) -/
theorem option_vecU64_truncated (m : Mode) (pre : List Word) (a : Array Word) (j : Nat)
    (hj : j < ((optionC vecU64C).ser (some a)).length)
    (hsz : (pre ++ (optionC vecU64C).ser (some a)).length < U64) :
    View.option m (View.slice m 1) (pre ++ ((optionC vecU64C).ser (some a)).take j).toArray pre.length =
      fault (.err .eof) := by
  rw [optionC_ser_some] at hj hsz ⊢
  simp only [List.length_append, List.length_cons, vecU64C_ser_length] at hj hsz
  cases j with
  | zero => exact option_refuses m _ _ _ (by simp)
  | succ j =>
    rw [List.take_succ_cons]
    refine option_cut m _ _ pre ((vecU64C.ser a).take j) (vecU64C.ser a).length _ (by simp)
      (by rw [vecU64C_ser_length]; omega) (by rw [vecU64C_ser_length]; omega) (by omega) ?_
    have e : pre ++ BitVec.ofNat 64 (vecU64C.ser a).length :: (vecU64C.ser a).take j =
        (pre ++ [BitVec.ofNat 64 (vecU64C.ser a).length]) ++ (vecU64C.ser a).take j := by simp
    have := slice_vecU64_truncated m (pre ++ [BitVec.ofNat 64 (vecU64C.ser a).length]) a j
      (by rw [vecU64C_ser_length]; omega)
      (by simp only [List.length_append, List.length_cons, List.length_nil, vecU64C_ser_length]; omega)
    rw [← e] at this
    simpa using this

/-! ### C16: histories with rejected calls = histories of the accepted calls -/

namespace BuildersProofs

/-- the two transcriptions of "one builder call" (Proofs/Builders and Proofs/RL) are the same function -/
theorem applyCall_eq (m : Mode) (b : RLBuilder) (c : RL.BCall) :
    applyCall m b c = RL.applyCall m b c := by
  cases c <;> rfl

/-- the calls of a history that were accepted (the others returned `Err` and were ignored) -/
def rlAccepted (m : Mode) : List RL.BCall → RLBuilder → List RL.BCall
  | [], _ => []
  | c :: cs, b =>
    match applyCall m b c with
    | ok b' => c :: rlAccepted m cs b'
    | fault _ => rlAccepted m cs b

theorem rlAccepted_sublist (m : Mode) : ∀ (cs : List RL.BCall) (b : RLBuilder),
    (rlAccepted m cs b).Sublist cs := by
  intro cs
  induction cs with
  | nil => intro b; exact List.Sublist.slnil
  | cons c cs ih =>
    intro b
    unfold rlAccepted
    cases h : applyCall m b c with
    | ok b' => exact (ih b').cons_cons c
    | fault f => exact (ih b).cons c

/-- a history that ran to completion is the all-accepted history of its accepted calls -/
theorem rlRun_accepted (m : Mode) : ∀ (cs : List RL.BCall) (b b' : RLBuilder),
    rlRun m cs b = ok b' → RL.runBCalls m (rlAccepted m cs b) b = ok b' := by
  intro cs
  induction cs with
  | nil => intro b b' h; exact h
  | cons c cs ih =>
    intro b b' h
    rw [rlRun_cons] at h
    unfold rlAccepted
    cases hc : applyCall m b c with
    | ok b1 =>
      rw [hc] at h
      show RL.runBCalls m (c :: rlAccepted m cs b1) b = ok b'
      unfold RL.runBCalls
      rw [← applyCall_eq, hc]
      exact ih b1 b' h
    | fault f =>
      rw [hc] at h
      cases f with
      | err k => exact ih b b' h
      | panic k => cases h
      | oob => cases h
      | fuel => cases h

theorem argsOk_iff (c : RL.BCall) : argsOk c ↔ RL.callArgsOk c := by
  cases c <;> exact Iff.rfl

end BuildersProofs

/-! ### C03: the builder accepts every run list -/

namespace RL
open RLBuilder

/-- a list of runs `(start, length)` of set bits, in increasing order, each of positive length, none
starting before `pos` or before the end of its predecessor (adjacent runs are allowed), all ending within
the `usize` range -/
def RunsFrom : Nat → List (Nat × Nat) → Prop
  | _, [] => True
  | pos, r :: rs => pos ≤ r.1 ∧ 1 ≤ r.2 ∧ r.1 + r.2 < U64 ∧ RunsFrom (r.1 + r.2) rs

/-- the bits from position `pos` on described by such a list: zeros up to each start, then the run -/
def bitsOfRuns : Nat → List (Nat × Nat) → List Bool
  | _, [] => []
  | pos, r :: rs => List.replicate (r.1 - pos) false ++ List.replicate r.2 true ++ bitsOfRuns (r.1 + r.2) rs

/-- the bit sequence of total length `n` (or the end of the last run, if that is larger) with exactly the
given runs set -/
def runBits (runs : List (Nat × Nat)) (n : Nat) : List Bool :=
  bitsOfRuns 0 runs ++ List.replicate (n - (bitsOfRuns 0 runs).length) false

/-- the builder calls that construct it: one `try_set` per run, then `set_len(n)` -/
def callsOf (runs : List (Nat × Nat)) (n : Nat) : List BCall :=
  runs.map (fun r => BCall.set r.1 r.2) ++ [BCall.setLen n]

theorem callsOf_argsOk (runs : List (Nat × Nat)) (n : Nat) (pos : Nat) (h : RunsFrom pos runs)
    (hn : n < U64) : ∀ c ∈ callsOf runs n, callArgsOk c := by
  induction runs generalizing pos with
  | nil => intro c hc; simp [callsOf] at hc; subst hc; exact hn
  | cons r rs ih =>
    intro c hc
    obtain ⟨_, _, h3, h4⟩ := h
    simp only [callsOf, List.map_cons, List.cons_append, List.mem_cons] at hc
    rcases hc with rfl | hc
    · show r.2 < U64; omega
    · exact ih _ h4 c hc

/-- the end of the last run (`pos` for the empty list) -/
def endOf : Nat → List (Nat × Nat) → Nat
  | pos, [] => pos
  | _, r :: rs => endOf (r.1 + r.2) rs

theorem bitsOfRuns_length (runs : List (Nat × Nat)) : ∀ pos, RunsFrom pos runs →
    pos + (bitsOfRuns pos runs).length = endOf pos runs := by
  induction runs with
  | nil => intro pos _; rfl
  | cons r rs ih =>
    intro pos h
    obtain ⟨h1, _, _, h4⟩ := h
    have := ih _ h4
    simp only [bitsOfRuns, List.length_append, List.length_replicate, endOf]
    omega

/-- the length of `runBits runs n` is `n`, or the end of the last run if that is larger -/
theorem runBits_length (runs : List (Nat × Nat)) (n : Nat) (h : RunsFrom 0 runs) :
    (runBits runs n).length = max n (endOf 0 runs) := by
  have := bitsOfRuns_length runs 0 h
  unfold runBits
  simp only [List.length_append, List.length_replicate]
  omega

theorem foldl_specCall_sets : ∀ (runs : List (Nat × Nat)) (B0 : List Bool), RunsFrom B0.length runs →
    (runs.map (fun r => BCall.set r.1 r.2)).foldl specCall B0 = B0 ++ bitsOfRuns B0.length runs := by
  intro runs
  induction runs with
  | nil => intro B0 _; simp [bitsOfRuns]
  | cons r rs ih =>
    intro B0 h
    obtain ⟨h1, h2, _, h4⟩ := h
    simp only [List.map_cons, List.foldl_cons]
    have e : specCall B0 (BCall.set r.1 r.2) =
        B0 ++ (List.replicate (r.1 - B0.length) false ++ List.replicate r.2 true) := by
      show specStep B0 (r.1, r.2) = _
      unfold specStep
      rw [if_neg (by show ¬ r.2 = 0; omega)]
    have hl : (specCall B0 (BCall.set r.1 r.2)).length = r.1 + r.2 := by
      rw [e]; simp only [List.length_append, List.length_replicate]; omega
    rw [ih _ (by rw [hl]; exact h4), hl, e]
    simp [bitsOfRuns, List.append_assoc]

/-- the bit sequence described by `callsOf runs n` (in the sense of `specCall`, the reference of the
round-trip theorem) is `runBits runs n` -/
theorem callsOf_spec (runs : List (Nat × Nat)) (n : Nat) (h : RunsFrom 0 runs) :
    (callsOf runs n).foldl specCall [] = runBits runs n := by
  unfold callsOf runBits
  rw [List.foldl_append, foldl_specCall_sets runs [] h]
  simp [specCall]

/-- **the builder accepts every run list**: from any builder satisfying the invariant whose length does not
exceed the first start, every `try_set` and the final `set_len` succeed, in both modes -/
theorem runBCalls_accepts (m : Mode) (n : Nat) (hn : n < U64) : ∀ (runs : List (Nat × Nat)) (b : RLBuilder),
    b.Inv → RunsFrom b.len runs → ∃ b', runBCalls m (callsOf runs n) b = ok b' ∧ b'.Inv := by
  intro runs
  induction runs with
  | nil =>
    intro b hi _
    obtain ⟨b', hb', hi', _⟩ := setLen_spec m hi n hn
    refine ⟨b', ?_, hi'⟩
    show (applyCall m b (BCall.setLen n) >>= fun b => runBCalls m [] b) = _
    show (b.setLen m n >>= fun b => runBCalls m [] b) = _
    rw [hb']; rfl
  | cons r rs ih =>
    intro b hi h
    obtain ⟨h1, h2, h3, h4⟩ := h
    obtain ⟨b1, hb1, hi1, _, hne⟩ := (trySet_spec m hi r.1 r.2 (by omega)).2 (by omega)
    obtain ⟨hl1, _⟩ := hne (by omega)
    obtain ⟨b', hb', hi'⟩ := ih b1 hi1 (by rw [hl1]; exact h4)
    refine ⟨b', ?_, hi'⟩
    show (b.trySet m r.1 r.2 >>= fun b => runBCalls m (callsOf rs n) b) = _
    rw [hb1]; exact hb'

/-! #### C11: bit-at-a-time construction describes the bit sequence -/

theorem onesFrom_ge : ∀ (B : List Bool) (s x : Nat), x ∈ onesFrom B s → s ≤ x := by
  intro B
  induction B with
  | nil => intro s x h; simp [onesFrom] at h
  | cons b bs ih =>
    intro s x h
    cases b with
    | true =>
      simp only [onesFrom, List.mem_cons] at h
      rcases h with rfl | h
      · exact Nat.le_refl _
      · have := ih (s + 1) x h; omega
    | false =>
      simp only [onesFrom] at h
      have := ih (s + 1) x h; omega

theorem endOf_ones_le : ∀ (B : List Bool) (s : Nat),
    endOf s ((onesFrom B s).map fun i => (i, 1)) ≤ s + B.length := by
  intro B
  induction B with
  | nil => intro s; simp [onesFrom, endOf]
  | cons b bs ih =>
    intro s
    cases b with
    | true =>
      simp only [onesFrom, List.map_cons, endOf, List.length_cons]
      have := ih (s + 1); omega
    | false =>
      simp only [onesFrom, List.length_cons]
      have h1 := ih (s + 1)
      cases hL : onesFrom bs (s + 1) with
      | nil => simp [endOf]
      | cons a t =>
        rw [hL] at h1
        simp only [List.map_cons, endOf] at h1 ⊢
        omega

/-- one run of length 1 per set position, read from position `s` on, and zeros up to the end: the bits -/
theorem bitsOfRuns_ones : ∀ (B : List Bool) (s : Nat),
    bitsOfRuns s ((onesFrom B s).map fun i => (i, 1)) ++
      List.replicate (s + B.length - endOf s ((onesFrom B s).map fun i => (i, 1))) false = B := by
  intro B
  induction B with
  | nil => intro s; simp [onesFrom, bitsOfRuns, endOf]
  | cons b bs ih =>
    intro s
    cases b with
    | true =>
      have := ih (s + 1)
      simp only [onesFrom, List.map_cons, bitsOfRuns, endOf, List.length_cons, Nat.sub_self,
        List.replicate_zero, List.nil_append, List.replicate_one, List.cons_append]
      rw [show s + (bs.length + 1) = s + 1 + bs.length by omega, this]
    | false =>
      have h1 := ih (s + 1)
      have hge := onesFrom_ge bs (s + 1)
      simp only [onesFrom, List.length_cons]
      cases hL : onesFrom bs (s + 1) with
      | nil =>
        rw [hL] at h1
        simp only [List.map_nil, bitsOfRuns, endOf, List.nil_append] at h1 ⊢
        rw [show s + (bs.length + 1) - s = (s + 1 + bs.length - (s + 1)) + 1 by omega,
          List.replicate_succ, h1]
      | cons a t =>
        rw [hL] at h1
        have ha : s + 1 ≤ a := hge a (by rw [hL]; simp)
        simp only [List.map_cons, bitsOfRuns, endOf] at h1 ⊢
        rw [show a - s = (a - (s + 1)) + 1 by omega, List.replicate_succ]
        rw [show s + (bs.length + 1) = s + 1 + bs.length by omega]
        simp only [List.cons_append, List.append_assoc] at h1 ⊢
        rw [h1]

theorem runsFrom_ones : ∀ (B : List Bool) (s : Nat), s + B.length < U64 →
    RunsFrom s ((onesFrom B s).map fun i => (i, 1)) := by
  intro B
  induction B with
  | nil => intro s _; trivial
  | cons b bs ih =>
    intro s h
    simp only [List.length_cons] at h
    cases b with
    | true =>
      simp only [onesFrom, List.map_cons]
      exact ⟨Nat.le_refl _, Nat.le_refl _, by omega, ih (s + 1) (by omega)⟩
    | false =>
      simp only [onesFrom]
      have h1 := ih (s + 1) (by omega)
      cases hL : onesFrom bs (s + 1) with
      | nil => trivial
      | cons a t =>
        rw [hL] at h1
        obtain ⟨g1, g2, g3, g4⟩ := h1
        exact ⟨by show s ≤ a; have : s + 1 ≤ a := g1; omega, g2, g3, g4⟩

/-- **bit at a time**: one `try_set(i, 1)` per set position of `B`, in order, then `set_len(|B|)`: every call
is accepted and the bit sequence described is `B` -/
theorem bitCalls_spec (B : List Bool) (hB : B.length < U64) :
    RunsFrom 0 ((onesPos B).map fun i => (i, 1)) ∧
    runBits ((onesPos B).map fun i => (i, 1)) B.length = B := by
  refine ⟨runsFrom_ones B 0 (by omega), ?_⟩
  have h := bitsOfRuns_ones B 0
  have hlen := bitsOfRuns_length _ 0 (runsFrom_ones B 0 (by omega))
  unfold runBits onesPos
  rw [Nat.zero_add] at h hlen
  rw [hlen]
  exact h

end RL

/-! ### C11: positions ↔ bits -/

/-- the positions of the ones of any bit list are strictly increasing and below its length -/
theorem onesPos_pairwise (B : List Bool) : (onesPos B).Pairwise (· < ·) := by
  have := onesPos_sorted .ident (RawVec.ofBits B)
  simpa [bitsT, RawVec.bits_ofBits] using this

/-- two strictly increasing lists with the same members are equal -/
theorem pairwise_lt_ext : ∀ (l1 l2 : List Nat), l1.Pairwise (· < ·) → l2.Pairwise (· < ·) →
    (∀ x, x ∈ l1 ↔ x ∈ l2) → l1 = l2 := by
  intro l1
  induction l1 with
  | nil =>
    intro l2 _ _ h
    cases l2 with
    | nil => rfl
    | cons b t => exact absurd ((h b).mpr (by simp)) (by simp)
  | cons a t ih =>
    intro l2 h1 h2 h
    cases l2 with
    | nil => exact absurd ((h a).mp (by simp)) (by simp)
    | cons b u =>
      obtain ⟨ha, ht⟩ := List.pairwise_cons.mp h1
      obtain ⟨hb, hu⟩ := List.pairwise_cons.mp h2
      have hab : a = b := by
        have m1 : a ∈ b :: u := (h a).mp (by simp)
        have m2 : b ∈ a :: t := (h b).mpr (by simp)
        rcases List.mem_cons.mp m1 with e | m1
        · exact e
        · rcases List.mem_cons.mp m2 with e | m2
          · exact e.symm
          · have := hb a m1; have := ha b m2; omega
      subst hab
      congr 1
      apply ih u ht hu
      intro x
      constructor
      · intro hx
        have := (h x).mp (List.mem_cons_of_mem _ hx)
        rcases List.mem_cons.mp this with e | hm
        · subst e; have := ha x hx; omega
        · exact hm
      · intro hx
        have := (h x).mpr (List.mem_cons_of_mem _ hx)
        rcases List.mem_cons.mp this with e | hm
        · subst e; have := hb x hx; omega
        · exact hm

/-- a strictly increasing list of positions below `n` is recovered from its membership bits -/
theorem onesPos_bitsOfSet (P : List Nat) (n : Nat) (hs : P.Pairwise (· < ·)) (hb : ∀ p ∈ P, p < n) :
    onesPos (bitsOfSet P n) = P := by
  apply pairwise_lt_ext _ _ (onesPos_pairwise _) hs
  intro x
  rw [Glue.mem_onesPos]
  unfold bitsOfSet
  by_cases hx : x < n
  · simp [hx]
  · constructor
    · intro h
      rw [List.getElem?_eq_none (by simp; omega)] at h; cases h
    · intro h; exact absurd (hb x h) hx


/-! ### C03 / C07 / C11 / C16: what `From<RLBuilder>` returns

`Built m v bl` describes the vector made of the blocks `bl` once; the layout the run iterator walks over, `RLQ.GoodB`,
the block bound and the document's conformance predicate (Proofs/FormatRL) are read off it.  For an accepted call
history the runs of `bl` are the MAXIMAL runs of the described bits (`build_built`), hence separated by at least one
unset bit: every block holds a set bit, every block but the first also an unset one, there are at most 2^63 blocks, and
the three assertions of `SampleIndex::new` hold (`ofBuilder_ok`). -/

namespace RL
open RunIter RLBuilder SampleIndex RLQ
open Format2 hiding Blocks

/-- the three columns `load` reads back from a samples vector that stores `(cumL, cumS)` per block -/
theorem cols_of_samples (vs : IntVec) (bl : Blocks) (hslen : vs.len = 2 * bl.length)
    (hsm : ∀ i, i < bl.length → (vs.getRaw (2 * i)).toNat = cumL bl i ∧ (vs.getRaw (2 * i + 1)).toNat = cumS bl i) :
    Codec2.bitsCol vs = bitsCol bl ∧ Codec2.onesCol vs = onesCol bl ∧ Codec2.zerosCol vs = zerosCol bl := by
  have hl2 : vs.len / 2 = bl.length := by omega
  refine ⟨?_, ?_, ?_⟩
  · unfold Codec2.bitsCol bitsCol
    rw [hl2]
    exact List.map_congr_left (fun i hi => (hsm i (List.mem_range.mp hi)).2)
  · unfold Codec2.onesCol onesCol
    rw [hl2]
    exact List.map_congr_left (fun i hi => (hsm i (List.mem_range.mp hi)).1)
  · unfold Codec2.zerosCol zerosCol
    rw [hl2]
    exact List.map_congr_left (fun i hi => by
      have := hsm i (List.mem_range.mp hi)
      rw [this.1, this.2])

/-- **`v` is the vector `From<RLBuilder>` makes of the blocks `bl`** (`m`: the mode the three indexes were built in):
the data are the codes of the blocks, all but the last padded with `0` to 64 units, a block being closed only when the
next run does not fit; the samples are the prefix sums `(ones, bits)` of `bl`, packed with the bit length of the last
bits-sample; the indexes are `SampleIndex::new` of the three columns -/
structure Built (m : Mode) (v : RL) (bl : Blocks) : Prop where
  len_lt : v.len < U64
  ones : v.ones = lens bl.flatten
  span_le : span bl.flatten ≤ v.len
  valid : ∀ blk ∈ bl, blk ≠ [] ∧ BlockOK blk
  nofit : NoFit bl
  data_w : v.data.width = 4
  data : v.data.items = padLast bl
  smp_w : v.samples.width = bitLen (BitVec.ofNat 64 (cumS bl (bl.length - 1)))
  smp_len : v.samples.len = 2 * bl.length
  smp : ∀ i, i < bl.length →
    (v.samples.getRaw (2 * i)).toNat = cumL bl i ∧ (v.samples.getRaw (2 * i + 1)).toNat = cumS bl i
  rank_idx : SampleIndex.new m (bitsCol bl) v.len = ok v.rankIndex
  sel_idx : SampleIndex.new m (onesCol bl) v.ones = ok v.selectIndex
  zero_idx : SampleIndex.new m (zerosCol bl) (v.len - v.ones) = ok v.selectZeroIndex

/-- **`From<RLBuilder>`, once**: whenever it succeeds on a builder satisfying the invariants, the result is `Built` of
the flushed runs followed by the pending one (`Codec2.ofBuilder_reads` for the fields, `flush_blocks` for the blocks) -/
theorem ofBuilder_built (m : Mode) {b : RLBuilder} {v : RL} {done : Blocks} {cur : List (Nat × Nat)}
    (hi : b.Inv) (hd : PInv b done cur) (h : ofBuilder m b = ok v) :
    ∃ bl, Built m v bl ∧ bl.flatten = done.flatten ++ cur ++ pendRel b ∧ v.len = b.len ∧ v.ones = b.ones := by
  obtain ⟨b1, e, hi1, _, r⟩ := Codec2.ofBuilder_reads m hi hd.dinv.samplesOk h
  obtain ⟨b1', bl, e', _, l1, l2, hfl, hvalid, hnf, hsl, hitems, hones, hspan⟩ := flush_blocks m hi hd
  rw [e] at e'; cases e'
  have hsz : b1.samples.size = bl.length := by
    rw [← Array.length_toList, hsl, List.length_map, List.length_range]
  have hget : ∀ j (hj : j < b1.samples.size), b1.samples[j] = (cumL bl j, cumS bl j) := fun j hj => by
    rw [← Array.getElem_toList]; simp only [hsl, List.getElem_map, List.getElem_range]; rfl
  have hsmp : ∀ i, i < bl.length →
      (v.samples.getRaw (2 * i)).toNat = cumL bl i ∧ (v.samples.getRaw (2 * i + 1)).toNat = cumS bl i := fun i hib => by
    have := r.smp i (by omega)
    rw [hget i (by omega)] at this
    exact this
  have hsl2 : v.samples.len = 2 * bl.length := by rw [r.smp_len, hsz]
  obtain ⟨c1, c2, c3⟩ := cols_of_samples v.samples bl hsl2 hsmp
  have hlb : Codec2.lastBits b1 = cumS bl (bl.length - 1) := by
    unfold Codec2.lastBits
    have hl : b1.samples.toList.length = bl.length := by rw [Array.length_toList (xs := b1.samples), hsz]
    rw [List.getLast?_eq_getElem?, hl]
    by_cases h0 : bl.length = 0
    · rw [List.getElem?_eq_none (by omega), List.eq_nil_of_length_eq_zero h0]; rfl
    · rw [List.getElem?_eq_getElem (by omega), Array.getElem_toList, hget _ (by omega)]; rfl
  exact ⟨bl, ⟨r.len ▸ hi1.len_lt, r.ones.trans hones, r.len ▸ hspan, hvalid, hnf, r.data ▸ hi1.data_w,
    r.data ▸ hitems, r.smp_w.trans (by rw [hlb]), hsl2, hsmp, c1 ▸ r.rank_idx, c2 ▸ r.sel_idx, c3 ▸ r.zero_idx⟩,
    hfl, r.len.trans l1, r.ones.trans l2⟩

variable {m : Mode} {v : RL} {bl : Blocks}

theorem Built.blocks (g : Built m v bl) : v.blocks = bl.length := by unfold RL.blocks; rw [g.smp_len]; omega

theorem Built.units (g : Built m v bl) (i : Nat) (hi : i < bl.length) :
    ∃ tail, v.data.items.drop (64 * i) = unitsOf bl[i] ++ tail := by
  rw [g.data]; exact padLast_units bl (fun blk hb => (g.valid blk hb).2.2) i hi

theorem Built.data_le (g : Built m v bl) : v.data.len ≤ 64 * bl.length := by
  rw [← IntVec.items_length, g.data]; exact padLast_length_le bl (fun blk hb => (g.valid blk hb).2.2)

/-- at most 2^63 blocks, when every run but the first follows an unset bit: every block holds a run -/
theorem Built.blocks_bound (g : Built m v bl) (hgap : ∀ q ∈ bl.flatten.tail, 1 ≤ q.1) :
    2 * bl.length ≤ v.len + 1 ∧ bl.length + 8 < U64 := by
  have := two_blocks_le_span (fun blk h => ⟨(g.valid blk h).1, (g.valid blk h).2.1⟩) hgap
  have := g.span_le
  have hlt := g.len_lt
  rw [U64_eq] at hlt ⊢; omega

/-- the indexes are valid, so the queries answer (`RLQ.GoodB`) -/
theorem Built.goodB (g : Built m v bl) (hgap : ∀ q ∈ bl.flatten.tail, 1 ≤ q.1) : GoodB v bl := by
  obtain ⟨ri, si, zi, n1, n2, n3, hv, ht⟩ := cols_index m bl g.valid (g.blocks_bound hgap).2 g.ones.symm g.span_le
    g.len_lt hgap
  cases n1.symm.trans g.rank_idx; cases n2.symm.trans g.sel_idx; cases n3.symm.trans g.zero_idx
  exact ⟨g.len_lt, g.smp_len, g.valid, g.units, g.data_le, fun i hi => (g.smp i hi).1, fun i hi => (g.smp i hi).2,
    g.ones, g.span_le, fun h => (hv h).1, fun h => (hv h).2.1, fun h => (hv h).2.2, ht⟩

/-- **a converted history**: `Built` of blocks whose runs are the maximal runs of the described bits -/
theorem build_built (m : Mode) (calls : List BCall) (hc : ∀ c ∈ calls, callArgsOk c) (b : RLBuilder)
    (hb : runBCalls m calls {} = ok b) (v : RL) (hv : ofBuilder m b = ok v) :
    ∃ bl, Built m v bl ∧ absRuns 0 bl.flatten = maximalRuns (calls.foldl specCall []) ∧
      v.len = (calls.foldl specCall []).length ∧ v.ones = (calls.foldl specCall []).count true := by
  obtain ⟨done, cur, k⟩ := runBCalls_hist m calls hc b hb
  obtain ⟨bl, g, hfl, e1, e2⟩ := ofBuilder_built m k.inv k.pinv hv
  exact ⟨bl, g, by rw [hfl]; exact k.maximalRuns_eq, e1.trans k.canon.len.symm, e2.trans k.canon.ones.symm⟩

/-- maximal runs are separated: every run but the first follows an unset bit -/
theorem gaps_of_maximal {rel : List (Nat × Nat)} {B : List Bool} (h : absRuns 0 rel = maximalRuns B) :
    ∀ q ∈ rel.tail, 1 ≤ q.1 :=
  sep_gap_tail' rel (h ▸ maximalRuns_sep B)

/-- **the block-count condition always holds** for a converted history -/
theorem blocks_bound (m : Mode) (calls : List BCall) (hc : ∀ c ∈ calls, callArgsOk c) (b : RLBuilder)
    (hb : runBCalls m calls {} = ok b) (v : RL) (hv : ofBuilder m b = ok v) :
    2 * v.blocks ≤ v.len + 1 ∧ v.blocks + 8 < U64 := by
  obtain ⟨bl, g, hruns, _⟩ := build_built m calls hc b hb v hv
  rw [g.blocks]; exact g.blocks_bound (gaps_of_maximal hruns)

/-- **`From<RLBuilder>` never faults on a builder reached by accepted calls**: the three sample columns of the flushed
builder are accepted by `SampleIndex::new` (`cols_index`), and no subtraction wraps -/
theorem ofBuilder_ok (m : Mode) {b : RLBuilder} {B : List Bool} {done : Blocks} {cur : List (Nat × Nat)}
    (k : Hist b B done cur) : ∃ v, ofBuilder m b = ok v := by
  obtain ⟨b1, bl, e, hi1, _, _, hfl, hvalid, _, hsl, _, hones, hspan⟩ := flush_blocks m k.inv k.pinv
  have hgap := gaps_of_maximal (rel := bl.flatten) (by rw [hfl]; exact k.maximalRuns_eq)
  have hlt := hi1.len_lt
  have hbl : bl.length + 8 < U64 := by
    have := two_blocks_le_span (fun blk h => ⟨(hvalid blk h).1, (hvalid blk h).2.1⟩) hgap
    rw [U64_eq] at hlt ⊢; omega
  obtain ⟨ri, si, zi, n1, n2, n3, _⟩ := cols_index m bl hvalid hbl hones.symm hspan hlt hgap
  have hzs : b1.samples.toList.mapM (fun p => subM m p.2 p.1) = ok (zerosCol bl) := by
    rw [mapM_ok _ (fun p => p.2 - p.1), hsl, List.map_map]; rfl
    intro p hp
    rw [hsl] at hp
    obtain ⟨i, _, rfl⟩ := List.mem_map.mp hp
    exact subM_ok (cumL_le_cumS bl i)
  have hzero : b1.countZeros m = ok (b1.len - b1.ones) := by
    unfold RLBuilder.countZeros; exact subM_ok hi1.ones_le
  have c1 : b1.samples.toList.map (·.2) = bitsCol bl := by rw [hsl, List.map_map]; rfl
  have c2 : b1.samples.toList.map (·.1) = onesCol bl := by rw [hsl, List.map_map]; rfl
  unfold ofBuilder
  rw [e]
  simp only [bind_ok, hzs, hzero]
  rw [c1, c2, n1, bind_ok, n2, bind_ok, n3, bind_ok,
    IntVec.withCapacity_ok _ _ (bitLen_spec_int _).1 (bitLen_spec_int _).2.1]
  exact ⟨_, rfl⟩

/-- **round trip with `set_len`**: build with any sequence of accepted `try_set` / `set_len` / `set_bit`
calls, convert, iterate: the iterator yields exactly `maximalRuns` of the described bit sequence, in both
arithmetic modes; `len`, `ones` and the final position agree with it -/
theorem build_iterate_calls (m : Mode) (calls : List BCall) (hc : ∀ c ∈ calls, callArgsOk c)
    (b : RLBuilder) (hb : runBCalls m calls {} = ok b) (v : RL) (hv : ofBuilder m b = ok v) :
    let B := calls.foldl specCall []
    v.len = B.length ∧ v.ones = B.count true ∧
    ∃ it0 e endPos, v.runIter = ok it0 ∧
      collect m v ((maximalRuns B).length + 1) it0 = ok (withPos 0 (maximalRuns B), e) ∧
      e.pos = (B.count true, endPos) ∧ endPos ≤ B.length := by
  obtain ⟨bl, g, hruns, e1, e2⟩ := build_built m calls hc b hb v hv
  have hlt := g.len_lt; have hsp := g.span_le; have hll := lens_le_span bl.flatten
  obtain ⟨it0, e, r1, r2, r3⟩ := runIter_collect m v bl ((g.goodB (gaps_of_maximal hruns)).layout 0 (Nat.zero_le _))
    (by omega) (by omega)
  refine ⟨e1, e2, it0, e, span bl.flatten, r1, ?_, by rw [r3, ← g.ones, e2], by omega⟩
  rw [← hruns, absRuns_length]; exact r2

/-- **round trip (§7)**: build with any sequence of `try_set` calls (see `build_iterate_calls` for
histories with `set_len`), convert, iterate:
the iterator yields exactly `maximalRuns` of the described bit sequence, in both arithmetic modes, with
`pos = (ones so far, end of run)` after every run; `len`, `ones` and the final position agree with it.
The success of the conversion is a hypothesis here; that it never fails for an accepted history is
`ofBuilder_ok`; with the code as first written it could fail: see `zeroIdx_*` in Proofs/RL. -/
theorem build_iterate (m : Mode) (calls : List (Nat × Nat)) (hc : ∀ c ∈ calls, c.2 < U64)
    (b : RLBuilder) (hb : runCalls m calls {} = ok b) (v : RL) (hv : ofBuilder m b = ok v) :
    let B := calls.foldl specStep []
    v.len = B.length ∧ v.ones = B.count true ∧
    ∃ it0 e endPos, v.runIter = ok it0 ∧
      collect m v ((maximalRuns B).length + 1) it0 = ok (withPos 0 (maximalRuns B), e) ∧
      e.pos = (B.count true, endPos) ∧ endPos ≤ B.length := by
  have := build_iterate_calls m (calls.map fun c => .set c.1 c.2)
    (fun c' h => by obtain ⟨c, hm, rfl⟩ := List.mem_map.1 h; exact hc c hm) b
    (by rw [← runCalls_eq]; exact hb) v hv
  rw [List.foldl_map] at this
  exact this

/-- **round trip, unconditional**: any accepted call history, converted, iterated -/
theorem build_iterate_calls_total (m : Mode) (calls : List BCall) (hc : ∀ c ∈ calls, callArgsOk c)
    (b : RLBuilder) (hb : runBCalls m calls {} = ok b) :
    ∃ v, ofBuilder m b = ok v ∧
      v.len = (calls.foldl specCall []).length ∧ v.ones = (calls.foldl specCall []).count true ∧
      ∃ it0 e endPos, v.runIter = ok it0 ∧
        collect m v ((maximalRuns (calls.foldl specCall [])).length + 1) it0 =
          ok (withPos 0 (maximalRuns (calls.foldl specCall [])), e) ∧
        e.pos = ((calls.foldl specCall []).count true, endPos) ∧
        endPos ≤ (calls.foldl specCall []).length := by
  obtain ⟨_, _, k⟩ := runBCalls_hist m calls hc b hb
  obtain ⟨v, hv⟩ := ofBuilder_ok m k
  exact ⟨v, hv, build_iterate_calls m calls hc b hb v hv⟩

end RL

namespace BuildersProofs

/-- **any history of run-length builder calls, rejected ones included, then `From<RLBuilder>`, then
`run_iter`**: the history runs to completion (no panic, either mode), and whenever the conversion succeeds
the vector's `len` / `count_ones` / maximal runs are those of the bit sequence described by the accepted
calls -/
theorem rl_history_roundtrip (m : Mode) (cs : List RL.BCall) (hargs : ∀ c ∈ cs, argsOk c) :
    ∃ b, rlRun m cs {} = ok b ∧ RlInv b ∧
      ∀ v, RL.ofBuilder m b = ok v →
        v.len = ((rlAccepted m cs {}).foldl RL.specCall []).length ∧
        v.ones = ((rlAccepted m cs {}).foldl RL.specCall []).count true ∧
        ∃ it0 e endPos, v.runIter = ok it0 ∧
          RunIter.collect m v ((maximalRuns ((rlAccepted m cs {}).foldl RL.specCall [])).length + 1) it0 =
            ok (RunIter.withPos 0 (maximalRuns ((rlAccepted m cs {}).foldl RL.specCall [])), e) ∧
          e.pos = (((rlAccepted m cs {}).foldl RL.specCall []).count true, endPos) ∧
          endPos ≤ ((rlAccepted m cs {}).foldl RL.specCall []).length := by
  obtain ⟨b, hb, hi⟩ := rlRun_fixed_default m cs hargs
  refine ⟨b, hb, hi, fun v hv => ?_⟩
  have hacc := rlRun_accepted m cs {} b hb
  have hok : ∀ c ∈ rlAccepted m cs {}, RL.callArgsOk c := fun c hc =>
    (argsOk_iff c).mp (hargs c ((rlAccepted_sublist m cs {}).subset hc))
  exact RL.build_iterate_calls m _ hok b hacc v hv

/-- **any history, refused calls included, is converted successfully**, and the vector is that of the
accepted calls -/
theorem rl_history_roundtrip_total (m : Mode) (cs : List RL.BCall) (hargs : ∀ c ∈ cs, argsOk c) :
    ∃ b v, rlRun m cs {} = ok b ∧ RlInv b ∧ RL.ofBuilder m b = ok v ∧
      v.len = ((rlAccepted m cs {}).foldl RL.specCall []).length ∧
      v.ones = ((rlAccepted m cs {}).foldl RL.specCall []).count true ∧
      ∃ it0 e endPos, v.runIter = ok it0 ∧
        RunIter.collect m v ((maximalRuns ((rlAccepted m cs {}).foldl RL.specCall [])).length + 1) it0 =
          ok (RunIter.withPos 0 (maximalRuns ((rlAccepted m cs {}).foldl RL.specCall [])), e) ∧
        e.pos = (((rlAccepted m cs {}).foldl RL.specCall []).count true, endPos) ∧
        endPos ≤ ((rlAccepted m cs {}).foldl RL.specCall []).length := by
  obtain ⟨b, hb, hi⟩ := rlRun_fixed_default m cs hargs
  have hacc := rlRun_accepted m cs {} b hb
  have hok : ∀ c ∈ rlAccepted m cs {}, RL.callArgsOk c := fun c hc =>
    (argsOk_iff c).mp (hargs c ((rlAccepted_sublist m cs {}).subset hc))
  obtain ⟨v, hv, h⟩ := RL.build_iterate_calls_total m _ hok b hacc
  exact ⟨b, v, hb, hi, hv, h⟩

end BuildersProofs

end Sds
