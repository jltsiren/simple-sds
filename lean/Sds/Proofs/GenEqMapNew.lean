/-
Proofs/GenEqMapNew: the constructors `new`, `map_offset`, `map_len` of the memory-mapped views (`MappedSlice<T>`,
`MappedBytes`, `MappedStr`, `MappedOption<T>`, `RawVectorMapper`, `IntVectorMapper`), as TRANSLATED statement by statement from the source
(Generated/FnsMapNew.lean), against the hand-written `View.slice / bytes / str / option / raw / int` of Model/Mapper.lean.

Every `new`, translated or modelled, opens with the range test of `offset` and the read of the header element there:
`mn_header file offset body` (`mn_header_code`, `mn_header_model` recognise the two spellings).  Each translated `new`
is first put in that form (`mn_slice_new`, `mn_bytes_new`, `mn_option_new`, `mn_raw_new`, `mn_int_new`); what a success
or a fault says is then read off the form (`mn_header_ok / _fault`, `Outcome.bind_eq_ok / _fault`).  `MappedSlice::new` and
`MappedBytes::new` differ only in how the payload length is computed from the header: both are `mn_payload`.

* UNCONDITIONAL, both directions (same tests, same mode-checked arithmetic in the same order, hence the same faults):
  `mapped_slice_new_eq` (the record is the view without `mapLen`), `mapped_slice_view_eq` (the view is `mn_sliceView k`
  of the record);
  `mapped_bytes_new_eq`, `mapped_bytes_view_eq` likewise (`mn_bytesView`, `mapLen = (len + 7) / 8 + 1`);
  `raw_mapper_view_eq`   : View.raw … = (gen_RawVectorMapper_new …).bind (mn_rawView m)   where `mn_rawView` performs
     the `- 1` of `map_offset()`; `raw_mapper_new_eq`: the record from the view and `(offset + 1) % 2^64`
     (`raw_mapper_new_eq_of_size`: `v.offset + 1` when `file.size < 2^64`).
* `int_mapper_view_eq : View.int … = (gen_IntVectorMapper_new …).bind (mn_intView m)` under
  `hoff : m = .wrapping → offset < file.size → offset + 1 < U64` (corollaries `_of_size`: `file.size < U64`,
  `_checked`: none).  The code reads the width at the computed (wrapped) `offset + 1`, the model at the exact one;
  sharp only on a map of `2^64` elements (`int_mapper_view_ne_huge`), which no Rust slice can be: not a divergence.
  `int_mapper_new_eq`: the record is (view's len, width, the `RawVectorMapper` at `offset + 2`) — the model's view
  forgets the bit length of the raw vector, so the record is not a function of the view alone.
* faults of the code: `mapped_slice_new_fault`, `mapped_bytes_new_fault`, `raw_mapper_new_fault`,
  `int_mapper_new_fault`: only `err eof` and (with overflow checks) `panic overflow`; never `panic index`.
* `map_offset()`: for EVERY record it is the offset of the record's view (`raw_mapper_map_offset_eq`,
  `int_mapper_map_offset_eq`), and after `new` it is the model view's `offset`, which is the offset passed to `new`
  when that is a `usize` (`*_map_of_view`; the subtractions never fault after a successful `new`).
* `map_len()` vs the model's `mapLen` (computed in `Nat`): for EVERY record `map_len() = ok mapLen ↔ mapLen < U64`
  (`mapped_slice_map_len_iff`, `mapped_bytes_map_len_iff` (`len + 7 < U64`), `raw_mapper_map_len_iff`,
  `int_mapper_map_len_iff`).  After a successful `new` with overflow checks this always holds
  (`*_new_checked_bound`: the view lies inside the file and `offset + mapLen < U64`); so `*_map_len_of_new` need
  `m = .checked ∨ (the bound)`.  WITHOUT overflow checks the bounds test of `new` itself wraps
  (`offset + 1 + len * T::elements()`): a header of `2^64 - 1` (or `2^63` for two-element items) is accepted, the code's
  `map_len()` wraps to a small number and the model's `mapLen` is the unbounded one: `*_map_len_wrapping_ne`.
  On these inputs both sides of the `new` equations agree (they are unconditional); this is a property of the source
  (release builds accept such a header and build a slice of that length), not a translation or model divergence.
-/
import Sds.Model.Mapper
import Sds.Generated.FnsMapNew
import Sds.Proofs.GenFns

set_option linter.unusedVariables false

namespace Sds.GenEq
open Sds Outcome Generated

theorem mn_obind_fault {α β : Type} (e : Fault) (f : α → Outcome β) : (fault e : Outcome α).bind f = fault e := rfl
theorem mn_bind_def {α β : Type} (x : Outcome α) (f : α → Outcome β) : (x >>= f) = x.bind f := rfl

theorem mn_bind_eq_fault {α β : Type} {x : Outcome α} {f : α → Outcome β} {e : Fault} (h : x.bind f = fault e) :
    x = fault e ∨ ∃ a, x = ok a ∧ f a = fault e := by
  cases x with
  | fault e' => injection h with h; exact Or.inl (congrArg fault h)
  | ok a => exact Or.inr ⟨a, rfl, h⟩

theorem mn_fileAt_lt {file : Array Word} {i : Nat} (h : i < file.size) : fileAt file i = ok (rd file i).toNat := by
  unfold fileAt rd
  rw [Array.getElem?_eq_getElem h]; rfl

/-- the code reads the element and converts it, the model reads the converted element: same outcome at every index -/
theorem mn_getC_fileAt {β : Type} (file : Array Word) (i : Nat) (f : Nat → Outcome β) :
    (getC file i).bind (fun w => f w.toNat) = (fileAt file i).bind f := by
  by_cases h : i < file.size
  · rw [getC_ok h, mn_fileAt_lt h]; rfl
  · unfold fileAt getC
    rw [Array.getElem?_eq_none (Nat.le_of_not_lt h), dif_neg h]; rfl

/-- How every `new` opens: `offset` must lie in the file, and what follows depends on the header element there. -/
def mn_header {α : Type} (file : Array Word) (offset : Nat) (body : Nat → Outcome α) : Outcome α :=
  if offset < file.size then body (rd file offset).toNat else fault (.err .eof)

theorem mn_header_code {α : Type} (file : Array Word) (offset : Nat) (body : Nat → Outcome α) :
    mn_header file offset body
      = if offset ≥ file.size then fault (.err .eof) else (getC file offset).bind (fun t => body t.toNat) := by
  unfold mn_header
  by_cases h : offset < file.size
  · rw [if_pos h, if_neg (Nat.not_le_of_lt h), getC_ok h]; rfl
  · rw [if_neg h, if_pos (Nat.le_of_not_lt h)]

theorem mn_header_model {α : Type} (file : Array Word) (offset : Nat) (body : Nat → Outcome α) :
    mn_header file offset body = if offset ≥ file.size then fault (.err .eof) else (fileAt file offset).bind body := by
  rw [← mn_getC_fileAt]; exact mn_header_code file offset body

theorem mn_header_bind {α β : Type} (file : Array Word) (offset : Nat) (body : Nat → Outcome α) (g : α → Outcome β) :
    (mn_header file offset body).bind g = mn_header file offset (fun len => (body len).bind g) := by
  unfold mn_header
  split <;> rfl

theorem mn_header_ok {α : Type} {file : Array Word} {offset : Nat} {body : Nat → Outcome α} {r : α}
    (h : mn_header file offset body = ok r) : offset < file.size ∧ body (rd file offset).toNat = ok r := by
  unfold mn_header at h
  split at h
  · next hlt => exact ⟨hlt, h⟩
  · cases h

theorem mn_header_fault {α : Type} {file : Array Word} {offset : Nat} {body : Nat → Outcome α} {f : Fault}
    (h : mn_header file offset body = fault f) : f = .err .eof ∨ body (rd file offset).toNat = fault f := by
  unfold mn_header at h
  split at h
  · exact Or.inr h
  · injection h with h; exact Or.inl h.symm


/-! #### what a successful or a failed `addM` / `mulM` / `subM` says -/

theorem mn_addM_inv {m : Mode} {a b c : Nat} (h : addM m a b = ok c) :
    c = (a + b) % U64 ∧ (m = .checked → a + b < U64) := by
  unfold addM at h
  split at h
  · next hlt => injection h with h; subst h; exact ⟨(Nat.mod_eq_of_lt hlt).symm, fun _ => hlt⟩
  · cases m with
    | checked => cases h
    | wrapping => injection h with h; exact ⟨h.symm, fun hm => by cases hm⟩

theorem mn_addM_mod {m : Mode} {a b c : Nat} (h : addM m a b = ok c) : c = (a + b) % U64 := (mn_addM_inv h).1

theorem mn_addM_checked {a b c : Nat} (h : addM .checked a b = ok c) : a + b < U64 ∧ c = a + b :=
  have hlt := (mn_addM_inv h).2 rfl
  ⟨hlt, (mn_addM_mod h).trans (Nat.mod_eq_of_lt hlt)⟩

theorem mn_mulM_inv {m : Mode} {a b c : Nat} (h : mulM m a b = ok c) :
    c = (a * b) % U64 ∧ (m = .checked → a * b < U64) := by
  unfold mulM at h
  split at h
  · next hlt => injection h with h; subst h; exact ⟨(Nat.mod_eq_of_lt hlt).symm, fun _ => hlt⟩
  · cases m with
    | checked => cases h
    | wrapping => injection h with h; exact ⟨h.symm, fun hm => by cases hm⟩

theorem mn_mulM_lt {m : Mode} {a b c : Nat} (h : mulM m a b = ok c) : c < U64 :=
  (mn_mulM_inv h).1 ▸ Nat.mod_lt _ (by decide)

theorem mn_mulM_checked {a b c : Nat} (h : mulM .checked a b = ok c) : a * b < U64 ∧ c = a * b :=
  have hlt := (mn_mulM_inv h).2 rfl
  ⟨hlt, (mn_mulM_inv h).1.trans (Nat.mod_eq_of_lt hlt)⟩

theorem mn_addM_exact_iff (m : Mode) (a b : Nat) : addM m a b = ok (a + b) ↔ a + b < U64 :=
  ⟨fun h => addM_lt h, fun h => addM_ok h⟩

theorem mn_mulM_exact_iff (m : Mode) (a b : Nat) : mulM m a b = ok (a * b) ↔ a * b < U64 :=
  ⟨fun h => mn_mulM_lt h, fun h => mulM_ok h⟩

theorem mn_addM_fault {m : Mode} {a b : Nat} {f : Fault} (h : addM m a b = fault f) :
    f = .panic .overflow ∧ m = .checked := by
  unfold addM at h
  split at h
  · cases h
  · cases m with
    | checked => injection h with h; exact ⟨h.symm, rfl⟩
    | wrapping => cases h

theorem mn_mulM_fault {m : Mode} {a b : Nat} {f : Fault} (h : mulM m a b = fault f) :
    f = .panic .overflow ∧ m = .checked := by
  unfold mulM at h
  split at h
  · cases h
  · cases m with
    | checked => injection h with h; exact ⟨h.symm, rfl⟩
    | wrapping => cases h

theorem mn_subM_wrapping (a b : Nat) : ∃ d, subM .wrapping a b = ok d := subM_wrapping_ok a b

/-- `c - b` after `c = a + b`, both in the mode's arithmetic: the subtraction never faults, it gives back `a` when `a`
is a `usize` (a wrapped sum unwraps), and `c` is the sum modulo `2^64` -/
theorem mn_sub_of_add {m : Mode} {a b c : Nat} (hb : b < U64) (h : addM m a b = ok c) :
    ∃ d, subM m c b = ok d ∧ (a < U64 → d = a) ∧ c = (a + b) % U64 := by
  have hc := mn_addM_mod h
  by_cases hlt : a + b < U64
  · rw [addM_ok hlt] at h; injection h with h; subst h
    exact ⟨a, by rw [subM_ok (Nat.le_add_left b a), Nat.add_sub_cancel], fun _ => rfl, hc⟩
  · cases m with
    | checked => exact absurd (mn_addM_checked h).1 hlt
    | wrapping =>
      obtain ⟨d, hd⟩ := mn_subM_wrapping c b
      refine ⟨d, hd, fun ha => ?_, hc⟩
      -- the sum wrapped once: `c = a + b - 2^64 < b`, and `c + 2^64 - b = a`
      have hge := Nat.le_of_not_lt hlt
      have hw : a + b - U64 < U64 := Nat.sub_lt_left_of_lt_add hge (Nat.add_lt_add ha hb)
      have hb' : a + b - U64 < b := Nat.sub_lt_left_of_lt_add hge (Nat.add_lt_add_right ha b)
      unfold subM at hd
      rw [hc, Nat.mod_eq_sub_mod hge, Nat.mod_eq_of_lt hw, if_neg (Nat.not_le_of_lt hb'), Nat.sub_add_cancel hge,
        Nat.add_sub_cancel, Nat.mod_eq_of_lt ha] at hd
      exact (Outcome.ok.inj hd).symm

theorem mn_bytesToWords_ok {m : Mode} {n b : Nat} (h : bytesToWords m n = ok b) :
    ∃ a, addM m n 7 = ok a ∧ b = a / 8 := by
  obtain ⟨a, h1, h⟩ := Outcome.bind_eq_ok h
  injection h with h
  exact ⟨a, h1, h.symm⟩

theorem mn_bytesToWords_fault {m : Mode} {n : Nat} {f : Fault} (h : bytesToWords m n = fault f) :
    f = .panic .overflow ∧ m = .checked := by
  rcases mn_bind_eq_fault h with h | ⟨a, _, h⟩
  · exact mn_addM_fault h
  · cases h

/-! The shape of every `map_len()`: the inner length `X`, plus a constant, in the mode's arithmetic. -/

theorem mn_chain_ok {m : Mode} {X : Outcome Nat} {n c : Nat} (hX : X = ok n) (h : n + c < U64) :
    (X >>= fun t => addM m t c) = ok (n + c) := by
  rw [hX]; exact addM_ok h

/-- if the inner length is exact whenever representable, so is the outer one -/
theorem mn_chain_add (m : Mode) (X : Outcome Nat) (n c : Nat) (hX : n < U64 → X = ok n) :
    (X >>= fun t => addM m t c) = ok (n + c) ↔ n + c < U64 :=
  ⟨fun h => let ⟨_, _, h⟩ := Outcome.bind_eq_ok h; addM_lt h,
   fun h => mn_chain_ok (hX (Nat.lt_of_le_of_lt (Nat.le_add_right n c) h)) h⟩

/-! ### `MappedSlice::new`, `MappedBytes::new` -/

/-- What the two have in common after the header `len`: the payload takes `words len` elements after the header, and its
end `offset + 1 + words len`, all in the mode's arithmetic, must not lie beyond the file; `n len` is the exact number
of elements. -/
def mn_payload (m : Mode) (words : Nat → Outcome Nat) (n : Nat → Nat) (file : Array Word) (offset : Nat) :
    Outcome MappedSliceR :=
  mn_header file offset fun len =>
    (addM m offset 1).bind fun a => (words len).bind fun b => (addM m a b).bind fun e =>
      if e > file.size then fault (.err .eof)
      else ok ⟨(len, (file.toList.drop (offset + 1)).take (n len)), offset⟩

theorem mn_payload_bind {β : Type} (m : Mode) (words : Nat → Outcome Nat) (n : Nat → Nat) (file : Array Word)
    (offset : Nat) (g : MappedSliceR → Outcome β) :
    (mn_payload m words n file offset).bind g = mn_header file offset fun len =>
      (addM m offset 1).bind fun a => (words len).bind fun b => (addM m a b).bind fun e =>
        if e > file.size then fault (.err .eof)
        else g ⟨(len, (file.toList.drop (offset + 1)).take (n len)), offset⟩ := by
  unfold mn_payload
  simp only [mn_header_bind, obind_assoc, apply_ite (Outcome.bind · g), mn_obind_fault, obind_ok]

theorem mn_payload_ok {m : Mode} {words : Nat → Outcome Nat} {n : Nat → Nat} {file : Array Word} {offset : Nat}
    {r : MappedSliceR} (h : mn_payload m words n file offset = ok r) :
    offset < file.size ∧ r.offset = offset ∧ r.data.1 = (rd file offset).toNat ∧
    r.data.2 = (file.toList.drop (offset + 1)).take (n r.data.1) ∧
    ∃ a b e, addM m offset 1 = ok a ∧ words r.data.1 = ok b ∧ addM m a b = ok e ∧ e ≤ file.size := by
  obtain ⟨hlt, h⟩ := mn_header_ok h
  obtain ⟨a, h1, h⟩ := Outcome.bind_eq_ok h
  obtain ⟨b, h2, h⟩ := Outcome.bind_eq_ok h
  obtain ⟨e, h3, h⟩ := Outcome.bind_eq_ok h
  split at h
  · cases h
  · next h4 =>
    injection h with h; subst h
    exact ⟨hlt, rfl, rfl, rfl, a, b, e, h1, h2, h3, Nat.le_of_not_lt h4⟩

/-- with overflow checks the end of the payload was computed exactly -/
theorem mn_payload_checked {words : Nat → Outcome Nat} {n : Nat → Nat} {file : Array Word} {offset : Nat}
    {r : MappedSliceR} (h : mn_payload .checked words n file offset = ok r) :
    ∃ b, words r.data.1 = ok b ∧ r.offset + (b + 1) ≤ file.size ∧ r.offset + (b + 1) < U64 := by
  obtain ⟨_, ho, _, _, a, b, e, h1, h2, h3, h4⟩ := mn_payload_ok h
  obtain ⟨_, rfl⟩ := mn_addM_checked h1
  obtain ⟨hlt, rfl⟩ := mn_addM_checked h3
  rw [Nat.add_assoc, Nat.add_comm 1 b] at h4 hlt
  rw [ho]
  exact ⟨b, h2, h4, hlt⟩

/-- Only `UnexpectedEof` and, with overflow checks, the arithmetic panic: the read `slice[offset]` is guarded. -/
theorem mn_payload_fault {m : Mode} {words : Nat → Outcome Nat} {n : Nat → Nat} {file : Array Word} {offset : Nat}
    {f : Fault} (hw : ∀ len f, words len = fault f → f = .panic .overflow ∧ m = .checked)
    (h : mn_payload m words n file offset = fault f) :
    f = .err .eof ∨ (f = .panic .overflow ∧ m = .checked) := by
  rcases mn_header_fault h with h | h
  · exact Or.inl h
  rcases mn_bind_eq_fault h with h1 | ⟨a, _, h⟩
  · exact Or.inr (mn_addM_fault h1)
  rcases mn_bind_eq_fault h with h2 | ⟨b, _, h⟩
  · exact Or.inr (hw _ _ h2)
  rcases mn_bind_eq_fault h with h3 | ⟨e, _, h⟩
  · exact Or.inr (mn_addM_fault h3)
  split at h
  · injection h with h; exact Or.inl h.symm
  · cases h

theorem mn_slice_new (m : Mode) (k : Nat) (file : Array Word) (offset : Nat) :
    gen_MappedSlice_new m k file offset = mn_payload m (fun len => mulM m len k) (fun len => len * k) file offset := by
  unfold gen_MappedSlice_new mn_payload
  rw [mn_header_code]
  simp only [decide_eq_true_eq]
  rfl

theorem mn_bytes_new (m : Mode) (file : Array Word) (offset : Nat) :
    gen_MappedBytes_new m file offset = mn_payload m (bytesToWords m) (fun len => (len + 7) / 8) file offset := by
  unfold gen_MappedBytes_new mn_payload
  rw [mn_header_code]
  simp only [decide_eq_true_eq, GenFns.bytes_to_words_eq]
  rfl

/-- the view of a slice record (`k = T::elements()`): the `View` is determined by the record -/
def mn_sliceView (k : Nat) (r : MappedSliceR) : View := ⟨r.offset, r.data.1 * k + 1, r.data.1, r.data.2⟩

def mn_bytesView (r : MappedSliceR) : View := ⟨r.offset, (r.data.1 + 7) / 8 + 1, r.data.1, r.data.2⟩

/-- the model's view is the view of the record (`offset`, `mapLen = len * k + 1`, `len`, `payload`) -/
theorem mapped_slice_view_eq (m : Mode) (k : Nat) (file : Array Word) (offset : Nat) :
    View.slice m k file offset
      = (gen_MappedSlice_new m k file offset).bind (fun r => ok (mn_sliceView k r)) := by
  rw [mn_slice_new, mn_payload_bind, mn_header_model]
  rfl

theorem mapped_bytes_view_eq (m : Mode) (file : Array Word) (offset : Nat) :
    View.bytes m file offset = (gen_MappedBytes_new m file offset).bind (fun r => ok (mn_bytesView r)) := by
  rw [mn_bytes_new, mn_payload_bind, mn_header_model]
  rfl

/-- `MappedSlice<T>::new`: the record is the model's view without its (derived) `mapLen`.  Unconditional: same tests,
same arithmetic in the same order, same faults. -/
theorem mapped_slice_new_eq (m : Mode) (k : Nat) (file : Array Word) (offset : Nat) :
    gen_MappedSlice_new m k file offset
      = (View.slice m k file offset).bind (fun v => ok ⟨(v.len, v.payload), v.offset⟩) := by
  rw [mapped_slice_view_eq]
  cases gen_MappedSlice_new m k file offset <;> rfl

theorem mapped_bytes_new_eq (m : Mode) (file : Array Word) (offset : Nat) :
    gen_MappedBytes_new m file offset
      = (View.bytes m file offset).bind (fun v => ok ⟨(v.len, v.payload), v.offset⟩) := by
  rw [mapped_bytes_view_eq]
  cases gen_MappedBytes_new m file offset <;> rfl

theorem mapped_slice_new_fault {m : Mode} {k : Nat} {file : Array Word} {offset : Nat} {f : Fault}
    (h : gen_MappedSlice_new m k file offset = fault f) :
    f = .err .eof ∨ (f = .panic .overflow ∧ m = .checked) :=
  mn_payload_fault (fun _ _ => mn_mulM_fault) (mn_slice_new m k file offset ▸ h)

theorem mapped_bytes_new_fault {m : Mode} {file : Array Word} {offset : Nat} {f : Fault}
    (h : gen_MappedBytes_new m file offset = fault f) :
    f = .err .eof ∨ (f = .panic .overflow ∧ m = .checked) :=
  mn_payload_fault (fun _ _ => mn_bytesToWords_fault) (mn_bytes_new m file offset ▸ h)

/-! ### `map_offset()`, `map_len()` of `MappedSlice`, `MappedBytes` -/

theorem mapped_slice_map_offset_eq (m : Mode) (r : MappedSliceR) :
    gen_MappedSlice_map_offset m r = ok (mn_sliceView 0 r).offset := rfl

/-- for EVERY record: `map_len` returns the model's `mapLen = len * k + 1` (computed in `Nat`) exactly when that number
is a `usize` -/
theorem mapped_slice_map_len_iff (m : Mode) (k : Nat) (r : MappedSliceR) :
    gen_MappedSlice_map_len m k r = ok (mn_sliceView k r).mapLen ↔ r.data.1 * k + 1 < U64 :=
  mn_chain_add m (mulM m r.data.1 k) (r.data.1 * k) 1 (fun h => mulM_ok h)

/-- with overflow checks a successful `new` has computed `offset + 1 + len * k` exactly: the view lies inside the file
and `mapLen` is a `usize` -/
theorem mapped_slice_new_checked_bound {k : Nat} {file : Array Word} {offset : Nat} {r : MappedSliceR}
    (h : gen_MappedSlice_new .checked k file offset = ok r) :
    r.offset + (r.data.1 * k + 1) ≤ file.size ∧ r.offset + (r.data.1 * k + 1) < U64 := by
  obtain ⟨b, h2, hb⟩ := mn_payload_checked (mn_slice_new .checked k file offset ▸ h)
  obtain ⟨_, rfl⟩ := mn_mulM_checked h2
  exact hb

/-- `map_len` of a record produced by `new` is the model's `mapLen`: always with overflow checks, and without them
when `len * k + 1` is a `usize` (see `mapped_slice_map_len_wrapping_ne`) -/
theorem mapped_slice_map_len_of_new {m : Mode} {k : Nat} {file : Array Word} {offset : Nat} {r : MappedSliceR}
    (h : gen_MappedSlice_new m k file offset = ok r) (hb : m = .checked ∨ r.data.1 * k + 1 < U64) :
    gen_MappedSlice_map_len m k r = ok (mn_sliceView k r).mapLen := by
  rw [mapped_slice_map_len_iff]
  cases hb with
  | inl hm => subst hm; exact Nat.lt_of_le_of_lt (Nat.le_add_left _ _) (mapped_slice_new_checked_bound h).2
  | inr hb => exact hb

/-- the same in terms of the model's view -/
theorem mapped_slice_map_of_view {m : Mode} {k : Nat} {file : Array Word} {offset : Nat} {r : MappedSliceR} {v : View}
    (h : gen_MappedSlice_new m k file offset = ok r) (hv : View.slice m k file offset = ok v) :
    v = mn_sliceView k r ∧ gen_MappedSlice_map_offset m r = ok v.offset ∧
    (gen_MappedSlice_map_len m k r = ok v.mapLen ↔ v.mapLen < U64) ∧ (m = .checked → v.mapLen < U64) := by
  rw [mapped_slice_view_eq, h, obind_ok] at hv
  injection hv with hv; subst hv
  refine ⟨rfl, rfl, mapped_slice_map_len_iff m k r, ?_⟩
  intro hm; subst hm
  exact Nat.lt_of_le_of_lt (Nat.le_add_left _ _) (mapped_slice_new_checked_bound h).2

/-- without overflow checks the bounds test `offset + 1 + len * k > map.len()` of `new` wraps: a header `2^63` for
two-element items (or `2^64 - 1` for one-element items) is ACCEPTED, the code's `map_len()` wraps as well (1, resp. 0)
while the model's `mapLen` is the unbounded `len * k + 1`.  Both sides of `mapped_slice_new_eq` agree on these files
(the equation is unconditional); the difference is only between `View.mapLen` and `map_len()`. -/
theorem mapped_slice_map_len_wrapping_ne :
    (gen_MappedSlice_new .wrapping 2 #[0x8000000000000000#64] 0).bind (gen_MappedSlice_map_len .wrapping 2) = ok 1 ∧
    (View.slice .wrapping 2 #[0x8000000000000000#64] 0).bind (fun v => ok v.mapLen) = ok (U64 + 1) ∧
    (gen_MappedSlice_new .wrapping 1 #[0xFFFFFFFFFFFFFFFF#64] 0).bind (gen_MappedSlice_map_len .wrapping 1) = ok 0 ∧
    (View.slice .wrapping 1 #[0xFFFFFFFFFFFFFFFF#64] 0).bind (fun v => ok v.mapLen) = ok U64 ∧
    (gen_MappedSlice_new .checked 2 #[0x8000000000000000#64] 0) = fault (.panic .overflow) ∧
    (View.slice .checked 2 #[0x8000000000000000#64] 0) = fault (.panic .overflow) := by
  decide +kernel

theorem mn_eighth_lt {x : Nat} (h : x < U64) : x / 8 < U64 / 8 :=
  Nat.div_lt_of_lt_mul (show x < 8 * (U64 / 8) from h)

theorem mn_eighth_succ_lt {x : Nat} (h : x < U64) : x / 8 + 1 < U64 :=
  Nat.lt_of_le_of_lt (Nat.succ_le_of_lt (mn_eighth_lt h)) (by decide)

/-- for EVERY record: `map_len` returns the model's `mapLen = (len + 7) / 8 + 1` exactly when `len + 7` is a `usize` -/
theorem mapped_bytes_map_len_iff (m : Mode) (r : MappedSliceR) :
    gen_MappedBytes_map_len m r = ok (mn_bytesView r).mapLen ↔ r.data.1 + 7 < U64 := by
  constructor
  · intro h
    -- a wrapped sum `a` is below `2^64`, so `a / 8 < 2^61 ≤ (len + 7) / 8` had `len + 7` overflowed
    obtain ⟨t, ht, h⟩ := Outcome.bind_eq_ok h
    obtain ⟨a, ha, rfl⟩ := mn_bytesToWords_ok (GenFns.bytes_to_words_eq m _ ▸ ht)
    have hlt := addM_lt ha
    rw [addM_ok (mn_eighth_succ_lt hlt)] at h
    injection h with h
    replace h : a / 8 = (r.data.1 + 7) / 8 := Nat.succ.inj h
    exact Nat.lt_of_not_le fun hge => Nat.not_le_of_lt (mn_eighth_lt hlt) (h ▸ Nat.div_le_div_right hge)
  · intro h
    refine mn_chain_ok ?_ (mn_eighth_succ_lt h)
    rw [GenFns.bytes_to_words_eq]
    show (addM m r.data.1 7).bind _ = _
    rw [addM_ok h]; rfl

theorem mapped_bytes_new_checked_bound {file : Array Word} {offset : Nat} {r : MappedSliceR}
    (h : gen_MappedBytes_new .checked file offset = ok r) :
    r.offset + ((r.data.1 + 7) / 8 + 1) ≤ file.size ∧ r.data.1 + 7 < U64 := by
  obtain ⟨b, h2, hle, _⟩ := mn_payload_checked (mn_bytes_new .checked file offset ▸ h)
  obtain ⟨a, h5, rfl⟩ := mn_bytesToWords_ok h2
  obtain ⟨hlt, rfl⟩ := mn_addM_checked h5
  exact ⟨hle, hlt⟩

theorem mapped_bytes_map_len_of_new {m : Mode} {file : Array Word} {offset : Nat} {r : MappedSliceR}
    (h : gen_MappedBytes_new m file offset = ok r) (hb : m = .checked ∨ r.data.1 + 7 < U64) :
    gen_MappedBytes_map_len m r = ok (mn_bytesView r).mapLen := by
  rw [mapped_bytes_map_len_iff]
  cases hb with
  | inl hm => subst hm; exact (mapped_bytes_new_checked_bound h).2
  | inr hb => exact hb

theorem mapped_bytes_map_of_view {m : Mode} {file : Array Word} {offset : Nat} {r : MappedSliceR} {v : View}
    (h : gen_MappedBytes_new m file offset = ok r) (hv : View.bytes m file offset = ok v) :
    v = mn_bytesView r ∧ gen_MappedSlice_map_offset m r = ok v.offset ∧
    (gen_MappedBytes_map_len m r = ok v.mapLen ↔ v.len + 7 < U64) ∧ (m = .checked → v.len + 7 < U64) := by
  rw [mapped_bytes_view_eq, h, obind_ok] at hv
  injection hv with hv; subst hv
  refine ⟨rfl, rfl, mapped_bytes_map_len_iff m r, ?_⟩
  intro hm; subst hm
  exact (mapped_bytes_new_checked_bound h).2

/-- without overflow checks `bytes_to_words(len)` wraps for the seven largest lengths: the header is accepted,
`map_len()` is 1, the model's `mapLen` is `2^61 + 1` -/
theorem mapped_bytes_map_len_wrapping_ne :
    (gen_MappedBytes_new .wrapping #[0xFFFFFFFFFFFFFFFF#64] 0).bind (gen_MappedBytes_map_len .wrapping) = ok 1 ∧
    (View.bytes .wrapping #[0xFFFFFFFFFFFFFFFF#64] 0).bind (fun v => ok v.mapLen) = ok (2 ^ 61 + 1) ∧
    gen_MappedBytes_new .checked #[0xFFFFFFFFFFFFFFFF#64] 0 = fault (.panic .overflow) ∧
    View.bytes .checked #[0xFFFFFFFFFFFFFFFF#64] 0 = fault (.panic .overflow) := by
  decide +kernel

/-! ### `MappedStr::new` -/

theorem mn_test_bind {β : Type} (c : Bool) (e : Fault) (x : Outcome β) :
    ((if c then ok () else fault e) >>= fun _ => x) = if c then x else fault e := by
  cases c <;> rfl

/-- `MappedStr::new` as translated: the translated `MappedBytes::new` followed by the UTF-8 test of the payload -/
theorem mapped_str_new_eq_bytes (m : Mode) (valid : List UInt8 → Bool) (file : Array Word) (offset : Nat) :
    gen_MappedStr_new m valid file offset
      = (gen_MappedBytes_new m file offset).bind
          (fun r => if valid (payloadBytes r.data) then ok r else fault (.err .invalid)) := by
  rw [mn_bytes_new, mn_payload_bind, mn_header_code]
  unfold gen_MappedStr_new
  simp only [decide_eq_true_eq, GenFns.bytes_to_words_eq, mn_test_bind]
  rfl

/-- … hence the model's string view: the same acceptance, the same faults, the view of the accepted payload -/
theorem mapped_str_view_eq (m : Mode) (valid : List UInt8 → Bool) (file : Array Word) (offset : Nat) :
    View.str m valid file offset = (gen_MappedStr_new m valid file offset).bind (fun r => ok (mn_bytesView r)) := by
  rw [mapped_str_new_eq_bytes]
  unfold View.str
  rw [mapped_bytes_view_eq]
  cases gen_MappedBytes_new m file offset with
  | fault e => rfl
  | ok r =>
    show (if valid (payloadBytes r.data) then ok (mn_bytesView r) else fault (.err .invalid))
      = (if valid (payloadBytes r.data) then ok r else fault (.err .invalid)).bind (fun r => ok (mn_bytesView r))
    cases valid (payloadBytes r.data) <;> rfl

/-! ### `MappedOption<T>::new` -/

/-- what a `MappedOption` denotes, given what its inner view denotes -/
def mn_optionView (toV : MappedSliceR → View) (r : MappedOptionR) : View × Bool :=
  (⟨r.offset, r.dataLen + 1, r.dataLen, match r.data with | some d => (toV d).payload | none => []⟩, r.data.isSome)

theorem mn_option_new (m : Mode) (inner : Array Word → Nat → Outcome MappedSliceR) (file : Array Word) (offset : Nat) :
    gen_MappedOption_new m inner file offset = mn_header file offset fun dl =>
      if dl > 0 then (addM m offset 1).bind fun a => (inner file a).bind fun d => ok ⟨some d, offset, dl⟩
      else ok ⟨none, offset, dl⟩ := by
  unfold gen_MappedOption_new
  rw [mn_header_code]
  simp only [decide_eq_true_eq, mn_bind_def, pure_eq]

/-- `MappedOption<T>::new` as translated, for ANY inner constructor `T::new` (a parameter) and any reading `toV` of its
result: the model's optional view is exactly the image of what the code returns, faults included -/
theorem mapped_option_view_eq (m : Mode) (inner : Array Word → Nat → Outcome MappedSliceR) (toV : MappedSliceR → View)
    (file : Array Word) (offset : Nat) :
    View.option m (fun f o => (inner f o).bind (fun r => ok (toV r))) file offset
      = (gen_MappedOption_new m inner file offset).bind (fun r => ok (mn_optionView toV r)) := by
  unfold View.option
  simp only [mn_bind_def]
  rw [← mn_header_model, mn_option_new, mn_header_bind]
  congr 1; funext dl
  split
  · cases addM m offset 1 with
    | fault e => rfl
    | ok a => show ((inner file a).bind _).bind _ = ((inner file a).bind _).bind _; cases inner file a <;> rfl
  · next hd => rw [Nat.eq_zero_of_not_pos hd]; rfl

/-- non-vacuity: an absent and a present optional byte view -/
example : gen_MappedOption_new .checked (gen_MappedBytes_new .checked) #[0, 9] 0 = ok ⟨none, 0, 0⟩ ∧
    gen_MappedOption_new .checked (gen_MappedBytes_new .checked) #[2, 3, 0x616263] 0
      = ok ⟨some ⟨(3, [0x616263]), 1⟩, 0, 2⟩ := by decide

/-! ### `RawVectorMapper::new` -/

/-- the view of a `RawVectorMapper` record, computed as the code's `map_offset()` does (`data.map_offset() - 1`);
`mapLen` is the model's unbounded `len * 1 + 1 + 1` -/
def mn_rawView (m : Mode) (r : RawMapperR) : Outcome View :=
  (subM m r.data.offset 1).bind (fun mo => ok ⟨mo, r.data.data.1 * 1 + 1 + 1, r.len, r.data.data.2⟩)

theorem mn_raw_new (m : Mode) (file : Array Word) (offset : Nat) :
    gen_RawVectorMapper_new m file offset = mn_header file offset fun len =>
      (addM m offset 1).bind fun a => (gen_MappedSlice_new m 1 file a).bind fun d => ok ⟨len, d⟩ := by
  unfold gen_RawVectorMapper_new
  rw [mn_header_code]
  simp only [decide_eq_true_eq]
  rfl

/-- `RawVectorMapper::new`, unconditional: the model's view is the view of the code's record.  The record stores the
inner slice (at `offset + 1`), the model subtracts the 1 at once; that subtraction is the one `map_offset()` performs. -/
theorem raw_mapper_view_eq (m : Mode) (file : Array Word) (offset : Nat) :
    View.raw m file offset = (gen_RawVectorMapper_new m file offset).bind (mn_rawView m) := by
  unfold View.raw
  simp only [mn_bind_def]
  rw [← mn_header_model, mn_raw_new, mn_header_bind]
  congr 1; funext len
  cases addM m offset 1 with
  | fault e => rfl
  | ok a =>
    show (View.slice m 1 file a).bind _ = ((gen_MappedSlice_new m 1 file a).bind _).bind _
    rw [mapped_slice_view_eq]
    cases gen_MappedSlice_new m 1 file a <;> rfl

theorem mn_raw_new_ok {m : Mode} {file : Array Word} {offset : Nat} {r : RawMapperR}
    (h : gen_RawVectorMapper_new m file offset = ok r) :
    offset < file.size ∧ r.len = (rd file offset).toNat ∧
    ∃ a, addM m offset 1 = ok a ∧ gen_MappedSlice_new m 1 file a = ok r.data := by
  obtain ⟨hlt, h⟩ := mn_header_ok (mn_raw_new m file offset ▸ h)
  obtain ⟨a, h1, h⟩ := Outcome.bind_eq_ok h
  obtain ⟨d, h2, h⟩ := Outcome.bind_eq_ok h
  injection h with h; subst h
  exact ⟨hlt, rfl, a, h1, h2⟩

theorem raw_mapper_new_fault {m : Mode} {file : Array Word} {offset : Nat} {f : Fault}
    (h : gen_RawVectorMapper_new m file offset = fault f) :
    f = .err .eof ∨ (f = .panic .overflow ∧ m = .checked) := by
  rcases mn_header_fault (mn_raw_new m file offset ▸ h) with h | h
  · exact Or.inl h
  rcases mn_bind_eq_fault h with h1 | ⟨a, _, h⟩
  · exact Or.inr (mn_addM_fault h1)
  rcases mn_bind_eq_fault h with h2 | ⟨d, _, h⟩
  · exact mapped_slice_new_fault h2
  · cases h

theorem mn_slice_new_offset {m : Mode} {k : Nat} {file : Array Word} {offset : Nat} {r : MappedSliceR}
    (h : gen_MappedSlice_new m k file offset = ok r) : r.offset = offset :=
  (mn_payload_ok (mn_slice_new m k file offset ▸ h)).2.1

/-- after a successful `new` the subtraction of `map_offset()` does not fault, and gives back the offset -/
theorem mn_raw_new_sub {m : Mode} {file : Array Word} {offset : Nat} {r : RawMapperR}
    (h : gen_RawVectorMapper_new m file offset = ok r) :
    ∃ mo, subM m r.data.offset 1 = ok mo ∧ (offset < U64 → mo = offset) ∧
      r.data.offset = (offset + 1) % U64 := by
  obtain ⟨_, _, a, h1, h2⟩ := mn_raw_new_ok h
  rw [mn_slice_new_offset h2]
  exact mn_sub_of_add (by decide) h1

/-- converse direction, unconditional: the record is determined by the view and the offset (the inner slice has
`mapLen - 2` items and starts at `offset + 1`, wrapped in a release build) -/
theorem raw_mapper_new_eq (m : Mode) (file : Array Word) (offset : Nat) :
    gen_RawVectorMapper_new m file offset
      = (View.raw m file offset).bind
          (fun v => ok ⟨v.len, ⟨(v.mapLen - 2, v.payload), (offset + 1) % U64⟩⟩) := by
  rw [raw_mapper_view_eq]
  cases h : gen_RawVectorMapper_new m file offset with
  | fault e => rfl
  | ok r =>
    obtain ⟨mo, hmo, _, ho⟩ := mn_raw_new_sub h
    rw [obind_ok]
    unfold mn_rawView
    rw [hmo, obind_ok, obind_ok]
    congr 1
    obtain ⟨len, ⟨n, pl⟩, off⟩ := r
    simp only at ho
    subst ho
    simp only [RawMapperR.mk.injEq, MappedSliceR.mk.injEq, Prod.mk.injEq, true_and, and_true]
    rw [Nat.mul_one]; rfl

/-- `map_offset()` of EVERY record is the offset of its view (same subtraction, same fault) -/
theorem raw_mapper_map_offset_eq (m : Mode) (r : RawMapperR) :
    gen_RawVectorMapper_map_offset m r = (mn_rawView m r).bind (fun v => ok v.offset) := by
  show subM m r.data.offset 1 = ((subM m r.data.offset 1).bind _).bind _
  cases subM m r.data.offset 1 <;> rfl

/-- `map_len()` of EVERY record is the model's `mapLen` exactly when that number is a `usize` -/
theorem raw_mapper_map_len_iff (m : Mode) (r : RawMapperR) :
    gen_RawVectorMapper_map_len m r = ok (r.data.data.1 * 1 + 1 + 1) ↔ r.data.data.1 * 1 + 1 + 1 < U64 :=
  mn_chain_add m _ _ 1 (fun h => (mapped_slice_map_len_iff m 1 r.data).mpr h)

theorem raw_mapper_new_checked_bound {file : Array Word} {offset : Nat} {r : RawMapperR}
    (h : gen_RawVectorMapper_new .checked file offset = ok r) :
    offset + (r.data.data.1 * 1 + 1 + 1) ≤ file.size ∧ offset + (r.data.data.1 * 1 + 1 + 1) < U64 := by
  obtain ⟨_, _, a, h1, h2⟩ := mn_raw_new_ok h
  have hb := mapped_slice_new_checked_bound h2
  rw [mn_slice_new_offset h2, (mn_addM_checked h1).2, Nat.add_assoc, Nat.add_comm 1] at hb
  exact hb

/-- records produced by `new`: `map_offset()` is the model view's `offset` (and the offset passed to `new`),
`map_len()` is its `mapLen` whenever that is a `usize`, which is always the case with overflow checks -/
theorem raw_mapper_map_of_view {m : Mode} {file : Array Word} {offset : Nat} {r : RawMapperR} {v : View}
    (h : gen_RawVectorMapper_new m file offset = ok r) (hv : View.raw m file offset = ok v) :
    mn_rawView m r = ok v ∧ gen_RawVectorMapper_map_offset m r = ok v.offset ∧
    (gen_RawVectorMapper_map_len m r = ok v.mapLen ↔ v.mapLen < U64) ∧
    (m = .checked → v.offset + v.mapLen ≤ file.size ∧ v.mapLen < U64) ∧
    (offset < U64 → v.offset = offset) := by
  rw [raw_mapper_view_eq, h, obind_ok] at hv
  obtain ⟨mo, hmo, hoff, _⟩ := mn_raw_new_sub h
  have hv' := hv
  unfold mn_rawView at hv'
  rw [hmo, obind_ok] at hv'
  injection hv' with hv'
  refine ⟨hv, ?_, ?_, ?_, ?_⟩
  · rw [raw_mapper_map_offset_eq, hv]; rfl
  · subst hv'; exact raw_mapper_map_len_iff m r
  · intro hm; subst hm
    have hb := raw_mapper_new_checked_bound h
    have hmo := hoff (Nat.lt_of_le_of_lt (Nat.le_add_right _ _) hb.2)
    subst hv'; subst hmo
    exact ⟨hb.1, Nat.lt_of_le_of_lt (Nat.le_add_left _ _) hb.2⟩
  · intro hlt; subst hv'; exact hoff hlt

/-- for files below `2^64` elements the slice starts at `v.offset + 1` -/
theorem raw_mapper_new_eq_of_size (m : Mode) (file : Array Word) (offset : Nat) (hsz : file.size < U64) :
    gen_RawVectorMapper_new m file offset
      = (View.raw m file offset).bind
          (fun v => ok ⟨v.len, ⟨(v.mapLen - 2, v.payload), v.offset + 1⟩⟩) := by
  rw [raw_mapper_new_eq]
  cases hv : View.raw m file offset with
  | fault e => rfl
  | ok v =>
    obtain ⟨r, h, _⟩ := Outcome.bind_eq_ok (raw_mapper_view_eq m file offset ▸ hv)
    have hlt := (mn_raw_new_ok h).1
    rw [obind_ok, obind_ok, (raw_mapper_map_of_view h hv).2.2.2.2 (Nat.lt_trans hlt hsz),
      Nat.mod_eq_of_lt (Nat.lt_of_le_of_lt hlt hsz)]

theorem raw_mapper_map_len_of_new {m : Mode} {file : Array Word} {offset : Nat} {r : RawMapperR}
    (h : gen_RawVectorMapper_new m file offset = ok r) (hb : m = .checked ∨ r.data.data.1 + 2 < U64) :
    gen_RawVectorMapper_map_len m r = ok (r.data.data.1 * 1 + 1 + 1) := by
  rw [raw_mapper_map_len_iff]
  cases hb with
  | inl hm => subst hm; exact Nat.lt_of_le_of_lt (Nat.le_add_left _ _) (raw_mapper_new_checked_bound h).2
  | inr hb => rw [Nat.mul_one]; exact hb

/-- without overflow checks a data length of `2^64 - 1` words passes the wrapped bounds test of the inner slice:
`map_len()` wraps to 1, the model's `mapLen` is `2^64 + 1`; with overflow checks both panic -/
theorem raw_mapper_map_len_wrapping_ne :
    (gen_RawVectorMapper_new .wrapping #[5#64, 0xFFFFFFFFFFFFFFFF#64] 0).bind (gen_RawVectorMapper_map_len .wrapping)
      = ok 1 ∧
    (View.raw .wrapping #[5#64, 0xFFFFFFFFFFFFFFFF#64] 0).bind (fun v => ok v.mapLen) = ok (U64 + 1) ∧
    (gen_RawVectorMapper_new .wrapping #[5#64, 0xFFFFFFFFFFFFFFFF#64] 0).bind (gen_RawVectorMapper_map_offset .wrapping)
      = ok 0 ∧
    gen_RawVectorMapper_new .checked #[5#64, 0xFFFFFFFFFFFFFFFF#64] 0 = fault (.panic .overflow) ∧
    View.raw .checked #[5#64, 0xFFFFFFFFFFFFFFFF#64] 0 = fault (.panic .overflow) := by
  decide +kernel

/-! ### `IntVectorMapper::new` -/

/-- the view (and width) of an `IntVectorMapper` record, offsets computed as `map_offset()` does -/
def mn_intView (m : Mode) (r : IntMapperR) : Outcome (View × Nat) :=
  (mn_rawView m r.data).bind (fun d => (subM m d.offset 2).bind (fun mo =>
    ok (⟨mo, d.mapLen + 2, r.len, d.payload⟩, r.width)))

theorem mn_int_new (m : Mode) (file : Array Word) (offset : Nat) :
    gen_IntVectorMapper_new m file offset = mn_header file offset fun len =>
      (addM m offset 1).bind fun a => mn_header file a fun width =>
      (addM m offset 2).bind fun o2 => (gen_RawVectorMapper_new m file o2).bind fun d => ok ⟨len, width, d⟩ := by
  unfold gen_IntVectorMapper_new mn_header
  by_cases h : offset < file.size
  · rw [if_pos h, if_neg (by simpa using h)]
    cases addM m offset 1 with
    | fault e => rfl
    | ok a =>
      by_cases h2 : a < file.size
      · simp only [mn_bind_def, obind_ok, pure_eq, decide_eq_true_eq, if_neg (Nat.not_le_of_lt h2), if_pos h2,
          getC_ok h, getC_ok h2]
      · simp only [mn_bind_def, obind_ok, pure_eq, decide_eq_true_eq, if_pos (Nat.le_of_not_lt h2), if_neg h2]
  · rw [if_neg h, if_pos (by simpa using h)]; rfl

/-- the only difference between the code and the model: the code reads the width at the COMPUTED `offset + 1`
(wrapped in a release build), the model at the exact `offset + 1`.  They are the same index unless
`offset + 1 = 2^64` with `offset` inside the file, i.e. a map of at least `2^64` elements. -/
theorem int_mapper_view_eq (m : Mode) (file : Array Word) (offset : Nat)
    (hoff : m = .wrapping → offset < file.size → offset + 1 < U64) :
    View.int m file offset = (gen_IntVectorMapper_new m file offset).bind (mn_intView m) := by
  rw [mn_int_new, mn_header_bind]
  unfold View.int mn_header
  by_cases h : offset < file.size
  · rw [if_pos h, if_neg (Nat.not_le_of_lt h)]
    simp only [mn_bind_def]
    cases h1 : addM m offset 1 with
    | fault e => rfl
    | ok a =>
      have ha : a = offset + 1 := by
        cases m with
        | checked => exact (mn_addM_checked h1).2
        | wrapping => rw [addM_ok (hoff rfl h)] at h1; injection h1 with h1; exact h1.symm
      subst ha
      rw [obind_ok, obind_ok]
      by_cases h2 : offset + 1 < file.size
      · rw [if_pos h2, if_neg (Nat.not_le_of_lt h2), mn_fileAt_lt h, mn_fileAt_lt h2, obind_ok, obind_ok]
        cases addM m offset 2 with
        | fault e => rfl
        | ok o2 =>
          rw [obind_ok, obind_ok, raw_mapper_view_eq]
          cases gen_RawVectorMapper_new m file o2 <;> rfl
      · rw [if_neg h2, if_pos (Nat.le_of_not_lt h2)]; rfl
  · rw [if_neg h, if_pos (Nat.le_of_not_lt h)]

theorem int_mapper_view_eq_of_size (m : Mode) (file : Array Word) (offset : Nat) (hsz : file.size < U64) :
    View.int m file offset = (gen_IntVectorMapper_new m file offset).bind (mn_intView m) :=
  int_mapper_view_eq m file offset (fun _ h => Nat.lt_of_le_of_lt h hsz)

theorem int_mapper_view_eq_checked (file : Array Word) (offset : Nat) :
    View.int .checked file offset = (gen_IntVectorMapper_new .checked file offset).bind (mn_intView .checked) :=
  int_mapper_view_eq .checked file offset (fun h => by cases h)

theorem mn_int_new_ok {m : Mode} {file : Array Word} {offset : Nat} {r : IntMapperR}
    (h : gen_IntVectorMapper_new m file offset = ok r) :
    offset < file.size ∧ r.len = (rd file offset).toNat ∧
    (∃ a, addM m offset 1 = ok a ∧ a < file.size ∧ r.width = (rd file a).toNat) ∧
    ∃ o2, addM m offset 2 = ok o2 ∧ gen_RawVectorMapper_new m file o2 = ok r.data := by
  obtain ⟨hlt, h⟩ := mn_header_ok (mn_int_new m file offset ▸ h)
  obtain ⟨a, h1, h⟩ := Outcome.bind_eq_ok h
  obtain ⟨hlt2, h⟩ := mn_header_ok h
  obtain ⟨o2, h3, h⟩ := Outcome.bind_eq_ok h
  obtain ⟨d, h4, h⟩ := Outcome.bind_eq_ok h
  injection h with h; subst h
  exact ⟨hlt, rfl, ⟨a, h1, hlt2, rfl⟩, o2, h3, h4⟩

/-- the faults of `IntVectorMapper::new` (the code): `UnexpectedEof` and the arithmetic panic only; both reads are
guarded by the tests on the very indices that are read -/
theorem int_mapper_new_fault {m : Mode} {file : Array Word} {offset : Nat} {f : Fault}
    (h : gen_IntVectorMapper_new m file offset = fault f) :
    f = .err .eof ∨ (f = .panic .overflow ∧ m = .checked) := by
  rcases mn_header_fault (mn_int_new m file offset ▸ h) with h | h
  · exact Or.inl h
  rcases mn_bind_eq_fault h with h1 | ⟨a, _, h⟩
  · exact Or.inr (mn_addM_fault h1)
  rcases mn_header_fault h with h | h
  · exact Or.inl h
  rcases mn_bind_eq_fault h with h3 | ⟨o2, _, h⟩
  · exact Or.inr (mn_addM_fault h3)
  rcases mn_bind_eq_fault h with h4 | ⟨d, _, h⟩
  · exact raw_mapper_new_fault h4
  · cases h

/-- after a successful `new` neither subtraction of `map_offset()` faults, and the result is the offset -/
theorem mn_int_new_sub {m : Mode} {file : Array Word} {offset : Nat} {r : IntMapperR}
    (h : gen_IntVectorMapper_new m file offset = ok r) :
    ∃ mo1 mo, subM m r.data.data.offset 1 = ok mo1 ∧ subM m mo1 2 = ok mo ∧ (offset < U64 → mo = offset) ∧
      mo1 = (offset + 2) % U64 := by
  obtain ⟨_, _, _, o2, h3, h4⟩ := mn_int_new_ok h
  obtain ⟨mo1, hmo1, hoff1, _⟩ := mn_raw_new_sub h4
  have ho2 := addM_lt h3
  have h1 := hoff1 ho2
  subst h1
  obtain ⟨mo, hmo, hoff, hmod⟩ := mn_sub_of_add (by decide) h3
  exact ⟨mo1, mo, hmo1, hmo, hoff, hmod⟩

/-- converse direction: length and width are the view's, the data is the `RawVectorMapper` at `offset + 2`.  (The
model's view does not keep the bit length of the raw vector, so the record is not a function of the view alone.) -/
theorem int_mapper_new_eq (m : Mode) (file : Array Word) (offset : Nat)
    (hoff : m = .wrapping → offset < file.size → offset + 1 < U64) :
    gen_IntVectorMapper_new m file offset
      = (View.int m file offset).bind (fun vw =>
          (gen_RawVectorMapper_new m file ((offset + 2) % U64)).bind (fun d => ok ⟨vw.1.len, vw.2, d⟩)) := by
  rw [int_mapper_view_eq m file offset hoff]
  cases h : gen_IntVectorMapper_new m file offset with
  | fault e => rfl
  | ok r =>
    obtain ⟨mo1, mo, hmo1, hmo, _, _⟩ := mn_int_new_sub h
    obtain ⟨_, _, _, o2, h3, h4⟩ := mn_int_new_ok h
    rw [← mn_addM_mod h3, h4, obind_ok]
    unfold mn_intView mn_rawView
    rw [hmo1]
    simp only [obind_ok]
    rw [hmo]
    rfl

theorem int_mapper_new_eq_of_size (m : Mode) (file : Array Word) (offset : Nat) (hsz : file.size < U64) :
    gen_IntVectorMapper_new m file offset
      = (View.int m file offset).bind (fun vw =>
          (gen_RawVectorMapper_new m file (offset + 2)).bind (fun d => ok ⟨vw.1.len, vw.2, d⟩)) := by
  by_cases h : offset + 2 < U64
  · have := int_mapper_new_eq m file offset (fun _ h => Nat.lt_of_le_of_lt h hsz)
    rw [Nat.mod_eq_of_lt h] at this; exact this
  · -- `offset + 2 ≥ 2^64 ≥ file.size + 1`: neither side finds the width inside the file
    have h2 : ¬ offset + 1 < file.size := by omega
    rw [mn_int_new]
    unfold View.int mn_header
    by_cases h1 : offset < file.size
    · rw [if_pos h1, if_neg (Nat.not_le_of_lt h1)]
      simp only [mn_bind_def]
      rw [addM_ok (Nat.lt_of_le_of_lt h1 hsz), obind_ok, obind_ok, if_neg h2, if_pos (Nat.le_of_not_lt h2)]
      rfl
    · rw [if_neg h1, if_pos (Nat.le_of_not_lt h1)]; rfl

/-- `map_offset()` of EVERY record is the offset of its view -/
theorem int_mapper_map_offset_eq (m : Mode) (r : IntMapperR) :
    gen_IntVectorMapper_map_offset m r = (mn_intView m r).bind (fun vw => ok vw.1.offset) := by
  show (gen_RawVectorMapper_map_offset m r.data).bind (fun t => subM m t 2) = _
  unfold mn_intView
  rw [raw_mapper_map_offset_eq]
  cases mn_rawView m r.data with
  | fault e => rfl
  | ok d => show subM m d.offset 2 = ((subM m d.offset 2).bind _).bind _; cases subM m d.offset 2 <;> rfl

/-- `map_len()` of EVERY record is the model's `mapLen` exactly when that number is a `usize` -/
theorem int_mapper_map_len_iff (m : Mode) (r : IntMapperR) :
    gen_IntVectorMapper_map_len m r = ok (r.data.data.data.1 * 1 + 1 + 1 + 2)
      ↔ r.data.data.data.1 * 1 + 1 + 1 + 2 < U64 :=
  mn_chain_add m _ _ 2 (fun h => (raw_mapper_map_len_iff m r.data).mpr h)

theorem int_mapper_new_checked_bound {file : Array Word} {offset : Nat} {r : IntMapperR}
    (h : gen_IntVectorMapper_new .checked file offset = ok r) :
    offset + (r.data.data.data.1 * 1 + 1 + 1 + 2) ≤ file.size ∧
    offset + (r.data.data.data.1 * 1 + 1 + 1 + 2) < U64 := by
  obtain ⟨_, _, _, o2, h3, h4⟩ := mn_int_new_ok h
  have hb := raw_mapper_new_checked_bound h4
  rw [(mn_addM_checked h3).2, Nat.add_assoc, Nat.add_comm 2] at hb
  exact hb

/-- records produced by `new`: `map_offset()` is the model view's `offset` (and the offset passed to `new`),
`map_len()` is its `mapLen` whenever that is a `usize`, which is always the case with overflow checks -/
theorem int_mapper_map_of_view {m : Mode} {file : Array Word} {offset : Nat} {r : IntMapperR} {vw : View × Nat}
    (hoff : m = .wrapping → offset < file.size → offset + 1 < U64)
    (h : gen_IntVectorMapper_new m file offset = ok r) (hv : View.int m file offset = ok vw) :
    mn_intView m r = ok vw ∧ gen_IntVectorMapper_map_offset m r = ok vw.1.offset ∧
    (gen_IntVectorMapper_map_len m r = ok vw.1.mapLen ↔ vw.1.mapLen < U64) ∧
    (m = .checked → vw.1.offset + vw.1.mapLen ≤ file.size ∧ vw.1.mapLen < U64) ∧
    (offset < U64 → vw.1.offset = offset) ∧ vw.1.len = r.len ∧ vw.2 = r.width := by
  rw [int_mapper_view_eq m file offset hoff, h, obind_ok] at hv
  obtain ⟨mo1, mo, hmo1, hmo, hoff', _⟩ := mn_int_new_sub h
  have hv' := hv
  unfold mn_intView mn_rawView at hv'
  rw [hmo1] at hv'
  simp only [obind_ok] at hv'
  rw [hmo, obind_ok] at hv'
  injection hv' with hv'
  refine ⟨hv, ?_, ?_, ?_, ?_, ?_, ?_⟩
  · rw [int_mapper_map_offset_eq, hv]; rfl
  · subst hv'; exact int_mapper_map_len_iff m r
  · intro hm; subst hm
    have hb := int_mapper_new_checked_bound h
    have hmo := hoff' (Nat.lt_of_le_of_lt (Nat.le_add_right _ _) hb.2)
    subst hv'; subst hmo
    exact ⟨hb.1, Nat.lt_of_le_of_lt (Nat.le_add_left _ _) hb.2⟩
  · intro hlt; subst hv'; exact hoff' hlt
  · subst hv'; rfl
  · subst hv'; rfl

theorem int_mapper_map_len_of_new {m : Mode} {file : Array Word} {offset : Nat} {r : IntMapperR}
    (h : gen_IntVectorMapper_new m file offset = ok r) (hb : m = .checked ∨ r.data.data.data.1 + 4 < U64) :
    gen_IntVectorMapper_map_len m r = ok (r.data.data.data.1 * 1 + 1 + 1 + 2) := by
  rw [int_mapper_map_len_iff]
  cases hb with
  | inl hm => subst hm; exact Nat.lt_of_le_of_lt (Nat.le_add_left _ _) (int_mapper_new_checked_bound h).2
  | inr hb => rw [Nat.mul_one]; exact hb

/-- without overflow checks: the wrapped bounds test accepts `2^64 - 1` data words; `map_len()` is 3, the model's
`mapLen` is `2^64 + 3` -/
theorem int_mapper_map_len_wrapping_ne :
    (gen_IntVectorMapper_new .wrapping #[3#64, 7#64, 21#64, 0xFFFFFFFFFFFFFFFF#64] 0).bind
        (gen_IntVectorMapper_map_len .wrapping) = ok 3 ∧
    (View.int .wrapping #[3#64, 7#64, 21#64, 0xFFFFFFFFFFFFFFFF#64] 0).bind (fun v => ok v.1.mapLen) = ok (U64 + 3) ∧
    (gen_IntVectorMapper_new .wrapping #[3#64, 7#64, 21#64, 0xFFFFFFFFFFFFFFFF#64] 0).bind
        (gen_IntVectorMapper_map_offset .wrapping) = ok 0 ∧
    gen_IntVectorMapper_new .checked #[3#64, 7#64, 21#64, 0xFFFFFFFFFFFFFFFF#64] 0 = fault (.panic .overflow) ∧
    View.int .checked #[3#64, 7#64, 21#64, 0xFFFFFFFFFFFFFFFF#64] 0 = fault (.panic .overflow) := by
  decide +kernel

/-- the hypothesis `hoff` is sharp, but only on a map of `2^64` elements (no such slice exists: a Rust slice has at
most `isize::MAX` bytes): there the model reads the width at index `2^64` (an index panic) while the code reads it at
the wrapped index 0 and never panics on an index (`int_mapper_new_fault`).  Not a divergence of the real code. -/
theorem int_mapper_view_ne_huge (file : Array Word) (hs : file.size = U64) :
    View.int .wrapping file (U64 - 1) = fault (.panic .index) ∧
    gen_IntVectorMapper_new .wrapping file (U64 - 1) ≠ fault (.panic .index) := by
  constructor
  · unfold View.int
    have h0 : ¬ (U64 - 1 ≥ file.size) := by rw [hs]; decide
    have h1 : addM .wrapping (U64 - 1) 1 = ok 0 := by decide
    have h2 : ¬ (0 ≥ file.size) := by rw [hs]; decide
    have hlt : U64 - 1 < file.size := by rw [hs]; decide
    have hoob : fileAt file (U64 - 1 + 1) = fault (.panic .index) := by
      unfold fileAt
      rw [Array.getElem?_eq_none (by rw [hs]; decide)]
    simp only [h0, if_false, mn_bind_def, h1, obind_ok, h2]
    rw [mn_fileAt_lt hlt, obind_ok, hoob]; rfl
  · intro h
    cases int_mapper_new_fault h with
    | inl h => cases h
    | inr h => cases h.1

end Sds.GenEq
