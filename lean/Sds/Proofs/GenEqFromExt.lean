/-
Proofs/GenEqFromExt: `impl Extend<u64> for IntVector`, `From<Vec<u64>>`, `FromIterator<u64>` of int_vector.rs and
`FromIterator<bool> for BitVector`, as TRANSLATED statement by statement from the source (Generated/FnsFromExt.lean),
against the hand-written model.  The capacity of the `Vec` is the arbitrary parameter `cap`; every theorem holds for
EVERY `cap`.

* `int_extend_eq : gen_IntVector_extend_u64 m cap v iter = ok (v.extend iter)` under `v.WF` and
  `(v.len + iter.length) * v.width + 63 < U64` (`reserve(lower_bound)` computes `bits_to_words(data.len +
  lower_bound * width)`, the last `push` needs the same bound).  `int_extend_eq_of`: any invariant of the pushes.
  The `while let Some(value) = iter.next()` is `while_sat`: after `j` items the vector is the model's.
  Sharp: `int_extend_checked_overflow` (beyond the bound `reserve` panics; ≥ 2^64 - 63 bits of content),
  `int_extend_ne_wf` (`WF` is needed: width 65 / a bit length without words index out of bounds).
* `int_from_vec_eq : gen_IntVector_from_vec_u64 m cap a = ok (IntVec.ofList 64 (a.toList.map (·.toNat)))` under
  `a.size * 64 + 63 < U64` (`with_capacity(len, 64)`); `IntVec.ofList 64` is what the driver builds for `from_vec`;
  `int_from_vec_eq'`: `= ok (IntVec.default.extend a.toList)`.  `unwrap()` never panics (width 64 is accepted).
* `int_from_iter_eq : gen_IntVector_from_iter_u64 m cap iter = ok (IntVec.ofList 64 (iter.map (·.toNat)))` under
  `iter.length * 64 + 63 < U64`.
* `bv_from_iter_eq : gen_BitVector_from_iter m bits = ok (BitVector.ofRaw (RawVec.ofBits bits))` under
  `bits.length + 63 < U64` (`with_capacity(lower_bound)`; covers every `push_bit` and `count_ones`); this is the
  driver's `from_bits`.  Sharp: `bv_from_iter_checked_overflow`.
-/
import Sds.Generated.FnsFromExt
import Sds.Proofs.GenFns
import Sds.Proofs.GenEqVec
import Sds.Proofs.GenEqVec2
import Sds.Proofs.GenEqVec3
import Sds.Proofs.GenEqView
import Sds.Proofs.GenEqConstr4
import Sds.Proofs.IntVec
import Sds.Proofs.RawVec


namespace Sds.GenEq
open Sds Outcome Generated

theorem fe_bind_def {α β : Type} (x : Outcome α) (f : α → Outcome β) : (x >>= f) = x.bind f := rfl

/-! ### `impl Extend<u64> for IntVector` -/

theorem fe_extend_snoc (v : IntVec) (pre : List Word) (x : Word) : v.extend (pre ++ [x]) = (v.extend pre).push x := by
  unfold IntVec.extend
  rw [List.foldl_append]; rfl

/-- `extend`, general form: `reserve(lower_bound)` succeeds and `I` is an invariant of the pushes -/
theorem int_extend_eq_of (m : Mode) (cap : Nat) (v : IntVec) (iter : List Word)
    (hr : m = .wrapping ∨ v.data.len + iter.length * v.width + 63 < U64)
    (I : IntVec → List Word → Prop) (hv : I v iter)
    (hI : ∀ u x xs, I u (x :: xs) → gen_IntVector_push m u x = ok (u.push x) ∧ I (u.push x) xs) :
    gen_IntVector_extend_u64 m cap v iter = ok (v.extend iter) := by
  have hr' : gen_IntVector_reserve m cap ⟨v.len, v.width, v.data⟩ iter.length = ok v :=
    (int_reserve_ok_iff m cap v _).2 hr
  refine sat_eq.1 ?_
  unfold gen_IntVector_extend_u64
  simp only [hr', bind_ok]
  -- after `j` items: the iterator has `j` items less, the vector is the model's
  refine while_sat (fun j (s : List Word × RawVec × Nat × Nat) =>
      s.1 = iter.drop j ∧ (⟨s.2.2.1, s.2.2.2, s.2.1⟩ : IntVec) = v.extend (iter.take j) ∧
        I (v.extend (iter.take j)) (iter.drop j)) iter.length _ _ (Nat.lt_succ_self _)
    (fun j s hj hJ => ?_) (fun s hJ => ?_) (by exact ⟨rfl, rfl, hv⟩) (fun s hJ => ?_)
  · obtain ⟨it, d, l, w⟩ := s
    obtain ⟨rfl, hu, hJ⟩ := hJ
    dsimp only at hu
    rw [List.drop_eq_getElem_cons hj] at hJ
    obtain ⟨hp, hJ'⟩ := hI _ _ _ hJ
    simp only [List.drop_eq_getElem_cons hj, List.head?_cons, List.tail_cons, hu, hp, bind_ok, pure_eq]
    exact sat_next ⟨rfl, by rw [List.take_succ_eq_append_getElem hj, fe_extend_snoc],
      by rw [List.take_succ_eq_append_getElem hj, fe_extend_snoc]; exact hJ'⟩
  · obtain ⟨it, d, l, w⟩ := s
    obtain ⟨rfl, _, _⟩ := hJ
    simp only [List.drop_length, List.head?_nil, List.tail_nil, pure_eq]
  · obtain ⟨it, d, l, w⟩ := s
    obtain ⟨_, hu, _⟩ := hJ
    rw [List.take_length] at hu
    exact sat_ok hu

/-- `Extend<u64>` on a well-formed vector, for every capacity of the `Vec`: the only hypothesis is that the bit length
of the final content, rounded up to words, is a `usize` -/
theorem int_extend_eq (m : Mode) (cap : Nat) (v : IntVec) (iter : List Word) (hwf : v.WF)
    (hb : (v.len + iter.length) * v.width + 63 < U64) :
    gen_IntVector_extend_u64 m cap v iter = ok (v.extend iter) := by
  apply int_extend_eq_of m cap v iter _
    (fun u xs => u.WF ∧ u.width = v.width ∧ u.len + xs.length = v.len + iter.length) ⟨hwf, rfl, rfl⟩
  · intro u x xs ⟨huwf, huw, hul⟩
    have hle : (u.len + 1) * v.width ≤ (v.len + iter.length) * v.width :=
      Nat.mul_le_mul_right _ (by simp at hul; omega)
    refine ⟨int_push_eq m u x huwf (by rw [huw]; omega), IntVec.push_WF huwf x, huw, ?_⟩
    show u.len + 1 + xs.length = _
    simp at hul; omega
  · right
    rw [hwf.2.2.1, ← Nat.add_mul]; exact hb

/-! ### `From<Vec<u64>>`, `FromIterator<u64>` -/

theorem fe_new64 : IntVec.new 64 = ok ⟨0, 64, RawVec.empty⟩ := by decide

theorem fe_map_ofNat_toNat (l : List Word) : (l.map (·.toNat)).map (BitVec.ofNat 64) = l := by
  rw [List.map_map]
  conv => rhs; rw [← List.map_id l]
  apply List.map_congr_left
  intro x _
  simp

/-- the model's "64-bit vector holding these words" (what the driver builds for `from_vec`) is the extension of the
empty 64-bit vector -/
theorem fe_ofList_words (l : List Word) :
    IntVec.ofList 64 (l.map (·.toNat)) = (⟨0, 64, RawVec.empty⟩ : IntVec).extend l := by
  unfold IntVec.ofList
  rw [fe_map_ofNat_toNat]

/-- `IntVector::from(Vec<u64>)`: `with_capacity(len, 64).unwrap()`, then `extend`.  The bound is the one of
`with_capacity` (`len * 64` and its rounding to words in `usize`), which is also the bound of the pushes. -/
theorem int_from_vec_eq (m : Mode) (cap : Nat) (a : Array Word) (hb : a.size * 64 + 63 < U64) :
    gen_IntVector_from_vec_u64 m cap a = ok (IntVec.ofList 64 (a.toList.map (·.toNat))) := by
  unfold gen_IntVector_from_vec_u64
  rw [int_with_capacity_eq m a.size 64 hb]
  unfold IntVec.withCapacity
  rw [fe_new64, fe_ofList_words]
  have he := int_extend_eq m cap ⟨0, 64, RawVec.empty⟩ a.toList (IntVec.empty_WF 64 (by decide) (by decide))
    (by simpa using hb)
  simp only [unwrapRes, bind_ok, he]
  rfl

/-- the same result in the model's `extend` terms -/
theorem int_from_vec_eq' (m : Mode) (cap : Nat) (a : Array Word) (hb : a.size * 64 + 63 < U64) :
    gen_IntVector_from_vec_u64 m cap a = ok (IntVec.default.extend a.toList) := by
  rw [int_from_vec_eq m cap a hb, fe_ofList_words]; rfl

/-- `IntVector::from_iter` over `u64` items: `new(64).unwrap()`, then `extend` -/
theorem int_from_iter_eq (m : Mode) (cap : Nat) (iter : List Word) (hb : iter.length * 64 + 63 < U64) :
    gen_IntVector_from_iter_u64 m cap iter = ok (IntVec.ofList 64 (iter.map (·.toNat))) := by
  unfold gen_IntVector_from_iter_u64
  rw [int_new_eq, fe_new64, fe_ofList_words]
  have he := int_extend_eq m cap ⟨0, 64, RawVec.empty⟩ iter (IntVec.empty_WF 64 (by decide) (by decide))
    (by simpa using hb)
  simp only [unwrapRes, bind_ok, he]
  rfl

theorem int_from_iter_eq' (m : Mode) (cap : Nat) (iter : List Word) (hb : iter.length * 64 + 63 < U64) :
    gen_IntVector_from_iter_u64 m cap iter = ok (IntVec.default.extend iter) := by
  rw [int_from_iter_eq m cap iter hb, fe_ofList_words]; rfl

theorem int_from_vec_eq_from_iter (m : Mode) (cap cap' : Nat) (a : Array Word) (hb : a.size * 64 + 63 < U64) :
    gen_IntVector_from_vec_u64 m cap a = gen_IntVector_from_iter_u64 m cap' a.toList := by
  rw [int_from_vec_eq m cap a hb, int_from_iter_eq m cap' a.toList (by simpa using hb)]

/-! ### `FromIterator<bool> for BitVector` -/

/-- `BitVector::from_iter` over `bool` items: `with_capacity(lower_bound)`, a `push_bit` per item, `count_ones`.
The bound is the one of `with_capacity` (`bits_to_words(len)`), which covers every `push_bit` and `count_ones`. -/
theorem bv_from_iter_eq (m : Mode) (bits : List Bool) (hb : bits.length + 63 < U64) :
    gen_BitVector_from_iter m bits = ok (BitVector.ofRaw (RawVec.ofBits bits)) := by
  refine sat_eq.1 ?_
  unfold gen_BitVector_from_iter
  simp only [raw_with_capacity_eq m bits.length hb, bind_ok]
  refine for_each_sat (fun pre (d : RawVec) => d = RawVec.ofBits pre) bits _ _
    (fun pre x suf d hsp hd => ?_) (fun d _ => ?_) rfl (fun d hd => ?_)
  · subst hd
    have hlen : pre.length < bits.length := by rw [hsp, List.length_append, List.length_cons]; omega
    have hwf := RawVec.ofBits_WF pre
    have hl := len_ofBits pre
    simp only [hlen, decide_true, if_true, getD_split hsp,
      raw_push_bit_eq m (RawVec.ofBits pre) x (by have := hwf.1; omega) (by omega), bind_ok, pure_eq]
    exact sat_next ⟨rfl, (ofBits_snoc pre x).symm⟩
  · simp only [Nat.lt_irrefl, decide_false, Bool.false_eq_true, if_false]; rfl
  · subst hd
    simp only [raw_count_ones_eq_of_wf m (RawVec.ofBits bits) (RawVec.ofBits_WF bits) (by rw [len_ofBits]; exact hb),
      bind_ok, pure_eq]
    exact sat_ok rfl

/-! ### sharpness -/

/-- `hb` of `int_extend_eq` is sharp with overflow checks: beyond it `reserve(lower_bound)` panics where the total
model returns a value.  Only reachable with a final content of at least `2^64 - 63` bits. -/
theorem int_extend_checked_overflow (cap : Nat) (v : IntVec) (iter : List Word)
    (h : ¬ v.data.len + iter.length * v.width + 63 < U64) :
    gen_IntVector_extend_u64 .checked cap v iter = fault (.panic .overflow) := by
  unfold gen_IntVector_extend_u64
  simp only [show (⟨v.len, v.width, v.data⟩ : IntVec) = v from rfl, int_reserve_checked_overflow cap v _ h, bind_fault]

/-- `hb` of `bv_from_iter_eq` is sharp with overflow checks: `with_capacity(lower_bound)` panics in `bits_to_words` -/
theorem bv_from_iter_checked_overflow (bits : List Bool) (h : ¬ bits.length + 63 < U64) :
    gen_BitVector_from_iter .checked bits = fault (.panic .overflow) := by
  unfold gen_BitVector_from_iter
  simp only [raw_with_capacity_eq', addM, if_neg h, obind_fault, bind_fault]

/-- `hwf` of `int_extend_eq` is needed: on states no constructor produces (width 65; a bit length without its words)
the code indexes out of bounds where the total model returns a value; on some other ill-formed states (a length that
contradicts the buffer, width 0) the two still agree -/
theorem int_extend_ne_wf :
    gen_IntVector_extend_u64 .checked 0 ⟨0, 65, RawVec.empty⟩ [1#64] = fault (.panic .index) ∧
    gen_IntVector_extend_u64 .checked 0 ⟨0, 8, ⟨64, #[]⟩⟩ [1#64] = fault (.panic .index) ∧
    gen_IntVector_extend_u64 .checked 0 ⟨1, 8, RawVec.empty⟩ [1#64]
      = ok ((⟨1, 8, RawVec.empty⟩ : IntVec).extend [1#64]) ∧
    gen_IntVector_extend_u64 .checked 0 ⟨0, 0, RawVec.empty⟩ [1#64]
      = ok ((⟨0, 0, RawVec.empty⟩ : IntVec).extend [1#64]) := by
  decide +kernel

/-- instances, every capacity parameter giving the same result -/
theorem fe_examples :
    gen_IntVector_extend_u64 .checked 0 ⟨0, 5, RawVec.empty⟩ [3#64, 255#64, 17#64]
      = ok ((⟨0, 5, RawVec.empty⟩ : IntVec).extend [3#64, 255#64, 17#64]) ∧
    gen_IntVector_extend_u64 .wrapping 7 ⟨0, 5, RawVec.empty⟩ [3#64, 255#64, 17#64]
      = ok ((⟨0, 5, RawVec.empty⟩ : IntVec).extend [3#64, 255#64, 17#64]) ∧
    gen_IntVector_from_vec_u64 .checked 0 #[1#64, 0xFFFFFFFFFFFFFFFF#64]
      = ok (IntVec.ofList 64 [1, 0xFFFFFFFFFFFFFFFF]) ∧
    gen_IntVector_from_iter_u64 .checked 3 [] = ok (IntVec.ofList 64 []) ∧
    gen_BitVector_from_iter .checked [true, false, true, true]
      = ok (BitVector.ofRaw (RawVec.ofBits [true, false, true, true])) ∧
    gen_BitVector_from_iter .wrapping [] = ok (BitVector.ofRaw RawVec.empty) := by
  decide +kernel

end Sds.GenEq
