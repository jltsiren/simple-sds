/-
Proofs/GenSimp: `gen_simp`, the rewriting that brings a translated function body (Generated/Fns*.lean) and the model
definition it is compared with to one form.

* `>>=` nested to the right, `ok` for `pure`, no `>>= ok`, an `if` pushed through the `>>=` that consumes its value;
* the translation tests `decide c`, the model `c`: conditions become propositions;
* every operator of Model/GenSupport.lean on arguments in range is `ok` of the mathematical value.  The side
  conditions are NOT searched for: a proof states them (`have`) where the reason is worth reading and hands them to
  `simp only [gen_simp, …]` together with the conditions of the branch it is in.  (`omega` as discharger is an order of
  magnitude dearer: it runs at every operator the rewriting passes.)

An equation of a GenEq* file is then: the case split of the code, the bounds, one call per branch.  Equations of callees
are tagged where they are proved, so a caller gets them with the set.

For a long straight-line body the same facts are there as single steps (`addM_bind`, `getC_bind`, …: the operator at
the head of the goal, its continuation applied to the value): `rw [getC_bind hi, shrW_bind m _ ho, addM_bind hs]` walks
the body statement by statement and costs a third of the rewriting per operator.

Beside them, three loop rules in shapes Proofs/GenSupport does not have: `loopM_ind_fuel` (the invariant speaks of the
fuel left), `loopM_ne_fault` (a fault the loop cannot raise), `bind_next` (a body that goes round on every path).
-/
import Sds.Proofs.GenAttr
import Sds.Proofs.GenSupport

namespace Sds.GenEq
open Sds Outcome Generated

theorem bind_ok_id {α : Type} (x : Outcome α) : (x >>= fun a => ok a) = x := by cases x <;> rfl

theorem ite_bind {α β : Type} (c : Prop) [Decidable c] (x y : Outcome α) (f : α → Outcome β) :
    ((if c then x else y) >>= f) = if c then x >>= f else y >>= f := by split <;> rfl

theorem obind_eq {α β : Type} (x : Outcome α) (f : α → Outcome β) : x.bind f = (x >>= f) := rfl

theorem gMod_ok (a : Nat) {b : Nat} (h : b ≠ 0) : gMod a b = ok (a % b) := if_neg h

theorem gAssert_true : gAssert true = ok () := rfl
theorem gAssert_false : gAssert false = fault (.panic .assert) := rfl

theorem mod64_lt (i : Nat) : i % 64 < 64 := Nat.mod_lt i (by decide)

/-! ### one statement at the head of the goal -/

theorem addM_bind {m : Mode} {a b : Nat} (h : a + b < U64) {β : Type} (f : Nat → Outcome β) :
    (addM m a b >>= f) = f (a + b) := bind_of_ok f (addM_ok h)

theorem subM_bind {m : Mode} {a b : Nat} (h : b ≤ a) {β : Type} (f : Nat → Outcome β) :
    (subM m a b >>= f) = f (a - b) := bind_of_ok f (subM_ok h)

theorem mulM_bind {m : Mode} {a b : Nat} (h : a * b < U64) {β : Type} (f : Nat → Outcome β) :
    (mulM m a b >>= f) = f (a * b) := bind_of_ok f (mulM_ok h)

theorem gDiv_bind (a : Nat) {b : Nat} (h : b ≠ 0) {β : Type} (f : Nat → Outcome β) :
    (gDiv a b >>= f) = f (a / b) := bind_of_ok f (gDiv_ok a h)

theorem getC_bind {a : Array Word} {i : Nat} (h : i < a.size) {β : Type} (f : Word → Outcome β) :
    (getC a i >>= f) = f (rd a i) := bind_of_ok f (getC_ok h)

theorem getC_bind_fault {a : Array Word} {i : Nat} (h : ¬ i < a.size) {β : Type} (f : Word → Outcome β) :
    (getC a i >>= f) = fault (.panic .index) := bind_of_fault f (getC_fault h)

theorem shrW_bind (m : Mode) (w : Word) {k : Nat} (h : k < 64) {β : Type} (f : Word → Outcome β) :
    (shrW m w k >>= f) = f (w >>> k) := bind_of_ok f (shrW_ok m w h)

theorem shlW_bind (m : Mode) (w : Word) {k : Nat} (h : k < 64) {β : Type} (f : Word → Outcome β) :
    (shlW m w k >>= f) = f (w <<< k) := bind_of_ok f (shlW_ok m w h)

/-! ### loop rules in further shapes -/

/-- `loopM_ind` for an invariant that speaks of the fuel left (a hypothesis on what the model answers from here) -/
theorem loopM_ind_fuel {σ ρ τ : Type} (step : σ → Outcome (Ctl σ ρ)) (fin : Ctl σ ρ → Outcome τ)
    (M : Nat → σ → Outcome τ) (inv : Nat → σ → Prop)
    (h0 : ∀ s, M 0 s = fault .fuel)
    (hS : ∀ n s, inv (n + 1) s → ∀ R : σ → Outcome τ, (∀ s', inv n s' → R s' = M n s') →
      (step s >>= fun c => match c with | .next s' => R s' | r => fin r) = M (n + 1) s) :
    ∀ n s, inv n s → (loopM n step s >>= fin) = M n s := by
  intro n
  induction n with
  | zero => intro s _; rw [h0]; rfl
  | succ n ih =>
    intro s hs
    rw [← hS n s hs (fun s' => loopM n step s' >>= fin) ih, loopM_succ]
    cases step s with
    | fault e => rfl
    | ok c => cases c <;> rfl

/-- a fault that neither the body nor the rest of the function can raise is not raised by the loop -/
theorem loopM_ne_fault {σ ρ τ : Type} (step : σ → Outcome (Ctl σ ρ)) (fin : Ctl σ ρ → Outcome τ) {e : Fault}
    (he : e ≠ .fuel) (hstep : ∀ s, step s ≠ fault e) (hfin : ∀ c, fin c ≠ fault e) :
    ∀ n s, (loopM n step s >>= fin) ≠ fault e := by
  intro n
  induction n with
  | zero => intro s h; cases h; exact he rfl
  | succ n ih =>
    intro s
    rw [loopM_succ]
    cases hs : step s with
    | fault e' => intro h; cases h; exact hstep s hs
    | ok c =>
      cases c with
      | next s' => exact ih s'
      | brk s' => exact hfin _
      | ret r => exact hfin _

/-- a loop body that ends in `next` on every path: what follows the loop plays no part in this round -/
theorem bind_next {σ ρ τ : Type} (x : Outcome σ) (R : σ → Outcome τ) (fin : Ctl σ ρ → Outcome τ) :
    ((x >>= fun s => pure (Ctl.next s)) >>= fun c => match c with | .next s' => R s' | r => fin r) = (x >>= R) := by
  cases x <;> rfl

/-! ### the set -/

attribute [gen_simp] bind_ok bind_fault pure_eq map_ok map_fault bind_assoc bind_ok_id obind_eq

attribute [gen_simp] decide_eq_true_eq decide_eq_false_iff_not Bool.not_eq_true' Bool.decide_eq_true decide_true
  decide_false decide_not Bool.false_eq_true Bool.true_eq_false Bool.not_true Bool.not_false if_true if_false ite_true
  ite_false not_false_eq_true not_true_eq_false ne_eq Bool.or_eq_true Bool.and_eq_true

attribute [gen_simp] addM_ok subM_ok mulM_ok gDiv_ok gMod_ok shlW_ok shrW_ok shlU_ok shrU_ok addW_ok subW_ok
  getC_ok getW_ok getC_fault getW_fault gAssert_true gAssert_false and_7 and_63 and_511

end Sds.GenEq
