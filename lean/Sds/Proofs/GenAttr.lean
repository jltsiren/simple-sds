/-
Proofs/GenAttr: the simp set `gen_simp` (declared in a module of its own, as an attribute has to be before it is used).
What it holds, and how the equations of the GenEq* files use it, is said in Proofs/GenSimp.lean.
-/
import Lean.Meta.Tactic.Simp.RegisterCommand

register_simp_attr gen_simp
