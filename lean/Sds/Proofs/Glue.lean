/-
Proofs/Glue: the few small connecting lemmas the property files need and
that no proof file states in exactly this form.  Nothing here is a property theorem.
-/
import Sds.Proofs.Rank
import Sds.Proofs.Select
import Sds.Proofs.Iter
import Sds.Proofs.RawVec
import Sds.Model.Mapper

namespace Sds.Glue
open Sds Outcome

/-! ### counting unset bits -/

theorem count_true_map_not (l : List Bool) : (l.map not).count true = l.count false := by
  induction l with
  | nil => rfl
  | cons a t ih => cases a <;> simp [ih]

theorem count_false_eq (l : List Bool) : l.count false = l.length - l.count true := by
  rw [← count_true_map_not, Sds.count_true_map_not]

/-! ### `copy_bit_vec`: `with_len(len, false)` then `set_bit(i, true)` for every one -/

theorem mem_onesPos (B : List Bool) (j : Nat) : j ∈ onesPos B ↔ B[j]? = some true := by
  constructor
  · intro h
    obtain ⟨r, hr⟩ := List.getElem?_of_mem h
    rw [← selectSpec_eq_onesPos] at hr
    exact ((selectBits_spec B r j).mp hr).2.1
  · intro h
    have hj : j < B.length := by
      rcases Nat.lt_or_ge j B.length with h' | h'
      · exact h'
      · rw [List.getElem?_eq_none h'] at h; cases h
    have : selectBits B ((B.take j).count true) = some j := (selectBits_spec B _ j).mpr ⟨hj, h, rfl⟩
    have h2 : (onesPos B)[(B.take j).count true]? = some j := by
      rw [← selectSpec_eq_onesPos]; exact this
    exact List.mem_of_getElem? h2

theorem _root_.Sds.onesPos_lt (B : List Bool) (x : Nat) (h : x ∈ onesPos B) : x < B.length := by
  have := (mem_onesPos B x).mp h
  rcases Nat.lt_or_ge x B.length with h' | h'
  · exact h'
  · rw [List.getElem?_eq_none h'] at this; cases this

theorem _root_.Sds.contains_onesPos (B : List Bool) (i : Nat) (hi : i < B.length) : (onesPos B).contains i = B[i] := by
  have h := mem_onesPos B i
  rw [List.getElem?_eq_getElem hi, Option.some.injEq] at h
  cases hb : B[i] <;> simp [hb] at h <;> simp [h]

theorem _root_.Sds.bitsOfSet_onesPos (B : List Bool) : bitsOfSet (onesPos B) B.length = B := by
  apply List.ext_getElem (by simp [bitsOfSet])
  intro i h1 h2
  simp only [bitsOfSet, List.getElem_map, List.getElem_range]
  exact contains_onesPos B i h2

theorem foldl_setBit (L : List Nat) : ∀ (v : RawVec), v.WF → (∀ i ∈ L, i < v.len) →
    (L.foldl (fun v i => v.setBit i true) v).WF ∧ (L.foldl (fun v i => v.setBit i true) v).len = v.len ∧
    ∀ j, getBit (L.foldl (fun v i => v.setBit i true) v).data j = (getBit v.data j || decide (j ∈ L)) := by
  induction L with
  | nil => intro v hv _; exact ⟨hv, rfl, fun j => by simp⟩
  | cons a t ih =>
    intro v hv hL
    have ha : a < v.len := hL a (List.mem_cons_self ..)
    have hv1 := RawVec.setBit_WF hv a ha true
    have hl1 : (v.setBit a true).len = v.len := RawVec.len_setBit v a true
    obtain ⟨h1, h2, h3⟩ := ih (v.setBit a true) hv1 (fun i hi => by
      rw [hl1]; exact hL i (List.mem_cons_of_mem _ hi))
    refine ⟨h1, by rw [List.foldl_cons, h2, hl1], ?_⟩
    intro j
    rw [List.foldl_cons, h3 j, RawVec.getBit_setBit hv a ha true j]
    by_cases hja : j = a
    · subst hja; simp
    · simp [hja]

/-- `copy_bit_vec` for an arbitrary list of positions below `n` (in any order, repetitions allowed): the vector
made by `with_len(n, false)` and one `set_bit` per position is well formed and holds the membership bits -/
theorem _root_.Sds.copyPositions_spec (n : Nat) (P : List Nat) (hP : ∀ p ∈ P, p < n) :
    (P.foldl (fun v i => v.setBit i true) (RawVec.withLen n false)).WF ∧
    (P.foldl (fun v i => v.setBit i true) (RawVec.withLen n false)).bits = bitsOfSet P n := by
  have hlen0 : (RawVec.withLen n false).len = n := RawVec.len_withLen _ _
  have hwf0 := RawVec.withLen_WF n false
  obtain ⟨h1, h2, h3⟩ := foldl_setBit P _ hwf0 (fun i hi => by rw [hlen0]; exact hP i hi)
  refine ⟨h1, ?_⟩
  rw [RawVec.bits_eq_iff]
  refine ⟨by rw [h2, hlen0]; simp [bitsOfSet], ?_⟩
  intro i hi
  rw [h2, hlen0] at hi
  rw [h3 i]
  have h0 : getBit (RawVec.withLen n false).data i = false := by
    have hb := RawVec.bits_withLen n false
    have hg := RawVec.bits_getElem? (RawVec.withLen n false) i
    rw [hb, hlen0, if_pos hi] at hg
    rw [List.getElem?_replicate, if_pos hi] at hg
    exact (Option.some.inj hg).symm
  rw [h0, Bool.false_or]
  simp [bitsOfSet, hi]

/-- `copy_bit_vec`: the vector made by `with_len(|B|, false)` and one `set_bit` per set position is well formed
and holds exactly `B` -/
theorem copyBits_spec (B : List Bool) :
    ((onesPos B).foldl (fun v i => v.setBit i true) (RawVec.withLen B.length false)).WF ∧
    ((onesPos B).foldl (fun v i => v.setBit i true) (RawVec.withLen B.length false)).bits = B := by
  have := copyPositions_spec B.length (onesPos B) (onesPos_lt B)
  rwa [bitsOfSet_onesPos] at this

/-! ### `oob` is not among the faults of mode-checked arithmetic, checked file reads and their sequencing -/

theorem addM_not_oob (m : Mode) (a b : Nat) : addM m a b ≠ fault .oob := by
  unfold addM; split
  · intro h; cases h
  · cases m <;> (intro h; cases h)

theorem subM_not_oob (m : Mode) (a b : Nat) : subM m a b ≠ fault .oob := by
  unfold subM; split
  · intro h; cases h
  · cases m <;> (intro h; cases h)

theorem mulM_not_oob (m : Mode) (a b : Nat) : mulM m a b ≠ fault .oob := by
  unfold mulM; split
  · intro h; cases h
  · cases m <;> (intro h; cases h)

theorem fileAt_not_oob (file : Array Word) (i : Nat) : fileAt file i ≠ fault .oob := by
  unfold fileAt; split <;> (intro h; cases h)

theorem bind_not_oob {α β} {x : Outcome α} {f : α → Outcome β} (hx : x ≠ fault .oob)
    (hf : ∀ a, f a ≠ fault .oob) : (x >>= f) ≠ fault .oob := by
  cases x with
  | ok a => exact hf a
  | fault e =>
    intro h
    rw [bind_fault] at h
    cases h
    exact hx rfl

theorem ok_not_oob {α} (a : α) : (ok a : Outcome α) ≠ fault .oob := by intro h; cases h
theorem err_not_oob {α} (k : ErrKind) : (fault (.err k) : Outcome α) ≠ fault .oob := by intro h; cases h

theorem bytesToWords_not_oob (m : Mode) (n : Nat) : bytesToWords m n ≠ fault .oob :=
  bind_not_oob (addM_not_oob m n 7) (fun _ => ok_not_oob _)

end Sds.Glue
