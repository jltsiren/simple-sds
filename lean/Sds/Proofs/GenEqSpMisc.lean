/-
Proofs/GenEqSpMisc: `SparseBuilder::{set, extend}`, `SparseVector::{is_multiset, try_from_iter}` of sparse_vector.rs, as
TRANSLATED from the source (Generated/FnsSpMisc.lean, FnsSpMisc2.lean), are equal to the hand-written model.

* `spb_set_eq'`: `set` is `try_set(..).unwrap()` (`unwrapRes`; no hypothesis); `spb_set_eq` against the model's
  `trySet` under the hypotheses of `spb_try_set_eq`; `spb_set_eq_of_inv` on a
  reachable builder (`SbInv` + representation bounds, no condition on the index).
* `spb_extend_eq'`: `extend` is the `foldlM` of `set` over the items (no hypothesis);
  `spb_extend_eq` against the model's `trySet` under `SbBounds b` (`SbInv b`,
  `univ + increment ≤ 2^64`, `low.len * width < 2^64`, `high.len < 2^64`; preserved by `try_set`: `SbBounds.trySet`);
  `spb_extend_eq_of`: any invariant under which the `set` equation holds.  Sharp: `spb_extend_ne` (unreachable state).
* `sp_is_multiset_eq` (no hypothesis) against `isMultisetList`, which `isMultisetList_iff` characterises: the first
  item is `len`, or two consecutive items are equal.
* `sp_try_from_iter_eq`: the code is `Sparse.ofValues` in multiset mode on `vals`, width `spWidth fw U vals.length`,
  universe `U = tfiUniv vals` (last item + 1, 0 for no items), under
  `1 ≤ fw ≤ 64`, `U < 2^64` (`pos + 1` in `usize`), and the two bounds of `spb_multiset_eq` (length of `high` and bit
  length of `low`).  The code sets all items but the last, then `universe - 1`: the same sequence as `vals`.  The
  `try_set` hypotheses at every step and the bound of `try_from` follow from the invariant of the constructed builder.
  Sharp: `sp_try_from_iter_ne_univ`, `sp_try_from_iter_ne_width0`; neither is a divergence of the real code.
-/
import Sds.Generated.FnsSpMisc
import Sds.Generated.FnsSpMisc2
import Sds.Proofs.GenEqConstr3
import Sds.Proofs.GenEqLoop4
import Sds.Proofs.Builders

namespace Sds.GenEq
open Sds Outcome Generated

/-! ### `SparseBuilder::set` -/

private theorem spb_eta (b : SparseBuilder) :
    (⟨b.univ, b.low, b.high, b.len, b.next, b.increment⟩ : SparseBuilder) = b := by cases b; rfl

/-- `set` is `try_set(index).unwrap()` (no hypothesis) -/
theorem spb_set_eq' (m : Mode) (b : SparseBuilder) (index : Nat) :
    gen_SparseBuilder_set m b index = unwrapRes (gen_SparseBuilder_try_set m b index) := by
  unfold gen_SparseBuilder_set
  simp only [spb_eta, Bind.bind, Pure.pure]
  cases unwrapRes (gen_SparseBuilder_try_set m b index) with
  | fault f => rfl
  | ok b' => cases b'; rfl

/-- `set` against the model, under the hypotheses of `spb_try_set_eq` -/
theorem spb_set_eq (m : Mode) (b : SparseBuilder) (index : Nat)
    (hwf : b.low.WF) (hb : b.low.len * b.low.width < U64)
    (hh : index >>> b.low.width + b.len < U64) (hu : b.univ + b.increment ≤ U64)
    (hord : b.len ≤ b.low.len ∨ (index >>> b.low.width + b.len) / 64 < b.high.data.size) :
    gen_SparseBuilder_set m b index = unwrapRes (b.trySet index) := by
  rw [spb_set_eq', spb_try_set_eq m b index hwf hb hh hu hord]

/-- `set` on reachable builder states: no condition on the index -/
theorem spb_set_eq_of_inv (m : Mode) (b : SparseBuilder) (index : Nat) (h : BuildersProofs.SbInv b)
    (hu : b.univ + b.increment ≤ U64) (hb : b.low.len * b.low.width < U64) (hhl : b.high.len < U64) :
    gen_SparseBuilder_set m b index = unwrapRes (b.trySet index) := by
  rw [spb_set_eq', spb_try_set_eq_of_inv m b index h hu hb hhl]

/-! ### `SparseBuilder::extend` -/

/-- the representation bounds of a reachable builder: everything `try_set` / `set` need, preserved by both -/
structure SbBounds (b : SparseBuilder) : Prop where
  inv : BuildersProofs.SbInv b
  univ_ok : b.univ + b.increment ≤ U64
  low_ok : b.low.len * b.low.width < U64
  high_ok : b.high.len < U64

theorem SbBounds.trySet {b b' : SparseBuilder} {i : Nat} (h : SbBounds b) (hs : b.trySet i = ok b') :
    SbBounds b' := by
  rcases BuildersProofs.trySet_cases h.inv i with ⟨hr, _⟩ | ⟨b2, hb2, _, _, _, hc, hu, hi, hw, hinv⟩
  · rw [hr] at hs; cases hs
  · rw [hb2] at hs; cases hs
    have h1 := h.univ_ok
    have h2 := h.low_ok
    have h3 := h.high_ok
    have h4 := h.inv.high_len
    have h5 := hinv.high_len
    simp only [SparseBuilder.capacity] at hc h4 h5
    refine ⟨hinv, by rw [hu, hi]; exact h1, by rw [hc, hw]; exact h2, ?_⟩
    rw [h5, hc, hu, hw, ← h4]; exact h3

theorem unwrapRes_ok {α : Type} {x : Outcome α} {a : α} (h : unwrapRes x = ok a) : x = ok a := by
  cases x with
  | ok a' => exact h
  | fault f => cases f <;> cases h

theorem SbBounds.set {b b' : SparseBuilder} {i : Nat} (h : SbBounds b) (hs : unwrapRes (b.trySet i) = ok b') :
    SbBounds b' := h.trySet (unwrapRes_ok hs)

/-- the loop state of `extend`: the fields of `self` in the order of the translation -/
private def ofB (b : SparseBuilder) : RawVec × Nat × Nat × IntVec × Nat × Nat :=
  (b.high, b.increment, b.len, b.low, b.next, b.univ)

/-- `extend` is `set` on every item in order (no hypothesis) -/
theorem spb_extend_eq' (m : Mode) (b : SparseBuilder) (iter : List Nat) :
    gen_SparseBuilder_extend m b iter = iter.foldlM (fun b i => gen_SparseBuilder_set m b i) b := by
  unfold gen_SparseBuilder_extend
  simp only [Bind.bind]
  rw [for_loop_range (ρ := SparseBuilder) iter.length
      (fun (s : RawVec × Nat × Nat × IntVec × Nat × Nat) i =>
        (gen_SparseBuilder_set m ⟨s.2.2.2.2.2, s.2.2.2.1, s.1, s.2.2.1, s.2.2.2.2.1, s.2.1⟩ (iter.getD i 0)).bind
          (fun b' => ok (ofB b'))) _
      (fun i s hi => by
        obtain ⟨a1, a2, a3, a4, a5, a6⟩ := s
        simp only [hi, decide_true, if_true, Outcome.bind, Pure.pure]
        cases gen_SparseBuilder_set m ⟨a6, a4, a1, a3, a5, a2⟩ (iter.getD i 0) <;> rfl)
      (fun i s hi => by
        obtain ⟨a1, a2, a3, a4, a5, a6⟩ := s
        simp only [hi, decide_false, Bool.false_eq_true, if_false]; rfl)]
  rw [foldlM_range_getD iter 0
    (fun (s : RawVec × Nat × Nat × IntVec × Nat × Nat) x =>
        (gen_SparseBuilder_set m ⟨s.2.2.2.2.2, s.2.2.2.1, s.1, s.2.2.1, s.2.2.2.2.1, s.2.1⟩ x).bind
          (fun b' => ok (ofB b')))]
  have := foldlM_transport (fun _ => True) ofB
    (fun (s : RawVec × Nat × Nat × IntVec × Nat × Nat) x =>
        (gen_SparseBuilder_set m ⟨s.2.2.2.2.2, s.2.2.2.1, s.1, s.2.2.1, s.2.2.2.2.1, s.2.1⟩ x).bind
          (fun b' => ok (ofB b')))
    (fun b i => gen_SparseBuilder_set m b i)
    (fun b x _ => by simp only [ofB, spb_eta]) (fun _ _ _ _ _ => trivial) iter b trivial
  show Outcome.bind (Outcome.bind (List.foldlM _ (ofB b) iter) _) _ = _
  rw [this]
  cases List.foldlM (fun b i => gen_SparseBuilder_set m b i) b iter with
  | fault f => rfl
  | ok b' => cases b'; rfl

/-- `extend` against the model on a reachable builder: `try_set(..).unwrap()` on every item in order; the first
rejected item is the panic of both sides -/
theorem spb_extend_eq (m : Mode) (b : SparseBuilder) (iter : List Nat) (h : SbBounds b) :
    gen_SparseBuilder_extend m b iter = iter.foldlM (fun b i => unwrapRes (b.trySet i)) b := by
  rw [spb_extend_eq']
  have := foldlM_transport SbBounds id (fun b i => gen_SparseBuilder_set m b i)
    (fun b i => unwrapRes (b.trySet i))
    (fun b x hb => by
      rw [id, spb_set_eq_of_inv m b x hb.inv hb.univ_ok hb.low_ok hb.high_ok]
      cases unwrapRes (b.trySet x) <;> rfl)
    (fun b x b' hb hs => hb.set hs) iter b h
  simp only [id] at this
  rw [this]
  cases List.foldlM (fun b i => unwrapRes (b.trySet i)) b iter <;> rfl

/-- `extend` under any invariant that gives the `set` equation and is preserved by an accepted `set` -/
theorem spb_extend_eq_of (m : Mode) (P : SparseBuilder → Prop) (b : SparseBuilder) (iter : List Nat)
    (h : ∀ b i, P b → gen_SparseBuilder_set m b i = unwrapRes (b.trySet i))
    (hp : ∀ b i b', P b → b.trySet i = ok b' → P b') (hb : P b) :
    gen_SparseBuilder_extend m b iter = iter.foldlM (fun b i => unwrapRes (b.trySet i)) b := by
  rw [spb_extend_eq']
  have := foldlM_transport P id (fun b i => gen_SparseBuilder_set m b i)
    (fun b i => unwrapRes (b.trySet i))
    (fun b x hb => by
      rw [id, h b x hb]
      cases unwrapRes (b.trySet x) <;> rfl)
    (fun b x b' hb hs => hp b x b' hb (unwrapRes_ok hs)) iter b hb
  simp only [id] at this
  rw [this]
  cases List.foldlM (fun b i => unwrapRes (b.trySet i)) b iter <;> rfl

/-! ### `SparseVector::is_multiset` -/

/-- `prev` threaded through the positions: some position equals its predecessor (`n` before the first) -/
def isMultisetList : Nat → List Nat → Bool
  | _, [] => false
  | prev, v :: t => if v = prev then true else isMultisetList v t

/-- `is_multiset`: the one-iterator is the list `items` of its (rank, position) pairs; no hypothesis -/
theorem sp_is_multiset_eq (m : Mode) (items : List (Nat × Nat)) (s : Sparse) :
    gen_SparseVector_is_multiset m items s = ok (isMultisetList s.len (items.map (·.2))) := by
  refine sat_eq.1 ?_
  unfold gen_SparseVector_is_multiset
  -- before item `j` with `prev`: the answer is that of the remaining items from `prev`
  refine loop_sat (fun j (p : Nat × Nat) => p.1 = j ∧
      isMultisetList s.len (items.map (·.2)) = isMultisetList p.2 ((items.drop j).map (·.2)))
    (fun c => match c with
      | .ret r => r = isMultisetList s.len (items.map (·.2))
      | .brk _ => isMultisetList s.len (items.map (·.2)) = false
      | .next _ => False)
    items.length _ _ (Nat.lt_succ_self _) (fun j p hj hI => ?_) ⟨rfl, rfl⟩ (fun c hc => ?_)
  · obtain ⟨i, prev⟩ := p
    obtain ⟨rfl, hI⟩ := hI
    by_cases hi : i < items.length
    · have hd : items.drop i = items.getD i (0, 0) :: items.drop (i + 1) := by
        rw [List.drop_eq_getElem_cons hi]; simp [hi]
      rw [hd, List.map_cons, isMultisetList] at hI
      simp only [hi, decide_true, if_true]
      by_cases hv : (items.getD i (0, 0)).2 = prev
      · simp only [hv, decide_true, if_true, pure_eq]
        rw [if_pos hv] at hI
        exact sat_ok hI.symm
      · simp only [hv, decide_false, Bool.false_eq_true, if_false, pure_eq]
        rw [if_neg hv] at hI
        exact sat_ok ⟨trivial, rfl, hI⟩
    · simp only [hi, decide_false, Bool.false_eq_true, if_false, pure_eq]
      rw [List.drop_of_length_le (by omega)] at hI
      exact sat_ok hI
  · cases c with
    | ret r => exact sat_ok hc
    | next s' => exact hc.elim
    | brk s' => exact sat_ok hc.symm

/-- the characterisation: the first position is `n`, or two adjacent positions are equal -/
theorem isMultisetList_iff (n : Nat) (l : List Nat) :
    isMultisetList n l = true ↔ (l.head? = some n ∨ ∃ i, l[i]? = l[i + 1]? ∧ i + 1 < l.length) := by
  induction l generalizing n with
  | nil => simp [isMultisetList]
  | cons v t ih =>
    unfold isMultisetList
    constructor
    · intro h
      by_cases hv : v = n
      · exact Or.inl (by simp [hv])
      · rw [if_neg hv] at h
        rcases (ih v).mp h with h0 | ⟨i, hi, hl⟩
        · refine Or.inr ⟨0, ?_, ?_⟩
          · cases t with
            | nil => cases h0
            | cons a t' => simpa using h0.symm
          · cases t with
            | nil => cases h0
            | cons a t' => simp
        · exact Or.inr ⟨i + 1, by simpa using hi, by simp; omega⟩
    · intro h
      by_cases hv : v = n
      · rw [if_pos hv]
      · rw [if_neg hv]
        rcases h with h | ⟨i, hi, hl⟩
        · exact absurd (by simpa using h) hv
        · cases i with
          | zero =>
            refine (ih v).mpr (Or.inl ?_)
            cases t with
            | nil => simp at hl
            | cons a t' => simpa using hi.symm
          | succ i =>
            exact (ih v).mpr (Or.inr ⟨i, by simpa using hi, by simp at hl; omega⟩)

/-! ### `SparseVector::try_from_iter` -/

/-- the universe `try_from_iter` chooses: one past the last item (0 for no items) -/
def tfiUniv (vals : List Nat) : Nat := match vals.getLast? with | some p => p + 1 | none => 0

private theorem obind_ok_misc {α β : Type} (a : α) (f : α → Outcome β) : (ok a).bind f = f a := rfl
private theorem obind_fault' {α β : Type} (e : Fault) (f : α → Outcome β) :
    (fault e : Outcome α).bind f = fault e := rfl

theorem tfiUniv_nil : tfiUniv [] = 0 := rfl

theorem tfiUniv_ne_nil {vals : List Nat} (h : vals ≠ []) : tfiUniv vals = vals.getLast h + 1 := by
  unfold tfiUniv; rw [List.getLast?_eq_some_getLast h]

/-- `try_set` does not change the length of `high` -/
theorem SbBounds.trySet_high_len {b b' : SparseBuilder} {i : Nat} (h : SbBounds b) (hs : b.trySet i = ok b') :
    b'.high.len = b.high.len := by
  rcases BuildersProofs.trySet_cases h.inv i with ⟨hr, _⟩ | ⟨b2, hb2, _, _, _, hc, hu, hi, hw, hinv⟩
  · rw [hr] at hs; cases hs
  · rw [hb2] at hs; cases hs
    have h4 := h.inv.high_len
    have h5 := hinv.high_len
    simp only [SparseBuilder.capacity] at hc h4 h5
    rw [h5, hc, hu, hw, ← h4]

/-- the invariant of the builder of `try_from_iter`: reachable, and `bits_to_words(high.len())` does not overflow -/
private def TfiInv (b : SparseBuilder) : Prop := SbBounds b ∧ b.high.len + 63 < U64

private theorem TfiInv.trySet {b b' : SparseBuilder} {i : Nat} (h : TfiInv b) (hs : b.trySet i = ok b') :
    TfiInv b' := ⟨h.1.trySet hs, by rw [h.1.trySet_high_len hs]; exact h.2⟩

private theorem TfiInv.high_words {b : SparseBuilder} (h : TfiInv b) : 64 * b.high.data.size < U64 := by
  have h1 := h.1.inv.high_wf.1
  have h2 := h.2
  omega

/-- the builder `try_from_iter` starts from: `multiset` succeeds, and its result has the invariant -/
private theorem tfi_init {w U n : Nat} (hw1 : 1 ≤ w) (hw2 : w ≤ 64) (hu : U < U64)
    (hh : n + Sparse.getBuckets U w + 63 < U64) (hl : n * w + 63 < U64) :
    ∃ b0, SparseBuilder.multiset w U n = ok b0 ∧ TfiInv b0 := by
  obtain ⟨b0, hb0, hinv, hcap, hun, hwd, _, _, hinc⟩ := BuildersProofs.multiset_ok w U n hw1 hw2 (Or.inr hu)
  have hhl := hinv.high_len
  simp only [SparseBuilder.capacity] at hcap hhl
  rw [hcap, hun, hwd] at hhl
  exact ⟨b0, hb0, ⟨hinv, by rw [hun, hinc]; exact Nat.le_of_lt hu,
    by rw [hcap, hwd]; exact Nat.lt_of_le_of_lt (Nat.le_add_right _ _) hl,
    hhl ▸ Nat.lt_of_le_of_lt (Nat.le_add_right _ 63) hh⟩, hhl ▸ hh⟩

/-- The builder made by `multiset` satisfies `TfiInv`, which every accepted `try_set` preserves, so the `try_set`
equation applies at each step; `vals = dropLast ++ [getLast]` and `universe - 1 = getLast` turn the code's loop plus
final `try_set` into the model's single fold over `vals`. -/
theorem sp_try_from_iter_eq (m : Mode) (fw : Nat) (vals : List Nat) (hfw1 : 1 ≤ fw) (hfw2 : fw ≤ 64)
    (hu : tfiUniv vals < U64)
    (hh : vals.length + Sparse.getBuckets (tfiUniv vals) (spWidth fw (tfiUniv vals) vals.length) + 63 < U64)
    (hl : vals.length * spWidth fw (tfiUniv vals) vals.length + 63 < U64) :
    gen_SparseVector_try_from_iter m fw vals =
      Sparse.ofValues (spWidth fw (tfiUniv vals) vals.length) (tfiUniv vals) true vals := by
  unfold gen_SparseVector_try_from_iter
  simp only [Bind.bind, Pure.pure]
  refine Eq.trans (congrArg (fun x => Outcome.bind x _) (?_ : _ = ok (tfiUniv vals))) ?_
  · have hu' := hu
    unfold tfiUniv at hu' ⊢
    revert hu'
    cases vals.getLast? with
    | none => intro _; rfl
    | some p => intro hu'; exact addM_ok hu'
  simp only [obind_ok_misc]
  generalize hU : tfiUniv vals = U at *
  generalize hw : spWidth fw U vals.length = w at *
  have hw1 : 1 ≤ w := hw ▸ spWidth_pos hfw1
  have hw2 : w ≤ 64 := hw ▸ spWidth_le hfw2
  obtain ⟨b0, hb0, hB0⟩ := tfi_init hw1 hw2 hu hh hl
  rw [spb_multiset_eq m fw U vals.length hfw1 hfw2 hu (by rw [hw]; exact hh) (by rw [hw]; exact hl), hw, hb0]
  simp only [obind_ok_misc]
  rw [for_loop_range (ρ := Sparse) vals.dropLast.length
      (fun (s : SparseBuilderR) i => spbrLift (fun b => gen_SparseBuilder_try_set m b (vals.dropLast.getD i 0)) s) _
      (fun i s hi => by simp only [hi, decide_true, if_true])
      (fun i s hi => by simp only [hi, decide_false, Bool.false_eq_true, if_false])]
  rw [foldlM_range_getD vals.dropLast 0
      (fun (s : SparseBuilderR) x => spbrLift (fun b => gen_SparseBuilder_try_set m b x) s)]
  rw [foldlM_transport TfiInv spbR
      (fun (s : SparseBuilderR) x => spbrLift (fun b => gen_SparseBuilder_try_set m b x) s)
      (fun b x => b.trySet x)
      (fun b x hb => by
        simp only [spbrLift_spbR, spb_try_set_eq_of_inv m b x hb.1.inv hb.1.univ_ok hb.1.low_ok hb.1.high_ok])
      (fun b x b' hb hs => hb.trySet hs) vals.dropLast b0 hB0]
  unfold Sparse.ofValues
  simp only [if_true, hb0, Bind.bind, obind_ok_misc]
  cases hf : List.foldlM (fun b x => b.trySet x) b0 vals.dropLast with
  | fault f =>
    simp only [obind_fault']
    by_cases hv : vals = []
    · subst hv; cases hf
    · rw [← List.dropLast_concat_getLast hv, foldlM_append_outcome, hf]; rfl
  | ok b1 =>
    have hB1 : TfiInv b1 := foldlM_inv TfiInv (fun b x => b.trySet x) (fun b x b' hb hs => hb.trySet hs)
      vals.dropLast b0 b1 hB0 hf
    simp only [obind_ok_misc]
    by_cases hv : vals = []
    · subst hv
      cases hf
      rw [tfiUniv_nil] at hU
      subst hU
      simp only [Nat.lt_irrefl, gt_iff_lt, decide_false, Bool.false_eq_true, if_false, obind_ok_misc,
        List.foldlM_nil, Pure.pure]
      exact sparse_try_from_eq m (spbR b0) hB0.high_words
    · have hU' := tfiUniv_ne_nil hv
      rw [hU] at hU'
      have hpos : U > 0 := hU' ▸ Nat.succ_pos _
      have hsub : subM m U 1 = ok (vals.getLast hv) := by
        rw [hU', subM_ok (Nat.le_add_left _ _), Nat.add_sub_cancel]
      conv => rhs; rw [← List.dropLast_concat_getLast hv, foldlM_append_outcome, hf]
      simp only [hpos, decide_true, if_true, hsub, obind_ok_misc, spbrLift_spbR,
        spb_try_set_eq_of_inv m b1 _ hB1.1.inv hB1.1.univ_ok hB1.1.low_ok hB1.1.high_ok]
      show _ = ((b1.trySet (vals.getLast hv)).bind fun b' => ok b').bind fun b => b.build
      cases ht : b1.trySet (vals.getLast hv) with
      | fault f => rfl
      | ok b2 =>
        simp only [obind_ok_misc]
        exact sparse_try_from_eq m (spbR b2) (hB1.trySet ht).high_words

/-! ### sharpness and examples -/

/-- `SbInv` (reachability) is needed for `spb_set_eq_of_inv` / `spb_extend_eq`: on an unreachable state
(`len > capacity`, `high` too short) `try_set` is not rejected and `set_unchecked` panics with different kinds (the code
writes the high bit first: word index; the model checks the low index first: assertion of `IntVector::set`).  Not a
divergence on builders made by the constructors. -/
theorem spb_extend_ne :
    let b : SparseBuilder := ⟨10, ⟨0, 1, RawVec.empty⟩, ⟨0, #[]⟩, 1, 0, 1⟩
    gen_SparseBuilder_extend .checked b [0] = fault (.panic .index) ∧
    gen_SparseBuilder_set .checked b 0 = fault (.panic .index) ∧
    [0].foldlM (fun b i => unwrapRes (b.trySet i)) b = fault (.panic .assert) := by
  decide +kernel

/-- `hu` of `sp_try_from_iter_eq`: with the last item `usize::MAX` the code computes `pos + 1` in `usize` (a panic with
overflow checks; universe 0 and then `Err` without), while the universe `2^64` of the model's right-hand side is not a
`usize`.  A boundary of the arithmetic, not a divergence: no `SparseVector` has universe `2^64`. -/
theorem sp_try_from_iter_ne_univ :
    gen_SparseVector_try_from_iter .checked 64 [U64 - 1] = fault (.panic .overflow) ∧
    gen_SparseVector_try_from_iter .wrapping 64 [U64 - 1] = fault (.err .other) ∧
    (Sparse.ofValues (spWidth 64 (tfiUniv [U64 - 1]) 1) (tfiUniv [U64 - 1]) true [U64 - 1]).isOk = true := by
  decide +kernel

/-- `hfw1`: as for `multiset`, the non-width `fw = 0` is a panic of the code (`with_len(..).unwrap()`) and an `Err` of
the model's constructor; the real `fw` is at least 1 -/
theorem sp_try_from_iter_ne_width0 :
    gen_SparseVector_try_from_iter .checked 0 [1, 3] = fault (.panic .unwrap) ∧
    Sparse.ofValues (spWidth 0 (tfiUniv [1, 3]) 2) (tfiUniv [1, 3]) true [1, 3] = fault (.err .other) := by
  decide +kernel

/-- the theorems are not vacuous: a multiset built from sorted items, no items, unsorted items (`Err` on both sides),
`extend` accepting and panicking, `is_multiset` on the pairs of a set and of a multiset -/
theorem sp_misc_examples :
    gen_SparseVector_try_from_iter .checked 2 [1, 3, 3, 7] = Sparse.ofValues 2 8 true [1, 3, 3, 7] ∧
    (Sparse.ofValues 2 8 true [1, 3, 3, 7]).isOk = true ∧
    gen_SparseVector_try_from_iter .checked 2 [] = Sparse.ofValues 1 0 true [] ∧
    (Sparse.ofValues 1 0 true []).isOk = true ∧
    gen_SparseVector_try_from_iter .checked 2 [3, 1, 7] = fault (.err .other) ∧
    Sparse.ofValues 2 8 true [3, 1, 7] = fault (.err .other) ∧
    (SparseBuilder.new 2 10 3).bind (fun b => gen_SparseBuilder_extend .checked b [1, 4, 9]) =
      (SparseBuilder.new 2 10 3).bind (fun b => [1, 4, 9].foldlM (fun b i => unwrapRes (b.trySet i)) b) ∧
    ((SparseBuilder.new 2 10 3).bind (fun b => gen_SparseBuilder_extend .checked b [1, 4, 9])).isOk = true ∧
    (SparseBuilder.new 2 10 3).bind (fun b => gen_SparseBuilder_extend .checked b [4, 1]) =
      fault (.panic .unwrap) ∧
    isMultisetList 8 [1, 3, 3, 7] = true ∧ isMultisetList 8 [1, 3, 7] = false ∧
    isMultisetList 0 [0, 3] = true := by
  decide +kernel

end Sds.GenEq
