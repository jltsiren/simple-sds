/-
Proofs/GenEqLoad3: `WMCore::load` (wavelet_matrix/wm_core.rs) as TRANSLATED from the source (Generated/FnsLoad3.lean:
`usize::load`, the check `width == 0 || width > 64`, a `for _ in 0..width` loop over `(counter, len, levels, reader)` that
loads one `BitVector` per level, compares its length with the remembered first length `len : Option<usize>`, pushes it,
then `init_support`) is equal to the `load` of the hand-written codec `wmCoreC` (Model/WM.lean: a `foldlM` over
`List.range width` that re-reads `acc.1[0]?`).

  `wm_core_load_eq : WmCoreOk es → gen_WMCore_load m es = wmCoreC.load es`

* `WmLevelsOk n acc es` follows the model's own fold (`lvlStep`, Codec2): with `n` levels to go from the accumulator
  `acc`, the stream `es` is `BvOk` (GenEqLoad: the hypothesis of `bv_load_eq`), and whenever the model's step succeeds
  the same holds of its result with `n - 1` levels to go.  Levels the model never loads (after a failed load, after a
  length mismatch) are not constrained.
* `WmCoreOk es`: for the width read, if it passes the check, `WmLevelsOk width #[]` of the rest.
  `WmCoreOk_iff`: equivalently, for every `k < width` the stream that remains after `(List.range k).foldlM lvlStep`
  succeeds is `BvOk`.
* Loop invariant (`wm_load_fold`): `len = levels[0]?.map (·.len)`.  Method: `for_loop_range` (GenSupport) turns the
  counter loop into a `foldlM` of the code's body (`wmLoadBody`); one step of it is one step of the model's fold
  (`wm_load_step`, by `bv_load_eq`); `init_support` is `wm_init_support_eq` (GenEqConstr5, unconditional).
* `WmCoreOk_of_small`, `wm_core_load_eq_small`: every word below `2^32` suffices.
* The hypothesis is only the inherited one (no new divergence between the code and the model): `wm_core_load_ne_level0`
  is `raw_load_ne_overflow` / `bv_load_ne_raw` inside the first level (the checked build panics, the wrapping build
  ACCEPTS a level of `2^64 − 1` bits without a data word, the model refuses), `wm_core_load_ne_level1` shows that the
  later levels need it too (there the wrapping build refuses like the model, because the lengths differ; the checked
  build panics).
* `WaveletMatrix::load`: `gen_WaveletMatrix_load` calls the model's `wmCoreC.load`, and `WmOk` (GenEqLoad) says nothing
  about the levels (only `IntOk` of the stream behind them), so `WmOk` does NOT imply `WmCoreOk` of the tail; the
  statement over the translated core loader (`wmLoadT`, the same text with `gen_WMCore_load m` substituted) needs both:
  `wm_full_load_eq : WmFullOk es → wmLoadT m es = wmC.load es`, `wm_full_load_eq_small`; sharp: `wm_full_load_ne_level`.
-/
import Sds.Generated.FnsLoad3
import Sds.Proofs.GenEqLoad
import Sds.Proofs.GenEqConstr5
import Sds.Proofs.GenEqLoop4

set_option linter.unusedSimpArgs false
namespace Sds.GenEq
open Sds Outcome Generated
open Sds.Codec2 (lvlStep wmCoreC_load_eq)

private theorem l3_obind_ok {α β : Type} (a : α) (f : α → Outcome β) : (ok a).bind f = f a := rfl
private theorem l3_obind_fault {α β : Type} (e : Fault) (f : α → Outcome β) :
    (fault e : Outcome α).bind f = fault e := rfl

/-! ### the hypothesis -/

def WmLevelsOk : Nat → Array BitVector → Elems → Prop
  | 0, _, _ => True
  | k + 1, acc, es => BvOk es ∧ ∀ acc' r, lvlStep (acc, es) 0 = ok (acc', r) → WmLevelsOk k acc' r

def WmCoreOk (es : Elems) : Prop :=
  ∀ width r, usizeC.load es = ok (width, r) → ¬ (width = 0 ∨ width > 64) → WmLevelsOk width #[] r

/-! ### the loop -/

/-- the body of `for _ in 0..width` as translated -/
def wmLoadBody (m : Mode) (s : Option Nat × Array BitVector × Elems) (_ : Nat) :
    Outcome (Option Nat × Array BitVector × Elems) :=
  (gen_BitVector_load m s.2.2).bind fun p =>
    (match s.1 with
      | some len_in => if decide (BitVector.len p.1 ≠ len_in) then fault (.err .invalid) else ok s.1
      | none => ok (some (BitVector.len p.1))).bind fun len => ok (len, s.2.1.push p.1, p.2)

theorem wm_load_step (m : Mode) (acc : Array BitVector) (es : Elems) (i : Nat) (h : BvOk es) :
    wmLoadBody m (acc[0]?.map BitVector.len, acc, es) i =
      (lvlStep (acc, es) i).bind (fun p => ok (p.1[0]?.map BitVector.len, p.1, p.2)) := by
  unfold wmLoadBody lvlStep
  dsimp only
  rw [bv_load_eq m es h]
  simp only [Bind.bind]
  cases bitVectorC.load es with
  | fault f => rfl
  | ok p =>
    obtain ⟨b, r⟩ := p
    simp only [l3_obind_ok]
    cases h0 : acc[0]? with
    | none =>
      have : acc = #[] := by
        apply Array.eq_empty_of_size_eq_zero
        have := Array.getElem?_eq_none_iff.mp h0
        omega
      subst this
      simp [Pure.pure, Outcome.bind]
    | some b0 =>
      have hp : (acc.push b)[0]? = some b0 := by
        have hs : 0 < acc.size := by
          apply Nat.pos_of_ne_zero
          intro hz
          rw [Array.getElem?_eq_none (by omega)] at h0
          cases h0
        rw [Array.getElem?_push_lt hs, ← h0, Array.getElem?_eq_getElem hs]
      by_cases c : b.len = b0.len
      · simp only [c, ne_eq, not_true_eq_false, decide_false, Bool.false_eq_true, if_false, Pure.pure, l3_obind_ok,
          hp, Option.map]
      · simp [c, Pure.pure, Outcome.bind]

theorem wm_load_fold (m : Mode) : ∀ (idx : List Nat) (acc : Array BitVector) (es : Elems),
    WmLevelsOk idx.length acc es →
    idx.foldlM (wmLoadBody m) (acc[0]?.map BitVector.len, acc, es) =
      (idx.foldlM lvlStep (acc, es)).bind (fun p => ok (p.1[0]?.map BitVector.len, p.1, p.2)) := by
  intro idx
  induction idx with
  | nil => intro acc es _; rfl
  | cons i idx ih =>
    intro acc es h
    obtain ⟨hb, hn⟩ := h
    rw [List.foldlM_cons, List.foldlM_cons, wm_load_step m acc es i hb]
    simp only [Bind.bind]
    cases h1 : lvlStep (acc, es) i with
    | fault f => rfl
    | ok p =>
      obtain ⟨acc', r⟩ := p
      simp only [l3_obind_ok]
      exact ih acc' r (hn acc' r h1)

/-! ### `WMCore::load` -/

theorem wm_core_load_eq (m : Mode) (es : Elems) (h : WmCoreOk es) :
    gen_WMCore_load m es = wmCoreC.load es := by
  rw [wmCoreC_load_eq]
  unfold gen_WMCore_load
  refine same_step h fun width r _ hl => ?_
  dsimp only
  refine ite_congr (by simp) (fun _ => rfl) fun c => ?_
  have hl := hl c
  simp only [Bind.bind]
  rw [for_loop_range (ρ := WMCore × Elems) width (wmLoadBody m) _
      (fun i s hi => by
        obtain ⟨len, lv, rd⟩ := s
        simp only [hi, decide_true, if_true, wmLoadBody, Bind.bind, Pure.pure, obind_assoc, obind_ok']
        cases len <;> rfl)
      (fun i s hi => by simp only [hi, decide_false, Bool.false_eq_true, if_false]; rfl)]
  have e : (List.range width).foldlM (wmLoadBody m) (none, #[], r) =
      ((List.range width).foldlM lvlStep (#[], r)).bind
        (fun p => ok (p.1[0]?.map BitVector.len, p.1, p.2)) :=
    wm_load_fold m (List.range width) #[] r (by rw [List.length_range]; exact hl)
  rw [e]
  cases (List.range width).foldlM lvlStep (#[], r) with
  | fault f => rfl
  | ok p =>
    obtain ⟨lv, r'⟩ := p
    simp only [obind_ok', wm_init_support_eq]

/-! ### the hypothesis, restated and derived -/

/-- a hypothesis `Q` that follows the model's level loop — `P` of the stream and, whenever the model's step succeeds, `Q`
of its result with one level less to go — says: the stream that remains after any number `< n` of successful level
loads is `P` -/
theorem levels_ok_iff {P : Elems → Prop} {Q : Nat → Array BitVector → Elems → Prop} (h0 : ∀ acc es, Q 0 acc es)
    (hs : ∀ k acc es, Q (k + 1) acc es ↔ P es ∧ ∀ acc' r, lvlStep (acc, es) 0 = ok (acc', r) → Q k acc' r) :
    ∀ (n : Nat) (acc : Array BitVector) (es : Elems), Q n acc es ↔
      ∀ (idx : List Nat), idx.length < n → ∀ lv r, idx.foldlM lvlStep (acc, es) = ok (lv, r) → P r := by
  intro n
  induction n with
  | zero => intro acc es; exact ⟨fun _ idx hi => by omega, fun _ => h0 acc es⟩
  | succ n ih =>
    intro acc es
    rw [hs]
    constructor
    · intro h idx hi lv r hf
      cases idx with
      | nil =>
        injection hf with hf; injection hf with _ h2
        subst h2; exact h.1
      | cons i idx =>
        rw [List.foldlM_cons] at hf
        obtain ⟨⟨acc', r1⟩, h1, h2⟩ := Outcome.bind_eq_ok hf
        exact (ih acc' r1).mp (h.2 acc' r1 h1) idx (by simpa using hi) lv r h2
    · intro h
      refine ⟨h [] (by simp) acc es rfl, fun acc' r1 h1 => (ih acc' r1).mpr fun idx hi lv r hf => ?_⟩
      refine h (0 :: idx) (by simpa using hi) lv r ?_
      rw [List.foldlM_cons, bind_of_ok _ h1]
      exact hf

theorem WmLevelsOk_iff : ∀ (n : Nat) (acc : Array BitVector) (es : Elems),
    WmLevelsOk n acc es ↔
      ∀ (idx : List Nat), idx.length < n → ∀ lv r, idx.foldlM lvlStep (acc, es) = ok (lv, r) → BvOk r :=
  levels_ok_iff (fun _ _ => trivial) fun _ _ _ => Iff.rfl

/-- … in terms of the model's own fold over `List.range k` -/
theorem WmCoreOk_iff (es : Elems) :
    WmCoreOk es ↔ ∀ width r, usizeC.load es = ok (width, r) → ¬ (width = 0 ∨ width > 64) →
      ∀ k, k < width → ∀ lv r', (List.range k).foldlM lvlStep (#[], r) = ok (lv, r') → BvOk r' := by
  have hidx : ∀ (idx : List Nat) (s : Array BitVector × Elems),
      idx.foldlM lvlStep s = (List.range idx.length).foldlM lvlStep s := by
    have gen : ∀ (a b : List Nat), a.length = b.length → ∀ s, a.foldlM lvlStep s = b.foldlM lvlStep s := by
      intro a
      induction a with
      | nil => intro b hb s; cases b with | nil => rfl | cons _ _ => simp at hb
      | cons x a ih =>
        intro b hb s
        cases b with
        | nil => simp at hb
        | cons y b =>
          rw [List.foldlM_cons, List.foldlM_cons]
          have : lvlStep s x = lvlStep s y := rfl
          rw [this]
          congr 1
          funext s'
          exact ih b (by simpa using hb) s'
    intro idx s
    exact gen idx _ (by simp) s
  constructor
  · intro h width r h1 c k hk lv r' hf
    exact (WmLevelsOk_iff width #[] r).mp (h width r h1 c) (List.range k) (by simpa using hk) lv r' hf
  · intro h width r h1 c
    refine (WmLevelsOk_iff width #[] r).mpr fun idx hi lv r' hf => ?_
    rw [hidx] at hf
    exact h width r h1 c idx.length hi lv r' hf

/-- a successful step of the model's fold is a successful bitvector load -/
theorem lvlStep_load {acc acc' : Array BitVector} {es r : Elems} {i : Nat} (h : lvlStep (acc, es) i = ok (acc', r)) :
    ∃ b, bitVectorC.load es = ok (b, r) := by
  obtain ⟨b, hb, _, _⟩ := LoadWF.lvlStep_inv h
  exact ⟨b, hb⟩

/-- … and holds of every stream of small words as soon as `P` does -/
theorem levels_ok_of_small {P : Elems → Prop} {Q : Nat → Array BitVector → Elems → Prop} (h0 : ∀ acc es, Q 0 acc es)
    (hs : ∀ k acc es, Q (k + 1) acc es ↔ P es ∧ ∀ acc' r, lvlStep (acc, es) 0 = ok (acc', r) → Q k acc' r)
    (hP : ∀ {es}, Small es → P es) : ∀ (n : Nat) (acc : Array BitVector) {es : Elems}, Small es → Q n acc es := by
  intro n
  induction n with
  | zero => intro acc es _; exact h0 acc es
  | succ n ih =>
    intro acc es hsm
    refine (hs n acc es).mpr ⟨hP hsm, fun acc' r h1 => ih acc' ?_⟩
    obtain ⟨b, hb⟩ := lvlStep_load h1
    exact hsm.suffix (bitVectorC_suffix hb)

theorem WmLevelsOk_of_small : ∀ (n : Nat) (acc : Array BitVector) {es : Elems}, Small es → WmLevelsOk n acc es :=
  levels_ok_of_small (fun _ _ => trivial) (fun _ _ _ => Iff.rfl) BvOk_of_small

theorem WmCoreOk_of_small {es : Elems} (hs : Small es) : WmCoreOk es :=
  fun width _ h1 _ => WmLevelsOk_of_small width #[] (hs.suffix (usizeC_suffix h1))

theorem wm_core_load_eq_small (m : Mode) (es : Elems) (h : ∀ w ∈ es, w.toNat < 2 ^ 32) :
    gen_WMCore_load m es = wmCoreC.load es := wm_core_load_eq m es (WmCoreOk_of_small h)

/-! ### `WaveletMatrix::load` over the translated core loader

`gen_WaveletMatrix_load` (Generated/FnsLoad.lean) calls the model's `wmCoreC.load` for the field `data`; `WmOk` is
accordingly silent about the levels (it only asks `IntOk` of what follows them).  With the translated core loader in
that place the hypothesis is `WmOk` plus `WmCoreOk` of the stream behind the length word. -/

/-- `WaveletMatrix::load` with `WMCore::load` as translated -/
def wmLoadT (m : Mode) (reader : Elems) : Outcome (WM × Elems) := do
  let (t1, reader) ← usizeC.load reader
  let len := t1
  let (t2, reader) ← gen_WMCore_load m reader
  let data := t2
  let t3 ← WMCore.len data
  if (decide (t3 ≠ len)) then do
    fault (.err .invalid)
  else do
    let (t4, reader) ← gen_IntVector_load m reader
    let first := t4
    return ((⟨len, data, first⟩ : WM), reader)

def WmFullOk (es : Elems) : Prop :=
  (∀ len r, usizeC.load es = ok (len, r) → WmCoreOk r) ∧ WmOk es

theorem wmLoadT_eq_gen (m : Mode) (es : Elems) (h : ∀ len r, usizeC.load es = ok (len, r) → WmCoreOk r) :
    wmLoadT m es = gen_WaveletMatrix_load m es := by
  unfold wmLoadT gen_WaveletMatrix_load
  refine same_step h fun len r _ h => ?_
  dsimp only
  rw [wm_core_load_eq m r h]

theorem wm_full_load_eq (m : Mode) (es : Elems) (h : WmFullOk es) : wmLoadT m es = wmC.load es :=
  (wmLoadT_eq_gen m es h.1).trans (wm_load_eq m es h.2)

theorem WmFullOk_of_small {es : Elems} (hs : Small es) : WmFullOk es :=
  ⟨fun _ _ h1 => WmCoreOk_of_small (hs.suffix (usizeC_suffix h1)), WmOk_of_small hs⟩

theorem wm_full_load_eq_small (m : Mode) (es : Elems) (h : ∀ w ∈ es, w.toNat < 2 ^ 32) :
    wmLoadT m es = wmC.load es := wm_full_load_eq m es (WmFullOk_of_small h)

/-! ### the hypothesis is needed -/

/-- a core loader over one level -/
theorem wm_core_load_one (m : Mode) (L r' : Elems) (b : BitVector) (hb : gen_BitVector_load m L = ok (b, r')) :
    gen_WMCore_load m (1#64 :: L) = ok (WMCore.initSupport ⟨#[b]⟩, r') := by
  unfold gen_WMCore_load
  rw [bind_of_ok _ (usizeC_cons _ _)]
  have e1 : (1#64 : Word).toNat = 1 := rfl
  simp only [e1]
  simp [loopM, hb, wm_init_support_eq, Pure.pure]

/-- one level whose raw vector has the length word `2^64 − 1` and no data word (`bv_load_ne_raw`): the checked build
panics in `bits_to_words`, the wrapping build ACCEPTS (and goes on to `init_support`), the model refuses.  The recorded
`RawVector::load` observation, inherited; not a new divergence. -/
theorem wm_core_load_ne_level0 :
    gen_WMCore_load .checked [1#64, 0#64, 0xFFFFFFFFFFFFFFFF#64, 0#64, 0#64, 0#64, 0#64] = fault (.panic .overflow) ∧
    gen_WMCore_load .wrapping [1#64, 0#64, 0xFFFFFFFFFFFFFFFF#64, 0#64, 0#64, 0#64, 0#64] =
      ok (WMCore.initSupport ⟨#[{ ones := 0, data := ⟨18446744073709551615, #[]⟩ }]⟩, []) ∧
    wmCoreC.load [1#64, 0#64, 0xFFFFFFFFFFFFFFFF#64, 0#64, 0#64, 0#64, 0#64] = fault (.err .invalid) := by
  refine ⟨by decide +kernel, wm_core_load_one _ _ _ _ bv_load_ne_raw.2.1, by decide +kernel⟩

theorem wm_core_load_ne_checked :
    gen_WMCore_load .checked [1#64, 0#64, 0xFFFFFFFFFFFFFFFF#64, 0#64, 0#64, 0#64, 0#64] ≠
      wmCoreC.load [1#64, 0#64, 0xFFFFFFFFFFFFFFFF#64, 0#64, 0#64, 0#64, 0#64] := by
  rw [wm_core_load_ne_level0.1, wm_core_load_ne_level0.2.2]; decide

theorem wm_core_load_ne_wrapping :
    gen_WMCore_load .wrapping [1#64, 0#64, 0xFFFFFFFFFFFFFFFF#64, 0#64, 0#64, 0#64, 0#64] ≠
      wmCoreC.load [1#64, 0#64, 0xFFFFFFFFFFFFFFFF#64, 0#64, 0#64, 0#64, 0#64] := by
  rw [wm_core_load_ne_level0.2.1, wm_core_load_ne_level0.2.2]; intro h; cases h

/-- the same raw vector as the SECOND of two levels, behind an empty first level: the hypothesis is needed at every
level the model loads.  The checked build panics; the wrapping build loads the level and then refuses it like the
model, because its length is not the first level's. -/
theorem wm_core_load_ne_level1 :
    gen_WMCore_load .checked
      [2#64, 0#64, 0#64, 0#64, 0#64, 0#64, 0#64, 0#64, 0xFFFFFFFFFFFFFFFF#64, 0#64, 0#64, 0#64, 0#64] =
        fault (.panic .overflow) ∧
    gen_WMCore_load .wrapping
      [2#64, 0#64, 0#64, 0#64, 0#64, 0#64, 0#64, 0#64, 0xFFFFFFFFFFFFFFFF#64, 0#64, 0#64, 0#64, 0#64] =
        fault (.err .invalid) ∧
    wmCoreC.load [2#64, 0#64, 0#64, 0#64, 0#64, 0#64, 0#64, 0#64, 0xFFFFFFFFFFFFFFFF#64, 0#64, 0#64, 0#64, 0#64] =
      fault (.err .invalid) := by
  decide +kernel

/-- hence `WmCoreOk` fails on both streams -/
theorem not_WmCoreOk_level0 : ¬ WmCoreOk [1#64, 0#64, 0xFFFFFFFFFFFFFFFF#64, 0#64, 0#64, 0#64, 0#64] :=
  fun h => wm_core_load_ne_checked (wm_core_load_eq .checked _ h)

theorem not_WmCoreOk_level1 :
    ¬ WmCoreOk [2#64, 0#64, 0#64, 0#64, 0#64, 0#64, 0#64, 0#64, 0xFFFFFFFFFFFFFFFF#64, 0#64, 0#64, 0#64, 0#64] := by
  intro h
  have e := wm_core_load_eq .checked _ h
  rw [wm_core_load_ne_level1.1, wm_core_load_ne_level1.2.2] at e
  cases e

/-- `WmOk` does not cover the levels: on the level-0 stream behind a length word `WmOk` holds (the model's core loader
fails, so nothing is asked), `gen_WaveletMatrix_load` (over the model's core loader) agrees with the model, and the
loader over the translated core panics in the checked build -/
theorem wm_full_load_ne_level :
    WmOk [0#64, 1#64, 0#64, 0xFFFFFFFFFFFFFFFF#64, 0#64, 0#64, 0#64, 0#64] ∧
    wmLoadT .checked [0#64, 1#64, 0#64, 0xFFFFFFFFFFFFFFFF#64, 0#64, 0#64, 0#64, 0#64] = fault (.panic .overflow) ∧
    gen_WaveletMatrix_load .checked [0#64, 1#64, 0#64, 0xFFFFFFFFFFFFFFFF#64, 0#64, 0#64, 0#64, 0#64] =
      fault (.err .invalid) ∧
    wmC.load [0#64, 1#64, 0#64, 0xFFFFFFFFFFFFFFFF#64, 0#64, 0#64, 0#64, 0#64] = fault (.err .invalid) := by
  refine ⟨?_, by decide +kernel, by decide +kernel, by decide +kernel⟩
  intro len r h1 data r1 h2 _
  obtain ⟨_, rfl⟩ := usizeC_cons_inv h1
  rw [wm_core_load_ne_level0.2.2] at h2
  cases h2


/-- `WaveletMatrix::load` translated over the TRANSLATED core loader (`Generated/FnsLoad3.lean`) is the text `wmLoadT`… -/
theorem wm_load_full_eq_wmLoadT (m : Mode) (es : Elems) : gen_WaveletMatrix_load_full m es = wmLoadT m es := rfl

/-- … hence the model's loader, on every stream on which the level loads and the final integer-vector load stay inside
`usize` -/
theorem wm_load_full_eq (m : Mode) (es : Elems) (h : WmFullOk es) : gen_WaveletMatrix_load_full m es = wmC.load es :=
  (wm_load_full_eq_wmLoadT m es).trans (wm_full_load_eq m es h)

theorem wm_load_full_eq_small (m : Mode) (es : Elems) (h : ∀ w ∈ es, w.toNat < 2 ^ 32) :
    gen_WaveletMatrix_load_full m es = wmC.load es :=
  (wm_load_full_eq_wmLoadT m es).trans (wm_full_load_eq_small m es h)

end Sds.GenEq
