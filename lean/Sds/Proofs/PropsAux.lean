/-
Lemmas about the model that several property files quote, each stated once, grouped by the proof module it belongs to.
-/
import Sds.Proofs.Sparse2
import Sds.Proofs.Codec2
import Sds.Proofs.RLCanon
import Sds.Proofs.RLBuilt

namespace Sds
open Outcome

/-! ### Proofs/Outcome.lean -/

/-- a computation that is refused whenever `C` fails and succeeds whenever `C` holds succeeds exactly on `C` -/
theorem Outcome.ok_iff_of_reject {α} {x : Outcome α} {C : Prop} {f : Fault} (hrej : ¬ C → x = fault f)
    (hok : C → ∃ a, x = ok a) : (∃ a, x = ok a) ↔ C :=
  ⟨fun ⟨_, h⟩ => Classical.byContradiction fun hc => (by rw [hrej hc] at h; cases h), hok⟩

/-! ### Proofs/RawVec.lean (beside `bits_ofBits`) -/

theorem RawVec.len_ofBits (B : List Bool) : (RawVec.ofBits B).len = B.length := by
  rw [← RawVec.bits_length, RawVec.bits_ofBits]

/-- `ofBits B` is THE well-formed vector with bits `B` -/
theorem RawVec.eq_ofBits {v : RawVec} {B : List Bool} (hv : v.WF) (h : v.bits = B) : v = RawVec.ofBits B :=
  RawVec.canonical hv (RawVec.ofBits_WF B) (h.trans (RawVec.bits_ofBits B).symm)

/-- two valid histories, from any well-formed vectors, with the same list-level result produce identical
representations (`RawVec.history_canonical` is the instance at the empty vector) -/
theorem RawVec.history_canonical_from {v1 v2 : RawVec} (hv1 : v1.WF) (hv2 : v2.WF) (ops1 ops2 : List RawVec.Op)
    (h1 : RawVec.Valid ops1 v1.bits) (h2 : RawVec.Valid ops2 v2.bits)
    (he : ops1.foldl (fun L op => op.spec L) v1.bits = ops2.foldl (fun L op => op.spec L) v2.bits) :
    ops1.foldl (fun v op => op.run v) v1 = ops2.foldl (fun v op => op.run v) v2 := by
  have r1 := RawVec.history hv1 ops1 h1
  have r2 := RawVec.history hv2 ops2 h2
  apply RawVec.canonical r1.1 r2.1
  rw [r1.2, r2.2, he]

/-! ### Proofs/Select.lean (beside `selectSpec_eq_none_iff`; `Glue.count_true_map_not` comes with them) -/

theorem selectZeroSpec_eq_none_iff (B : List Bool) (r : Nat) : selectZeroSpec B r = none ↔ B.count false ≤ r := by
  rw [← Glue.count_true_map_not]; exact selectSpec_eq_none_iff (B.map not) r

/-- what a `Some(p)` answer of the reference means: `p` is a set position with exactly `r` set bits before it -/
theorem selectSpec_eq_some_iff (B : List Bool) (r p : Nat) :
    selectSpec B r = some p ↔ p < B.length ∧ B[p]? = some true ∧ rankSpec B p = r :=
  selectBits_spec B r p

theorem selectZeroSpec_eq_some_iff (B : List Bool) (r p : Nat) :
    selectZeroSpec B r = some p ↔ p < B.length ∧ B[p]? = some false ∧ rankZeroSpec B p = r := by
  have h := selectBits_spec (B.map not) r p
  have e : (B.map not)[p]? = some true ↔ B[p]? = some false := by
    rw [List.getElem?_map]
    cases B[p]? with
    | none => simp
    | some b => cases b <;> simp
  rwa [← List.map_take, Glue.count_true_map_not, e, List.length_map] at h

/-! ### Proofs/Codec.lean -/

theorem toBytes_append (a b : Elems) : toBytes (a ++ b) = toBytes a ++ toBytes b := List.flatMap_append

theorem seqC_size {α β} (c1 : Codec α) (c2 : Codec β) (p : α × β) :
    (seqC c1 c2).size p = c1.size p.1 + c2.size p.2 := by simp [Codec.size, seqC]

/-! ### Proofs/Supports.lean (`selectQ_absent`, `selectZeroQ_absent` are its two instances) -/

theorem SupportProofs.selectT_absent {b : BitVector} {tr : Tr} (h : b.supT tr = none) (m : Mode) (r : Nat) :
    b.selectT tr m r = if r ≥ b.countT tr then ok none else fault (.panic .unwrap) := by
  unfold BitVector.selectT; rw [h]

/-! ### Proofs/Codec2.lean (beside `rl_small_built`) -/

/-- the sparse test vector of the C06 / C14 examples: positions 0, 5, 9 of 10 at low width 2, built — one evaluation of
its size serves every example about it -/
theorem Codec2.sp_small_built : ∃ s, Sparse.ofValues 2 10 false [0, 5, 9] = ok s ∧ s.Encodes 10 2 [0, 5, 9] ∧
    Codec2.sparseWF s ∧ sparseC.size s = 41 := by
  obtain ⟨s, hs, he, hwf⟩ := Codec2.ofValues_sparseWF 2 10 false [0, 5, 9] (by decide) (by decide) (by decide)
    (by decide) (by decide) (by decide) (by decide) (by decide)
  have hsize : (do let s ← Sparse.ofValues 2 10 false [0, 5, 9]; return sparseC.size s) = ok 41 := by decide +kernel
  rw [hs] at hsize
  exact ⟨s, hs, he, hwf, Outcome.ok.inj hsize⟩

/-! ### Proofs/RLCanon.lean (after `runCalls_spec`; needs `RLQ.Holds` of Proofs/RLBuilt.lean) -/

namespace RLCanon

/-- a run list that spells `B` (the set positions one by one: `RL.bitCalls_spec`; the maximal runs: `runCalls_spec`),
fed to an empty builder call by call and closed by `set_len(|B|)`, is accepted and describes `B` -/
theorem accepts_described (m : Mode) {runs : List (Nat × Nat)} {B : List Bool}
    (h : RL.RunsFrom 0 runs ∧ RL.runBits runs B.length = B) (hB : B.length < U64) :
    (∀ c ∈ RL.callsOf runs B.length, RL.callArgsOk c) ∧ (RL.callsOf runs B.length).foldl RL.specCall [] = B ∧
    ∃ b, RL.runBCalls m (RL.callsOf runs B.length) {} = ok b ∧ b.Inv :=
  ⟨RL.callsOf_argsOk _ _ 0 h.1 hB, (RL.callsOf_spec _ _ h.1).trans h.2,
    RL.runBCalls_accepts m B.length hB _ {} RLBuilder.inv_empty h.1⟩

/-- **the run-length representative of a bit sequence**: `b` is THE builder of `B` — every accepted history describing
`B` reaches it, bit at a time and run at a time in particular — and `x` the vector it converts to, which is the
conversion of `canonFlushed B` and holds `B`.  Everything the conversion theorems say of a run-length vector is a
field. -/
structure Repr (m : Mode) (B : List Bool) (b : RLBuilder) (x : RL) : Prop where
  lt : B.length < U64
  bit : RL.runBCalls m (RL.callsOf ((onesPos B).map fun i => (i, 1)) B.length) {} = ok b
  run : RL.runBCalls m (RL.callsOf (maximalRuns B) B.length) {} = ok b
  unique : ∀ calls, (∀ c ∈ calls, RL.callArgsOk c) → calls.foldl RL.specCall [] = B →
    ∀ b', RL.runBCalls m calls {} = ok b' → b' = b
  conv : RL.ofBuilder m b = ok x
  canon : RL.ofBuilder m (canonFlushed B) = ok x
  holds : RLQ.Holds x B
  runs : ∃ it0 e endPos, x.runIter = ok it0 ∧
    RunIter.collect m x ((maximalRuns B).length + 1) it0 = ok (RunIter.withPos 0 (maximalRuns B), e) ∧
    e.pos = (B.count true, endPos) ∧ endPos ≤ B.length

/-- the builder and the vector of ANY accepted history are the representative of the bits it describes -/
theorem Repr.of_history (m : Mode) {calls : List RL.BCall} (hc : ∀ c ∈ calls, RL.callArgsOk c) {b : RLBuilder}
    (hb : RL.runBCalls m calls {} = ok b) {x : RL} (hx : RL.ofBuilder m b = ok x) :
    Repr m (calls.foldl RL.specCall []) b x := by
  obtain ⟨F, k⟩ := history_canon m calls hc b hb
  have hlt : (calls.foldl RL.specCall []).length < U64 := by rw [k.len]; exact k.inv.len_lt
  have uniq : ∀ calls', (∀ c ∈ calls', RL.callArgsOk c) →
      calls'.foldl RL.specCall [] = calls.foldl RL.specCall [] → ∀ b', RL.runBCalls m calls' {} = ok b' → b' = b :=
    fun calls' hc' hB' b' hb' => builder_canonical m calls' calls hc' hc hB' b' b hb' hb
  obtain ⟨c1, d1, b1, hb1, _⟩ := accepts_described m (RL.bitCalls_spec _ hlt) hlt
  obtain ⟨c2, d2, b2, hb2, _⟩ := accepts_described m (runCalls_spec _ hlt) hlt
  exact ⟨hlt, uniq _ c1 d1 b1 hb1 ▸ hb1, uniq _ c2 d2 b2 hb2 ▸ hb2, uniq, hx,
    ofBuilder_closed_form m calls hc b hb ▸ hx, RLQ.built_of m hc hb hx,
    (RL.build_iterate_calls m calls hc b hb x hx).2.2⟩

/-- every bit sequence of `usize` length has one -/
theorem repr_exists (m : Mode) (B : List Bool) (hB : B.length < U64) : ∃ b x, Repr m B b x := by
  obtain ⟨hc, hd, b, hb, _⟩ := accepts_described m (RL.bitCalls_spec B hB) hB
  obtain ⟨x, hx, _⟩ := RLQ.built m hc hb
  exact ⟨b, x, hd ▸ Repr.of_history m hc hb hx⟩

end RLCanon

end Sds
