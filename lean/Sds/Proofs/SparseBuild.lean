/-
Proofs/SparseBuild: the builder of the Elias–Fano vector (`SparseBuilder`, `Sparse.ofValues`).

* `Sparse.Encodes.of_parts`: a vector whose `high` holds the bucket sequence of `P` (with the counter and select
  structures the library computes) and whose `low` holds the low parts encodes `P` — built or loaded.
* `SbInv`: the structural invariant (lengths, well-formedness), enough for when `try_set` is refused or accepted and
  that it never panics; `Holds w n inc cap A b`: `SbInv` plus the constants of the builder and the list `A` of the
  values set so far.  `Holds.trySet` is the one walk through `try_set`; `Holds.foldlM` (`extend` / `ofValues`: the
  first refusal ends it), `Holds.run` (call histories, refusals ignored) and `Holds.build` follow from it.
* what `ofValues` builds (`ofValues_built`, closed form `Sparse.ofValues_closed_form`) and when it is refused.

In the model a rejected `try_*` call is `.fault (.err _)` and the caller keeps the old builder, so "a rejected call
leaves the builder unchanged" holds by construction.
-/
import Sds.Proofs.Sparse
import Sds.Proofs.Select
import Sds.Proofs.IntVec
import Sds.Proofs.RawVec

namespace Sds
open Outcome

/-- A sparse vector whose `high` holds the bucket sequence of `P`, with the counter and the two select structures
the library computes from it, and whose `low` holds the low parts of `P`, encodes `P` — whether it was built or
loaded. -/
theorem Sparse.Encodes.of_parts {s : Sparse} {n w : Nat} {P : List Nat} (hw1 : 1 ≤ w) (hw : w ≤ 63)
    (hn : n < 2 ^ 64) (hm : P.length < 2 ^ 63) (hsorted : sortedLe P = true) (hbound : ∀ p ∈ P, p < n)
    (hlen : s.len = n) (hwidth : s.low.width = w) (hlow : s.low.len = P.length)
    (hval : ∀ i (h : i < P.length), (s.low.getRaw i).toNat = P[i] % 2 ^ w)
    (hwf : s.high.data.WF) (hbits : s.high.data.bits = highBits w (Sparse.getBuckets n w) P)
    (hones : s.high.ones = P.length)
    (hsel : s.high.select = some (SelSup.build s.high.data.len (positionsT .ident s.high.data)))
    (hselz : s.high.selectZero = some (SelSup.build s.high.data.len (positionsT .compl s.high.data))) :
    s.Encodes n w P := by
  have hpw := sortedLe_pairwise P hsorted
  have hbk : ∀ p ∈ P, p >>> w < Sparse.getBuckets n w := fun p hp => shr_lt_getBuckets hw (hbound p hp)
  have hdl : s.high.data.len = P.length + Sparse.getBuckets n w := by
    rw [← RawVec.bits_length, hbits, highBits_length hpw hbk]
  have hlt : s.high.data.len < 2 ^ 64 := by have := getBuckets_le hw1 hn; omega
  have hcnt : s.high.ones = s.high.data.bits.count true := by rw [hones, hbits, highBits_count_true hpw hbk]
  refine ⟨hlen, hw1, hw, hn, hwidth, hlow, hval, hsorted, hbound, hm, hdl, fun i hi => ?_, fun m r => ?_,
    fun m r => ?_⟩
  · have hi' : i < s.high.data.len := hi
    show s.high.data.bitM i = _
    unfold RawVec.bitM
    rw [if_pos (by rw [hwf.size_eq]; omega), ← hbits, RawVec.bits_getElem?, if_pos hi']
    rfl
  · rw [← hbits]; exact selectQ_build hwf hlt rfl hcnt hsel m r
  · rw [← hbits]; exact selectZeroQ_build hwf hlt rfl hcnt hselz m r

namespace Sparse2

/-- the builder state after accepting the first `k` values of `P` -/
structure BInv (w n inc : Nat) (P : List Nat) (k : Nat) (b : SparseBuilder) : Prop where
  univ_eq : b.univ = n
  inc_eq : b.increment = inc
  len_eq : b.len = k
  k_le : k ≤ P.length
  next_zero : k = 0 → b.next = 0
  next_pos : ∀ (h : 0 < k), b.next = P[k - 1]'(by omega) + inc
  low_wf : b.low.WF
  low_width : b.low.width = w
  low_len : b.low.len = P.length
  low_val : ∀ i, i < P.length → (b.low.getRaw i).toNat = if i < k then P[i]?.getD 0 % 2 ^ w else 0
  high_wf : b.high.WF
  high_len : b.high.len = P.length + Sparse.getBuckets n w
  high_bits : ∀ q, getBit b.high.data q = true ↔ ∃ i, ∃ (hi : i < P.length), i < k ∧ q = P[i] >>> w + i

/-- the acceptance test of the builder run over a list: every value is at least `next` and below `n` -/
def accepts (n inc : Nat) : Nat → List Nat → Bool
  | _, [] => true
  | nxt, p :: ps => decide (nxt ≤ p) && decide (p < n) && accepts n inc (p + inc) ps

theorem foldlM_fault {α β} (f : β → α → Outcome β) (e : Fault) (l : List α) :
    (fault e >>= fun b => l.foldlM f b) = fault e := rfl

theorem accepts_strict (n : Nat) : ∀ (P : List Nat) (nxt : Nat),
    accepts n 1 nxt P = true ↔ sortedStrict P = true ∧ (∀ p ∈ P, p < n) ∧ (∀ p ∈ P.head?, nxt ≤ p)
  | [], nxt => by simp [accepts, sortedStrict]
  | [a], nxt => by simp [accepts, sortedStrict]; exact And.comm
  | a :: b :: t, nxt => by
    have ih := accepts_strict n (b :: t) (a + 1)
    rw [accepts, Bool.and_eq_true, Bool.and_eq_true, ih]
    simp [sortedStrict]
    constructor
    · rintro ⟨⟨h1, h2⟩, h3, ⟨h4, h5⟩, h6⟩; exact ⟨⟨by omega, h3⟩, ⟨h2, h4, h5⟩, h1⟩
    · rintro ⟨⟨h1, h3⟩, ⟨h2, h4, h5⟩, h6⟩; exact ⟨⟨h6, h2⟩, h3, ⟨h4, h5⟩, by omega⟩

theorem accepts_le (n : Nat) : ∀ (P : List Nat) (nxt : Nat),
    accepts n 0 nxt P = true ↔ sortedLe P = true ∧ (∀ p ∈ P, p < n) ∧ (∀ p ∈ P.head?, nxt ≤ p)
  | [], nxt => by simp [accepts, sortedLe]
  | [a], nxt => by simp [accepts, sortedLe]; exact And.comm
  | a :: b :: t, nxt => by
    have ih := accepts_le n (b :: t) (a + 0)
    rw [accepts, Bool.and_eq_true, Bool.and_eq_true, ih]
    simp [sortedLe]
    constructor
    · rintro ⟨⟨h1, h2⟩, h3, ⟨h4, h5⟩, h6⟩; exact ⟨⟨by omega, h3⟩, ⟨h2, h4, h5⟩, h1⟩
    · rintro ⟨⟨h1, h3⟩, ⟨h2, h4, h5⟩, h6⟩; exact ⟨⟨h6, h2⟩, h3, ⟨h4, h5⟩, by omega⟩

theorem sortedStrict_le (P : List Nat) (h : sortedStrict P = true) : sortedLe P = true :=
  (sortedLe_iff P).mpr (((sortedStrict_iff P).mp h).imp Nat.le_of_lt)

theorem strict_length_le {P : List Nat} {n : Nat} (hs : sortedStrict P = true) (hb : ∀ p ∈ P, p < n) :
    P.length ≤ n := sorted_length_le (sortedStrict_pairwise P hs) n hb

end Sparse2

namespace BuildersProofs

/-- every value below the universe size falls into one of the `getBuckets` buckets
(for width 64 the universe has to be a `usize`) -/
theorem shr_lt_getBuckets' {n w p : Nat} (hw : w < 64 ∨ n < U64) (hw64 : w ≤ 64) (hp : p < n) :
    p >>> w < Sparse.getBuckets n w := by
  by_cases hw' : w < 64
  · exact shr_lt_getBuckets (by omega) hp
  · have hw2 : w = 64 := by omega
    have hn : n < U64 := by rcases hw with h | h; exact absurd h hw'; exact h
    subst hw2
    rw [U64_eq] at hn
    unfold Sparse.getBuckets
    have h1 : n % 2 ^ 64 = n := Nat.mod_eq_of_lt hn
    have h2 : p >>> 64 = 0 := by
      rw [Nat.shiftRight_eq_div_pow]; exact Nat.div_eq_of_lt (by omega)
    simp only [h1, h2]
    have : n ≠ 0 := by omega
    simp [this]

/-- The builder invariant.  `capacity = low.len`; `high` has one bit per value plus one per bucket. -/
structure SbInv (b : SparseBuilder) : Prop where
  len_le : b.len ≤ b.capacity
  low_wf : b.low.WF
  high_wf : b.high.WF
  high_len : b.high.len = b.capacity + Sparse.getBuckets b.univ b.low.width
  univ_ok : b.low.width < 64 ∨ b.univ < U64

theorem SbInv.w1 {b} (h : SbInv b) : 1 ≤ b.low.width := h.low_wf.1
theorem SbInv.w64 {b} (h : SbInv b) : b.low.width ≤ 64 := h.low_wf.2.1

theorem isFull_iff (b : SparseBuilder) : b.isFull = true ↔ b.len = b.capacity := by
  simp [SparseBuilder.isFull]

theorem not_isFull_iff {b : SparseBuilder} (h : SbInv b) : b.isFull = false ↔ b.len < b.capacity := by
  have := h.len_le
  rw [← Bool.not_eq_true, isFull_iff]; omega

/-- `b` is a builder of low width `w` over the universe `n` with room for `cap` values, advancing `next` by `inc`,
into which the values `A` have been set, in this order: their low parts are in `low`, and bit `(p >>> w) + j` of
`high` is set for the `j`-th of them, `p`, and no other. -/
structure Holds (w n inc cap : Nat) (A : List Nat) (b : SparseBuilder) : Prop where
  inv : SbInv b
  univ_eq : b.univ = n
  width_eq : b.low.width = w
  inc_eq : b.increment = inc
  cap_eq : b.capacity = cap
  len_eq : b.len = A.length
  low_val : ∀ k (h : k < A.length), (b.low.getRaw k).toNat = A[k] % 2 ^ w
  high_bit : ∀ q, b.high.bits[q]? = some true ↔ ∃ j, ∃ (h : j < A.length), q = A[j] >>> w + j

/-! ### constructors -/

theorem new_reject (w univ ones : Nat) (h : ones > univ) :
    SparseBuilder.new w univ ones = fault (.err .other) := by
  unfold SparseBuilder.new; rw [if_pos h]

/-- model only; in the crate `get_params` picks a valid width -/
theorem new_reject_width (w univ ones : Nat) (h : w = 0 ∨ 64 < w) :
    SparseBuilder.new w univ ones = fault (.err .other) := by
  unfold SparseBuilder.new
  split
  · rfl
  · rw [IntVec.withLen_reject _ _ _ h]; rfl

theorem multiset_reject_width (w univ ones : Nat) (h : w = 0 ∨ 64 < w) :
    SparseBuilder.multiset w univ ones = fault (.err .other) := by
  unfold SparseBuilder.multiset
  rw [IntVec.withLen_reject _ _ _ h]; rfl

/-- the state `new` / `multiset` start from: nothing set, `high` all zero -/
theorem Holds.init {w n inc cap : Nat} {low : IntVec} (hwf : low.WF) (hwd : low.width = w) (hl : low.len = cap)
    (hu : w < 64 ∨ n < U64) (next : Nat) :
    Holds w n inc cap [] ⟨n, low, RawVec.withLen (cap + Sparse.getBuckets n w) false, 0, next, inc⟩ := by
  refine ⟨⟨Nat.zero_le _, hwf, RawVec.withLen_WF _ _, by simp [SparseBuilder.capacity, hl, hwd],
    by simpa [hwd] using hu⟩, rfl, hwd, rfl, hl, rfl, fun k hk => absurd hk (Nat.not_lt_zero _), fun q => ?_⟩
  show (RawVec.withLen _ false).bits[q]? = some true ↔ _
  rw [RawVec.bits_withLen]
  simp [List.getElem?_replicate]

theorem Holds.new {w n cap : Nat} (h1 : 1 ≤ w) (h2 : w ≤ 64) (ho : cap ≤ n) (hu : w < 64 ∨ n < U64) :
    ∃ b, SparseBuilder.new w n cap = ok b ∧ Holds w n 1 cap [] b ∧ b.next = 0 := by
  obtain ⟨v, hv, hwf, hwd, hl, _⟩ := IntVec.withLen_spec cap w 0 h1 h2
  exact ⟨_, by unfold SparseBuilder.new; rw [if_neg (by omega), hv]; rfl, Holds.init hwf hwd hl hu 0, rfl⟩

theorem Holds.multiset {w n cap : Nat} (h1 : 1 ≤ w) (h2 : w ≤ 64) (hu : w < 64 ∨ n < U64) :
    ∃ b, SparseBuilder.multiset w n cap = ok b ∧ Holds w n 0 cap [] b ∧ b.next = 0 := by
  obtain ⟨v, hv, hwf, hwd, hl, _⟩ := IntVec.withLen_spec cap w 0 h1 h2
  exact ⟨_, by unfold SparseBuilder.multiset; rw [hv]; rfl, Holds.init hwf hwd hl hu 0, rfl⟩

theorem new_ok (w univ ones : Nat) (h1 : 1 ≤ w) (h2 : w ≤ 64) (ho : ones ≤ univ)
    (hu : w < 64 ∨ univ < U64) :
    ∃ b, SparseBuilder.new w univ ones = ok b ∧ SbInv b ∧ b.capacity = ones ∧ b.univ = univ ∧
      b.low.width = w ∧ b.len = 0 ∧ b.next = 0 ∧ b.increment = 1 := by
  obtain ⟨b, e, h, hn⟩ := Holds.new h1 h2 ho hu
  exact ⟨b, e, h.inv, h.cap_eq, h.univ_eq, h.width_eq, h.len_eq, hn, h.inc_eq⟩

theorem multiset_ok (w univ ones : Nat) (h1 : 1 ≤ w) (h2 : w ≤ 64) (hu : w < 64 ∨ univ < U64) :
    ∃ b, SparseBuilder.multiset w univ ones = ok b ∧ SbInv b ∧ b.capacity = ones ∧ b.univ = univ ∧
      b.low.width = w ∧ b.len = 0 ∧ b.next = 0 ∧ b.increment = 0 := by
  obtain ⟨b, e, h, hn⟩ := Holds.multiset (cap := ones) h1 h2 hu
  exact ⟨b, e, h.inv, h.cap_eq, h.univ_eq, h.width_eq, h.len_eq, hn, h.inc_eq⟩

theorem new_reject_iff (w univ ones : Nat) (h1 : 1 ≤ w) (h2 : w ≤ 64) :
    SparseBuilder.new w univ ones = fault (.err .other) ↔ ones > univ := by
  constructor
  · intro h
    by_cases ho : ones > univ
    · exact ho
    · exfalso
      obtain ⟨v, hv, _⟩ := IntVec.withLen_spec ones w 0 h1 h2
      unfold SparseBuilder.new at h
      rw [if_neg ho, hv] at h
      cases h
  · exact new_reject w univ ones

/-! ### `try_set` -/

/-- the successor state of an accepted call -/
def setResult (b : SparseBuilder) (i : Nat) : SparseBuilder :=
  ⟨b.univ,
   ⟨b.low.len, b.low.width,
     b.low.data.setInt (b.len * b.low.width) (BitVec.ofNat 64 (i % 2 ^ b.low.width)) b.low.width⟩,
   b.high.setBit (i >>> b.low.width + b.len) true, b.len + 1, i + b.increment, b.increment⟩

theorem hi_lt_high_len {b : SparseBuilder} (h : SbInv b) {i : Nat} (hi : i < b.univ)
    (hl : b.len < b.capacity) : i >>> b.low.width + b.len < b.high.len := by
  have := shr_lt_getBuckets' h.univ_ok h.w64 hi
  rw [h.high_len]; omega

/-- with the invariant, the unchecked setter neither asserts nor hits the checked word index -/
theorem setUnchecked_ok {b : SparseBuilder} (h : SbInv b) {i : Nat} (hi : i < b.univ)
    (hl : b.len < b.capacity) : b.setUnchecked i = ok (setResult b i) := by
  have hlt := hi_lt_high_len h hi hl
  have hidx : (i >>> b.low.width + b.len) / 64 < b.high.data.size := by
    rw [h.high_wf.1]; omega
  unfold SparseBuilder.setUnchecked
  simp only []
  rw [IntVec.set_ok _ _ _ hl]
  simp only [bind_ok]
  rw [if_pos hidx]
  rfl

theorem setResult_inv {b : SparseBuilder} (h : SbInv b) {i : Nat} (hi : i < b.univ)
    (hl : b.len < b.capacity) : SbInv (setResult b i) := by
  have hlt := hi_lt_high_len h hi hl
  refine ⟨?_, IntVec.set_WF h.low_wf _ hl _, RawVec.setBit_WF h.high_wf _ hlt _, ?_, h.univ_ok⟩
  · show b.len + 1 ≤ b.low.len
    exact hl
  · exact h.high_len

/-- **when `try_set` is rejected** (no invariant needed) -/
theorem trySet_reject_of (b : SparseBuilder) (i : Nat)
    (h : b.isFull = true ∨ i < b.next ∨ i ≥ b.univ) : b.trySet i = fault (.err .other) := by
  unfold SparseBuilder.trySet
  rcases h with h | h | h <;> simp [h]

/-- **an accepted `try_set`** runs the setter to completion -/
theorem trySet_accept {b : SparseBuilder} (h : SbInv b) {i : Nat}
    (hf : b.isFull = false) (hn : b.next ≤ i) (hi : i < b.univ) :
    b.trySet i = ok (setResult b i) := by
  unfold SparseBuilder.trySet
  rw [if_neg (by simp [hf]), if_neg (by omega), if_neg (by omega)]
  exact setUnchecked_ok h hi ((not_isFull_iff h).mp hf)

/-- the two cases of `try_set`, with the effect of an accepted call on all observables -/
theorem trySet_cases {b : SparseBuilder} (h : SbInv b) (i : Nat) :
    (b.trySet i = fault (.err .other) ∧ (b.isFull = true ∨ i < b.next ∨ i ≥ b.univ)) ∨
    (∃ b', b.trySet i = ok b' ∧ ¬ (b.isFull = true ∨ i < b.next ∨ i ≥ b.univ) ∧
      b'.len = b.len + 1 ∧ b'.next = i + b.increment ∧ b'.capacity = b.capacity ∧
      b'.univ = b.univ ∧ b'.increment = b.increment ∧ b'.low.width = b.low.width ∧ SbInv b') := by
  by_cases hc : b.isFull = true ∨ i < b.next ∨ i ≥ b.univ
  · exact Or.inl ⟨trySet_reject_of b i hc, hc⟩
  · right
    have h1 : b.isFull = false := by
      cases hb : b.isFull
      · rfl
      · exact absurd (Or.inl hb) hc
    have h2 : b.next ≤ i := by
      apply Nat.le_of_not_lt; intro hlt; exact hc (Or.inr (Or.inl hlt))
    have h3 : i < b.univ := by
      apply Nat.lt_of_not_le; intro hge; exact hc (Or.inr (Or.inr hge))
    exact ⟨setResult b i, trySet_accept h h1 h2 h3, hc, rfl, rfl, rfl, rfl, rfl, rfl,
      setResult_inv h h3 ((not_isFull_iff h).mp h1)⟩

/-- **rejection is exact** -/
theorem trySet_reject_iff {b : SparseBuilder} (h : SbInv b) (i : Nat) :
    b.trySet i = fault (.err .other) ↔ (b.isFull = true ∨ i < b.next ∨ i ≥ b.univ) := by
  refine ⟨fun hr => ?_, trySet_reject_of b i⟩
  rcases trySet_cases h i with ⟨_, hc⟩ | ⟨b', hb, _⟩
  · exact hc
  · rw [hb] at hr; cases hr

/-- `try_set` never panics and never reads out of bounds: it is an `Err` or a new builder -/
theorem trySet_total {b : SparseBuilder} (h : SbInv b) (i : Nat) :
    b.trySet i = fault (.err .other) ∨ ∃ b', b.trySet i = ok b' := by
  rcases trySet_cases h i with ⟨hr, _⟩ | ⟨b', hb, _⟩
  · exact Or.inl hr
  · exact Or.inr ⟨b', hb⟩

/-- an accepted call appends its index to the values set -/
theorem Holds.accept {w n inc cap : Nat} {A : List Nat} {b : SparseBuilder} (h : Holds w n inc cap A b)
    {i : Nat} (hi : i < n) (hl : A.length < cap) : Holds w n inc cap (A ++ [i]) (setResult b i) := by
  have hl' : b.len < b.capacity := by rw [h.len_eq, h.cap_eq]; exact hl
  have hi' : i < b.univ := by rw [h.univ_eq]; exact hi
  have hpos := hi_lt_high_len h.inv hi' hl'
  have hw64 := h.inv.w64
  have hwd := h.width_eq
  have hlen := h.len_eq
  refine ⟨setResult_inv h.inv hi' hl', h.univ_eq, h.width_eq, h.inc_eq, h.cap_eq,
    by simp [BuildersProofs.setResult, hlen], fun k hk => ?_, fun q => ?_⟩
  · show ((⟨b.low.len, b.low.width, b.low.data.setInt (b.len * b.low.width)
      (BitVec.ofNat 64 (i % 2 ^ b.low.width)) b.low.width⟩ : IntVec).getRaw k).toNat = _
    rw [IntVec.getRaw_set h.inv.low_wf b.len hl', hlen]
    by_cases e : k = A.length
    · subst e
      have h1 : i % 2 ^ b.low.width < 2 ^ b.low.width := Nat.mod_lt _ (Nat.two_pow_pos _)
      have h2 : 2 ^ b.low.width ≤ 2 ^ 64 := Nat.pow_le_pow_right (by decide) hw64
      rw [if_pos rfl, toNat_and_lowSet _ _ hw64, BitVec.toNat_ofNat,
        Nat.mod_eq_of_lt (show i % 2 ^ b.low.width < 2 ^ 64 by omega), Nat.mod_mod, hwd]
      simp
    · have hk' : k < A.length := by simp at hk; omega
      rw [if_neg e, h.low_val k hk', List.getElem_append_left hk']
  · show (b.high.setBit (i >>> b.low.width + b.len) true).bits[q]? = some true ↔ _
    rw [RawVec.bits_setBit h.inv.high_wf _ hpos, List.getElem?_set, hwd, hlen]
    constructor
    · intro hq
      by_cases he : i >>> w + A.length = q
      · exact ⟨A.length, by simp, by simp [← he]⟩
      · rw [if_neg he] at hq
        obtain ⟨j, hj, rfl⟩ := (h.high_bit q).mp hq
        exact ⟨j, by simp; omega, by rw [List.getElem_append_left hj]⟩
    · rintro ⟨j, hj, rfl⟩
      by_cases e : j = A.length
      · subst e
        rw [if_pos (by simp), if_pos (by rw [RawVec.bits_length, ← hwd, ← hlen]; exact hpos)]
      · have hj' : j < A.length := by simp at hj; omega
        rw [List.getElem_append_left hj']
        by_cases he : i >>> w + A.length = A[j] >>> w + j
        · rw [if_pos he, if_pos (by rw [RawVec.bits_length, ← hwd, ← hlen]; exact hpos)]
        · rw [if_neg he]; exact (h.high_bit _).mpr ⟨j, hj', rfl⟩

/-- **`try_set` under the invariant**, both outcomes -/
theorem Holds.trySet {w n inc cap : Nat} {A : List Nat} {b : SparseBuilder} (h : Holds w n inc cap A b) (i : Nat) :
    if A.length < cap ∧ b.next ≤ i ∧ i < n then
      b.trySet i = ok (setResult b i) ∧ Holds w n inc cap (A ++ [i]) (setResult b i)
    else b.trySet i = fault (.err .other) := by
  have hle := h.inv.len_le
  rw [h.len_eq, h.cap_eq] at hle
  split
  · next hc =>
    exact ⟨trySet_accept h.inv ((not_isFull_iff h.inv).mpr (by rw [h.len_eq, h.cap_eq]; exact hc.1)) hc.2.1
      (by rw [h.univ_eq]; exact hc.2.2), h.accept hc.2.2 hc.1⟩
  · next hc =>
    apply trySet_reject_of
    rw [isFull_iff, h.len_eq, h.cap_eq, h.univ_eq]
    omega

/-! ### `build` -/

theorem build_reject_iff (b : SparseBuilder) :
    b.build = fault (.err .other) ↔ b.isFull = false := by
  unfold SparseBuilder.build
  cases hb : b.isFull <;> simp

theorem build_ok_of_full (b : SparseBuilder) (h : b.isFull = true) :
    b.build = ok ⟨b.univ, (BitVector.ofRaw b.high).enableSelect.enableSelectZero, b.low⟩ := by
  unfold SparseBuilder.build
  simp [h]

/-- the raw `high` of a full builder is the unary bucket sequence -/
theorem Holds.high_bits {w n inc cap : Nat} {A : List Nat} {b : SparseBuilder} (h : Holds w n inc cap A b)
    (hfull : A.length = cap) (hw : w ≤ 63) (hs : sortedLe A = true) (hb : ∀ p ∈ A, p < n) :
    b.high.bits = highBits w (Sparse.getBuckets n w) A := by
  apply highBits_unique (sortedLe_pairwise A hs) (fun p hp => shr_lt_getBuckets hw (hb p hp))
  · rw [RawVec.bits_length, h.inv.high_len, h.cap_eq, h.univ_eq, h.width_eq, hfull]
  · exact h.high_bit

/-- **`build` on a full builder**: the closed form of the result, which encodes the values set -/
theorem Holds.build {w n inc cap : Nat} {A : List Nat} {b : SparseBuilder} (h : Holds w n inc cap A b)
    (hfull : A.length = cap) (hw : w ≤ 63) (hn : n < 2 ^ 64) (hm : A.length < 2 ^ 63) (hs : sortedLe A = true)
    (hb : ∀ p ∈ A, p < n) :
    b.build = ok ⟨n, (BitVector.ofRaw b.high).enableSelect.enableSelectZero, b.low⟩ ∧
    (⟨n, (BitVector.ofRaw b.high).enableSelect.enableSelectZero, b.low⟩ : Sparse).Encodes n w A := by
  have hbits := h.high_bits hfull hw hs hb
  constructor
  · rw [build_ok_of_full b ((isFull_iff b).mpr (by rw [h.len_eq, h.cap_eq, hfull])), h.univ_eq]
  · refine Sparse.Encodes.of_parts (h.width_eq ▸ h.inv.w1) hw hn hm hs hb rfl h.width_eq (h.cap_eq.trans hfull.symm)
      h.low_val h.inv.high_wf hbits ?_ rfl rfl
    show b.high.countOnes = _
    rw [RawVec.countOnes_eq h.inv.high_wf, hbits,
      highBits_count_true (sortedLe_pairwise A hs) (fun p hp => shr_lt_getBuckets hw (hb p hp))]

/-! ### `extend` / `ofValues`: `try_set` per value, the first refusal ends it -/

/-- **`try_set` over a list of values until the first refusal** (`extend`, `ofValues`): every value is accepted, or
the fold is the refusal -/
theorem Holds.foldlM {w n inc cap : Nat} : ∀ (vals : List Nat) {A : List Nat} {b : SparseBuilder},
    Holds w n inc cap A b →
    if A.length + vals.length ≤ cap ∧ Sparse2.accepts n inc b.next vals = true then
      ∃ b', vals.foldlM (fun b v => b.trySet v) b = ok b' ∧ Holds w n inc cap (A ++ vals) b'
    else vals.foldlM (fun b v => b.trySet v) b = fault (.err .other)
  | [], A, b, h => by
    have hle := h.inv.len_le
    rw [h.len_eq, h.cap_eq] at hle
    rw [if_pos ⟨hle, rfl⟩, List.append_nil]
    exact ⟨b, rfl, h⟩
  | p :: ps, A, b, h => by
    have ht := h.trySet p
    have ih := fun hh =>
      Holds.foldlM (w := w) (n := n) (inc := inc) (cap := cap) ps (A := A ++ [p]) (b := setResult b p) hh
    rw [List.foldlM_cons]
    simp only [Sparse2.accepts, Bool.and_eq_true, decide_eq_true_eq, List.length_cons]
    by_cases hc : A.length < cap ∧ b.next ≤ p ∧ p < n
    · rw [if_pos hc] at ht
      have ih := ih ht.2
      rw [show (setResult b p).next = p + inc from congrArg (p + ·) h.inc_eq, List.length_append,
        List.length_singleton, List.append_assoc] at ih
      rw [ht.1, bind_ok]
      by_cases hc2 : A.length + 1 + ps.length ≤ cap ∧ Sparse2.accepts n inc (p + inc) ps = true
      · rw [if_pos hc2] at ih
        rw [if_pos ⟨by omega, ⟨hc.2.1, hc.2.2⟩, hc2.2⟩]
        exact ih
      · rw [if_neg hc2] at ih
        rw [if_neg (fun hx => hc2 ⟨by omega, hx.2.2⟩)]
        exact ih
    · rw [if_neg hc] at ht
      rw [ht, if_neg (fun hx => hc ⟨by omega, hx.2.1.1, hx.2.1.2⟩)]
      rfl

/-- **`ofValues`**: `new` / `multiset`, `try_set` per value, `build` — it reaches `build` with a builder holding
exactly `P`, or it is refused -/
theorem ofValues_fold (w n : Nat) (multi : Bool) (P : List Nat) (hw1 : 1 ≤ w) (hw : w ≤ 64)
    (hu : w < 64 ∨ n < U64) :
    if (multi = false → P.length ≤ n) ∧ Sparse2.accepts n (if multi then 0 else 1) 0 P = true then
      ∃ b, Holds w n (if multi then 0 else 1) P.length P b ∧ Sparse.ofValues w n multi P = b.build
    else Sparse.ofValues w n multi P = fault (.err .other) := by
  have key : ∀ (inc : Nat) (b : SparseBuilder), Holds w n inc P.length [] b → b.next = 0 →
      if Sparse2.accepts n inc 0 P = true then
        ∃ b', Holds w n inc P.length P b' ∧ (P.foldlM (fun b v => b.trySet v) b >>= fun b => b.build) = b'.build
      else (P.foldlM (fun b v => b.trySet v) b >>= fun b => b.build) = fault (.err .other) := by
    intro inc b hb hnx
    have := Holds.foldlM P hb
    rw [hnx, List.length_nil, Nat.zero_add, List.nil_append] at this
    split
    · next ha =>
      rw [if_pos ⟨Nat.le_refl _, ha⟩] at this
      obtain ⟨b', e, hb'⟩ := this
      exact ⟨b', hb', by rw [e]; rfl⟩
    · next ha =>
      rw [if_neg (fun hx => ha hx.2)] at this
      rw [this]; rfl
  unfold Sparse.ofValues
  cases multi with
  | true =>
    obtain ⟨b, e, hb, hnx⟩ := Holds.multiset (cap := P.length) hw1 hw hu
    have := key 0 b hb hnx
    simp only [if_true, e, bind_ok, true_and, reduceCtorEq, false_implies] at this ⊢
    exact this
  | false =>
    by_cases hlen : P.length ≤ n
    · obtain ⟨b, e, hb, hnx⟩ := Holds.new (cap := P.length) hw1 hw hlen hu
      have := key 1 b hb hnx
      simp only [Bool.false_eq_true, if_false, e, bind_ok, hlen, forall_const, true_and] at this ⊢
      exact this
    · rw [if_neg (fun hx => hlen (hx.1 rfl))]
      simp only [Bool.false_eq_true, if_false, new_reject w n P.length (by omega)]
      rfl

/-- for a sorted list below the universe size the pipeline is not refused -/
theorem accepts_of_sorted {n : Nat} {multi : Bool} {P : List Nat}
    (hsorted : if multi then sortedLe P = true else sortedStrict P = true) (hbound : ∀ p ∈ P, p < n) :
    ((multi = false → P.length ≤ n) ∧ Sparse2.accepts n (if multi then 0 else 1) 0 P = true) ∧
      sortedLe P = true := by
  cases multi with
  | true =>
    have hs : sortedLe P = true := by simpa using hsorted
    exact ⟨⟨(fun h => by cases h), (Sparse2.accepts_le n P 0).mpr ⟨hs, hbound, fun _ _ => Nat.zero_le _⟩⟩,
      hs⟩
  | false =>
    have hs : sortedStrict P = true := by simpa using hsorted
    exact ⟨⟨fun _ => Sparse2.strict_length_le hs hbound,
      (Sparse2.accepts_strict n P 0).mpr ⟨hs, hbound, fun _ _ => Nat.zero_le _⟩⟩, Sparse2.sortedStrict_le P hs⟩

/-- **what `ofValues` builds**: the builder that holds `P`, converted -/
theorem ofValues_built (w n : Nat) (multi : Bool) (P : List Nat) (hw1 : 1 ≤ w) (hw : w ≤ 63) (hn : n < 2 ^ 64)
    (hm : P.length < 2 ^ 63) (hsorted : if multi then sortedLe P = true else sortedStrict P = true)
    (hbound : ∀ p ∈ P, p < n) :
    ∃ b, Holds w n (if multi then 0 else 1) P.length P b ∧
      Sparse.ofValues w n multi P = ok ⟨n, (BitVector.ofRaw b.high).enableSelect.enableSelectZero, b.low⟩ ∧
      (⟨n, (BitVector.ofRaw b.high).enableSelect.enableSelectZero, b.low⟩ : Sparse).Encodes n w P ∧
      b.high.bits = highBits w (Sparse.getBuckets n w) P := by
  obtain ⟨hacc, hle⟩ := accepts_of_sorted hsorted hbound
  have := ofValues_fold w n multi P hw1 (by omega) (Or.inl (by omega))
  rw [if_pos hacc] at this
  obtain ⟨b, hb, e⟩ := this
  obtain ⟨h1, h2⟩ := hb.build rfl hw hn hm hle hbound
  exact ⟨b, hb, e.trans h1, h2, hb.high_bits rfl hw hle hbound⟩

/-! ### call histories

The caller of a `try_*` function keeps the old builder when the call is rejected; `step` is that
protocol, `run` a whole history of calls.  The list-level reference `accepted` keeps the accepted
indices and the lower bound for the next one. -/

/-- one `try_set` call by a caller that ignores rejections -/
def step (b : SparseBuilder) (i : Nat) : SparseBuilder :=
  match b.trySet i with
  | ok b' => b'
  | fault _ => b

/-- a history of `try_set` calls -/
def run (b : SparseBuilder) (calls : List Nat) : SparseBuilder := calls.foldl step b

/-- reference state: the accepted indices (in call order) and the lower bound for the next index -/
structure RefState where
  acc : List Nat
  next : Nat
  deriving DecidableEq, Repr

/-- a call `i` is accepted iff fewer than `cap` calls were accepted so far, `i ≥ next` and `i < univ`;
then `next := i + inc` (`inc = 1`: set, `inc = 0`: multiset) -/
def refStep (cap univ inc : Nat) (s : RefState) (i : Nat) : RefState :=
  if s.acc.length < cap ∧ s.next ≤ i ∧ i < univ then ⟨s.acc ++ [i], i + inc⟩ else s

def acceptedFrom (cap univ inc : Nat) (s : RefState) (calls : List Nat) : RefState :=
  calls.foldl (refStep cap univ inc) s

/-- the list-level reference for a fresh builder -/
def accepted (cap univ inc : Nat) (calls : List Nat) : RefState :=
  acceptedFrom cap univ inc ⟨[], 0⟩ calls

/-- the builder `b` is in the reference state `s` -/
structure Agrees (cap univ inc : Nat) (b : SparseBuilder) (s : RefState) : Prop where
  inv : SbInv b
  len_eq : b.len = s.acc.length
  next_eq : b.next = s.next
  cap_eq : b.capacity = cap
  univ_eq : b.univ = univ
  inc_eq : b.increment = inc

theorem step_of_reject {b : SparseBuilder} {i : Nat} (h : b.trySet i = fault (.err .other)) :
    step b i = b := by
  unfold step; rw [h]

theorem step_of_accept {b b' : SparseBuilder} {i : Nat} (h : b.trySet i = ok b') :
    step b i = b' := by
  unfold step; rw [h]

/-- one call, as the reference decides it: an accepted call does `setResult`, a rejected one nothing -/
theorem Agrees.step_eq {cap univ inc : Nat} {b : SparseBuilder} {s : RefState}
    (h : Agrees cap univ inc b s) (i : Nat) :
    if s.acc.length < cap ∧ s.next ≤ i ∧ i < univ then
      step b i = setResult b i ∧ b.len < b.capacity ∧ i < b.univ
    else step b i = b := by
  have hfull : b.isFull = true ↔ ¬ s.acc.length < cap := by
    rw [isFull_iff, ← h.len_eq, ← h.cap_eq]; have := h.inv.len_le; omega
  split
  · next hc =>
    have hf : b.isFull = false := by
      cases hb : b.isFull
      · rfl
      · exact absurd hc.1 (hfull.mp hb)
    have hi : i < b.univ := by rw [h.univ_eq]; exact hc.2.2
    exact ⟨step_of_accept (trySet_accept h.inv hf (by rw [h.next_eq]; exact hc.2.1) hi),
      (not_isFull_iff h.inv).mp hf, hi⟩
  · next hc =>
    exact step_of_reject (trySet_reject_of b i (by rw [hfull, h.next_eq, h.univ_eq]; omega))

theorem Agrees.step {cap univ inc : Nat} {b : SparseBuilder} {s : RefState}
    (h : Agrees cap univ inc b s) (i : Nat) :
    Agrees cap univ inc (step b i) (refStep cap univ inc s i) := by
  have hs := h.step_eq i
  unfold refStep
  by_cases hc : s.acc.length < cap ∧ s.next ≤ i ∧ i < univ
  · rw [if_pos hc] at hs ⊢
    rw [hs.1]
    exact ⟨setResult_inv h.inv hs.2.2 hs.2.1, by simp [setResult, h.len_eq],
      by show i + b.increment = i + inc; rw [h.inc_eq], h.cap_eq, h.univ_eq, h.inc_eq⟩
  · rw [if_neg hc] at hs ⊢
    rw [hs]; exact h

theorem Agrees.run {cap univ inc : Nat} (calls : List Nat) : ∀ {b : SparseBuilder} {s : RefState},
    Agrees cap univ inc b s → Agrees cap univ inc (run b calls) (acceptedFrom cap univ inc s calls) := by
  induction calls with
  | nil => intro b s h; exact h
  | cons i rest ih =>
    intro b s h
    exact ih (h.step i)

theorem Agrees.isFull {cap univ inc : Nat} {b : SparseBuilder} {s : RefState}
    (h : Agrees cap univ inc b s) : b.isFull = (s.acc.length == cap) := by
  unfold SparseBuilder.isFull; rw [h.len_eq, h.cap_eq]

/-- **histories, general form**: from any builder satisfying the invariant, any finite list of
`try_set` calls (valid or not, rejected ones ignored) leaves the builder in the state predicted by the
list-level reference started at `(len, next)`. -/
theorem run_agrees {b : SparseBuilder} (h : SbInv b) (acc0 : List Nat) (h0 : acc0.length = b.len)
    (calls : List Nat) :
    let r := acceptedFrom b.capacity b.univ b.increment ⟨acc0, b.next⟩ calls
    (run b calls).len = r.acc.length ∧ (run b calls).next = r.next ∧
    (run b calls).isFull = (r.acc.length == b.capacity) ∧
    (run b calls).capacity = b.capacity ∧ (run b calls).univ = b.univ ∧
    (run b calls).increment = b.increment ∧ SbInv (run b calls) := by
  have ha : Agrees b.capacity b.univ b.increment b ⟨acc0, b.next⟩ :=
    ⟨h, h0.symm, rfl, rfl, rfl, rfl⟩
  have hr := ha.run calls
  exact ⟨hr.len_eq, hr.next_eq, hr.isFull, hr.cap_eq, hr.univ_eq, hr.inc_eq, hr.inv⟩

/-- **histories, set mode**: `SparseBuilder::new` followed by any list of `try_set` calls -/
theorem run_new (w univ ones : Nat) (h1 : 1 ≤ w) (h2 : w ≤ 64) (ho : ones ≤ univ)
    (hu : w < 64 ∨ univ < U64) (calls : List Nat) :
    ∃ b, SparseBuilder.new w univ ones = ok b ∧
      let r := accepted ones univ 1 calls
      (run b calls).len = r.acc.length ∧ (run b calls).next = r.next ∧
      (run b calls).isFull = (r.acc.length == ones) ∧ SbInv (run b calls) := by
  obtain ⟨b, hb, hinv, hc, hun, _, hl, hn, hi⟩ := new_ok w univ ones h1 h2 ho hu
  refine ⟨b, hb, ?_⟩
  have ha : Agrees ones univ 1 b ⟨[], 0⟩ := ⟨hinv, hl, hn, hc, hun, hi⟩
  have hr := ha.run calls
  exact ⟨hr.len_eq, hr.next_eq, hr.isFull, hr.inv⟩

/-- **histories, multiset mode** -/
theorem run_multiset (w univ ones : Nat) (h1 : 1 ≤ w) (h2 : w ≤ 64)
    (hu : w < 64 ∨ univ < U64) (calls : List Nat) :
    ∃ b, SparseBuilder.multiset w univ ones = ok b ∧
      let r := accepted ones univ 0 calls
      (run b calls).len = r.acc.length ∧ (run b calls).next = r.next ∧
      (run b calls).isFull = (r.acc.length == ones) ∧ SbInv (run b calls) := by
  obtain ⟨b, hb, hinv, hc, hun, _, hl, hn, hi⟩ := multiset_ok w univ ones h1 h2 hu
  refine ⟨b, hb, ?_⟩
  have ha : Agrees ones univ 0 b ⟨[], 0⟩ := ⟨hinv, hl, hn, hc, hun, hi⟩
  have hr := ha.run calls
  exact ⟨hr.len_eq, hr.next_eq, hr.isFull, hr.inv⟩

/-! facts about the reference itself -/

/-- what the reference maintains: at most `cap` accepted, all below `univ`, consecutive accepted
indices differ by at least `inc`, and `next` is at least every accepted index plus `inc` -/
structure RefOk (cap univ inc : Nat) (s : RefState) : Prop where
  len_le : s.acc.length ≤ cap
  bound : ∀ x ∈ s.acc, x < univ
  sorted : s.acc.Pairwise (fun a c => a + inc ≤ c)
  next_ge : ∀ x ∈ s.acc, x + inc ≤ s.next

theorem RefOk.step {cap univ inc : Nat} {s : RefState} (h : RefOk cap univ inc s) (i : Nat) :
    RefOk cap univ inc (refStep cap univ inc s i) := by
  unfold refStep
  split
  · next hc =>
    refine ⟨by simp; omega, ?_, ?_, ?_⟩
    · intro x hx
      rcases List.mem_append.mp hx with hx | hx
      · exact h.bound x hx
      · simp at hx; omega
    · rw [List.pairwise_append]
      refine ⟨h.sorted, List.pairwise_singleton _ _, ?_⟩
      intro a ha c hc'
      simp at hc'; subst hc'
      have := h.next_ge a ha; omega
    · intro x hx
      rcases List.mem_append.mp hx with hx | hx
      · have := h.next_ge x hx; show x + inc ≤ i + inc; omega
      · simp at hx; subst hx; exact Nat.le_refl _
  · exact h

theorem RefOk.run {cap univ inc : Nat} (calls : List Nat) : ∀ {s : RefState},
    RefOk cap univ inc s → RefOk cap univ inc (acceptedFrom cap univ inc s calls) := by
  induction calls with
  | nil => intro s h; exact h
  | cons i rest ih => intro s h; exact ih (h.step i)

theorem accepted_ok (cap univ inc : Nat) (calls : List Nat) :
    RefOk cap univ inc (accepted cap univ inc calls) :=
  RefOk.run calls ⟨Nat.zero_le _, by simp, List.Pairwise.nil, by simp⟩

/-- set mode: the accepted indices are strictly increasing -/
theorem accepted_strict (cap univ : Nat) (calls : List Nat) :
    (accepted cap univ 1 calls).acc.Pairwise (· < ·) :=
  (accepted_ok cap univ 1 calls).sorted.imp (fun h => by omega)

/-- multiset mode: the accepted indices are non-decreasing -/
theorem accepted_mono (cap univ : Nat) (calls : List Nat) :
    (accepted cap univ 0 calls).acc.Pairwise (· ≤ ·) :=
  (accepted_ok cap univ 0 calls).sorted.imp (fun h => by omega)

/-- a valid history (enough room, all indices in the universe, spaced by `inc`, starting at or after
`next`) is accepted entirely -/
theorem acceptedFrom_valid (cap univ inc : Nat) : ∀ (calls : List Nat) (s : RefState),
    s.acc.length + calls.length ≤ cap → (∀ x ∈ calls, x < univ) →
    calls.Pairwise (fun a c => a + inc ≤ c) → (∀ x ∈ calls, s.next ≤ x) →
    (acceptedFrom cap univ inc s calls).acc = s.acc ++ calls := by
  intro calls
  induction calls with
  | nil => intro s _ _ _ _; simp [acceptedFrom]
  | cons i rest ih =>
    intro s hlen hb hp hn
    have hc : s.acc.length < cap ∧ s.next ≤ i ∧ i < univ := by
      refine ⟨?_, hn i (by simp), hb i (by simp)⟩
      simp at hlen; omega
    have hs : refStep cap univ inc s i = ⟨s.acc ++ [i], i + inc⟩ := by
      unfold refStep; rw [if_pos hc]
    show (acceptedFrom cap univ inc (refStep cap univ inc s i) rest).acc = _
    rw [hs, ih]
    · simp
    · simp at hlen ⊢; omega
    · intro x hx; exact hb x (List.mem_cons_of_mem _ hx)
    · exact (List.pairwise_cons.mp hp).2
    · intro x hx; exact (List.pairwise_cons.mp hp).1 x hx

theorem sortedLe_of_pairwise (P : List Nat) (h : P.Pairwise (· ≤ ·)) : sortedLe P = true := (sortedLe_iff P).mpr h

theorem sortedStrict_of_pairwise (P : List Nat) (h : P.Pairwise (· < ·)) : sortedStrict P = true :=
  (sortedStrict_iff P).mpr h

/-! ### what a history builds -/

theorem Holds.step {w n inc cap : Nat} {b : SparseBuilder} {s : RefState} (h : Holds w n inc cap s.acc b)
    (hn : b.next = s.next) (i : Nat) :
    Holds w n inc cap (refStep cap n inc s i).acc (step b i) ∧ (step b i).next = (refStep cap n inc s i).next := by
  have ht := h.trySet i
  unfold refStep
  rw [hn] at ht
  split
  · next hc =>
    rw [if_pos hc] at ht
    rw [step_of_accept ht.1]
    exact ⟨ht.2, congrArg (i + ·) h.inc_eq⟩
  · next hc =>
    rw [if_neg hc] at ht
    rw [step_of_reject ht]
    exact ⟨h, hn⟩

theorem Holds.run {w n inc cap : Nat} (calls : List Nat) : ∀ {b : SparseBuilder} {s : RefState},
    Holds w n inc cap s.acc b → b.next = s.next →
    Holds w n inc cap (acceptedFrom cap n inc s calls).acc (run b calls) := by
  induction calls with
  | nil => intro b s h _; exact h
  | cons i rest ih =>
    intro b s h hn
    exact ih (h.step hn i).1 (h.step hn i).2

/-- **build what was accepted**, for a whole history: `new` / `multiset`, then any list of `try_set`
calls (rejected ones ignored); if the reference accepted `ones` of them, `build` succeeds and the
result encodes exactly the accepted indices; otherwise `build` is an `Err`. -/
theorem history_build (multi : Bool) (w univ ones : Nat) (h1 : 1 ≤ w) (h2 : w ≤ 63)
    (hu : univ < 2 ^ 64) (ho : ones < 2 ^ 63) (hou : multi = false → ones ≤ univ)
    (calls : List Nat) :
    ∃ b, (if multi then SparseBuilder.multiset w univ ones else SparseBuilder.new w univ ones) = ok b ∧
      let P := (accepted ones univ (if multi then 0 else 1) calls).acc
      (P.length = ones → ∃ s, (run b calls).build = ok s ∧ s.Encodes univ w P) ∧
      (P.length ≠ ones → (run b calls).build = fault (.err .other)) := by
  have key : ∀ (inc : Nat) (b : SparseBuilder), Holds w univ inc ones [] b → b.next = 0 →
      let P := (accepted ones univ inc calls).acc
      (P.length = ones → ∃ s, (run b calls).build = ok s ∧ s.Encodes univ w P) ∧
      (P.length ≠ ones → (run b calls).build = fault (.err .other)) := by
    intro inc b hb hnx
    have hr := Holds.run calls (s := ⟨[], 0⟩) hb hnx
    have hok := accepted_ok ones univ inc calls
    refine ⟨fun hfull => ?_, fun hne => ?_⟩
    · change (acceptedFrom ones univ inc ⟨[], 0⟩ calls).acc.length = ones at hfull
      exact ⟨_, hr.build hfull h2 hu (by rw [hfull]; exact ho)
        (sortedLe_of_pairwise _ (hok.sorted.imp (fun h => by omega))) hok.bound⟩
    · rw [build_reject_iff, ← Bool.not_eq_true, isFull_iff, hr.len_eq, hr.cap_eq]
      exact hne
  cases multi with
  | false =>
    obtain ⟨b, e, hb, hnx⟩ := Holds.new (cap := ones) h1 (by omega) (hou rfl) (Or.inl (by omega))
    exact ⟨b, e, key 1 b hb hnx⟩
  | true =>
    obtain ⟨b, e, hb, hnx⟩ := Holds.multiset (cap := ones) h1 (by omega) (Or.inl (by omega))
    exact ⟨b, e, key 0 b hb hnx⟩

/-- **`Sparse.ofValues` builds the encoding of its argument**: for a sorted list of values below the
universe size (strictly sorted in set mode), with a low width in `1..63`, the builder pipeline
`new`/`multiset` → `try_set`* → `build` succeeds, and the result `Encodes` the list. -/
theorem ofValues_encodes (w univ : Nat) (multi : Bool) (vals : List Nat) (h1 : 1 ≤ w) (h2 : w ≤ 63)
    (hu : univ < 2 ^ 64) (hm : vals.length < 2 ^ 63) (hb : ∀ x ∈ vals, x < univ)
    (hs : vals.Pairwise (fun a c => a + (if multi then 0 else 1) ≤ c)) :
    ∃ s, Sparse.ofValues w univ multi vals = ok s ∧ s.Encodes univ w vals := by
  obtain ⟨b, _, e, he, _⟩ := ofValues_built w univ multi vals h1 h2 hu hm (by
    cases multi with
    | false => exact sortedStrict_of_pairwise vals (hs.imp (fun h => by simp at h; omega))
    | true => exact sortedLe_of_pairwise vals (hs.imp (fun h => by simp at h; omega))) hb
  exact ⟨_, e, he⟩

end BuildersProofs

/-! ### what `ofValues` builds, and when it is refused -/

open BuildersProofs in
/-- **Set mode.** For a strictly increasing list below the universe size, `ofValues` succeeds and the result
encodes the list. -/
theorem ofValues_set_ok (w n : Nat) (P : List Nat) (hw1 : 1 ≤ w) (hw : w ≤ 63) (hn : n < 2 ^ 64)
    (hm : P.length < 2 ^ 63) (hsorted : sortedStrict P = true) (hbound : ∀ p ∈ P, p < n) :
    ∃ s, Sparse.ofValues w n false P = ok s ∧ s.Encodes n w P := by
  obtain ⟨b, _, h1, h2, _⟩ := ofValues_built w n false P hw1 hw hn hm (by simpa using hsorted) hbound
  exact ⟨_, h1, h2⟩

open BuildersProofs in
/-- **Multiset mode.** For a non-decreasing list below the universe size, `ofValues` succeeds and the result
encodes the list. -/
theorem ofValues_multi_ok (w n : Nat) (P : List Nat) (hw1 : 1 ≤ w) (hw : w ≤ 63) (hn : n < 2 ^ 64)
    (hm : P.length < 2 ^ 63) (hsorted : sortedLe P = true) (hbound : ∀ p ∈ P, p < n) :
    ∃ s, Sparse.ofValues w n true P = ok s ∧ s.Encodes n w P := by
  obtain ⟨b, _, h1, h2, _⟩ := ofValues_built w n true P hw1 hw hn hm (by simpa using hsorted) hbound
  exact ⟨_, h1, h2⟩

open BuildersProofs in
/-- **Rejection, set mode**: not strictly increasing, or a value `≥ n` (this covers `P.length > n`) -/
theorem ofValues_set_reject (w n : Nat) (P : List Nat) (hw1 : 1 ≤ w) (hw : w ≤ 63)
    (hbad : ¬ (sortedStrict P = true ∧ ∀ p ∈ P, p < n)) :
    Sparse.ofValues w n false P = fault (.err .other) := by
  have := ofValues_fold w n false P hw1 (by omega) (Or.inl (by omega))
  rwa [if_neg (fun hx => hbad (by
    have := (Sparse2.accepts_strict n P 0).mp hx.2; exact ⟨this.1, this.2.1⟩))] at this

theorem ofValues_set_reject_len (w n : Nat) (P : List Nat) (hw1 : 1 ≤ w) (hw : w ≤ 63)
    (hbad : n < P.length) : Sparse.ofValues w n false P = fault (.err .other) := by
  apply ofValues_set_reject w n P hw1 hw
  intro h
  have := Sparse2.strict_length_le h.1 h.2
  omega

open BuildersProofs in
/-- **Rejection, multiset mode**: not non-decreasing, or a value `≥ n` -/
theorem ofValues_multi_reject (w n : Nat) (P : List Nat) (hw1 : 1 ≤ w) (hw : w ≤ 63)
    (hbad : ¬ (sortedLe P = true ∧ ∀ p ∈ P, p < n)) :
    Sparse.ofValues w n true P = fault (.err .other) := by
  have := ofValues_fold w n true P hw1 (by omega) (Or.inl (by omega))
  rwa [if_neg (fun hx => hbad (by
    have := (Sparse2.accepts_le n P 0).mp hx.2; exact ⟨this.1, this.2.1⟩))] at this

/-- `Sparse.ofValues … = ok s` determines `s`, so the encoding relation holds of that `s` -/
theorem ofValues_set_encodes {w n : Nat} {P : List Nat} {s : Sparse} (hw1 : 1 ≤ w) (hw : w ≤ 63)
    (hn : n < 2 ^ 64) (hm : P.length < 2 ^ 63) (hsorted : sortedStrict P = true)
    (hbound : ∀ p ∈ P, p < n) (h : Sparse.ofValues w n false P = ok s) : s.Encodes n w P := by
  obtain ⟨s', h1, hs⟩ := ofValues_set_ok w n P hw1 hw hn hm hsorted hbound
  rw [h] at h1; cases h1; exact hs

theorem ofValues_multi_encodes {w n : Nat} {P : List Nat} {s : Sparse} (hw1 : 1 ≤ w) (hw : w ≤ 63)
    (hn : n < 2 ^ 64) (hm : P.length < 2 ^ 63) (hsorted : sortedLe P = true)
    (hbound : ∀ p ∈ P, p < n) (h : Sparse.ofValues w n true P = ok s) : s.Encodes n w P := by
  obtain ⟨s', h1, hs⟩ := ofValues_multi_ok w n P hw1 hw hn hm hsorted hbound
  rw [h] at h1; cases h1; exact hs

/-- **Corollary: the queries of a built vector.**  (`multi = false`: `P` strictly increasing; `multi = true`:
non-decreasing.) -/
theorem ofValues_queries (w n : Nat) (multi : Bool) (P : List Nat) (hw1 : 1 ≤ w) (hw : w ≤ 63) (hn : n < 2 ^ 64)
    (hm : P.length < 2 ^ 63)
    (hsorted : if multi then sortedLe P = true else sortedStrict P = true) (hbound : ∀ p ∈ P, p < n) :
    ∃ s, Sparse.ofValues w n multi P = ok s ∧ s.Encodes n w P ∧
      (∀ m r, s.select m r = ok (P[r]?)) ∧
      (∀ m i, s.rank m i = ok (rankSet P i)) ∧
      (∀ m i, i < n → s.get m i = ok (getSet P i)) ∧
      (∀ m x, s.predecessor m x = ok (match predSet P x with
          | none => SpOneIter.emptyIter s
          | some kv => s.iterAt w P kv.1)) ∧
      (∀ m x, s.successor m x = ok (match succSet P x with
          | none => SpOneIter.emptyIter s
          | some kv => s.iterAt w P kv.1)) ∧
      (multi = false → ∀ m i, s.rankZero m i = ok (i - rankSet P i)) := by
  obtain ⟨b, _, h1, hs, _⟩ := BuildersProofs.ofValues_built w n multi P hw1 hw hn hm hsorted hbound
  refine ⟨_, h1, hs, fun m r => select_ok hs m r, fun m i => rank_ok hs m i, fun m i hi => get_ok hs m i hi,
    fun m x => pred_ok hs m x, fun m x => succ_ok hs m x, ?_⟩
  intro hmulti m i
  subst hmulti
  exact rankZero_ok hs (by simpa using hsorted) m i

/-- **closed form of the built sparse vector**: whatever the call history that fed the positions `P` (set
mode: strictly increasing, multiset mode: non-decreasing) into a builder of low width `w` over the universe
`n`, the result is: `high` = `BitVector::from` of THE raw vector holding the unary bucket sequence
`highBits w ⌈n / 2^w⌉ P`, with select and select_zero enabled; `low` = a well-formed integer vector of width
`w` holding `p mod 2^w` for each `p` in `P` -/
theorem Sparse.ofValues_closed_form (w n : Nat) (multi : Bool) (P : List Nat) (hw1 : 1 ≤ w) (hw : w ≤ 63)
    (hn : n < 2 ^ 64) (hm : P.length < 2 ^ 63)
    (hsorted : if multi then sortedLe P = true else sortedStrict P = true) (hbound : ∀ p ∈ P, p < n) :
    ∃ s, Sparse.ofValues w n multi P = ok s ∧ s.Encodes n w P ∧ s.len = n ∧
      s.high = (BitVector.ofRaw (RawVec.ofBits (highBits w (Sparse.getBuckets n w) P))).enableSelect.enableSelectZero ∧
      s.low.WF ∧ s.low.width = w ∧ s.low.items = P.map (· % 2 ^ w) := by
  obtain ⟨b, hb, h1, h2, hbits⟩ := BuildersProofs.ofValues_built w n multi P hw1 hw hn hm hsorted hbound
  refine ⟨_, h1, h2, rfl, ?_, hb.inv.low_wf, hb.width_eq, ?_⟩
  · show (BitVector.ofRaw b.high).enableSelect.enableSelectZero = _
    rw [RawVec.canonical hb.inv.high_wf (RawVec.ofBits_WF _) (hbits.trans (RawVec.bits_ofBits _).symm)]
  · apply List.ext_getElem?
    intro i
    rw [IntVec.items_getElem?]
    show (if i < b.low.len then _ else _) = _
    rw [show b.low.len = P.length from hb.cap_eq]
    by_cases hi : i < P.length
    · rw [if_pos hi, hb.low_val i hi]
      simp [List.getElem?_eq_getElem hi]
    · rw [if_neg hi, List.getElem?_eq_none (by simp; omega)]

/-- the shape of what the builder returns: `high` is `BitVector::from(raw)` with select and select_zero
enabled (no rank support), for a well-formed raw vector holding `|P|` ones -/
theorem ofValues_shape (w n : Nat) (multi : Bool) (P : List Nat) (hw1 : 1 ≤ w) (hw : w ≤ 63)
    (hn : n < 2 ^ 64) (hm : P.length < 2 ^ 63)
    (hsorted : if multi then sortedLe P = true else sortedStrict P = true) (hbound : ∀ p ∈ P, p < n) :
    ∃ s raw, Sparse.ofValues w n multi P = ok s ∧ s.Encodes n w P ∧
      raw.WF ∧ raw.len = P.length + Sparse.getBuckets n w ∧ raw.countOnes = P.length ∧
      s.high = (BitVector.ofRaw raw).enableSelect.enableSelectZero ∧ s.low.WF := by
  obtain ⟨b, hb, h1, h2, hbits⟩ := BuildersProofs.ofValues_built w n multi P hw1 hw hn hm hsorted hbound
  refine ⟨_, b.high, h1, h2, hb.inv.high_wf, h2.high_len, ?_, rfl, hb.inv.low_wf⟩
  rw [RawVec.countOnes_eq hb.inv.high_wf, hbits, highBits_count_true h2.pw h2.hb]

end Sds
