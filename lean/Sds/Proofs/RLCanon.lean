/-
Proofs/RLCanon: the run-length builder is canonical.

The state reached by an accepted call history (`try_set` / `set_bit` / `set_len`, `RL.runBCalls`) is a FUNCTION
of the bit sequence `B` the history describes (`calls.foldl RL.specCall []`):
  * everything `flush` ever wrote (`tail`, flushed ones, block `samples`, encoded `data` — the `Core` of the
    builder) is `Core.ofRuns F`, the fold of the pure flush step `Core.push` over the flushed runs `F`;
  * `F` and the pending run are determined by `B`: `maximalRuns B = F ++ (pending run, if non-empty)`, and the
    pending run is non-empty exactly when `B` ends with a set bit.
Hence two accepted histories describing the same bits reach EQUAL builders (`builder_canonical`), the vectors
converted from them (`From<RLBuilder>`) are equal and serialize to identical elements (`vector_canonical`,
`bytes_canonical`).  Closed form: `flush_closed_form` / `ofBuilder_closed_form` — the flushed builder is
`canonFlushed B`, computed from `maximalRuns B`, `|B|` and the number of set bits alone.
-/
import Sds.Proofs.Glue4

namespace Sds.RLCanon
open Sds Outcome

/-- every accepted history from the empty builder reaches a `Canon` state for the bits it describes -/
theorem history_canon (m : Mode) (calls : List RL.BCall) (hc : ∀ c ∈ calls, RL.callArgsOk c)
    (b : RLBuilder) (hb : RL.runBCalls m calls {} = ok b) : ∃ F, Canon b (calls.foldl RL.specCall []) F :=
  let ⟨_, _, k⟩ := RL.runBCalls_hist m calls hc b hb
  ⟨_, k.canon⟩

/-! ### `Canon` determines the builder -/

theorem Canon.maximalRuns_eq {b : RLBuilder} {B : List Bool} {F : List (Nat × Nat)} (h : Canon b B F) :
    maximalRuns B = flushedAfter b F := by
  have := h.runs []
  rw [List.append_nil, runsOf_nil] at this
  exact this

/-- the pending run is `(len, 0)` when empty -/
theorem Canon.run_eq {b : RLBuilder} {B : List Bool} {F : List (Nat × Nat)} (h : Canon b B F) :
    b.run = (match RLBuilder.pend b with | none => (B.length, 0) | some r => r) := by
  unfold RLBuilder.pend
  by_cases hr : b.run.2 = 0
  · rw [if_pos hr]
    have := h.inv.run_end
    have := h.len
    apply Prod.ext <;> simp <;> omega
  · rw [if_neg hr]

/-- two `Canon` states for the same bits have the same flushed runs and the same pending run -/
theorem Canon.unique {b₁ b₂ : RLBuilder} {B : List Bool} {F₁ F₂ : List (Nat × Nat)}
    (h₁ : Canon b₁ B F₁) (h₂ : Canon b₂ B F₂) : F₁ = F₂ ∧ RLBuilder.pend b₁ = RLBuilder.pend b₂ := by
  have hl : b₁.len = b₂.len := h₁.len.symm.trans h₂.len
  -- continue the bits with one set bit: the last run is then non-empty on both sides
  have e1 := h₁.runs [true]
  have e2 := h₂.runs [true]
  rw [e1, ← hl] at e2
  have hlast : ∀ p : Option (Nat × Nat), ∃ r, runsOf [true] b₁.len p = [r] ∧
      (p = none → r = (b₁.len, 1)) ∧ (∀ s l, p = some (s, l) → r = (s, l + 1)) := by
    intro p
    cases p with
    | none => exact ⟨_, rfl, fun _ => rfl, fun _ _ h => (by cases h)⟩
    | some q => exact ⟨(q.1, q.2 + 1), rfl, fun h => (by cases h), fun s l h => (by cases h; rfl)⟩
  obtain ⟨r₁, q1, n1, s1⟩ := hlast (RLBuilder.pend b₁)
  obtain ⟨r₂, q2, n2, s2⟩ := hlast (RLBuilder.pend b₂)
  rw [q1, q2] at e2
  obtain ⟨hF, hr⟩ := List.append_inj' e2 rfl
  refine ⟨hF, ?_⟩
  -- and without continuation: F ++ pend
  have d1 := h₁.runs []
  have d2 := h₂.runs []
  rw [d1, ← hl, hF] at d2
  have d3 := List.append_cancel_left d2
  have hr' : r₁ = r₂ := by simpa using hr
  cases hp1 : RLBuilder.pend b₁ with
  | none =>
    cases hp2 : RLBuilder.pend b₂ with
    | none => rfl
    | some q => rw [hp1, hp2] at d3; simp [runsOf] at d3
  | some p =>
    cases hp2 : RLBuilder.pend b₂ with
    | none => rw [hp1, hp2] at d3; simp [runsOf] at d3
    | some q =>
      rw [hp1, hp2] at d3
      simp only [runsOf, List.cons.injEq, and_true] at d3
      rw [d3]

/-- **the builder is a function of the described bits**: two builders in `Canon` states for the same bit
sequence are equal, field by field (`len`, `ones`, `tail`, `run`, `samples`, `data`) -/
theorem Canon.builder_eq {b₁ b₂ : RLBuilder} {B : List Bool} {F₁ F₂ : List (Nat × Nat)}
    (h₁ : Canon b₁ B F₁) (h₂ : Canon b₂ B F₂) : b₁ = b₂ := by
  obtain ⟨hF, hp⟩ := h₁.unique h₂
  have hrun : b₁.run = b₂.run := by rw [h₁.run_eq, h₂.run_eq, hp]
  have hcore : coreOf b₁ = coreOf b₂ := by rw [h₁.core, h₂.core, hF]
  have hlen : b₁.len = b₂.len := h₁.len.symm.trans h₂.len
  have hones : b₁.ones = b₂.ones := h₁.ones.symm.trans h₂.ones
  unfold coreOf at hcore
  injection hcore with c1 c2 c3 c4
  cases b₁; cases b₂
  simp only at hrun hlen hones c1 c3 c4
  subst hrun hlen hones c1 c3 c4
  rfl

/-! ### main theorems -/

/-- **builder canonicity**: two accepted call histories describing the same bit sequence reach the same
builder state -/
theorem builder_canonical (m : Mode) (calls₁ calls₂ : List RL.BCall)
    (hc₁ : ∀ c ∈ calls₁, RL.callArgsOk c) (hc₂ : ∀ c ∈ calls₂, RL.callArgsOk c)
    (hsame : calls₁.foldl RL.specCall [] = calls₂.foldl RL.specCall [])
    (b₁ b₂ : RLBuilder) (hb₁ : RL.runBCalls m calls₁ {} = ok b₁) (hb₂ : RL.runBCalls m calls₂ {} = ok b₂) :
    b₁ = b₂ := by
  obtain ⟨F₁, k₁⟩ := history_canon m calls₁ hc₁ b₁ hb₁
  obtain ⟨F₂, k₂⟩ := history_canon m calls₂ hc₂ b₂ hb₂
  rw [hsame] at k₁
  exact k₁.builder_eq k₂

/-- **vector canonicity**: the vectors converted from them are equal as values -/
theorem vector_canonical (m : Mode) (calls₁ calls₂ : List RL.BCall)
    (hc₁ : ∀ c ∈ calls₁, RL.callArgsOk c) (hc₂ : ∀ c ∈ calls₂, RL.callArgsOk c)
    (hsame : calls₁.foldl RL.specCall [] = calls₂.foldl RL.specCall [])
    (b₁ b₂ : RLBuilder) (hb₁ : RL.runBCalls m calls₁ {} = ok b₁) (hb₂ : RL.runBCalls m calls₂ {} = ok b₂)
    (v₁ v₂ : RL) (hv₁ : RL.ofBuilder m b₁ = ok v₁) (hv₂ : RL.ofBuilder m b₂ = ok v₂) : v₁ = v₂ := by
  have e := builder_canonical m calls₁ calls₂ hc₁ hc₂ hsame b₁ b₂ hb₁ hb₂
  subst e
  rw [hv₁] at hv₂
  injection hv₂

/-- … and serialize to identical elements -/
theorem bytes_canonical (m : Mode) (calls₁ calls₂ : List RL.BCall)
    (hc₁ : ∀ c ∈ calls₁, RL.callArgsOk c) (hc₂ : ∀ c ∈ calls₂, RL.callArgsOk c)
    (hsame : calls₁.foldl RL.specCall [] = calls₂.foldl RL.specCall [])
    (b₁ b₂ : RLBuilder) (hb₁ : RL.runBCalls m calls₁ {} = ok b₁) (hb₂ : RL.runBCalls m calls₂ {} = ok b₂)
    (v₁ v₂ : RL) (hv₁ : RL.ofBuilder m b₁ = ok v₁) (hv₂ : RL.ofBuilder m b₂ = ok v₂) :
    (rlC m).ser v₁ = (rlC m).ser v₂ := by
  rw [vector_canonical m calls₁ calls₂ hc₁ hc₂ hsame b₁ b₂ hb₁ hb₂ v₁ v₂ hv₁ hv₂]

/-! ### closed form -/

/-- the builder after the final `flush` (the one `From<RLBuilder>` performs), as a function of the bits: every
maximal run of `B` has been pushed, the empty pending run is parked at `|B|` -/
def canonFlushed (B : List Bool) : RLBuilder :=
  let c := Core.ofRuns (maximalRuns B)
  { len := B.length, ones := B.count true, tail := c.tail, run := (B.length, 0),
    samples := c.samples, data := c.data }

theorem Canon.flush_eq (m : Mode) {b : RLBuilder} {B : List Bool} {F : List (Nat × Nat)} (h : Canon b B F) :
    b.flush m = ok (canonFlushed B) := by
  obtain ⟨b', e, l1, l2, l3, hc⟩ := RLBuilder.flush_core' m h.inv
  rw [e]; congr 1
  rw [core_flushedAfter h.core, ← h.maximalRuns_eq] at hc
  unfold coreOf at hc
  unfold canonFlushed
  rw [← hc]
  cases b'
  simp only at l1 l2 l3
  simp only [l1, l2, l3, ← h.len, ← h.ones]

/-- **closed form of the flushed builder**: after any accepted history describing `B`, `flush` yields
`canonFlushed B` -/
theorem flush_closed_form (m : Mode) (calls : List RL.BCall) (hc : ∀ c ∈ calls, RL.callArgsOk c)
    (b : RLBuilder) (hb : RL.runBCalls m calls {} = ok b) :
    b.flush m = ok (canonFlushed (calls.foldl RL.specCall [])) := by
  obtain ⟨F, k⟩ := history_canon m calls hc b hb
  exact k.flush_eq m

/-- `From<RLBuilder>` only looks at the flushed builder -/
theorem ofBuilder_of_flush (m : Mode) {b b' : RLBuilder} (hf : b.flush m = ok b') (hr : b'.run.2 = 0) :
    RL.ofBuilder m b = RL.ofBuilder m b' := by
  have hf' : b'.flush m = ok b' := by unfold RLBuilder.flush; rw [if_pos hr]
  unfold RL.ofBuilder
  rw [hf, hf']

/-- **closed form of the vector**: the conversion of any accepted history describing `B` is the conversion
of `canonFlushed B` — a function of `maximalRuns B`, `|B|` and the number of set bits alone -/
theorem ofBuilder_closed_form (m : Mode) (calls : List RL.BCall) (hc : ∀ c ∈ calls, RL.callArgsOk c)
    (b : RLBuilder) (hb : RL.runBCalls m calls {} = ok b) :
    RL.ofBuilder m b = RL.ofBuilder m (canonFlushed (calls.foldl RL.specCall [])) :=
  ofBuilder_of_flush m (flush_closed_form m calls hc b hb) rfl

/-- the builder does not depend on the arithmetic mode either -/
theorem builder_canonical_modes (m₁ m₂ : Mode) (calls₁ calls₂ : List RL.BCall)
    (hc₁ : ∀ c ∈ calls₁, RL.callArgsOk c) (hc₂ : ∀ c ∈ calls₂, RL.callArgsOk c)
    (hsame : calls₁.foldl RL.specCall [] = calls₂.foldl RL.specCall [])
    (b₁ b₂ : RLBuilder) (hb₁ : RL.runBCalls m₁ calls₁ {} = ok b₁) (hb₂ : RL.runBCalls m₂ calls₂ {} = ok b₂) :
    b₁ = b₂ := by
  obtain ⟨F₁, k₁⟩ := history_canon m₁ calls₁ hc₁ b₁ hb₁
  obtain ⟨F₂, k₂⟩ := history_canon m₂ calls₂ hc₂ b₂ hb₂
  rw [hsame] at k₁
  exact k₁.builder_eq k₂

/-! ### run at a time: the maximal runs of `B`, fed one `try_set` each, describe `B` -/

/-- both states of `runsOf` at once (no open run / open run `(s, l)` ending at `i`), by induction on `bs`: the bits of
the runs found, padded with zeros to `i + |bs|`, are the zeros from `pos`, the open run, then `bs` -/
theorem runsOf_bits : ∀ (bs : List Bool) (i : Nat), i + bs.length < U64 →
    (∀ pos, pos ≤ i →
      RL.RunsFrom pos (runsOf bs i none) ∧
      RL.bitsOfRuns pos (runsOf bs i none) ++
          List.replicate (i + bs.length - RL.endOf pos (runsOf bs i none)) false =
        List.replicate (i - pos) false ++ bs) ∧
    (∀ pos s l, pos ≤ s → 1 ≤ l → s + l = i →
      RL.RunsFrom pos (runsOf bs i (some (s, l))) ∧
      RL.bitsOfRuns pos (runsOf bs i (some (s, l))) ++
          List.replicate (i + bs.length - RL.endOf pos (runsOf bs i (some (s, l)))) false =
        List.replicate (s - pos) false ++ List.replicate l true ++ bs) := by
  intro bs
  induction bs with
  | nil =>
    intro i hi
    refine ⟨fun pos hp => ⟨trivial, ?_⟩, fun pos s l h1 h2 h3 => ⟨⟨h1, h2, by simpa [h3] using hi, trivial⟩, ?_⟩⟩
    · simp [runsOf, RL.bitsOfRuns, RL.endOf]
    · simp only [runsOf, RL.bitsOfRuns, RL.endOf, List.length_nil, Nat.add_zero, List.append_nil]
      rw [h3, Nat.sub_self]; simp
  | cons x bs ih =>
    intro i hi
    have hi' : i + 1 + bs.length < U64 := by simp only [List.length_cons] at hi; omega
    obtain ⟨ihn, ihs⟩ := ih (i + 1) hi'
    have hlen : i + (x :: bs).length = i + 1 + bs.length := by simp only [List.length_cons]; omega
    rw [hlen]
    cases x with
    | true =>
      refine ⟨fun pos hp => ?_, fun pos s l h1 h2 h3 => ?_⟩
      · obtain ⟨a, b⟩ := ihs pos i 1 hp (Nat.le_refl _) rfl
        simp only [runsOf]
        exact ⟨a, by rw [b]; simp⟩
      · obtain ⟨a, b⟩ := ihs pos s (l + 1) h1 (by omega) (by omega)
        simp only [runsOf]
        refine ⟨a, ?_⟩
        rw [b, List.replicate_succ']; simp
    | false =>
      refine ⟨fun pos hp => ?_, fun pos s l h1 h2 h3 => ?_⟩
      · obtain ⟨a, b⟩ := ihn pos (by omega)
        simp only [runsOf]
        refine ⟨a, ?_⟩
        rw [b, show i + 1 - pos = (i - pos) + 1 by omega, List.replicate_succ']; simp
      · obtain ⟨a, b⟩ := ihn i (by omega)
        simp only [runsOf, RL.RunsFrom, RL.bitsOfRuns, RL.endOf]
        rw [h3]
        refine ⟨⟨h1, h2, by omega, a⟩, ?_⟩
        rw [List.append_assoc, b, show i + 1 - i = 1 by omega]; simp

/-- **run at a time**: one `try_set(start, len)` per maximal run of `B`, then `set_len(|B|)` — the natural use of
the run-length builder, and the copy of a run-length vector through `run_iter()` — is a valid run list and
describes `B` -/
theorem runCalls_spec (B : List Bool) (hB : B.length < U64) :
    RL.RunsFrom 0 (maximalRuns B) ∧ RL.runBits (maximalRuns B) B.length = B := by
  obtain ⟨h1, h2⟩ := (runsOf_bits B 0 (by omega)).1 0 (Nat.le_refl _)
  refine ⟨h1, ?_⟩
  have hl := RL.bitsOfRuns_length (maximalRuns B) 0 h1
  unfold RL.runBits
  unfold maximalRuns at hl ⊢
  rw [Nat.zero_add] at hl h2
  rw [hl]
  simpa using h2

/-! ### non-vacuity: corners where one might expect a difference -/

/-- bit at a time / run at a time / with redundant and no-op calls: the same builder -/
example : RL.runBCalls .checked [.bit 1, .bit 2, .bit 3, .setLen 6] {} =
    RL.runBCalls .checked [.set 1 3, .set 4 0, .setLen 2, .setLen 5, .setLen 6, .setLen 6] {} := by decide

/-- trailing zeros appended by `set_len` in one or several steps; a history ending in a set bit keeps its last
run pending — still equal builders for equal bits -/
example : RL.runBCalls .wrapping [.set 0 2, .set 2 1, .set 70 3] {} =
    RL.runBCalls .wrapping [.bit 0, .set 1 2, .setLen 3, .setLen 70, .bit 70, .bit 71, .bit 72] {} := by decide

end Sds.RLCanon
