/-
Proofs/Outcome: `>>=` on outcomes (one step as a rewrite, congruence, inversion of an `ok` result, associativity),
`x.sat Q` ("`x` succeeds with a value satisfying `Q`"), `usize` arithmetic in the two build modes outside the in-range
cases `addM_ok` / `subM_ok` / `mulM_ok` of Model/Basic.lean, and `foldlM` / `mapM` in the outcome monad.
-/
import Sds.Model.Basic

namespace Sds
open Outcome

/-- one monadic step as an explicit rewrite (`rw [bind_of_ok _ (addM_ok h)]`): neither `simp` nor the kernel has to
find the redex inside a long translated body -/
theorem bind_of_ok {α β : Type} {x : Outcome α} {a : α} (f : α → Outcome β) (hx : x = ok a) : (x >>= f) = f a := by
  subst hx; rfl

theorem bind_of_fault {α β : Type} {x : Outcome α} {e : Fault} (f : α → Outcome β) (hx : x = fault e) :
    (x >>= f) = fault e := by
  subst hx; rfl

/-- two computations that start alike and continue alike (`refine bind_congr fun a => ?_` peels one statement off
both sides) -/
theorem bind_congr {α β : Type} {x : Outcome α} {f g : α → Outcome β} (h : ∀ a, f a = g a) :
    (x >>= f) = (x >>= g) := by
  cases x with
  | fault e => rfl
  | ok a => exact h a

/-- … where the continuations only have to agree on what the first part returns -/
theorem bind_congr_ok {α β} {x : Outcome α} {f g : α → Outcome β} (h : ∀ a, x = ok a → f a = g a) :
    (x >>= f) = (x >>= g) := by
  cases x with
  | fault e => rfl
  | ok a => exact h a rfl

/-- two computations whose first parts agree up to a map `r` of the result, and whose continuations agree on the
results of the first part -/
theorem bind_eq_bind {α β γ : Type} {x : Outcome α} {y : Outcome β} {f : α → Outcome γ} {g : β → Outcome γ}
    (r : β → α) (h1 : x = y >>= fun b => ok (r b)) (h2 : ∀ b, y = ok b → f (r b) = g b) : (x >>= f) = (y >>= g) := by
  subst h1
  cases y with
  | fault e => rfl
  | ok b => exact h2 b rfl

theorem Outcome.bind_eq_ok {α β : Type} {x : Outcome α} {f : α → Outcome β} {r : β} (h : (x >>= f) = ok r) :
    ∃ a, x = ok a ∧ f a = ok r := by
  cases x with
  | fault e => cases h
  | ok a => exact ⟨a, rfl, h⟩

theorem bind_assoc {α β γ : Type} (x : Outcome α) (f : α → Outcome β) (g : β → Outcome γ) :
    ((x >>= f) >>= g) = (x >>= fun a => f a >>= g) := by
  cases x <;> rfl

/-! ### succeeds with

`x.sat Q` unfolds to `∃ a, x = ok a ∧ Q a`; a goal of this form is walked statement by statement like an equation
(`rw [bind_of_ok _ h]`, `simp only [h, bind_ok]`), `sat_bind` being the step for a statement whose result is only
known up to a property. -/

/-- `x` succeeds, with a value that satisfies `Q` -/
def Outcome.sat {α : Type} (x : Outcome α) (Q : α → Prop) : Prop := ∃ a, x = ok a ∧ Q a

theorem sat_ok {α : Type} {a : α} {Q : α → Prop} (h : Q a) : (ok a).sat Q := ⟨a, rfl, h⟩

theorem sat_eq {α : Type} {x : Outcome α} {a : α} : x.sat (· = a) ↔ x = ok a :=
  ⟨fun ⟨_, e, h⟩ => h ▸ e, fun e => ⟨a, e, rfl⟩⟩

theorem sat_bind {α β : Type} {x : Outcome α} {f : α → Outcome β} {P : α → Prop} {Q : β → Prop}
    (hx : x.sat P) (hf : ∀ a, P a → (f a).sat Q) : (x >>= f).sat Q := by
  obtain ⟨a, rfl, ha⟩ := hx
  exact hf a ha

/-! the same steps for goals in which `>>=` has been unfolded to `Outcome.bind` -/

theorem obind_ok {α β : Type} (a : α) (f : α → Outcome β) : (ok a).bind f = f a := rfl

theorem obind_fault {α β : Type} (e : Fault) (f : α → Outcome β) : (fault e : Outcome α).bind f = fault e := rfl

theorem obind_assoc {α β γ : Type} (x : Outcome α) (f : α → Outcome β) (g : β → Outcome γ) :
    (x.bind f).bind g = x.bind fun a => (f a).bind g := by
  cases x <;> rfl

/-- `U64` as a numeral, for `omega` (which does not unfold `U64` and is slower on `2 ^ 64`) -/
theorem U64_val : U64 = 18446744073709551616 := rfl

/-! ### `usize` arithmetic in the two modes (in range: `addM_ok`, `subM_ok`, `mulM_ok`) -/

theorem addM_wrapping (a b : Nat) : addM .wrapping a b = ok ((a + b) % U64) := by
  unfold addM
  by_cases h : a + b < U64
  · rw [if_pos h, Nat.mod_eq_of_lt h]
  · rw [if_neg h]

theorem addM_wrapping_ok (a b : Nat) : ∃ s, addM .wrapping a b = ok s := ⟨_, addM_wrapping a b⟩

theorem addM_checked_of_le {a b : Nat} (h : U64 ≤ a + b) : addM .checked a b = fault (.panic .overflow) := by
  unfold addM; rw [if_neg (by omega)]

theorem subM_wrapping_ok (a b : Nat) : ∃ r, subM .wrapping a b = ok r := by
  unfold subM
  by_cases h : b ≤ a
  · exact ⟨_, if_pos h⟩
  · exact ⟨_, if_neg h⟩

theorem subM_checked_ok {a b t : Nat} (h : subM .checked a b = ok t) : b ≤ a ∧ t = a - b := by
  unfold subM at h
  by_cases hb : b ≤ a
  · rw [if_pos hb] at h; injection h with h; exact ⟨hb, h.symm⟩
  · rw [if_neg hb] at h; cases h

/-- a sum that was computed is a `usize` -/
theorem addM_lt {m : Mode} {a b r : Nat} (h : addM m a b = ok r) : r < U64 := by
  unfold addM at h
  by_cases h1 : a + b < U64
  · rw [if_pos h1] at h; injection h with h; omega
  · rw [if_neg h1] at h
    cases m with
    | checked => cases h
    | wrapping => injection h with h; rw [← h]; exact Nat.mod_lt _ (by decide)

theorem subM_lt {m : Mode} {a b r : Nat} (ha : a < U64) (h : subM m a b = ok r) : r < U64 := by
  unfold subM at h
  by_cases h1 : b ≤ a
  · rw [if_pos h1] at h; injection h with h; omega
  · rw [if_neg h1] at h
    cases m with
    | checked => cases h
    | wrapping => injection h with h; rw [← h]; exact Nat.mod_lt _ (by decide)

/-! ### `foldlM` -/

theorem foldlM_append_outcome {α β : Type} (f : β → α → Outcome β) (l1 l2 : List α) (b : β) :
    (l1 ++ l2).foldlM f b = (l1.foldlM f b >>= fun b' => l2.foldlM f b') := by
  induction l1 generalizing b with
  | nil => rfl
  | cons a t ih =>
    simp only [List.cons_append, List.foldlM_cons]
    cases f b a with
    | ok x => simp only [bind_ok]; exact ih x
    | fault e => rfl

theorem foldlM_range_succ {β : Type} (f : β → Nat → Outcome β) (n : Nat) (b : β) :
    (List.range (n + 1)).foldlM f b = ((List.range n).foldlM f b >>= fun b' => f b' n) := by
  rw [List.range_succ, foldlM_append_outcome]
  congr 1; funext b'
  simp only [List.foldlM_cons, List.foldlM_nil]
  cases f b' n <;> rfl

/-- a loop over `0..n` whose state before iteration `l` is `g l` -/
theorem foldlM_range_ok {β : Type} (f : β → Nat → Outcome β) (g : Nat → β) (n : Nat)
    (h : ∀ l, l < n → f (g l) l = ok (g (l + 1))) : (List.range n).foldlM f (g 0) = ok (g n) := by
  induction n with
  | zero => rfl
  | succ n ih =>
    rw [foldlM_range_succ, ih (fun l hl => h l (Nat.lt_succ_of_lt hl)), bind_ok, h n (Nat.lt_succ_self n)]

/-- a fold whose body never faults -/
theorem foldlM_ok {σ ι : Type} (f : σ → ι → σ) (l : List ι) :
    ∀ s, l.foldlM (fun s i => (ok (f s i) : Outcome σ)) s = ok (l.foldl f s) := by
  induction l with
  | nil => intro s; rfl
  | cons a t ih => intro s; rw [List.foldlM_cons, List.foldl_cons]; exact ih (f s a)

theorem range_map_getD {α : Type} (l : List α) (d : α) :
    (List.range l.length).map (fun i => l.getD i d) = l := by
  apply List.ext_getElem
  · simp
  · intro i h1 h2
    simp at h1
    simp [h1]

/-- reading the items by index is folding over the items -/
theorem foldlM_range_getD {α σ : Type} (l : List α) (d : α) (f : σ → α → Outcome σ) (s : σ) :
    (List.range l.length).foldlM (fun s i => f s (l.getD i d)) s = l.foldlM f s := by
  conv => rhs; rw [← range_map_getD l d]
  rw [List.foldlM_map]

/-- a fold over an embedded state space, with an invariant of the source states -/
theorem foldlM_transport {σ τ α : Type} (P : τ → Prop) (emb : τ → σ) (F : σ → α → Outcome σ)
    (g : τ → α → Outcome τ)
    (h : ∀ b x, P b → F (emb b) x = (g b x).bind (fun b' => ok (emb b')))
    (hp : ∀ b x b', P b → g b x = ok b' → P b') :
    ∀ (l : List α) (b : τ), P b → l.foldlM F (emb b) = (l.foldlM g b).bind (fun b' => ok (emb b')) := by
  intro l
  induction l with
  | nil => intro b _; rfl
  | cons x t ih =>
    intro b hb
    rw [List.foldlM_cons, List.foldlM_cons, h b x hb]
    simp only [Bind.bind]
    cases hg : g b x with
    | fault f => rfl
    | ok b' => exact ih b' (hp b x b' hb hg)

/-- an invariant of the steps is an invariant of the fold -/
theorem foldlM_inv {τ α : Type} (P : τ → Prop) (g : τ → α → Outcome τ)
    (hp : ∀ b x b', P b → g b x = ok b' → P b') :
    ∀ (l : List α) (b b' : τ), P b → l.foldlM g b = ok b' → P b' := by
  intro l
  induction l with
  | nil => intro b b' hb h; cases h; exact hb
  | cons x t ih =>
    intro b b' hb h
    rw [List.foldlM_cons] at h
    simp only [Bind.bind] at h
    cases hg : g b x with
    | fault f => rw [hg] at h; cases h
    | ok b1 => rw [hg] at h; exact ih b1 b' (hp b x b1 hb hg) h

/-- … for an invariant that depends on the iteration, over `i..i+k` -/
theorem foldlM_range_inv {τ : Type} (g : τ → Nat → Outcome τ) (I : Nat → τ → Prop) (n : Nat)
    (h : ∀ i t t', i < n → I i t → g t i = ok t' → I (i + 1) t') :
    ∀ k i t t', i + k = n → I i t → (List.range' i k).foldlM g t = ok t' → I n t' := by
  intro k
  induction k with
  | zero => intro i t t' hi ht e; obtain rfl : i = n := hi; cases e; exact ht
  | succ k ih =>
    intro i t t' hi ht e
    rw [List.range'_succ, List.foldlM_cons] at e
    obtain ⟨t1, e1, e⟩ := Outcome.bind_eq_ok e
    exact ih (i + 1) t1 t' (by omega) (h i t t1 (by omega) ht e1) e

/-- two folds agree when their steps agree on every state the second one reaches -/
theorem foldlM_congr_prefix {σ α : Type} (f g : σ → α → Outcome σ) : ∀ (P : List α) (s0 : σ),
    (∀ k (hk : k < P.length) s, (P.take k).foldlM g s0 = ok s → f s P[k] = g s P[k]) →
    P.foldlM f s0 = P.foldlM g s0 := by
  intro P
  induction P with
  | nil => intro s0 _; rfl
  | cons p t ih =>
    intro s0 h
    have h0 := h 0 (by simp) s0 rfl
    simp only [List.getElem_cons_zero] at h0
    rw [List.foldlM_cons, List.foldlM_cons, h0]
    show (g s0 p >>= _) = (g s0 p >>= _)
    cases hg : g s0 p with
    | fault e => rfl
    | ok s1 =>
      rw [bind_ok, bind_ok]
      apply ih s1
      intro k hk s hs
      have := h (k + 1) (by simp; omega) s (by
        rw [List.take_succ_cons, List.foldlM_cons, hg]; exact hs)
      simpa using this

/-! ### `mapM` -/

theorem mapM_loop_ok {α β} (f : α → Outcome β) (g : α → β) : ∀ (l : List α) (acc : List β),
    (∀ a ∈ l, f a = ok (g a)) → List.mapM.loop f l acc = ok (acc.reverse ++ l.map g) := by
  intro l
  induction l with
  | nil => intro acc _; simp [List.mapM.loop]
  | cons a l ih =>
    intro acc h
    rw [List.mapM.loop, h a (by simp), bind_ok, ih _ (fun x hx => h x (by simp [hx]))]
    simp

theorem mapM_ok {α β} (f : α → Outcome β) (g : α → β) (l : List α)
    (h : ∀ a ∈ l, f a = ok (g a)) : l.mapM f = ok (l.map g) := by
  unfold List.mapM; rw [mapM_loop_ok f g l [] h]; rfl

end Sds
