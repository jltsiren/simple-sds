/-
Proofs/IterSparse: the sparse vector's `OneIter` / `Iter` (two-ended) and `ZeroIter` (forward) against the reference
deque over the full call alphabet (default `nth` / `nth_back`, `len`): the pop facts of Proofs/Sparse2 and the `len()`
facts here, put into the run theorems of Proofs/IterSim.  Namespace `Sds.Iter2.Sp`.
-/
import Sds.Proofs.Iter2
import Sds.Proofs.Sparse2

namespace Sds.Iter2
open Sds Outcome IterProofs

namespace Sp
open Sparse2

/-- `OneIter::size_hint().0` (`sparse_vector.rs`): `self.limit.low - self.next.low` (a `usize`
subtraction; the model's `SpOneIter.remaining` is the same expression over `Nat`) -/
def oneLen (m : Mode) (it : SpOneIter) : Outcome Nat := subM m it.limit.low it.next.low

/-- `Iter::size_hint().0` (`sparse_vector.rs`): `self.limit - self.next` -/
def bitLen (m : Mode) (it : SpIter) : Outcome Nat := subM m it.limit it.next

/-- `ZeroIter::size_hint().0` (`sparse_vector.rs`): `self.limit.0 - self.next.0` -/
def zeroLen (m : Mode) (z : SpZeroIter) : Outcome Nat := subM m z.limit.1 z.next.1

variable {s : Sparse} {n w : Nat} {P : List Nat}

theorem one_lenSim (m : Mode) : LenSim (oneLen m) (OneRel s w P) :=
  win_lenSim (f := fun i => (i, P[i]?.getD 0)) (Inv := fun r R it => IterBetween s w P r R it) fun {r R it} hit => by
    unfold oneLen
    rw [hit.lim_low, hit.low_eq, subM_ok hit.r_le]

/-- the transcribed `len()` is the model's `remaining` on every state that stands for a segment -/
theorem oneLen_eq_remaining (m : Mode) {it : SpOneIter} {d : List (Nat × Nat)} (h : OneRel s w P it d) :
    oneLen m it = ok it.remaining := by
  obtain ⟨r, R, hit, _⟩ := h
  unfold oneLen SpOneIter.remaining
  rw [hit.lim_low, hit.low_eq, subM_ok hit.r_le]

/-- the sparse `OneIter` run machine: `next`, `next_back` of Model/Sparse.lean, default `nth` / `nth_back`,
`len` = `size_hint().0` -/
def oneRun (m : Mode) (s : Sparse) : SpOneIter → List ICall → Outcome (List (IOut (Nat × Nat))) :=
  genRun (SpOneIter.nextQ m s) (SpOneIter.nextBackQ m s) (oneLen m)

/-- **sparse `OneIter`, any state, every call history over the full alphabet** -/
theorem oneRun_win (hs : s.Encodes n w P) (m : Mode) (calls : List ICall) {it : SpOneIter} {r R : Nat}
    (hit : IterBetween s w P r R it) : oneRun m s it calls = ok (dequeRunM (win (pairF P) r R) calls) :=
  genRun_sim (one_fwdSim hs m) (one_bwdSim hs m) (one_lenSim m) calls ⟨r, R, hit, rfl⟩

theorem oneRun_between (hs : s.Encodes n w P) (m : Mode) (calls : List ICall) {it : SpOneIter} {r R : Nat}
    (hit : IterBetween s w P r R it) :
    oneRun m s it calls = ok (dequeRunM (seg (pairs P) r R) calls) := by
  rw [pairs_win r hit.R_le]
  exact oneRun_win hs m calls hit

/-- **`one_iter()`**: the pairs `(i, P[i])` -/
theorem oneRun_full (hs : s.Encodes n w P) (m : Mode) (calls : List ICall) :
    oneRun m s (SpOneIter.full s) calls = ok (dequeRunM (pairs P) calls) := by
  rw [oneRun_win hs m calls (full_between hs), ← pairs_drop P 0]
  rfl

/-- an iterator at rank `r` (what `select_iter`, `predecessor`, `successor` return) continues with ranks
`r, r+1, …` to the end -/
theorem oneRun_iterAt (hs : s.Encodes n w P) (m : Mode) (calls : List ICall) (r : Nat) :
    oneRun m s (s.iterAt w P r) calls = ok (dequeRunM ((pairs P).drop r) calls) := by
  rw [oneRun_win hs m calls (between_of_IterAt hs (iterAt_IterAt hs r)), pairs_drop]
  by_cases h : r ≤ P.length
  · rw [Nat.min_eq_left h]
  · rw [Nat.min_eq_right (by omega), win_of_le _ (Nat.le_refl _), win_of_le _ (by omega)]

theorem oneRun_empty (hs : s.Encodes n w P) (m : Mode) (calls : List ICall) :
    oneRun m s (SpOneIter.emptyIter s) calls = ok (dequeRunM [] calls) := by
  rw [oneRun_win hs m calls (between_of_IterAt hs (empty_IterAt hs)), win_of_le _ (Nat.le_refl _)]

/-! ### `Iter` (all bits) -/

theorem bit_lenSim (m : Mode) : LenSim (bitLen m) (BitRel s w P n) := by
  intro it d ⟨a, b, r, R, hI, hd⟩
  unfold bitLen
  rw [hI.limit_eq, hI.next_eq, subM_ok hI.a_le, hd]
  exact congrArg ok (win_length (getSet P) a b).symm

theorem bitLen_eq_remaining (m : Mode) {it : SpIter} {d : List Bool} (h : BitRel s w P n it d) :
    bitLen m it = ok it.remaining := by
  obtain ⟨a, b, r, R, hI, _⟩ := h
  unfold bitLen SpIter.remaining
  rw [hI.limit_eq, hI.next_eq, subM_ok hI.a_le]

def bitRun (m : Mode) (s : Sparse) : SpIter → List ICall → Outcome (List (IOut Bool)) :=
  genRun (SpIter.nextQ m s) (SpIter.nextBackQ m s) (bitLen m)

/-- **sparse `iter()`, every call history over the full alphabet** (sets and multisets): the bit sequence -/
theorem bitRun_full (hs : s.Encodes n w P) (m : Mode) (calls : List ICall) :
    ∃ it, s.iter m = ok it ∧ bitRun m s it calls = ok (dequeRunM (bitsOfSet P n) calls) := by
  obtain ⟨it, r, R, h1, h2⟩ := sp_iter_ok hs m
  refine ⟨it, h1, ?_⟩
  rw [← bitsBetween_full]
  exact genRun_sim (bit_fwdSim hs m) (bit_bwdSim hs m) (bit_lenSim m) calls ⟨0, n, r, R, h2, rfl⟩

/-! ### `ZeroIter` (forward only, set mode) -/

theorem zero_lenSim (m : Mode) : LenSim (zeroLen m) (ZeroRel s w P n) := by
  intro z d ⟨q, k, hz, hd⟩
  unfold zeroLen
  rw [hz.limit_eq, hz.next_eq, subM_ok hz.q_le, hd]
  exact congrArg ok (win_length (fun i => (i, (selectZeroSet P n i).getD 0)) q (n - P.length)).symm

theorem zeroLen_eq_remaining (m : Mode) {z : SpZeroIter} {d : List (Nat × Nat)} (h : ZeroRel s w P n z d) :
    zeroLen m z = ok z.remaining := by
  obtain ⟨q, k, hz, _⟩ := h
  unfold zeroLen SpZeroIter.remaining
  rw [hz.limit_eq, hz.next_eq, subM_ok hz.q_le]

def zeroRun (m : Mode) (s : Sparse) : SpZeroIter → List FCall → Outcome (List (IOut (Nat × Nat))) :=
  fwdRun (SpZeroIter.nextQ m s) (zeroLen m)

/-- the reference sequence of the sparse `zero_iter()`: the zeros of `0..n` with ranks -/
def zeroPairs (P : List Nat) (n : Nat) : List (Nat × Nat) :=
  (List.range (n - P.length)).map fun i => (i, (selectZeroSet P n i).getD 0)

theorem zerosFrom_zero (P : List Nat) (n : Nat) : zerosFrom P n 0 = zeroPairs P n :=
  win_zero (fun i => (i, (selectZeroSet P n i).getD 0)) (n - P.length)

/-- **sparse `zero_iter()` (set mode), every forward call history** (`next` / `nth k` / `len`) -/
theorem zeroRun_full (hs : s.Encodes n w P) (hstrict : sortedStrict P = true) (m : Mode) (calls : List FCall) :
    ∃ z, s.zeroIter m = ok z ∧
      zeroRun m s z calls = ok (dequeRunM (zeroPairs P n) (calls.map FCall.toICall)) := by
  obtain ⟨z, h1, h2⟩ := zeroIter_ok hs hstrict m
  refine ⟨z, h1, ?_⟩
  rw [← zerosFrom_zero]
  exact fwdRun_sim (zero_fwdSim hs hstrict m) (zero_lenSim m) calls ⟨0, 0, h2, rfl⟩

/-! ### `select_zero_iter(rank)` (set mode) -/

/-- an exhausted zero iterator (`ZeroIter::empty_iter`): `next.0 = limit.0` -/
def ZeroDone (z : SpZeroIter) (d : List (Nat × Nat)) : Prop := z.next.1 = z.limit.1 ∧ d = []

theorem zeroDone_fwdSim (m : Mode) (s : Sparse) : FwdSim (SpZeroIter.nextQ m s) ZeroDone := by
  constructor
  · intro z ⟨h, hd⟩
    refine ⟨z, ?_, h, hd⟩
    unfold SpZeroIter.nextQ
    rw [if_pos (by omega)]
  · intro z x d ⟨_, hd⟩; cases hd

theorem zeroDone_lenSim (m : Mode) : LenSim (zeroLen m) ZeroDone := by
  intro z d ⟨h, hd⟩
  unfold zeroLen
  rw [h, subM_ok (Nat.le_refl _), hd, Nat.sub_self]; rfl

theorem zerosFrom_eq_drop (P : List Nat) (n q : Nat) : zerosFrom P n q = (zeroPairs P n).drop q := by
  have := win_drop (fun i => (i, (selectZeroSet P n i).getD 0)) 0 (n - P.length) q
  rw [Nat.zero_add] at this
  rw [← zerosFrom_zero]
  exact this.symm

/-- **sparse `select_zero_iter(rank)` (set mode)**: continues with the zeros of rank `rank, rank+1, …` to the end
(nothing for `rank ≥` the number of zeros), every forward call history -/
theorem zeroRun_select (hs : s.Encodes n w P) (hstrict : sortedStrict P = true) (m : Mode) (rank : Nat)
    (calls : List FCall) :
    ∃ z, s.selectZeroIter m rank = ok z ∧
      zeroRun m s z calls = ok (dequeRunM ((zeroPairs P n).drop rank) (calls.map FCall.toICall)) := by
  by_cases hr : rank < n - P.length
  · obtain ⟨z, k, h1, h2⟩ := selectZeroIter_ok hs hstrict m rank hr
    refine ⟨z, h1, ?_⟩
    rw [← zerosFrom_eq_drop]
    exact fwdRun_sim (zero_fwdSim hs hstrict m) (zero_lenSim m) calls ⟨rank, k, h2, rfl⟩
  · refine ⟨SpZeroIter.emptyIter s, ?_, ?_⟩
    · unfold Sparse.selectZeroIter
      rw [hs.countZeros_eq, if_pos (by omega)]
    · rw [List.drop_eq_nil_of_le (by simp [zeroPairs]; omega)]
      exact fwdRun_sim (zeroDone_fwdSim m s) (zeroDone_lenSim m) calls ⟨rfl, rfl⟩

end Sp

end Sds.Iter2
