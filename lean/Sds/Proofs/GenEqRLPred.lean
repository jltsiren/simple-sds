/-
Proofs/GenEqRLPred: `RLVector::predecessor` of Generated/FnsRLPred.lean (`rl_vector.rs`, translated statement by
statement, with `advance_if` taking a STATE-PASSING closure and the closure of `predecessor` lambda-lifted) against
the hand-written model `RL.predecessor` / `RL.predLoop` of Model/RL.lean.

* `run_advance_if_st_eq` (unconditional): with a closure whose result `f nx` and new state `g st nx` are pure, the
  state-passing `advance_if` is `gen_RunIter_advance_if … f` (GenEqRL1) and the final state is `g cst` of the returned
  run (the closure is called exactly once, with the value that is returned).  `run_advance_if_st_eq_of_peek`: read off
  the model's `peek`.
* `rl_predecessor_closure_eq`: the closure returns `(r, r)`, `r = rlp_predF value nx`.
* the loop: the generated loop (state `(iter, iterate)`) spends one iteration more than `predLoop`, to observe
  `iterate = false`; with the flag down it is what follows the loop, if a unit of fuel is left (`loopM_ind_fuel`).
  Fuel: a decoded run consumes at least two code units (`rlp_prePeek_off`), so `(data.len - offset) / 2 + 2`
  iterations suffice; both loops are given `data.len + 2`, the surplus is never used.
* `rl_predecessor_eq`: hypotheses of `rl_successor_eq` (for the clamped value) plus `hov`: with overflow checks on, the
  MODEL does not panic with an overflow.  Needed: the model's `peek` adds the end position of a run before the closure
  is asked, the code only when the closure accepts (`run_advance_if_ne` of GenEqRL1): `rl_predecessor_ne`,
  `rl_predecessor_not_unconditional` (crafted data: a run ending at `2^64`).  Corollaries without `hov`: release builds
  (`rl_predecessor_eq_wrapping`), wherever the model succeeds (`rl_predecessor_eq_of_ok`), every vector the builder
  produces (`rl_predecessor_eq_good`, through `RLQ.GoodB.predecessor_from`: the model succeeds).
* `rl_predecessor_example`: non-vacuity.
-/
import Sds.Generated.FnsRLPred
import Sds.Proofs.GenEqRL1
import Sds.Proofs.GenEqRL2
import Sds.Proofs.RLPredSucc

set_option linter.unusedVariables false
namespace Sds.GenEq
open Sds Outcome Generated

/-! ### `advance_if` with a state-passing closure -/

/-- **bridge**: the state-passing translation of `advance_if`, called with a closure whose result `f nx` and new
state `g st nx` are pure, is the translation with the pure closure `f`; the closure is called exactly once, with
the value that `advance_if` returns, so the final state is `g cst` of the returned run.  Unconditional. -/
theorem run_advance_if_st_eq (m : Mode) (v : RL) (it : RunIter) {σ : Type} (f : Option (Nat × Nat) → Bool)
    (g : σ → Option (Nat × Nat) → σ) (cst : σ) :
    gen_RunIter_advance_if_st m v it (fun st nx => ok (f nx, g st nx)) cst =
      (gen_RunIter_advance_if m v it f >>= fun r => ok (r, g cst r.1)) := by
  unfold gen_RunIter_advance_if_st gen_RunIter_advance_if
  by_cases h0 : it.offset ≥ v.data.len
  · rw [if_pos (decide_eq_true h0), if_pos (decide_eq_true h0)]; rfl
  rw [if_neg (mt of_decide_eq_true h0), if_neg (mt of_decide_eq_true h0)]
  dsimp only
  rw [bind_assoc]
  -- the block is determined alike (`ctl1`, the state riding along); then one run is decoded alike
  refine bind_eq_bind (fun c => match c with
    | .ret x => Ctl.ret (x, g cst x.1)
    | .next s => Ctl.next (cst, s)
    | .brk s => Ctl.brk (cst, s)) ?_ (fun c _ => ?_)
  · by_cases h1 : it.pos.1 ≥ it.limit
    · rw [if_pos (decide_eq_true h1), if_pos (decide_eq_true h1)]
      cases gen_div_round_up m it.offset 64 with
      | fault e => rfl
      | ok b =>
        dsimp only [bind_ok]
        cases mulM m b 64 with
        | fault e => rfl
        | ok o =>
          dsimp only [bind_ok]
          cases gen_RLVector_blocks m v with
          | fault e => rfl
          | ok nb =>
            dsimp only [bind_ok]
            by_cases h2 : b ≥ nb
            · rw [if_pos (decide_eq_true h2), if_pos (decide_eq_true h2)]
              cases f none <;> rfl
            · rw [if_neg (mt of_decide_eq_true h2), if_neg (mt of_decide_eq_true h2)]
              cases gen_RLVector_ones_after m v b <;> rfl
    · rw [if_neg (mt of_decide_eq_true h1), if_neg (mt of_decide_eq_true h1)]; rfl
  · cases c with
    | ret x => rfl
    | next s => rfl
    | brk s =>
      obtain ⟨limit, offset, so⟩ := s
      simp only [bind_assoc]
      refine bind_congr fun ⟨gap, o1⟩ => ?_
      refine bind_congr fun start => ?_
      refine bind_congr fun ⟨len, o2⟩ => ?_
      refine bind_congr fun len1 => ?_
      dsimp only [bind_ok]
      cases f (some (start, len1)) with
      | false => rfl
      | true =>
        simp only [if_true, bind_assoc]
        refine bind_congr fun _ => ?_
        refine bind_congr fun r => ?_
        refine bind_congr fun t => ?_
        refine bind_congr fun e => ?_
        rfl

/-- read off the model's `peek`, as `run_advance_if_eq_of_peek` -/
theorem run_advance_if_st_eq_of_peek {m : Mode} {v : RL} (hb : RLBounds m v) (it : RunIter) {σ : Type}
    (f : Option (Nat × Nat) → Bool) (g : σ → Option (Nat × Nat) → σ) (cst : σ) (q : Peek) (h : it.peek m v = ok q) :
    gen_RunIter_advance_if_st m v it (fun st nx => ok (f nx, g st nx)) cst =
      ok (advApply it f q, g cst (advApply it f q).1) := by
  rw [run_advance_if_st_eq, run_advance_if_eq_of_peek hb it f q h]; rfl

/-! ### the closure of `predecessor` -/

/-- the closure of `predecessor`: continue while the peeked run starts at or before `value` -/
def rlp_predF (value : Nat) : Option (Nat × Nat) → Bool
  | none => false
  | some (start, _) => decide (start ≤ value)

/-- the lambda-lifted closure returns `(r, r)`: its result is also the new value of the captured flag `iterate` -/
theorem rl_predecessor_closure_eq (m : Mode) (st : Bool) (value : Nat) (nx : Option (Nat × Nat)) :
    gen_RLVector_predecessor_closure m st value nx = ok (rlp_predF value nx, rlp_predF value nx) := by
  cases nx with
  | none => rfl
  | some p => obtain ⟨s, l⟩ := p; rfl


/-- what the model's `predecessor` makes of the result of its loop -/
def rlp_predK (m : Mode) (v : RL) (value : Nat) (it : RunIter) : Outcome RLOneIter :=
  if it.rank = 0 then return RLOneIter.emptyIter v else do
    let rank ← (if it.offsetBits > value then it.rankAt m value else subM m it.rank 1)
    return ⟨it, false, rank⟩

theorem rlp_predecessor_unfold (m : Mode) (v : RL) (value : Nat) :
    RL.predecessor m v value =
      if v.len = 0 then ok (RLOneIter.emptyIter v) else
        (v.iterForBit (min value (v.len - 1)) >>= fun it =>
          RL.predLoop m v (min value (v.len - 1)) (v.data.len + 2) it >>= rlp_predK m v (min value (v.len - 1))) :=
  rfl

/-! ### progress of the offset: the loops terminate within `data.len / 2 + 1` iterations -/

theorem rlp_decodeLoop_off (m : Mode) (v : RL) :
    ∀ (fuel o val sh x o' : Nat), RL.decodeLoop m v fuel o val sh = ok (x, o') → o < o' ∧ o' ≤ v.data.len := by
  intro fuel
  induction fuel with
  | zero => intro o val sh x o' h; cases h
  | succ n ih =>
    intro o val sh x o' h
    rw [RL.decodeLoop.eq_def] at h
    simp only [] at h
    unfold IntVec.get at h
    by_cases hl : o < v.data.len
    · rw [if_pos hl] at h
      simp only [bind_ok] at h
      by_cases hs : sh ≥ 64
      · rw [if_pos hs] at h; cases m <;> cases h
      · rw [if_neg hs] at h
        cases ha : addM m val ((((v.data.getRaw o).toNat % 8) <<< sh) % U64) with
        | fault e => rw [ha] at h; cases h
        | ok val' =>
          rw [ha] at h
          simp only [bind_ok] at h
          by_cases hc : (v.data.getRaw o).toNat / 8 % 2 = 0
          · rw [if_pos hc] at h
            injection h with h; injection h with h1 h2
            omega
          · rw [if_neg hc] at h
            have := ih _ _ _ _ _ h
            omega
    · rw [if_neg hl] at h; cases h

theorem rlp_decode_off {m : Mode} {v : RL} {o x o' : Nat} (h : v.decode m o = ok (x, o')) :
    o < o' ∧ o' ≤ v.data.len := rlp_decodeLoop_off m v 23 o 0 0 x o' h

theorem rlp_peekHead_off {v : RL} {it : RunIter} {off l : Nat} {stop : Bool}
    (h : peekHead v it = ok (off, l, stop)) : it.offset ≤ off := by
  unfold peekHead at h
  split at h
  · dsimp only at h
    split at h
    · injection h with h; injection h with h
      omega
    · obtain ⟨l', _, h⟩ := Outcome.bind_eq_ok h
      injection h with h; injection h with h
      omega
  · injection h with h; injection h with h
    omega

/-- a decoded run consumes at least two code units and ends inside the data -/
theorem rlp_prePeek_off {m : Mode} {v : RL} {it : RunIter} {s l o lim : Nat}
    (h : prePeek m v it = ok (.run s l o lim)) : it.offset + 2 ≤ o ∧ o ≤ v.data.len := by
  unfold prePeek at h
  split at h
  · cases h
  · obtain ⟨⟨off, l0, stop⟩, hp, h⟩ := Outcome.bind_eq_ok h
    have hoff := rlp_peekHead_off hp
    cases stop with
    | true => simp only [if_true, pure_eq] at h; cases h
    | false =>
      simp only [Bool.false_eq_true, if_false] at h
      obtain ⟨⟨gap, o1⟩, hd1, h⟩ := Outcome.bind_eq_ok h
      obtain ⟨start, _, h⟩ := Outcome.bind_eq_ok h
      obtain ⟨⟨len, o2⟩, hd2, h⟩ := Outcome.bind_eq_ok h
      obtain ⟨len1, _, h⟩ := Outcome.bind_eq_ok h
      have h1 := rlp_decode_off hd1
      have h2 := rlp_decode_off hd2
      injection h with h; injection h with _ _ h3 _
      omega


/-! ### the generated loop against `predLoop` -/

theorem rlp_addM_fault {m : Mode} {a b : Nat} {e : Fault} (h : addM m a b = fault e) :
    m = .checked ∧ e = .panic .overflow := by
  cases m with
  | wrapping => rw [addM_wrapping] at h; cases h
  | checked =>
    unfold addM at h
    by_cases hl : a + b < U64
    · rw [if_pos hl] at h; cases h
    · rw [if_neg hl] at h; injection h with h; exact ⟨rfl, h.symm⟩

/-- the continuation of the model's loop after `prePeek`: `peek` adds first, then the closure decides -/
def rlp_modelK (m : Mode) (v : RL) (value k : Nat) (it : RunIter) : PrePeek → Outcome RunIter
  | .atEnd => ok it
  | .noMoreBlocks _ => ok it
  | .run s l o lim =>
    addM m it.pos.1 l >>= fun r => addM m s l >>= fun e =>
      if s ≤ value then RL.predLoop m v value k ⟨o, (r, e), lim⟩ else ok it

theorem rlp_predLoop_succ (m : Mode) (v : RL) (value k : Nat) (it : RunIter) :
    RL.predLoop m v value (k + 1) it = (prePeek m v it >>= rlp_modelK m v value k it) := by
  rw [RL.predLoop, peek_eq_prePeek]
  cases prePeek m v it with
  | fault e => rfl
  | ok p =>
    cases p with
    | atEnd => rfl
    | noMoreBlocks o => rfl
    | run s l o lim =>
      show ((addM m it.pos.1 l >>= fun r => addM m s l >>= fun e => ok (Peek.run s l ⟨o, (r, e), lim⟩)) >>= _) = _
      unfold rlp_modelK
      simp only [bind_ok]
      cases addM m it.pos.1 l with
      | fault e => rfl
      | ok r =>
        simp only [bind_ok]
        cases addM m s l <;> rfl

/-- the fuel measure `(len - offset) / 2 + 1` drops with every decoded run (two code units at least) -/
theorem rlp_fuel_step {len off o n : Nat} (h : off + 2 ≤ o ∧ o ≤ len) (hn : (len - off) / 2 + 1 ≤ n + 1) :
    (len - o) / 2 + 1 ≤ n := by omega

/-- **`RLVector::predecessor`.**  The hypotheses of `successor` (`rl_successor_eq`) for the clamped value, and `hov`:
with overflow checks on, the model does not panic with an overflow (the model's `peek` adds the end position of a
run before the closure is asked, the code after: `rl_predecessor_ne`). -/
theorem rl_predecessor_eq {m : Mode} {v : RL} (hb : RLBounds m v) (value : Nat) (hlen : v.len < U64)
    (hr : min value (v.len - 1) < v.len → RangeOK v.rankIndex (min value (v.len - 1)))
    (hov : m = .checked → RL.predecessor m v value ≠ fault (.panic .overflow)) :
    gen_RLVector_predecessor m v value = RL.predecessor m v value := by
  rw [rlp_predecessor_unfold] at hov
  unfold gen_RLVector_predecessor
  rw [rlp_predecessor_unfold]
  by_cases h : v.len = 0
  · simp only [h, decide_true, if_true]; rfl
  · simp only [h, decide_false, Bool.false_eq_true, if_false] at hov ⊢
    rw [subM_ok (by omega), bind_ok, rl_iter_for_bit_eq m v _ hlen hr]
    generalize min value (v.len - 1) = value at hov ⊢
    cases hi : v.iterForBit value with
    | fault e => rfl
    | ok it =>
      rw [hi] at hov
      simp only [bind_ok] at hov ⊢
      -- with the flag up the loop is the model's; with the flag down it leaves at the next test, given fuel for it.
      -- The invariant: the fuel covers the runs still to decode and that test; the model's loop does not overflow.
      refine loopM_ind_fuel _ _
        (fun j (st : RunIter × Bool) =>
          if st.2 then RL.predLoop m v value j st.1 >>= rlp_predK m v value
          else match j with | 0 => fault .fuel | _ + 1 => rlp_predK m v value st.1)
        (fun j st => if st.2 then (v.data.len - st.1.offset) / 2 + 2 ≤ j ∧
            (m = .checked → RL.predLoop m v value j st.1 ≠ fault (.panic .overflow)) else 1 ≤ j)
        (fun st => by obtain ⟨it, b⟩ := st; cases b <;> rfl) (fun n st hst R hR => ?_) _ (it, true)
        ⟨by simp only; omega, fun hm hf => hov hm (by rw [hf]; rfl)⟩
      obtain ⟨it, b⟩ := st
      cases b with
      | false =>
        show (if decide (it.pos.1 = 0) = true then _ else _) = if it.pos.1 = 0 then _ else _
        by_cases h0 : it.pos.1 = 0
        · rw [if_pos (decide_eq_true h0), if_pos h0]
        · rw [if_neg (mt of_decide_eq_true h0), if_neg h0]
          by_cases h1 : it.pos.2 > value
          · rw [if_pos (decide_eq_true h1), if_pos (show it.offsetBits > value from h1), run_rank_at_eq]
          · rw [if_neg (mt of_decide_eq_true h1), if_neg (show ¬ it.offsetBits > value from h1)]; rfl
      | true =>
        obtain ⟨hfuel, hov⟩ : (v.data.len - it.offset) / 2 + 2 ≤ n + 1 ∧
          (m = .checked → RL.predLoop m v value (n + 1) it ≠ fault (.panic .overflow)) := hst
        have hcl : (fun (st : Bool) (nx : Option (Nat × Nat)) => gen_RLVector_predecessor_closure m st value nx) =
            (fun st nx => ok (rlp_predF value nx, (fun (_ : Bool) nx => rlp_predF value nx) st nx)) := by
          funext st nx; exact rl_predecessor_closure_eq m st value nx
        obtain ⟨n, rfl⟩ : ∃ n', n = n' + 1 := ⟨n - 1, by omega⟩
        -- the flag goes down: the code comes round once more and leaves; the model returns at once
        have hdecl : R (it, false) = rlp_predK m v value it := hR (it, false) (Nat.succ_pos _)
        rw [rlp_predLoop_succ] at hov
        rw [if_pos rfl, if_pos rfl]
        refine (bind_next _ R _).trans ?_
        rw [hcl, run_advance_if_st_eq, run_advance_if_lazy hb, advanceIfLazy_eq, rlp_predLoop_succ]
        simp only [bind_assoc]
        refine bind_congr_ok fun p hp => ?_
        rw [hp, bind_ok] at hov
        cases p with
        | atEnd => exact hdecl
        | noMoreBlocks o => exact hdecl
        | run s l o lim =>
          have hoff := rlp_prePeek_off hp
          unfold rlp_modelK at hov ⊢
          unfold lazyK
          by_cases c : s ≤ value
          · have hf : rlp_predF value (some (s, l)) = true := decide_eq_true c
            simp only [hf, if_true, c] at hov ⊢
            cases h1 : addM m it.pos.1 l with
            | fault e => rfl
            | ok r =>
              rw [h1] at hov
              simp only [bind_ok] at hov ⊢
              cases h2 : addM m s l with
              | fault e => rfl
              | ok e =>
                rw [h2] at hov
                simp only [bind_ok, pure_eq] at hov ⊢
                rw [hf]
                exact hR (⟨o, (r, e), lim⟩, true) ⟨by simp only; omega, hov⟩
          · have hf : rlp_predF value (some (s, l)) = false := decide_eq_false c
            simp only [hf, Bool.false_eq_true, if_false, c, bind_ok, pure_eq] at hov ⊢
            -- the model has added the end position of the declined run; `hov` says that this went well
            cases h1 : addM m it.pos.1 l with
            | fault e =>
              obtain ⟨hm, rfl⟩ := rlp_addM_fault h1
              rw [h1] at hov
              exact absurd rfl (hov hm)
            | ok r =>
              rw [h1] at hov
              simp only [bind_ok] at hov ⊢
              cases h2 : addM m s l with
              | fault e =>
                obtain ⟨hm, rfl⟩ := rlp_addM_fault h2
                rw [h2] at hov
                exact absurd rfl (hov hm)
              | ok e => exact hdecl

/-- release builds: no extra hypothesis -/
theorem rl_predecessor_eq_wrapping {v : RL} (hb : RLBounds .wrapping v) (value : Nat) (hlen : v.len < U64)
    (hr : min value (v.len - 1) < v.len → RangeOK v.rankIndex (min value (v.len - 1))) :
    gen_RLVector_predecessor .wrapping v value = RL.predecessor .wrapping v value :=
  rl_predecessor_eq hb value hlen hr (fun h => by cases h)

theorem rl_predecessor_eq_of_ok {m : Mode} {v : RL} (hb : RLBounds m v) (value : Nat) (hlen : v.len < U64)
    (hr : min value (v.len - 1) < v.len → RangeOK v.rankIndex (min value (v.len - 1)))
    (r : RLOneIter) (h : RL.predecessor m v value = ok r) : gen_RLVector_predecessor m v value = ok r := by
  rw [← h]
  exact rl_predecessor_eq hb value hlen hr (fun _ hf => by rw [hf] at h; cases h)

/-- every vector the builder can produce (`RLQ.GoodB`): as for `successor` -/
theorem rl_predecessor_eq_good {m : Mode} {v : RL} {bl : RLQ.Blocks} (g : RLQ.GoodB v bl)
    (hd : v.data.len + 63 < U64) (hdec : m = .wrapping → ∀ o, ¬ units23 v o) (value : Nat) :
    gen_RLVector_predecessor m v value = RL.predecessor m v value := by
  obtain ⟨st, h, _⟩ := g.predecessor_from m value
  exact rl_predecessor_eq (good_bounds g hd hdec) value g.len_lt (good_rank_range g hd _)
    (fun _ hf => by rw [hf] at h; cases h)


/-! ### the hypothesis `hov` is needed; non-vacuity -/

/-- a rank index that sends every value below 100 to the block range `(0, 1)` -/
def rlp_idx : SampleIndex := ⟨100, 100, IntVec.ofList 8 [0, 0]⟩

/-- `rlBig` (GenEqRL1: one run `(1, 2^64 - 1)`, ending at `2^64`; crafted data) with a working rank index -/
def rlp_big : RL := { rlBig with rankIndex := rlp_idx }

/-- DIVERGENCE between the code and the model (overflow checks on, crafted data): `predecessor(0)` on `rlp_big`.
The code decodes the run `(1, 2^64 - 1)`, the closure declines it (`1 > 0`), the loop stops and the empty iterator is
returned (correct: no set bit at or before 0).  The model's `peek` has added `1 + (2^64 - 1)` before the closure is
asked and panics.  Without overflow checks both return the empty iterator. -/
theorem rl_predecessor_ne :
    gen_RLVector_predecessor .checked rlp_big 0 = ok (RLOneIter.emptyIter rlp_big) ∧
    RL.predecessor .checked rlp_big 0 = fault (.panic .overflow) ∧
    gen_RLVector_predecessor .wrapping rlp_big 0 = ok (RLOneIter.emptyIter rlp_big) ∧
    RL.predecessor .wrapping rlp_big 0 = ok (RLOneIter.emptyIter rlp_big) := by
  decide +kernel

theorem rlp_idx_range (x : Nat) (hx : rlp_idx.range x = ok (0, 1)) : RangeOK rlp_idx x := by
  refine ⟨by decide, fun lo hi h => ?_⟩
  rw [hx] at h
  injection h with h; injection h with h1 h2
  subst h1 h2
  exact ⟨by decide, by decide⟩

/-- hence the equation without `hov` is FALSE with overflow checks on, under all the other hypotheses -/
theorem rl_predecessor_not_unconditional :
    ¬ ∀ (v : RL) (value : Nat), RLBounds .checked v → v.len < U64 →
      (min value (v.len - 1) < v.len → RangeOK v.rankIndex (min value (v.len - 1))) →
      gen_RLVector_predecessor .checked v value = RL.predecessor .checked v value := by
  intro h
  have hb : RLBounds .checked rlp_big := RLBounds.checked (by decide +kernel) (by decide +kernel)
  have := h rlp_big 0 hb (by decide +kernel) (fun _ => rlp_idx_range 0 (by decide +kernel))
  rw [rl_predecessor_ne.1, rl_predecessor_ne.2.1] at this
  cases this

/-- two runs `(2, 3)` and `(9, 1)` (code units `2 2 4 0`), length 100 -/
def rlp_small : RL :=
  { (default : RL) with len := 100, ones := 4, rankIndex := rlp_idx, data := IntVec.ofList 4 [2, 2, 4, 0] }

/-- non-vacuity: `predecessor(7)` on `rlp_small` is the last bit of the first run (rank 2), both in the code and in
the model; the iterator returned is not the empty one.  `predecessor(1)`: none. -/
theorem rl_predecessor_example :
    gen_RLVector_predecessor .checked rlp_small 7 = RL.predecessor .checked rlp_small 7 ∧
    RL.predecessor .checked rlp_small 7 = ok ⟨⟨2, (3, 5), 4⟩, false, 2⟩ ∧
    gen_RLVector_predecessor .checked rlp_small 3 = ok ⟨⟨2, (3, 5), 4⟩, false, 1⟩ ∧
    gen_RLVector_predecessor .checked rlp_small 50 = ok ⟨⟨4, (4, 10), 4⟩, false, 3⟩ ∧
    gen_RLVector_predecessor .wrapping rlp_small 50 = RL.predecessor .wrapping rlp_small 50 ∧
    gen_RLVector_predecessor .checked rlp_small 1 = ok (RLOneIter.emptyIter rlp_small) ∧
    (⟨⟨2, (3, 5), 4⟩, false, 2⟩ : RLOneIter) ≠ RLOneIter.emptyIter rlp_small := by
  decide +kernel

/-- the same instance through the theorem: its hypotheses hold on `rlp_small` -/
example : gen_RLVector_predecessor .checked rlp_small 7 = RL.predecessor .checked rlp_small 7 :=
  rl_predecessor_eq (RLBounds.checked (by decide +kernel) (by decide +kernel)) 7 (by decide +kernel)
    (fun _ => rlp_idx_range _ (by decide +kernel)) (fun _ => by rw [rl_predecessor_example.2.1]; intro h; cases h)


end Sds.GenEq
