/-
Proofs/GenEqConstr5: `RawVector::complement`, `WMCore::init_support` and `WMCore::from(Vec<u64>)` (the body of
`macro_rules! wm_core_from` at `u64`), as TRANSLATED statement by statement from the source
(Generated/FnsConstr3.lean, Generated/FnsConstr5.lean), are equal to the hand-written model definitions
`RawVec.complement`, `WMCore.initSupport`, `WMCore.ofValues`.

* `raw_complement_eq' : gen_RawVector_complement m v = ok v.complement` under
  `v.len % 64 ≠ 0 → v.len / 64 < v.data.size` (the word holding the last bit exists: `set_unused_bits` indexes it);
  `raw_complement_eq` is the same under `v.data.size = (v.len + 63) / 64` (first conjunct of `RawVec.WF`).
  Sharp: `raw_complement_ne`.  The `iter_mut()` loop is `Array.map` (`c5_foldl_set_map`).
* `wm_init_support_eq : gen_WMCore_init_support m c = ok c.initSupport`, NO hypothesis.  `enable_pred_succ` after the
  other three is a no-op (`c5_enable_all_pred_succ`), and the four write-backs to `levels[i]` collapse into one.
* `wm_core_from_eq : gen_WMCore_from_u64 m source = ok (WMCore.ofValues (source.toList.map (·.toNat)))` under
  `source.size + 63 < U64` (`RawVector::with_capacity(source.len())` computes `bits_to_words`; the same bound covers
  every `push_bit` (`len + 1`) and `count_ones` in `BitVector::from`).  Sharp with overflow checks on:
  `wm_core_from_ne_size`.  Everything else is derived: `max().unwrap_or(0)` is the word of the model's `foldl max 0`
  (`c5_arr_max`), so both widths are the same `bit_len`; `1 ≤ width ≤ 64`, hence `width - 1`, `width - 1 - level` do
  not underflow and the shift amount is `< 64`; `value & bit_value != 0` is the model's `(v / 2^k) % 2 = 1`
  (`c5_bit_test`); the inner loop is the stable partition by `filter` plus `RawVec.ofBits (map …)`; one outer
  iteration is one step of the model's fold (`wmStep`), the new `source` holding the words of the model's new list
  with the same size; `init_support` at the end is `wm_init_support_eq`.

Method: `complement` and `init_support` are `for_loop_range` (GenSupport) over a body that cannot fault, then
`c5_foldl_set_map`.  `WMCore::from` cannot fault under `hb`: the outer loop is `for_sat` with the model's fold as
invariant, the inner one `for_each_sat` with the partition of the items read so far.
-/
import Sds.Generated.FnsConstr5
import Sds.Proofs.GenFns
import Sds.Proofs.GenEqBits
import Sds.Proofs.GenEqVec
import Sds.Proofs.GenEqView
import Sds.Proofs.GenEqEnable
import Sds.Proofs.GenEqLoop4
import Sds.Proofs.GenEqConstr3
import Sds.Proofs.GenEqConstr4
import Sds.Proofs.BitsMore
import Sds.Proofs.RawVec


namespace Sds.GenEq
open Sds Outcome Generated


/-- `for x in a.iter_mut() { *x = f(*x) }` written with an index: every reader `g` that agrees with `a[i]` inside the
array will do (`rd`, `getD`) -/
theorem c5_foldl_set_map {α : Type} (f : α → α) (g : Array α → Nat → α)
    (hg : ∀ (a : Array α) (i : Nat) (h : i < a.size), g a i = a[i]) (a : Array α) :
    (List.range a.size).foldl (fun b i => b.setIfInBounds i (f (g b i))) a = a.map f := by
  have key : ∀ n, n ≤ a.size →
      ∀ k, ((List.range n).foldl (fun b i => b.setIfInBounds i (f (g b i))) a)[k]? =
        if k < n then a[k]?.map f else a[k]? := by
    intro n
    induction n with
    | zero => intro _ k; simp
    | succ n ih =>
      intro hn k
      rw [List.range_succ, List.foldl_append]
      simp only [List.foldl_cons, List.foldl_nil]
      have ihn := ih (by omega)
      generalize (List.range n).foldl (fun b i => b.setIfInBounds i (f (g b i))) a = b at ihn ⊢
      have hsz : b.size = a.size := by
        apply Classical.byContradiction
        intro hne
        rcases Nat.lt_or_gt_of_ne hne with h | h
        · have := ihn b.size
          rw [Array.getElem?_eq_none (Nat.le_refl _)] at this
          by_cases hb : b.size < n <;> simp [hb, h] at this
        · have := ihn a.size
          rw [Array.getElem?_eq_getElem h, if_neg (by omega), Array.getElem?_eq_none (Nat.le_refl _)] at this
          cases this
      have hnb : n < b.size := by omega
      have hbn : b[n] = a[n] := by
        have := ihn n
        rw [if_neg (Nat.lt_irrefl _), Array.getElem?_eq_getElem hnb, Array.getElem?_eq_getElem (by omega)] at this
        exact Option.some.inj this
      rw [Array.getElem?_setIfInBounds]
      by_cases hk : n = k
      · subst hk
        rw [if_pos rfl, if_pos hnb, if_pos (Nat.lt_succ_self _), hg b n hnb, hbn,
          Array.getElem?_eq_getElem (by omega)]
        rfl
      · rw [if_neg hk, ihn k]
        by_cases hkn : k < n
        · rw [if_pos hkn, if_pos (by omega)]
        · rw [if_neg hkn, if_neg (by omega)]
  apply Array.ext_getElem?
  intro k
  rw [key a.size (Nat.le_refl _) k, Array.getElem?_map]
  by_cases hk : k < a.size
  · rw [if_pos hk]
  · rw [if_neg hk, Array.getElem?_eq_none (by omega)]; rfl

/-! ### `RawVector::complement` -/

theorem raw_complement_eq' (m : Mode) (v : RawVec) (hs : v.len % 64 ≠ 0 → v.len / 64 < v.data.size) :
    gen_RawVector_complement m v = ok v.complement := by
  unfold gen_RawVector_complement
  simp only [Bind.bind]
  rw [for_loop_range (ρ := RawVec) v.data.size
      (fun (r : RawVec) i => ok { r with data := r.data.setIfInBounds i (~~~ rd r.data i) }) _
      (fun i s hi => by simp only [hi, decide_true, if_true]; rfl)
      (fun i s hi => by simp only [hi, decide_false, Bool.false_eq_true, if_false]; rfl),
    foldlM_ok]
  have hfold : ∀ n (r : RawVec),
      (List.range n).foldl (fun (r : RawVec) i => { r with data := r.data.setIfInBounds i (~~~ rd r.data i) }) r =
        ⟨r.len, (List.range n).foldl (fun b i => b.setIfInBounds i (~~~ rd b i)) r.data⟩ := by
    intro n
    induction n with
    | zero => intro r; rfl
    | succ n ih => intro r; rw [List.range_succ, List.foldl_append, List.foldl_append, ih]; rfl
  rw [hfold, c5_foldl_set_map (fun w : Word => ~~~ w) rd
    (fun a i h => by unfold rd; rw [Array.getElem?_eq_getElem h]; rfl)]
  simp only [obind_ok']
  rw [raw_set_unused_bits_eq' m _ false (by simpa using hs)]
  rfl

/-- `RawVector::complement` under the first conjunct of `RawVec.WF` -/
theorem raw_complement_eq (m : Mode) (v : RawVec) (hs : v.data.size = (v.len + 63) / 64) :
    gen_RawVector_complement m v = ok v.complement :=
  raw_complement_eq' m v (by omega)

/-- the hypothesis is needed: `set_unused_bits` indexes the word of the last bit (`self.data[index]`, index panic on a
vector with too few words), the model's `setIfInBounds` does nothing there.  Not a state of a real `RawVector`. -/
theorem raw_complement_ne :
    gen_RawVector_complement .checked ⟨1, #[]⟩ = fault (.panic .index) ∧
    RawVec.complement ⟨1, #[]⟩ = ⟨1, #[]⟩ := by decide +kernel

/-! ### `WMCore::init_support` -/

theorem c5_enable_all_pred_succ (b : BitVector) :
    b.enableRank.enableSelect.enableSelectZero.enableRank.enableSelect = b.enableAll := by
  obtain ⟨o, d, r, s, z⟩ := b
  cases r <;> cases s <;> cases z <;> rfl

theorem wm_init_support_eq (m : Mode) (c : WMCore) : gen_WMCore_init_support m c = ok c.initSupport := by
  unfold gen_WMCore_init_support
  simp only [Bind.bind]
  rw [for_loop_range (ρ := WMCore) c.levels.size
      (fun (L : Array BitVector) i => ok (L.setIfInBounds i (L.getD i default).enableAll)) _
      (fun i s hi => by
        simp only [hi, decide_true, if_true, enable_rank_eq, enable_select_eq, enable_select_zero_eq,
          enable_pred_succ_eq, obind_ok', Array.setIfInBounds_setIfInBounds, c5_enable_all_pred_succ]
        rfl)
      (fun i s hi => by simp only [hi, decide_false, Bool.false_eq_true, if_false]; rfl),
    foldlM_ok,
    c5_foldl_set_map BitVector.enableAll (fun L i => L.getD i default)
      (fun a i h => by simp [Array.getD, h])]
  rfl

/-! ### `WMCore::from(Vec<u64>)` : vocabulary -/

/-- `source.iter().cloned().max().unwrap_or(0)` is the word whose value is the model's `foldl max 0` -/
theorem c5_arr_max (a : Array Word) :
    (arrMaxW a).getD (0 : Word) = BitVec.ofNat 64 ((a.toList.map (·.toNat)).foldl max 0) := by
  obtain ⟨acc, e, h0, h1⟩ := foldl_max_none a.toList
  have e' : arrMaxW a = acc := by unfold arrMaxW; rw [← Array.foldl_toList]; exact e
  rw [e']
  by_cases hl : a.toList = []
  · rw [h0 hl, hl]; rfl
  · obtain ⟨w, rfl, hw⟩ := h1 hl
    rw [← hw]
    simp only [Option.getD_some, BitVec.ofNat_toNat, BitVec.setWidth_eq]

/-- the bit test of the loop, `value & bit_value != 0` -/
def isOneW (bv : Word) (w : Word) : Bool := decide ((w &&& bv) ≠ (0 : Word))

theorem c5_one_shl (k : Nat) (hk : k < 64) : (1 : Word) <<< k = BitVec.ofNat 64 (2 ^ k) := by
  apply BitVec.eq_of_toNat_eq
  have hp : 2 ^ k < 2 ^ 64 := Nat.pow_lt_pow_right (by decide) hk
  rw [BitVec.toNat_shiftLeft, BitVec.toNat_ofNat, Nat.shiftLeft_eq]
  simp

/-- … is the model's test `(v / 2^k) % 2 = 1` on the value of the word -/
theorem c5_bit_test (w : Word) (k : Nat) (hk : k < 64) :
    isOneW ((1 : Word) <<< k) w = decide ((w.toNat / 2 ^ k) % 2 = 1) := by
  have := and_two_pow_ne_zero_iff w.toNat k hk
  rw [BitVec.ofNat_toNat, BitVec.setWidth_eq, ← c5_one_shl k hk] at this
  unfold isOneW
  exact decide_eq_decide.mpr this

theorem c5_partition_length {α : Type} (p : α → Bool) (l : List α) :
    (l.filter (fun x => !p x)).length + (l.filter p).length = l.length := by
  induction l with
  | nil => rfl
  | cons x t ih => cases hp : p x <;> simp [hp] <;> omega

/-- one step of the fold of `WMCore.ofValues` -/
def wmStep (width : Nat) (acc : Array BitVector × List Nat) (l : Nat) : Array BitVector × List Nat :=
  (acc.1.push (BitVector.ofRaw (RawVec.ofBits (acc.2.map fun v => decide ((v / 2 ^ (width - 1 - l)) % 2 = 1)))),
   acc.2.filter (fun v => !decide ((v / 2 ^ (width - 1 - l)) % 2 = 1)) ++
     acc.2.filter (fun v => decide ((v / 2 ^ (width - 1 - l)) % 2 = 1)))

theorem wm_ofValues_eq_fold (vals : List Nat) :
    WMCore.ofValues vals = WMCore.initSupport
      ⟨((List.range (bitLen (BitVec.ofNat 64 (vals.foldl max 0)))).foldl
          (wmStep (bitLen (BitVec.ofNat 64 (vals.foldl max 0)))) (#[], vals)).1⟩ := rfl

/-! ### `WMCore::from(Vec<u64>)` -/

theorem wm_core_from_eq (m : Mode) (source : Array Word) (hb : source.size + 63 < U64) :
    gen_WMCore_from_u64 m source = ok (WMCore.ofValues (source.toList.map (·.toNat))) := by
  obtain ⟨w1, w64, _, _⟩ := bitLen_spec ((arrMaxW source).getD (0 : Word))
  refine sat_eq.1 ?_
  unfold gen_WMCore_from_u64
  simp only [bit_len_eq, bind_ok]
  generalize hW : bitLen ((arrMaxW source).getD (0 : Word)) = W at w1 w64 ⊢
  -- outer loop: `levels` are the model's, `source` holds the words of the model's list and keeps its size
  refine for_sat (fun i (s : Array BitVector × Array Word) =>
      s.1 = ((List.range i).foldl (wmStep W) (#[], source.toList.map (·.toNat))).1 ∧
      s.2.toList.map (·.toNat) = ((List.range i).foldl (wmStep W) (#[], source.toList.map (·.toNat))).2 ∧
      s.2.size = source.size) (Nat.zero_le _) _ _
    (fun i s _ hi hI => ?_) (fun s _ => ?_) ⟨rfl, rfl, rfl⟩ (fun s hI => ?_)
  · obtain ⟨levels, src⟩ := s
    obtain ⟨hL, hV, hS⟩ := hI
    simp only at hL hV hS
    have f1 : subM m W 1 = ok (W - 1) := subM_ok w1
    have f2 : subM m (W - 1) i = ok (W - 1 - i) := subM_ok (by omega)
    have hk : W - 1 - i < 64 := by omega
    have hfun : isOneW ((1 : Word) <<< (W - 1 - i)) = fun w => decide ((w.toNat / 2 ^ (W - 1 - i)) % 2 = 1) :=
      funext fun w => c5_bit_test w _ hk
    simp only [hi, decide_true, if_true, f1, f2, shlW_ok m _ hk, raw_with_capacity_eq m _ (hS ▸ hb), bind_ok]
    generalize (1 : Word) <<< (W - 1 - i) = bv at hfun ⊢
    -- inner loop: the stable partition of the items read so far, and their bits
    refine for_each_sat (fun pre (t : Array Word × RawVec × Array Word) =>
        t.1 = (pre.filter (isOneW bv)).toArray ∧
        t.2.1 = RawVec.ofBits (pre.map (isOneW bv)) ∧
        t.2.2 = (pre.filter (fun w => !isOneW bv w)).toArray) src.toList _ _
      (fun pre x suf t hsp hJ => ?_) (fun t _ => ?_) ⟨rfl, rfl, rfl⟩ (fun t hJ => ?_)
    · obtain ⟨ones, raw, zeros⟩ := t
      obtain ⟨rfl, rfl, rfl⟩ := hJ
      have hlen : pre.length < src.size := by
        rw [← Array.length_toList, hsp, List.length_append, List.length_cons]; omega
      have hwf := RawVec.ofBits_WF (pre.map (isOneW bv))
      have hl := len_ofBits (pre.map (isOneW bv))
      rw [List.length_map] at hl
      have hp : ∀ b, gen_RawVector_push_bit m (RawVec.ofBits (pre.map (isOneW bv))) b =
          ok ((RawVec.ofBits (pre.map (isOneW bv))).pushBit b) :=
        fun b => raw_push_bit_eq m _ b (by have := hwf.1; omega) (by omega)
      simp only [hlen, decide_true, if_true, rd_split hsp]
      by_cases hc : isOneW bv x = true
      · rw [if_pos (show decide ((x &&& bv) ≠ (0 : Word)) = true from hc)]
        simp only [hp, bind_ok, pure_eq]
        exact sat_next ⟨rfl, by simp [hc], by simp [hc, ofBits_snoc], by simp [hc]⟩
      · rw [if_neg (show ¬ decide ((x &&& bv) ≠ (0 : Word)) = true from hc)]
        simp only [hp, bind_ok, pure_eq]
        exact sat_next ⟨rfl, by simp [hc], by simp [hc, ofBits_snoc], by simp [hc]⟩
    · simp only [Array.length_toList, Nat.lt_irrefl, decide_false, Bool.false_eq_true, if_false]; rfl
    · obtain ⟨ones, raw, zeros⟩ := t
      obtain ⟨rfl, rfl, rfl⟩ := hJ
      have hwf := RawVec.ofBits_WF (src.toList.map (isOneW bv))
      have hl := len_ofBits (src.toList.map (isOneW bv))
      rw [List.length_map, Array.length_toList] at hl
      have hsz := hwf.1
      simp only [bv_from_raw_eq m _ (show 64 * _ < U64 by rw [hsz, hl]; omega), bind_ok, pure_eq]
      rw [foldl_range_succ]
      generalize (List.range i).foldl (wmStep W) (#[], source.toList.map (·.toNat)) = acc at hL hV
      obtain ⟨accL, accV⟩ := acc
      subst hL hV
      refine sat_next ⟨rfl, ?_, ?_, ?_⟩
      · simp only [wmStep, hfun, List.map_map]
        rfl
      · simp [wmStep, hfun, List.filter_map, Function.comp_def]
      · have := c5_partition_length (isOneW bv) src.toList
        simp only [Array.size_append, List.size_toArray, List.length_nil, Nat.zero_add]
        rw [← hS, ← Array.length_toList]
        exact this
  · simp only [Nat.lt_irrefl, decide_false, Bool.false_eq_true, if_false]; rfl
  · obtain ⟨levels, src⟩ := s
    simp only [wm_init_support_eq, bind_ok, pure_eq]
    refine sat_ok ?_
    rw [wm_ofValues_eq_fold, ← c5_arr_max, hW, ← hI.1]

/-! ### the hypotheses are needed; the theorems are not vacuous -/

/-- `hb` is sharp with overflow checks on: the width is at least 1, so `RawVector::with_capacity(source.len())` is
called, and `bits_to_words` computes `source.len() + 63` in `usize`.  Only a `Vec<u64>` of ≥ 2^64 - 63 items gets
there (not a state of the real code: it would occupy 2^67 bytes). -/
theorem wm_core_from_ne_size (source : Array Word) (h : ¬ source.size + 63 < U64) :
    gen_WMCore_from_u64 .checked source = fault (.panic .overflow) := by
  obtain ⟨w1, w64, _, _⟩ := bitLen_spec ((arrMaxW source).getD (0 : Word))
  have hc : gen_RawVector_with_capacity .checked source.size = fault (.panic .overflow) := by
    unfold gen_RawVector_with_capacity gen_bits_to_words
    simp [addM, h]
  unfold gen_WMCore_from_u64
  simp only [Bind.bind, bit_len_eq, obind_ok']
  generalize hW : bitLen ((arrMaxW source).getD (0 : Word)) = W at w1 w64 ⊢
  obtain ⟨W', rfl⟩ : ∃ W', W = W' + 1 := ⟨W - 1, by omega⟩
  have f1 : subM .checked (W' + 1) 1 = ok W' := subM_ok (by omega)
  have f2 : subM .checked W' 0 = ok W' := subM_ok (by omega)
  have f3 : shlW .checked (1 : Word) W' = ok ((1 : Word) <<< W') := shlW_ok _ _ (by omega)
  rw [show W' + 1 - 0 + 1 = (W' + 1) + 1 from rfl, loopM_succ]
  simp only [Nat.zero_lt_succ, decide_true, if_true, f1, f2, f3, obind_ok', hc]
  rfl

/-- the capacity computation alone, at the first size outside `hb` -/
theorem c5_with_capacity_ne :
    gen_RawVector_with_capacity .checked (U64 - 63) = fault (.panic .overflow) := raw_with_capacity_ne

/-- evaluation of both sides: the empty vector (one empty level), a vector of zeros, the first 7 values of the
documentation example of `wavelet_matrix` (width 3) -/
theorem wm_core_from_examples :
    gen_WMCore_from_u64 .checked #[] = ok (WMCore.ofValues []) ∧
    (WMCore.ofValues []).levels.size = 1 ∧
    gen_WMCore_from_u64 .checked #[0, 0] = ok (WMCore.ofValues [0, 0]) ∧
    gen_WMCore_from_u64 .checked #[1, 0, 3, 1, 1, 2, 4] = ok (WMCore.ofValues [1, 0, 3, 1, 1, 2, 4]) ∧
    (WMCore.ofValues [1, 0, 3, 1, 1, 2, 4]).levels.toList.map (·.data.bits) =
      [[false, false, false, false, false, false, true],
       [false, false, true, false, false, true, false],
       [true, false, true, true, false, true, false]] :=
  ⟨by decide +kernel, by decide +kernel, by decide +kernel, by decide +kernel, by decide +kernel⟩

theorem wm_init_support_example :
    gen_WMCore_init_support .checked ⟨#[BitVector.ofRaw ⟨3, #[5]⟩]⟩ =
      ok (WMCore.initSupport ⟨#[BitVector.ofRaw ⟨3, #[5]⟩]⟩) ∧
    ((WMCore.initSupport ⟨#[BitVector.ofRaw ⟨3, #[5]⟩]⟩).levels.toList.map
      (fun b => (b.rank.isSome, b.select.isSome, b.selectZero.isSome))) = [(true, true, true)] :=
  ⟨by decide +kernel, by decide +kernel⟩

end Sds.GenEq
