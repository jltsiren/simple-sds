/-
Proofs/RLBuilt: "the run-length vector `v` holds the bit sequence `B`" as ONE predicate (`RLQ.Holds`), established once
for every accepted builder call history (`built`: the conversion succeeds and the vector is `Good` for the maximal runs
of the described bits, from `RL.build_built`) and consumed by every statement about built vectors: each query and each
iterator of a vector that holds `B` answers as the reference does on `B`.
-/
import Sds.Proofs.Glue4
import Sds.Proofs.RLPredSucc

namespace Sds.RLQ
open Sds Outcome

/-- `v` is a well-formed run-length vector holding exactly the bits `B` -/
structure Holds (v : RL) (B : List Bool) : Prop where
  good : Good v (maximalRuns B)
  len : v.len = B.length

/-- the counts need no clause of their own: `select` on the runs and on the bits end at the same rank -/
theorem Holds.ones {v : RL} {B : List Bool} (H : Holds v B) : v.ones = B.count true := by
  obtain ⟨bl, g, hR⟩ := H.good
  rw [g.ones_eq, ← hR]
  have key : ∀ r, RunIter.lensAbs (maximalRuns B) ≤ r ↔ B.count true ≤ r := fun r => by
    rw [← selectSpec_eq_none_iff, ← selectR_maximalRuns]
    exact ⟨fun h => selectR_ge _ _ h, fun h => selectR_none_le _ _ h⟩
  have h1 := (key _).mp (Nat.le_refl _)
  have h2 := (key _).mpr (Nat.le_refl _)
  omega

theorem Holds.zeros {v : RL} {B : List Bool} (H : Holds v B) : v.countZeros = B.count false := by
  unfold RL.countZeros
  rw [H.len, H.ones, Glue.count_false_eq]

/-- the vector converted from an accepted call history holds the bits the calls describe -/
theorem built_of (m : Mode) {calls : List RL.BCall} (hc : ∀ c ∈ calls, RL.callArgsOk c) {b : RLBuilder}
    (hb : RL.runBCalls m calls {} = ok b) {v : RL} (hv : RL.ofBuilder m b = ok v) :
    Holds v (calls.foldl RL.specCall []) := by
  obtain ⟨bl, g, hruns, e1, _⟩ := RL.build_built m calls hc b hb v hv
  exact ⟨⟨bl, g.goodB (RL.gaps_of_maximal hruns), hruns.symm⟩, e1⟩

/-- **every accepted call history converts, and the vector holds the bits the calls describe** -/
theorem built (m : Mode) {calls : List RL.BCall} (hc : ∀ c ∈ calls, RL.callArgsOk c) {b : RLBuilder}
    (hb : RL.runBCalls m calls {} = ok b) : ∃ v, RL.ofBuilder m b = ok v ∧ Holds v (calls.foldl RL.specCall []) := by
  obtain ⟨_, _, k⟩ := RL.runBCalls_hist m calls hc b hb
  obtain ⟨v, hv⟩ := RL.ofBuilder_ok m k
  exact ⟨v, hv, built_of m hc hb hv⟩

section
variable {v : RL} {B : List Bool} (H : Holds v B) (m : Mode)
include H

theorem Holds.get (i : Nat) : v.get m i = ok (getSpec B i) := by rw [H.good.get m i, getR_maximalRuns]
theorem Holds.rank (i : Nat) : v.rank m i = ok (rankSpec B i) := by rw [H.good.rank m i, rankR_maximalRuns]
theorem Holds.rankZero (i : Nat) : v.rankZero m i = ok (i - rankSpec B i) := by
  rw [H.good.rankZero m i, rankR_maximalRuns]
theorem Holds.select (r : Nat) : v.select m r = ok (selectSpec B r) := by rw [H.good.select m r, selectR_maximalRuns]
theorem Holds.selectZero (r : Nat) : v.selectZero m r = ok (selectZeroSpec B r) := by
  rw [H.good.selectZero m r, H.len, selectZeroR_maximalRuns]
theorem Holds.successor (x : Nat) : ∃ oi oi', v.successor m x = ok oi ∧ oi.nextQ m v = ok (succSpec B x, oi') := by
  rw [← succR_maximalRuns]; exact H.good.successor m x
theorem Holds.predecessor (x : Nat) : ∃ oi oi', v.predecessor m x = ok oi ∧ oi.nextQ m v = ok (predSpec B x, oi') := by
  rw [← predR_maximalRuns]; exact H.good.predecessor m x

theorem Holds.oneIter_drain (F : Nat) (hF : v.ones + 1 ≤ F) :
    ∃ st items, v.oneIter = ok st ∧ drainOne m v F st = ok items ∧
      items.map (·.2) = onesPos B ∧ items.map (·.1) = List.range (B.count true) := by
  obtain ⟨bl, g, hR⟩ := H.good
  obtain ⟨st, h1, h2⟩ := g.oneIter_drain m F hF
  rw [← hR, H.ones] at h2
  exact ⟨st, _, h1, h2, oneItems_all B, by rw [oneItems_fst, List.range_eq_range']⟩

theorem Holds.iter_drain (F : Nat) (hF : v.len + 1 ≤ F) : ∃ st, v.iter = ok st ∧ drainBits m v F st = ok B := by
  obtain ⟨bl, g, hR⟩ := H.good
  obtain ⟨st, h1, h2⟩ := g.iter_drain m F hF
  rw [← hR, H.len, bitItems_all] at h2
  exact ⟨st, h1, h2⟩

theorem Holds.zeroIter_drain (F : Nat) (hF : v.countZeros + 1 ≤ F) :
    ∃ st items, v.zeroIter m = ok st ∧ drainZero m v F st = ok items ∧
      items.map (·.2) = zerosPos B ∧ items.map (·.1) = List.range (B.count false) :=
  zeroIter_spec m B H.good H.len H.zeros F hF

end

end Sds.RLQ
