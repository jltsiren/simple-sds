/-
Proofs/IterBridge: the iterator `OneIter<T>` of `bit_vector.rs` IS the list of its items.

The constructors that consume an iterator (`SelectSupport::new`, `SampleIndex::new`) are translated with the iterator
modelled as the LIST of its remaining items: `next()` is `(head?, tail)` (`listNext`), `nth(k)` is
`((drop k).head?, drop (k + 1))` (`listNth`); the proven equations (`select_support_new_positions`) are stated for the
list `enumerate (positionsT tr v)`.  This file discharges the modelling step "that list is what the real iterator
yields" by theorems about the TRANSLATED iterator methods `gen_OneIter_next` / `gen_OneIter_nth` (Generated/FnsLoop)
started from the state built by the TRANSLATED `one_iter` / `zero_iter` (Generated/FnsBv):

* `Sim tr b it l`: the state `it` (untouched back end, `limit = (count, len)`) stands for the list
  `l = (enumerate (positionsT tr b.data)).drop it.next.1`; the position cursor `it.next.2` is `≤ len` and has exactly
  `it.next.1` set bits of the transformed vector strictly before it (equivalently, `IterProofs.rank_eq_iff_sandwich`:
  it lies strictly after item `next.1 - 1` and at or before item `next.1`).

Hypotheses (`Good b`): the raw vector is well formed, `len < 2^64`, the cached `ones` is the number of set bits.
Each is needed for the statement as given or is a representation bound: `sim_next_ne_ones` (wrong cached count: the
iterator stops early), `sim_next_ne_wf` (buffer shorter than `len`: out-of-bounds read).
-/
import Sds.Proofs.Iter
import Sds.Proofs.GenEqLoop2
import Sds.Proofs.GenEqConstr2
import Sds.Proofs.GenEqBv

namespace Sds.GenEq
open Sds Outcome Generated
open Sds.IterProofs Sds.Iter2

/-! ### the list iterator -/

/-- `Iterator::next` on the list of remaining items (what the translated constructors use) -/
def listNext {α} (l : List α) : Option α × List α := (l.head?, l.tail)

/-- `Iterator::nth` on the list of remaining items -/
def listNth {α} (l : List α) (k : Nat) : Option α × List α := ((l.drop k).head?, l.drop (k + 1))

/-- the standing hypotheses on the bitvector: well-formed buffer, `len` a `usize`, correct cached count -/
structure Good (b : BitVector) : Prop where
  wf : b.data.WF
  len : b.data.len < 2 ^ 64
  ones : b.ones = b.data.bits.count true

theorem Good.ctx {b : BitVector} (g : Good b) : Ctx b b.data := ⟨g.wf, g.len, rfl, g.ones⟩

theorem Good.size_lt {b : BitVector} (g : Good b) : b.data.data.size < U64 := by
  have h1 := g.wf.1
  have h2 := g.len
  rw [U64_eq]; omega

/-- `OneIter<T>` state vs. list of remaining items -/
structure Sim (tr : Tr) (b : BitVector) (it : OneIterSt) (l : List (Nat × Nat)) : Prop where
  /-- the back end has not been touched -/
  limit : it.limit = (b.countT tr, b.len)
  /-- the rank cursor is at most the number of items -/
  rank_le : it.next.1 ≤ (positionsT tr b.data).size
  /-- the position cursor is inside the vector -/
  pos_le : it.next.2 ≤ b.data.len
  /-- exactly `next.1` items lie strictly before the position cursor -/
  pos_rank : rankSpec (bitsT tr b.data.bits) it.next.2 = it.next.1
  /-- the list is what remains after `next.1` items -/
  list : l = (enumerate (positionsT tr b.data)).drop it.next.1

theorem positionsT_size_eq (tr : Tr) (v : RawVec) : (positionsT tr v).size = (onesPos (bitsT tr v.bits)).length := by
  rw [← Array.length_toList, positionsT_toList]

theorem onesPos_length_le (tr : Tr) (v : RawVec) : (onesPos (bitsT tr v.bits)).length ≤ v.len := by
  rw [P_length]; exact cnt_le _ _

/-- `Sim` gives the relation `Rel` of Proofs/Iter with `R` = the number of items -/
theorem Sim.toRel {tr : Tr} {b : BitVector} {it : OneIterSt} {l : List (Nat × Nat)} (g : Good b)
    (h : Sim tr b it l) : Rel tr b.data it it.next.1 (onesPos (bitsT tr b.data.bits)).length := by
  obtain ⟨h1, h2, h3, h4, _⟩ := h
  rw [positionsT_size_eq] at h2
  refine ⟨rfl, ?_, h2, Nat.le_refl _, h4, ?_, h3, ?_⟩
  · rw [h1]; exact countT_eq_len g.ctx tr
  · rw [h1]; exact rank_len tr b.data
  · rw [h1]; exact Nat.le_refl _

/-- `Sim` at index level: the ranks `[r, R)` with the back end untouched (so `R` is the number of items) -/
def FInv (tr : Tr) (b : BitVector) (r R : Nat) (it : OneIterSt) : Prop :=
  Rel tr b.data it r R ∧ it.limit = (b.countT tr, b.len)

/-- `Sim` as a window relation: `OneWin` of Proofs/Iter with the back end untouched -/
def SimWin (tr : Tr) (b : BitVector) (it : OneIterSt) (l : List (Nat × Nat)) : Prop :=
  ∃ r R, FInv tr b r R it ∧ l = win (pairF (onesPos (bitsT tr b.data.bits))) r R

theorem enumerate_drop (tr : Tr) (v : RawVec) (r : Nat) :
    (enumerate (positionsT tr v)).drop r =
      win (pairF (onesPos (bitsT tr v.bits))) r (onesPos (bitsT tr v.bits)).length := by
  rw [← Nat.zero_add r, ← win_drop, Nat.zero_add, ← positionsT_toList]
  simp [enumerate, win, pairF]

theorem sim_iff {b : BitVector} (g : Good b) (tr : Tr) (it : OneIterSt) (l : List (Nat × Nat)) :
    Sim tr b it l ↔ SimWin tr b it l := by
  constructor
  · intro h
    exact ⟨_, _, ⟨h.toRel g, h.limit⟩, by rw [h.list, enumerate_drop]⟩
  · rintro ⟨r, R, ⟨hrel, hl⟩, rfl⟩
    have hR : R = (onesPos (bitsT tr b.data.bits)).length := by
      rw [← hrel.limit_rank, hl]; exact countT_eq_len g.ctx tr
    refine ⟨hl, ?_, hrel.next_le, ?_, ?_⟩
    · rw [positionsT_size_eq, hrel.next_rank, ← hR]; exact hrel.le
    · rw [hrel.next_rank]; exact hrel.next_pos
    · rw [hrel.next_rank, enumerate_drop, hR]

/-! ### the initial state -/

/-- the state `(0, 0), (count, len)` stands for the whole list -/
theorem sim_full {b : BitVector} (g : Good b) (tr : Tr) :
    Sim tr b (OneIterSt.full tr b) (enumerate (positionsT tr b.data)) :=
  (sim_iff g tr _ _).mpr ⟨0, _, ⟨Rel_full g.ctx tr, rfl⟩, enumerate_drop tr b.data 0⟩

/-- `one_iter` as translated -/
theorem sim_one_iter {b : BitVector} (g : Good b) (m : Mode) :
    ∃ it, gen_BitVector_one_iter m b = ok it ∧ Sim .ident b it (enumerate (positionsT .ident b.data)) :=
  ⟨_, bv_one_iter_eq m b, sim_full g .ident⟩

/-- `zero_iter` as translated -/
theorem sim_zero_iter {b : BitVector} (g : Good b) (m : Mode) :
    ∃ it, gen_BitVector_zero_iter m b = ok it ∧ Sim .compl b it (enumerate (positionsT .compl b.data)) :=
  ⟨_, bv_zero_iter_eq m b, sim_full g .compl⟩

/-! ### the steps of the model iterator -/

theorem simWin_fwdSim {b : BitVector} (g : Good b) (tr : Tr) (m : Mode) :
    FwdSim (OneIterSt.nextQ tr m b) (SimWin tr b) :=
  win_fwdSim (fun h hr => ⟨_, _, _, IterProofs.nextQ_none tr m b _ (h.1.done hr), h, hr⟩) fun ⟨h, hl⟩ hr =>
    let ⟨_, h1, h2, h3⟩ := nextQ_some g.ctx tr m h hr
    ⟨_, by rw [h2, pairF, h1]; rfl, h3, hl⟩

theorem simWin_nthSim {b : BitVector} (g : Good b) (tr : Tr) (m : Mode) (k : Nat) :
    CallSim (fun it => OneIterSt.nthQ tr m b it k) (.nth k) (SimWin tr b) :=
  win_nthSim (Inv := FInv tr b) (fun ⟨h, hl⟩ hr => ⟨_, _, _, (nthQ_none (b := b) tr m h k hr).1,
    ⟨(nthQ_none (b := b) tr m h k hr).2, hl⟩, Nat.le_refl _⟩) fun ⟨h, hl⟩ hr =>
    let ⟨_, h1, h2, h3⟩ := nthQ_some g.ctx tr m h k hr
    ⟨_, by rw [h2, pairF, h1]; rfl, h3, hl⟩

theorem Sim.limit_le {tr : Tr} {b : BitVector} {it : OneIterSt} {l : List (Nat × Nat)} (g : Good b)
    (h : Sim tr b it l) : it.limit.1 ≤ U64 := by
  have h1 := (h.toRel g).limit_rank
  have h2 := onesPos_length_le tr b.data
  have h3 := g.len
  rw [U64_eq]; omega

/-! ### every finite sequence of forward calls -/

/-- the forward call alphabet of `Iterator` used by the constructors -/
inductive FCall | next | nth (k : Nat)
  deriving DecidableEq, Repr

/-- one call on the list -/
def listStep {α} (l : List α) : FCall → Option α × List α
  | .next => listNext l
  | .nth k => listNth l k

/-- a sequence of calls on the list: the outputs and what is left -/
def listRun {α} : List α → List FCall → List (Option α) × List α
  | l, [] => ([], l)
  | l, c :: cs => let r := listStep l c; let q := listRun r.2 cs; (r.1 :: q.1, q.2)

/-- one call of the translated iterator -/
def iterGenStep (m : Mode) (tr : Tr) (data : RawVec) (it : OneIterSt) : FCall → Outcome (Option (Nat × Nat) × OneIterSt)
  | .next => gen_OneIter_next m tr data it
  | .nth k => gen_OneIter_nth m tr data it k

/-- a sequence of calls of the translated iterator: the outputs and the final state -/
def iterGenRun (m : Mode) (tr : Tr) (data : RawVec) : OneIterSt → List FCall →
    Outcome (List (Option (Nat × Nat)) × OneIterSt)
  | it, [] => ok ([], it)
  | it, c :: cs => do
    let r ← iterGenStep m tr data it c
    let q ← iterGenRun m tr data r.2 cs
    return (r.1 :: q.1, q.2)

/-- the list iterator is the reference deque restricted to `next` / `nth k` -/
def FCall.toICall : FCall → ICall
  | .next => .next
  | .nth k => .nth k

theorem deque_listStep {α : Type} (l : List α) (c : FCall) :
    dequeStep l c.toICall = (optOut (listStep l c).1, (listStep l c).2) := by
  cases c with
  | next => cases l <;> rfl
  | nth k =>
    simp only [FCall.toICall, dequeStep, listStep, listNth, ← List.tail_drop]
    cases l.drop k <;> rfl

theorem optOut_inj {α : Type} {o o' : Option α} (h : optOut o = optOut o') : o = o' := by
  cases o <;> cases o' <;> simp_all [optOut]

/-- **One call of the TRANSLATED iterator** (`OneIter::next`, `OneIter::nth` as translated from the source): the
output of the list iterator, no fault, and the new state stands for the list that is left -/
theorem genStep_sim {b : BitVector} (g : Good b) (tr : Tr) (m : Mode) {it : OneIterSt} {l : List (Nat × Nat)}
    (h : Sim tr b it l) (c : FCall) :
    ∃ it', iterGenStep m tr b.data it c = ok ((listStep l c).1, it') ∧ Sim tr b it' (listStep l c).2 := by
  have key : ∃ o it', iterGenStep m tr b.data it c = ok (o, it') ∧ optOut o = (dequeStep l c.toICall).1 ∧
      SimWin tr b it' (dequeStep l c.toICall).2 := by
    cases c with
    | next =>
      show ∃ o it', gen_OneIter_next m tr b.data it = _ ∧ _
      rw [one_next_eq m tr b it g.size_lt]
      exact next_sim (simWin_fwdSim g tr m) ((sim_iff g tr it l).mp h)
    | nth k =>
      show ∃ o it', gen_OneIter_nth m tr b.data it k = _ ∧ _
      rw [one_nth_eq m tr b it k g.size_lt (h.limit_le g)]
      exact simWin_nthSim g tr m k ((sim_iff g tr it l).mp h)
  obtain ⟨o, it', h1, h2, h3⟩ := key
  rw [deque_listStep] at h2 h3
  exact ⟨it', by rw [h1, optOut_inj h2], (sim_iff g tr _ _).mpr h3⟩

/-- **Every finite sequence of `next` / `nth k` calls** on a state that stands for the list `l`: the translated
iterator does not fault (either arithmetic mode), returns the outputs of the list iterator, and ends in a state that
stands for the list that is left. -/
theorem genRun_sim {b : BitVector} (g : Good b) (tr : Tr) (m : Mode) (calls : List FCall) {it : OneIterSt}
    {l : List (Nat × Nat)} (h : Sim tr b it l) :
    ∃ it', iterGenRun m tr b.data it calls = ok ((listRun l calls).1, it') ∧ Sim tr b it' (listRun l calls).2 :=
  endRun_sim (call := fun c it => iterGenStep m tr b.data it c) (ref := fun cs l => listRun l cs)
    (run := fun cs it => iterGenRun m tr b.data it cs) (fun _ => rfl)
    (fun c _ _ _ h => let ⟨it', h1, h2⟩ := genStep_sim g tr m h c; ⟨_, it', _, h1, h2, rfl⟩)
    (fun _ => rfl) (fun _ _ _ => rfl) calls h

/-- the freshly built iterator (`T::one_iter(parent)`), either transformation -/
theorem iter_is_its_list {b : BitVector} (g : Good b) (tr : Tr) (m : Mode) (calls : List FCall) :
    ∃ it', iterGenRun m tr b.data (OneIterSt.full tr b) calls =
        ok ((listRun (enumerate (positionsT tr b.data)) calls).1, it') ∧
      Sim tr b it' (listRun (enumerate (positionsT tr b.data)) calls).2 :=
  genRun_sim g tr m calls (sim_full g tr)

/-- **`one_iter` is its list**: build the iterator with the translated `one_iter`, run any sequence of `next` /
`nth k` with the translated methods: the outputs are those of the list `enumerate (positionsT .ident b.data)`. -/
theorem one_iter_is_its_list {b : BitVector} (g : Good b) (m : Mode) (calls : List FCall) :
    (do let it ← gen_BitVector_one_iter m b
        let r ← iterGenRun m .ident b.data it calls
        return r.1) = ok (listRun (enumerate (positionsT .ident b.data)) calls).1 := by
  obtain ⟨it', h1, _⟩ := iter_is_its_list g .ident m calls
  rw [bv_one_iter_eq]
  simp only [bind_ok]
  rw [h1]; rfl

/-- **`zero_iter` is its list** -/
theorem zero_iter_is_its_list {b : BitVector} (g : Good b) (m : Mode) (calls : List FCall) :
    (do let it ← gen_BitVector_zero_iter m b
        let r ← iterGenRun m .compl b.data it calls
        return r.1) = ok (listRun (enumerate (positionsT .compl b.data)) calls).1 := by
  obtain ⟨it', h1, _⟩ := iter_is_its_list g .compl m calls
  rw [bv_zero_iter_eq]
  simp only [bind_ok]
  rw [h1]; rfl

/-! ### the consumer: `SelectSupport::new` on whatever simulates the fresh iterator -/

/-- a list that simulates the fresh iterator is the list of the proven equation -/
theorem sim_full_unique {b : BitVector} (tr : Tr) {l : List (Nat × Nat)} (h : Sim tr b (OneIterSt.full tr b) l) :
    l = enumerate (positionsT tr b.data) := by
  have := h.list
  simpa [OneIterSt.full] using this

/-- `SelectSupport::new(parent)` as translated: `parent.len()`, `T::count_ones(parent)`, `T::one_iter(parent)` -/
theorem select_support_new_via_iter {b : BitVector} (g : Good b) (tr : Tr) (m : Mode)
    (hlen : b.data.len * 64 + 127 < U64) {l : List (Nat × Nat)} (h : Sim tr b (OneIterSt.full tr b) l) :
    gen_SelectSupport_new m b.len (b.countT tr) l = ok (SelSup.build b.len (positionsT tr b.data)) := by
  rw [sim_full_unique tr h, countT_eq_len g.ctx tr, ← positionsT_size_eq]
  exact select_support_new_positions m tr b.data hlen

/-! ### the hypotheses are needed -/

/-- wrong cached count (`ones = 0` over the bits `[1]`): the iterator stops at once, the list has an item -/
theorem sim_next_ne_ones :
    let b : BitVector := { ones := 0, data := RawVec.ofBits [true] }
    b.data.WF ∧ b.data.len < 2 ^ 64 ∧
    gen_OneIter_next .checked .ident b.data (OneIterSt.full .ident b) = ok (none, OneIterSt.full .ident b) ∧
    (listNext (enumerate (positionsT .ident b.data))).1 = some (0, 0) := by decide

/-- buffer shorter than `len` (no word for one bit), count as `count_ones` would compute it from `len` zeros under the
complement: the unchecked word read is out of bounds -/
theorem sim_next_ne_wf :
    let b : BitVector := { ones := 0, data := ⟨1, #[]⟩ }
    b.ones = b.data.bits.count true ∧ b.data.len < 2 ^ 64 ∧
    gen_OneIter_next .checked .compl b.data (OneIterSt.full .compl b) = fault .oob ∧
    (listNext (enumerate (positionsT .compl b.data))).1 = some (0, 0) := by decide

end Sds.GenEq
