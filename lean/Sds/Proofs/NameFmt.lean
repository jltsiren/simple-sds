/-
Proofs/NameFmt: the formatted temporary file name (Model/Atomic.lean: `decDigits`, `renderFmt`,
`tempFileNameText`) — decimal notation is injective and underscore-free, the name of shape
`part ++ "_" ++ dec pid ++ "_" ++ dec count` determines `count` (indeed all three arguments) whatever
the name part is, and it contains the name part.  Used by Props/C20.lean to pass from distinct counter
values to distinct path texts.
-/
import Sds.Model.Atomic
import Sds.Generated.TempName

namespace Sds.NameFmt
open Sds

/-! ### decimal digits -/

/-- the character of the digit `k` (meaningful for `k < 10`) -/
def digitChar (k : Nat) : Char := Char.ofNat (48 + k)

theorem digitChar_toNat {k : Nat} (h : k < 10) : (digitChar k).toNat = 48 + k := by
  have hv : (48 + k).isValidChar := Or.inl (by omega)
  unfold digitChar Char.ofNat
  rw [dif_pos hv]
  rfl

/-- reference definition of decimal notation by recursion on the value (no fuel) -/
def digs (n : Nat) : List Char :=
  if n < 10 then [digitChar n] else digs (n / 10) ++ [digitChar (n % 10)]
termination_by n
decreasing_by omega

/-- any fuel larger than the number suffices -/
theorem decDigitsAux_eq (fuel : Nat) :
    ∀ (n : Nat) (acc : List Char), n < fuel → decDigitsAux fuel n acc = digs n ++ acc := by
  induction fuel with
  | zero => intro n acc h; omega
  | succ f ih =>
    intro n acc h
    rw [digs]
    simp only [decDigitsAux]
    by_cases h10 : n < 10
    · have h0 : n / 10 = 0 := by omega
      have hm : n % 10 = n := Nat.mod_eq_of_lt h10
      simp [h10, h0, hm, digitChar]
    · have h0 : ¬ n / 10 = 0 := by omega
      simp only [h0, h10, if_false]
      rw [ih (n / 10) _ (by omega)]
      simp [digitChar]

/-- the fuel `n + 1` used by `decDigits` always suffices: `decDigits` is decimal notation -/
theorem decDigits_eq_digs (n : Nat) : decDigits n = digs n := by
  unfold decDigits
  rw [decDigitsAux_eq (n + 1) n [] (by omega), List.append_nil]

/-- the fuel is never exhausted: more fuel gives the same digits -/
theorem decDigitsAux_fuel_irrelevant (n extra : Nat) :
    decDigitsAux (n + 1 + extra) n [] = decDigits n := by
  rw [decDigitsAux_eq _ n [] (by omega), List.append_nil, decDigits_eq_digs]

/-- a decimal digit character `'0'..'9'` (code points 48..57) -/
def IsDig (c : Char) : Prop := 48 ≤ c.toNat ∧ c.toNat ≤ 57

theorem digitChar_isDig {k : Nat} (h : k < 10) : IsDig (digitChar k) := by
  unfold IsDig; rw [digitChar_toNat h]; omega

theorem digs_isDig (n : Nat) : ∀ c ∈ digs n, IsDig c := by
  fun_induction digs n with
  | case1 n h =>
    intro c hc
    rw [List.mem_singleton] at hc
    subst hc; exact digitChar_isDig h
  | case2 n h ih =>
    intro c hc
    rw [List.mem_append, List.mem_singleton] at hc
    rcases hc with hc | hc
    · exact ih c hc
    · subst hc; exact digitChar_isDig (Nat.mod_lt _ (by omega))

/-- every character of `decDigits n` is one of `'0'..'9'` -/
theorem decDigits_isDig (n : Nat) : ∀ c ∈ decDigits n, IsDig c := by
  rw [decDigits_eq_digs]; exact digs_isDig n

theorem IsDig.isDigit {c : Char} (h : IsDig c) : c.isDigit = true := by
  obtain ⟨h1, h2⟩ := h
  have e : c.toNat = c.val.toNat := rfl
  simp only [Char.isDigit, Bool.and_eq_true, decide_eq_true_eq, UInt32.le_iff_toNat_le]
  rw [e] at h1 h2
  exact ⟨h1, h2⟩

theorem IsDig.le_chars {c : Char} (h : IsDig c) : '0' ≤ c ∧ c ≤ '9' := by
  obtain ⟨h1, h2⟩ := h
  have e : c.toNat = c.val.toNat := rfl
  rw [e] at h1 h2
  constructor
  · show ('0' : Char).val ≤ c.val
    rw [UInt32.le_iff_toNat_le]; exact h1
  · show c.val ≤ ('9' : Char).val
    rw [UInt32.le_iff_toNat_le]; exact h2

theorem IsDig.ne_underscore {c : Char} (h : IsDig c) : c ≠ '_' := by
  intro e
  subst e
  obtain ⟨_, h2⟩ := h
  have : ('_' : Char).toNat = 95 := by decide
  omega

/-- decimal notation never contains an underscore -/
theorem underscore_not_mem_decDigits (n : Nat) : '_' ∉ decDigits n := by
  intro h
  exact (decDigits_isDig n '_' h).ne_underscore rfl

theorem digs_ne_nil (n : Nat) : digs n ≠ [] := by
  rw [digs]
  split
  · simp
  · simp

theorem decDigits_ne_nil (n : Nat) : decDigits n ≠ [] := by
  rw [decDigits_eq_digs]; exact digs_ne_nil n

/-- the value denoted by a list of digit characters -/
def ofDigits (l : List Char) : Nat := l.foldl (fun a c => 10 * a + (c.toNat - 48)) 0

theorem ofDigits_snoc (l : List Char) (c : Char) :
    ofDigits (l ++ [c]) = 10 * ofDigits l + (c.toNat - 48) := by
  simp [ofDigits, List.foldl_append]

theorem ofDigits_digs (n : Nat) : ofDigits (digs n) = n := by
  fun_induction digs n with
  | case1 n h =>
    simp [ofDigits, digitChar_toNat h]
  | case2 n h ih =>
    rw [ofDigits_snoc, ih, digitChar_toNat (Nat.mod_lt _ (by omega))]
    omega

/-- `ofDigits` is a left inverse of `decDigits` … -/
theorem ofDigits_decDigits (n : Nat) : ofDigits (decDigits n) = n := by
  rw [decDigits_eq_digs]; exact ofDigits_digs n

/-- … hence decimal notation is injective (for unbounded `n`) -/
theorem decDigits_injective {a b : Nat} (h : decDigits a = decDigits b) : a = b := by
  have := congrArg ofDigits h
  rwa [ofDigits_decDigits, ofDigits_decDigits] at this

/-! ### splitting at the last separator -/

/-- if the separator `u` does not occur in `s`, `s'`, then `x ++ u :: s` determines both `x` and `s`
(`s` is the text after the LAST `u`) -/
theorem split_last {u : Char} :
    ∀ (x x' s s' : List Char), u ∉ s → u ∉ s' → x ++ u :: s = x' ++ u :: s' → x = x' ∧ s = s' := by
  intro x
  induction x with
  | nil =>
    intro x' s s' hs hs' h
    cases x' with
    | nil =>
      simp only [List.nil_append, List.cons.injEq, true_and] at h
      exact ⟨rfl, h⟩
    | cons a t =>
      exfalso
      simp only [List.nil_append, List.cons_append, List.cons.injEq] at h
      apply hs
      rw [h.2]
      simp
  | cons a t ih =>
    intro x' s s' hs hs' h
    cases x' with
    | nil =>
      exfalso
      simp only [List.nil_append, List.cons_append, List.cons.injEq] at h
      apply hs'
      rw [← h.2]
      simp
    | cons a' t' =>
      simp only [List.cons_append, List.cons.injEq] at h
      obtain ⟨rfl, h⟩ := h
      obtain ⟨e1, e2⟩ := ih t' s s' hs hs' h
      exact ⟨by rw [e1], e2⟩

/-! ### the name built by `format!("{}_{}_{}", name_part, process::id(), count)` -/

/-- the format string and the argument list the theorems below are about; Props/C20.lean checks on every run
that the generated ones are these -/
def fmt3 : List Char := ['{', '}', '_', '{', '}', '_', '{', '}']
def args3 : List NameArg := [.part, .pid, .counter]

theorem renderFmt_fmt3 (a b c : List Char) :
    renderFmt fmt3 [a, b, c] = a ++ '_' :: (b ++ '_' :: c) := by
  simp [fmt3, renderFmt]

theorem name_shape (part : List Char) (pid c : Nat) :
    tempFileNameText fmt3 args3 part pid c = part ++ '_' :: (decDigits pid ++ '_' :: decDigits c) := by
  simp only [tempFileNameText, args3, List.map, nameArgText]
  exact renderFmt_fmt3 _ _ _

/-- the same with the conventional bracketing `((part ++ "_") ++ dec pid) ++ "_" ++ dec c` -/
theorem name_shape' (part : List Char) (pid c : Nat) :
    tempFileNameText fmt3 args3 part pid c = (part ++ '_' :: decDigits pid) ++ '_' :: decDigits c := by
  rw [name_shape]; simp

/-- **Injectivity, general form.**  Whatever texts `d`, `d'` precede the names (a directory and a separator,
or nothing), and whatever the name parts are (they may contain underscores and digits), equal texts have equal
counters: the counter is the text after the last underscore. -/
theorem counter_of_prefixed_name (d d' part part' : List Char) (pid pid' c c' : Nat)
    (h : d ++ tempFileNameText fmt3 args3 part pid c = d' ++ tempFileNameText fmt3 args3 part' pid' c') :
    c = c' := by
  rw [name_shape', name_shape'] at h
  have h' : (d ++ (part ++ '_' :: decDigits pid)) ++ '_' :: decDigits c =
      (d' ++ (part' ++ '_' :: decDigits pid')) ++ '_' :: decDigits c' := by
    simpa [List.append_assoc] using h
  exact decDigits_injective
    (split_last _ _ _ _ (underscore_not_mem_decDigits c) (underscore_not_mem_decDigits c') h').2

/-- **Injectivity.**  The name determines all three arguments. -/
theorem name_injective (part part' : List Char) (pid pid' c c' : Nat)
    (h : tempFileNameText fmt3 args3 part pid c = tempFileNameText fmt3 args3 part' pid' c') :
    part = part' ∧ pid = pid' ∧ c = c' := by
  rw [name_shape', name_shape'] at h
  obtain ⟨h1, h2⟩ :=
    split_last _ _ _ _ (underscore_not_mem_decDigits c) (underscore_not_mem_decDigits c') h
  obtain ⟨h3, h4⟩ :=
    split_last _ _ _ _ (underscore_not_mem_decDigits pid) (underscore_not_mem_decDigits pid') h1
  exact ⟨h3, decDigits_injective h4, decDigits_injective h2⟩

/-- the form Props/C20 quotes: same process id, arbitrary name parts -/
theorem name_injective_counter (part part' : List Char) (pid c c' : Nat)
    (h : tempFileNameText fmt3 args3 part pid c = tempFileNameText fmt3 args3 part' pid c') : c = c' :=
  (name_injective part part' pid pid c c' h).2.2

/-- **Containment.**  The name part is a prefix, hence an infix, of the name … -/
theorem part_prefix_name (part : List Char) (pid c : Nat) :
    part <+: tempFileNameText fmt3 args3 part pid c := by
  rw [name_shape]; exact List.prefix_append _ _

theorem part_infix_name (part : List Char) (pid c : Nat) :
    part <:+: tempFileNameText fmt3 args3 part pid c :=
  (part_prefix_name part pid c).isInfix

/-- … and of any text that ends with the name -/
theorem part_infix_prefixed_name (d part : List Char) (pid c : Nat) :
    part <:+: d ++ tempFileNameText fmt3 args3 part pid c :=
  List.IsInfix.trans (part_infix_name part pid c) (List.suffix_append _ _).isInfix

/-! ### lists of names -/

/-- a list without duplicates stays without duplicates under an index-dependent map that is injective in
the element whatever the indices are -/
theorem nodup_mapIdx {α β : Type} (f : Nat → α → β) (l : List α) (hl : l.Nodup)
    (hf : ∀ i j a b, f i a = f j b → a = b) : (l.mapIdx f).Nodup := by
  rw [List.Nodup, List.pairwise_iff_getElem] at *
  intro i j hi hj hij
  simp only [List.getElem_mapIdx]
  intro e
  simp only [List.length_mapIdx] at hi hj
  exact hl i j hi hj hij (hf _ _ _ _ e)

theorem nodup_zipWith {α β γ : Type} (f : γ → α → β) (ps : List γ) (l : List α) (hl : l.Nodup)
    (hf : ∀ p q a b, f p a = f q b → a = b) : (List.zipWith f ps l).Nodup := by
  rw [List.Nodup, List.pairwise_iff_getElem] at *
  intro i j hi hj hij
  simp only [List.getElem_zipWith]
  intro e
  simp only [List.length_zipWith] at hi hj
  exact hl i j (by omega) (by omega) hij (hf _ _ _ _ e)

/-- values below the modulus are unchanged by reduction -/
theorem map_mod_eq_self (M : Nat) (l : List Nat) (h : ∀ c ∈ l, c < M) : l.map (· % M) = l := by
  induction l with
  | nil => rfl
  | cons a t ih =>
    simp only [List.map_cons, List.cons.injEq]
    exact ⟨Nat.mod_eq_of_lt (h a (by simp)), ih (fun c hc => h c (by simp [hc]))⟩

end Sds.NameFmt
