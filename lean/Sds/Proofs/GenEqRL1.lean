/-
Proofs/GenEqRL1: the first part of Generated/FnsRL.lean (`rl_vector.rs`, translated statement by statement) is equal to
the hand-written model of Model/RL.lean.

Unconditional: `rl_count_zeros_eq` (`= subM m len ones`), `run_offset_eq`, `run_rank_eq`, `run_rank_zero_eq`,
`run_offset_for_eq`, `run_rank_at_eq`, `run_empty_iter_eq`, `rl_iter_eq`, `rl_one_iter_eq`.

Bounds (`RLBounds m v`): `data.len + 63 < 2^64` (`div_round_up(offset, 64)` adds `offset + 64`; sharp only outside the
representable range, `run_advance_if_data_ne`), `samples.len ≤ 2^64`, and in release builds "no 23-unit code"
(`rl_decode_eq`).

* `advance_if`: `run_advance_if_lazy`: the generated code IS `advanceIfLazy` (closure consulted before the new position
  is computed) for an arbitrary pure closure.  Against the model's `peek` (which adds first):
  `run_advance_if_eq_iff`: equal  ⟺  not (overflow checks on ∧ the closure declines a decoded run `(s, l)` ∧
  (`rank + l ≥ 2^64` ∨ `s + l ≥ 2^64`)).  Corollaries: closure accepts every run (`run_advance_if_eq_of_true`, hence
  `run_next_eq : gen_RunIter_next = nextQ`), release builds (`run_advance_if_eq_wrapping`), `peek` succeeds
  (`run_advance_if_eq_of_peek`).  The unconditional statement is false: `run_advance_if_ne`,
  `run_advance_if_not_unconditional` (a run ending at `2^64`: crafted data).
* `iter_for_bit/one/zero`: `len < 2^64` (resp. `ones < 2^64`; `ones ≤ len` for `zero`: `rl_count_zeros_ne`) and
  `RangeOK index x`: `numValues < 2^64` and the range `(lo, hi)` of the sample index has `lo ≤ hi` (`rl_iter_for_bit_ne`)
  and `hi * 64 < 2^64`.  The fuel `high + 1` of the code and the fuel 70 of the model agree (`blockFor_fuel_70`); the
  readers agree on the samples read (`blockFor_congr`).
* `get`, `rank`: `RLBounds` and the hypotheses of `iter_for_bit` (`get_loop`, `rank_loop` through `loopM_bind_eq`).
* `…_good`: on a well-formed vector (`RLQ.GoodB`) everything follows from `data.len + 63 < 2^64` (and, for the
  iterator in release builds, "no 23-unit code").
-/
import Sds.Generated.FnsRL
import Sds.Proofs.GenEqLoop3
import Sds.Proofs.GenEqIdx
import Sds.Proofs.RLQueries

namespace Sds.GenEq
open Sds Outcome Generated


/-- `(start + len) + 1` in two `usize` additions (the code) is `start + (len + 1)` in one (the model), given that
`len + 1` has been computed already -/
theorem addM_assoc1 (m : Mode) (start len len1 : Nat) (h : addM m len 1 = ok len1) :
    (addM m start len >>= fun t => addM m t 1) = addM m start len1 := by
  cases m with
  | checked =>
    have hl : len + 1 < U64 := by
      unfold addM at h; by_cases hl : len + 1 < U64
      · exact hl
      · rw [if_neg hl] at h; cases h
    rw [addM_ok hl] at h
    injection h with h; subst h
    by_cases h1 : start + len < U64
    · rw [addM_ok h1, bind_ok]
      unfold addM
      rw [show start + len + 1 = start + (len + 1) from rfl]
    · rw [addM_checked_of_le (by omega), addM_checked_of_le (by omega)]; rfl
  | wrapping =>
    rw [addM_wrapping] at h
    injection h with h; subst h
    rw [addM_wrapping, bind_ok, addM_wrapping, addM_wrapping]
    congr 1
    rw [U64_val]; omega

/-! ### `count_zeros` and the accessors of `RunIter` -/

theorem rl_count_zeros_eq (m : Mode) (v : RL) : gen_RLVector_count_zeros m v = subM m v.len v.ones := by
  unfold gen_RLVector_count_zeros
  cases subM m v.len v.ones <;> rfl

theorem rl_count_zeros_eq_ok (m : Mode) (v : RL) (h : v.ones ≤ v.len) :
    gen_RLVector_count_zeros m v = ok v.countZeros := by
  rw [rl_count_zeros_eq, subM_ok h]; rfl

theorem run_offset_eq (m : Mode) (v : RL) (it : RunIter) : gen_RunIter_offset m v it = ok it.offsetBits := rfl

theorem run_rank_eq (m : Mode) (v : RL) (it : RunIter) : gen_RunIter_rank m v it = ok it.rank := rfl

theorem run_rank_zero_eq (m : Mode) (v : RL) (it : RunIter) : gen_RunIter_rank_zero m v it = it.rankZero m := by
  unfold gen_RunIter_rank_zero RunIter.rankZero RunIter.offsetBits RunIter.rank
  cases subM m it.pos.2 it.pos.1 <;> rfl

theorem run_offset_for_eq (m : Mode) (v : RL) (it : RunIter) (r : Nat) :
    gen_RunIter_offset_for m v it r = it.offsetFor m r := by
  unfold gen_RunIter_offset_for RunIter.offsetFor RunIter.offsetBits RunIter.rank
  cases subM m it.pos.1 r with
  | fault e => rfl
  | ok d =>
    simp only [bind_ok]

theorem run_rank_at_eq (m : Mode) (v : RL) (it : RunIter) (i : Nat) :
    gen_RunIter_rank_at m v it i = it.rankAt m i := by
  unfold gen_RunIter_rank_at RunIter.rankAt RunIter.offsetBits RunIter.rank
  cases subM m it.pos.2 i with
  | fault e => rfl
  | ok d =>
    simp only [bind_ok]

theorem run_empty_iter_eq (m : Mode) (v : RL) : gen_RunIter_empty_iter m v v = ok (RunIter.emptyIter v) := rfl

/-- more generally, for any parent -/
theorem run_empty_iter_eq' (m : Mode) (v p : RL) : gen_RunIter_empty_iter m v p = ok (RunIter.emptyIter p) := rfl

theorem rl_iter_eq (m : Mode) (v : RL) : gen_RLVector_iter m v = v.iter := by
  unfold gen_RLVector_iter RL.iter
  rw [rl_run_iter_eq]

theorem rl_one_iter_eq (m : Mode) (v : RL) : gen_RLVector_one_iter m v = v.oneIter := by
  unfold gen_RLVector_one_iter RL.oneIter
  rw [rl_run_iter_eq]


/-! ### `advance_if` -/

/-- recurring representation bounds and the side condition of `rl_decode_eq` -/
structure RLBounds (m : Mode) (v : RL) : Prop where
  /-- the data (4-bit units) is addressable with room for rounding an offset up to a block boundary -/
  data : v.data.len + 63 < U64
  samples : v.samples.len ≤ U64
  /-- release builds: no 23-unit code in the data (`rl_decode_eq`; the builder writes at most 22 units) -/
  dec : m = .wrapping → ∀ o, ¬ units23 v o

theorem RLBounds.checked {v : RL} (hd : v.data.len + 63 < U64) (hs : v.samples.len ≤ U64) : RLBounds .checked v :=
  ⟨hd, hs, fun h => by cases h⟩

theorem RLBounds.decode_eq {m : Mode} {v : RL} (hb : RLBounds m v) (o : Nat) :
    gen_RLVector_decode m v o = v.decode m o :=
  rl_decode_eq m v o (by have := hb.data; omega) (fun h => hb.dec h o)

/-- what `advance_if` has computed when it consults the closure -/
inductive PrePeek
  | atEnd
  | noMoreBlocks (newOffset : Nat)
  | run (start len offset limit : Nat)
  deriving DecidableEq, Repr

deriving instance DecidableEq for Peek

/-- the first part of `peek`: move to the next block when the current one is used up -/
def peekHead (v : RL) (it : RunIter) : Outcome (Nat × Nat × Bool) :=
  if it.rank ≥ it.limit then do
    let block := (it.offset + 63) / 64
    if block ≥ v.blocks then return (block * 64, it.limit, true)
    else do let l ← v.onesAfter block; return (block * 64, l, false)
  else return (it.offset, it.limit, false)

/-- `RunIter.peek` without its last two additions (the new position) -/
def prePeek (m : Mode) (v : RL) (it : RunIter) : Outcome PrePeek :=
  if it.offset ≥ v.data.len then ok .atEnd else do
    let (offset, limit, stop) ← peekHead v it
    if stop then return .noMoreBlocks offset else do
    let (gap, offset) ← v.decode m offset
    let start ← addM m it.offsetBits gap
    let (len, offset) ← v.decode m offset
    let len1 ← addM m len 1
    return .run start len1 offset limit

/-- the two additions `peek` performs eagerly -/
def PrePeek.finish (m : Mode) (it : RunIter) : PrePeek → Outcome Peek
  | .atEnd => ok .atEnd
  | .noMoreBlocks o => ok (.noMoreBlocks o)
  | .run s l o lim => do
    let r ← addM m it.pos.1 l
    let e ← addM m s l
    return .run s l ⟨o, (r, e), lim⟩

theorem peek_eq_prePeek (m : Mode) (v : RL) (it : RunIter) :
    it.peek m v = prePeek m v it >>= PrePeek.finish m it := by
  unfold RunIter.peek prePeek
  by_cases h0 : it.offset ≥ v.data.len
  · rw [if_pos h0, if_pos h0]; rfl
  · rw [if_neg h0, if_neg h0]
    show (peekHead v it >>= _) = (peekHead v it >>= _) >>= _
    cases peekHead v it with
    | fault e => rfl
    | ok r =>
      obtain ⟨o, l, stop⟩ := r
      cases stop with
      | true => rfl
      | false =>
        simp only [bind_ok, Bool.false_eq_true, if_false, bind_assoc]
        refine bind_congr fun ⟨gap, o1⟩ => ?_
        refine bind_congr fun start => ?_
        refine bind_congr fun ⟨len, o2⟩ => ?_
        refine bind_congr fun len1 => ?_
        rfl


/-- `advance_if` as coded: the closure is consulted BEFORE the new position is computed -/
def advanceIfLazy (m : Mode) (v : RL) (it : RunIter) (advance : Option (Nat × Nat) → Bool) :
    Outcome (Option (Nat × Nat) × RunIter) := do
  match ← prePeek m v it with
  | .atEnd => return (none, it)
  | .noMoreBlocks o => return (none, if advance none then { it with offset := o } else it)
  | .run s l o lim =>
    if advance (some (s, l)) then do
      let r ← addM m it.pos.1 l
      let e ← addM m s l
      return (some (s, l), ⟨o, (r, e), lim⟩)
    else return (some (s, l), it)

/-- **`advance_if` is the lazy model**, for an arbitrary pure closure.  Both determine the block first (the code's
`ctl1` is the model's `peekHead`: `ret` when there are no more blocks, `brk` otherwise) and then decode one run. -/
theorem run_advance_if_lazy {m : Mode} {v : RL} (hb : RLBounds m v) (it : RunIter)
    (advance : Option (Nat × Nat) → Bool) :
    gen_RunIter_advance_if m v it advance = advanceIfLazy m v it advance := by
  have hU := U64_val
  have hd := hb.data
  unfold gen_RunIter_advance_if advanceIfLazy prePeek
  by_cases h0 : it.offset ≥ v.data.len
  · rw [if_pos (decide_eq_true h0), if_pos h0]; rfl
  rw [if_neg (mt of_decide_eq_true h0), if_neg h0]
  dsimp only
  rw [bind_assoc]
  refine bind_eq_bind (fun b => if b.2.2 then Ctl.ret (none, if advance none then { it with offset := b.1 } else it)
    else Ctl.brk (b.2.1, b.1, it.offset)) ?_ (fun ⟨off, lim, stop⟩ _ => ?_)
  · unfold peekHead
    have hlt : it.offset + 64 < U64 := by omega
    by_cases h1 : it.pos.1 ≥ it.limit
    · have hdr : gen_div_round_up m it.offset 64 = ok ((it.offset + 63) / 64) := by
        rw [GenFns.div_round_up_eq, divRoundUp_ok_rl hlt (by decide)]; rfl
      have hmul : mulM m ((it.offset + 63) / 64) 64 = ok ((it.offset + 63) / 64 * 64) :=
        mulM_ok (Nat.lt_of_le_of_lt (Nat.div_mul_le_self _ _) (Nat.lt_of_succ_lt hlt))
      rw [if_pos (decide_eq_true h1), if_pos (show it.rank ≥ it.limit from h1), hdr, bind_ok, hmul, bind_ok,
        rl_blocks_eq, bind_ok]
      by_cases h2 : (it.offset + 63) / 64 ≥ v.blocks
      · rw [if_pos (decide_eq_true h2), if_pos h2]
        cases advance none <;> rfl
      · rw [if_neg (mt of_decide_eq_true h2), if_neg h2,
          rl_ones_after_eq_of_lt m v _ hb.samples (Nat.lt_of_not_ge h2)]
        cases v.onesAfter ((it.offset + 63) / 64) <;> rfl
    · rw [if_neg (mt of_decide_eq_true h1), if_neg (show ¬ it.rank ≥ it.limit from h1)]; rfl
  · cases stop with
    | true => rfl
    | false =>
      simp only [hb.decode_eq, Bool.false_eq_true, if_false, bind_assoc]
      refine bind_congr fun ⟨gap, o1⟩ => ?_
      refine bind_congr fun start => ?_
      refine bind_congr fun ⟨len, o2⟩ => ?_
      cases hl : addM m len 1 with
      | fault e => rfl
      | ok len1 =>
        dsimp only [bind_ok, pure_eq]
        cases advance (some (start, len1)) with
        | false => rfl
        | true =>
          simp only [if_true]
          cases addM m it.pos.1 len1 with
          | fault e => rfl
          | ok r =>
            rw [← addM_assoc1 m start len len1 hl]
            cases addM m start len with
            | fault e => rfl
            | ok t =>
              dsimp only [bind_ok]
              cases addM m t 1 <;> rfl


/-- what `advance_if` returns, read off the model's `peek`, for the closure `advance` -/
def advApply (it : RunIter) (advance : Option (Nat × Nat) → Bool) : Peek → Option (Nat × Nat) × RunIter
  | .atEnd => (none, it)
  | .noMoreBlocks o => (none, if advance none then { it with offset := o } else it)
  | .run s l adv => (some (s, l), if advance (some (s, l)) then adv else it)

/-- the continuation of `advanceIfLazy` after `prePeek` -/
def lazyK (m : Mode) (it : RunIter) (advance : Option (Nat × Nat) → Bool) : PrePeek →
    Outcome (Option (Nat × Nat) × RunIter)
  | .atEnd => return (none, it)
  | .noMoreBlocks o => return (none, if advance none then { it with offset := o } else it)
  | .run s l o lim =>
    if advance (some (s, l)) then do
      let r ← addM m it.pos.1 l
      let e ← addM m s l
      return (some (s, l), ⟨o, (r, e), lim⟩)
    else return (some (s, l), it)

theorem advanceIfLazy_eq (m : Mode) (v : RL) (it : RunIter) (advance : Option (Nat × Nat) → Bool) :
    advanceIfLazy m v it advance = prePeek m v it >>= lazyK m it advance := by
  unfold advanceIfLazy
  cases prePeek m v it with
  | fault e => rfl
  | ok p => cases p <;> rfl

/-- the code and `peek` agree on `p`: NOT (overflow checks on, the closure declines a run whose end position
`rank + len` / `start + len` is not representable) -/
def AdvAgree (m : Mode) (it : RunIter) (advance : Option (Nat × Nat) → Bool) : PrePeek → Prop
  | .run s l _ _ => advance (some (s, l)) = false → m = .checked → it.pos.1 + l < U64 ∧ s + l < U64
  | _ => True

theorem lazyK_eq_iff (m : Mode) (it : RunIter) (advance : Option (Nat × Nat) → Bool) (p : PrePeek) :
    lazyK m it advance p = (PrePeek.finish m it p >>= fun q => ok (advApply it advance q)) ↔
      AdvAgree m it advance p := by
  cases p with
  | atEnd => exact ⟨fun _ => trivial, fun _ => rfl⟩
  | noMoreBlocks o => exact ⟨fun _ => trivial, fun _ => rfl⟩
  | run s l o lim =>
    show (if advance (some (s, l)) then (addM m it.pos.1 l >>= fun r => addM m s l >>= fun e =>
            ok (some (s, l), (⟨o, (r, e), lim⟩ : RunIter))) else ok (some (s, l), it)) =
          ((addM m it.pos.1 l >>= fun r => addM m s l >>= fun e => ok (Peek.run s l ⟨o, (r, e), lim⟩)) >>=
            fun q => ok (advApply it advance q)) ↔
        (advance (some (s, l)) = false → m = .checked → it.pos.1 + l < U64 ∧ s + l < U64)
    cases ha : advance (some (s, l)) with
    | true =>
      simp only [if_true]
      refine ⟨fun _ h => (by cases h), fun _ => ?_⟩
      cases addM m it.pos.1 l with
      | fault e => rfl
      | ok r =>
        simp only [bind_ok]
        cases addM m s l with
        | fault e => rfl
        | ok e => simp only [bind_ok, advApply, ha, if_true]
    | false =>
      simp only [Bool.false_eq_true, if_false]
      cases m with
      | wrapping =>
        simp only [addM_wrapping, bind_ok, advApply, ha, Bool.false_eq_true, if_false]
        exact ⟨fun _ _ h => (by cases h), fun _ => trivial⟩
      | checked =>
        by_cases h1 : it.pos.1 + l < U64
        · by_cases h2 : s + l < U64
          · simp only [addM_ok h1, addM_ok h2, bind_ok, advApply, ha, Bool.false_eq_true, if_false]
            exact ⟨fun _ _ _ => ⟨h1, h2⟩, fun _ => trivial⟩
          · simp only [addM_ok h1, bind_ok, addM_checked_of_le (Nat.le_of_not_lt h2), bind_fault]
            exact ⟨fun h => (by cases h), fun h => absurd (h trivial trivial).2 h2⟩
        · simp only [addM_checked_of_le (Nat.le_of_not_lt h1), bind_fault]
          exact ⟨fun h => (by cases h), fun h => absurd (h trivial trivial).1 h1⟩

/-- **`advance_if` against the model's `peek`: the EXACT condition.**  The model performs the two additions of the
new position before the closure is consulted, the code only when the closure says yes.  They agree iff it is not the
case that (overflow checks on) the closure declines a run whose end position overflows. -/
theorem run_advance_if_eq_iff {m : Mode} {v : RL} (hb : RLBounds m v) (it : RunIter)
    (advance : Option (Nat × Nat) → Bool) :
    gen_RunIter_advance_if m v it advance = (it.peek m v >>= fun q => ok (advApply it advance q)) ↔
      ∀ p, prePeek m v it = ok p → AdvAgree m it advance p := by
  rw [run_advance_if_lazy hb, advanceIfLazy_eq, peek_eq_prePeek]
  cases prePeek m v it with
  | fault e => exact ⟨fun _ p h => (by cases h), fun _ => rfl⟩
  | ok p =>
    simp only [bind_ok]
    rw [lazyK_eq_iff]
    exact ⟨fun h q hq => by injection hq with hq; subst hq; exact h, fun h => h p rfl⟩

theorem run_advance_if_eq {m : Mode} {v : RL} (hb : RLBounds m v) (it : RunIter)
    (advance : Option (Nat × Nat) → Bool)
    (h : ∀ s l o lim, prePeek m v it = ok (.run s l o lim) → advance (some (s, l)) = false → m = .checked →
      it.pos.1 + l < U64 ∧ s + l < U64) :
    gen_RunIter_advance_if m v it advance = (it.peek m v >>= fun q => ok (advApply it advance q)) := by
  rw [run_advance_if_eq_iff hb]
  intro p hp
  cases p with
  | run s l o lim => exact h s l o lim hp
  | _ => trivial

/-- a closure that accepts every run (`next`) -/
theorem run_advance_if_eq_of_true {m : Mode} {v : RL} (hb : RLBounds m v) (it : RunIter)
    (advance : Option (Nat × Nat) → Bool) (h : ∀ r, advance (some r) = true) :
    gen_RunIter_advance_if m v it advance = (it.peek m v >>= fun q => ok (advApply it advance q)) :=
  run_advance_if_eq hb it advance (fun s l _ _ _ hf => by rw [h] at hf; cases hf)

/-- release builds: unconditional in the closure -/
theorem run_advance_if_eq_wrapping {v : RL} (hb : RLBounds .wrapping v) (it : RunIter)
    (advance : Option (Nat × Nat) → Bool) :
    gen_RunIter_advance_if .wrapping v it advance =
      (it.peek .wrapping v >>= fun q => ok (advApply it advance q)) :=
  run_advance_if_eq hb it advance (fun _ _ _ _ _ _ hm => by cases hm)

/-- wherever the model's `peek` succeeds the code agrees with it, whatever the closure -/
theorem run_advance_if_eq_of_peek {m : Mode} {v : RL} (hb : RLBounds m v) (it : RunIter)
    (advance : Option (Nat × Nat) → Bool) (q : Peek) (h : it.peek m v = ok q) :
    gen_RunIter_advance_if m v it advance = ok (advApply it advance q) := by
  have := run_advance_if_eq hb it advance (fun s l o lim hp _ hm => by
    subst hm
    rw [peek_eq_prePeek, hp, bind_ok] at h
    replace h : (addM .checked it.pos.1 l >>= fun r => addM .checked s l >>= fun e =>
      ok (Peek.run s l ⟨o, (r, e), lim⟩)) = ok q := h
    by_cases h1 : it.pos.1 + l < U64
    · by_cases h2 : s + l < U64
      · exact ⟨h1, h2⟩
      · rw [addM_ok h1, bind_ok, addM_checked_of_le (Nat.le_of_not_lt h2)] at h; cases h
    · rw [addM_checked_of_le (Nat.le_of_not_lt h1)] at h; cases h)
  rw [this, h]; rfl

/-! ### `next` -/

theorem run_next_eq {m : Mode} {v : RL} (hb : RLBounds m v) (it : RunIter) :
    gen_RunIter_next m v it = it.nextQ m v := by
  unfold gen_RunIter_next RunIter.nextQ
  show (gen_RunIter_advance_if m v it (fun _ => true) >>= _) = _
  rw [run_advance_if_eq_of_true hb it _ (fun _ => rfl)]
  cases it.peek m v with
  | fault e => rfl
  | ok q => cases q <;> rfl


/-! ### `block_for`: the fuel and the sample reader -/

theorem blockFor_succ (f : Nat → Outcome Nat) (value n lo hi : Nat) :
    RL.blockFor f value (n + 1) lo hi =
      if hi - lo > 1 then
        (f (lo + (hi - lo) / 2)).bind (fun c =>
          if c ≤ value then RL.blockFor f value n (lo + (hi - lo) / 2) hi
          else RL.blockFor f value n lo (lo + (hi - lo) / 2))
      else ok lo := by
  rw [RL.blockFor]; rfl

/-- any fuel above `n` gives the same answer on a range of at most `2^n` blocks -/
theorem blockFor_fuel (f : Nat → Outcome Nat) (value : Nat) :
    ∀ n fuel lo hi, hi - lo ≤ 2 ^ n → n < fuel →
      RL.blockFor f value fuel lo hi = RL.blockFor f value (n + 1) lo hi := by
  intro n
  induction n with
  | zero =>
    intro fuel lo hi hsz hf
    obtain ⟨k, rfl⟩ : ∃ k, fuel = k + 1 := ⟨fuel - 1, (Nat.succ_pred_eq_of_pos hf).symm⟩
    have : ¬ hi - lo > 1 := Nat.not_lt.2 hsz
    rw [blockFor_succ, blockFor_succ, if_neg this, if_neg this]
  | succ n ih =>
    intro fuel lo hi hsz hf
    obtain ⟨k, rfl⟩ : ∃ k, fuel = k + 1 := ⟨fuel - 1, (Nat.succ_pred_eq_of_pos (Nat.lt_of_le_of_lt (Nat.zero_le _) hf)).symm⟩
    have hk : n < k := Nat.lt_of_succ_lt_succ hf
    obtain ⟨h1, h2⟩ := mid_halves lo hi (2 ^ n) (by rw [Nat.pow_succ, Nat.mul_comm] at hsz; exact hsz)
    rw [blockFor_succ, blockFor_succ f value (n + 1)]
    by_cases hgt : hi - lo > 1
    · rw [if_pos hgt, if_pos hgt]
      cases f (lo + (hi - lo) / 2) with
      | fault e => rfl
      | ok c =>
        simp only [Outcome.bind]
        by_cases hc : c ≤ value
        · rw [if_pos hc, if_pos hc]; exact ih k _ _ h1 hk
        · rw [if_neg hc, if_neg hc]; exact ih k _ _ h2 hk
    · rw [if_neg hgt, if_neg hgt]

/-- the fuel `high + 1` of the code and the fuel 70 of the model give the same answer below `2^64` -/
theorem blockFor_fuel_70 (f : Nat → Outcome Nat) (value lo hi : Nat) (hh : hi < U64) :
    RL.blockFor f value (hi + 1) lo hi = RL.blockFor f value 70 lo hi := by
  have hU := U64_eq
  by_cases h : hi ≤ 69
  · have h1 : hi - lo ≤ 2 ^ hi := by have := @Nat.lt_two_pow_self hi; omega
    exact (blockFor_fuel f value hi 70 lo hi h1 (by omega)).symm
  · have h1 : hi - lo ≤ 2 ^ 69 := by omega
    exact blockFor_fuel f value 69 (hi + 1) lo hi h1 (by omega)

/-- only the samples strictly inside the range are read -/
theorem blockFor_congr (f g : Nat → Outcome Nat) (value : Nat) :
    ∀ fuel lo hi, (∀ i, lo < i → i < hi → f i = g i) →
      RL.blockFor f value fuel lo hi = RL.blockFor g value fuel lo hi := by
  intro fuel
  induction fuel with
  | zero => intro lo hi _; rfl
  | succ n ih =>
    intro lo hi hfg
    rw [blockFor_succ, blockFor_succ]
    by_cases hgt : hi - lo > 1
    · obtain ⟨h1, h2⟩ := mid_bounds lo hi hgt
      rw [if_pos hgt, if_pos hgt, hfg _ h1 h2]
      cases g (lo + (hi - lo) / 2) with
      | fault e => rfl
      | ok c =>
        simp only [Outcome.bind]
        by_cases hc : c ≤ value
        · rw [if_pos hc, if_pos hc]; exact ih _ _ (fun i hi1 hi2 => hfg i (Nat.lt_trans h1 hi1) hi2)
        · rw [if_neg hc, if_neg hc]; exact ih _ _ (fun i hi1 hi2 => hfg i hi1 (Nat.lt_trans hi2 h2))
    · rw [if_neg hgt, if_neg hgt]

/-- the block found lies in the range -/
theorem blockFor_range (f : Nat → Outcome Nat) (value : Nat) :
    ∀ fuel lo hi b, lo ≤ hi → RL.blockFor f value fuel lo hi = ok b → lo ≤ b ∧ b ≤ hi := by
  intro fuel
  induction fuel with
  | zero => intro lo hi b _ h; cases h
  | succ n ih =>
    intro lo hi b hl h
    rw [blockFor_succ] at h
    by_cases hgt : hi - lo > 1
    · obtain ⟨h1, h2⟩ := mid_bounds lo hi hgt
      rw [if_pos hgt] at h
      cases hf : f (lo + (hi - lo) / 2) with
      | fault e => rw [hf] at h; cases h
      | ok c =>
        rw [hf] at h
        simp only [Outcome.bind] at h
        by_cases hc : c ≤ value
        · rw [if_pos hc] at h
          have := ih _ _ _ (Nat.le_of_lt h2) h
          exact ⟨Nat.le_trans (Nat.le_of_lt h1) this.1, this.2⟩
        · rw [if_neg hc] at h
          have := ih _ _ _ (Nat.le_of_lt h1) h
          exact ⟨this.1, Nat.le_trans this.2 (Nat.le_of_lt h2)⟩
    · rw [if_neg hgt] at h; injection h with h; subst h; exact ⟨Nat.le_refl _, hl⟩


/-! ### `iter_for_bit`, `iter_for_one`, `iter_for_zero` -/

/-- the range a sample index returns is a range of blocks: ordered (the code subtracts `high - low` in `usize`), and
small enough for `2 * block + 1` and `block * 64` to be representable.  (A valid index returns `lo < hi ≤ blocks`.) -/
structure RangeOK (s : SampleIndex) (x : Nat) : Prop where
  /-- `limit + 1` in `SampleIndex::range` cannot overflow -/
  numValues : s.numValues < U64
  range : ∀ lo hi, s.range x = ok (lo, hi) → lo ≤ hi ∧ hi * 64 < U64

theorem iter_for_common (m : Mode) (v : RL) (s : SampleIndex) (x : Nat) (fg fm : Nat → Outcome Nat)
    (hx : x + 1 < U64) (hr : RangeOK s x)
    (hf : ∀ i, 2 * i + 1 < U64 → fg i = fm i) :
    (gen_SampleIndex_range m s x >>= fun range =>
      gen_RLVector_block_for m range.1 range.2 x fg >>= fun block => gen_RLVector_iter_for_block m v block) =
    (s.range x >>= fun r => RL.blockFor fm x 70 r.1 r.2 >>= fun block => v.iterForBlock block) := by
  have hU := U64_eq
  rw [sample_range_eq m s x (Nat.lt_of_le_of_lt (Nat.succ_le_succ (Nat.div_le_self _ _)) hx) hr.numValues]
  cases hrg : s.range x with
  | fault e => rfl
  | ok r =>
    obtain ⟨lo, hi⟩ := r
    obtain ⟨hl, hh⟩ := hr.range lo hi hrg
    simp only [bind_ok]
    rw [rl_block_for_eq m lo hi x fg hl (by omega), blockFor_fuel_70 fg x lo hi (by omega),
      blockFor_congr fg fm x 70 lo hi (fun i _ h2 => hf i (by omega))]
    cases hbf : RL.blockFor fm x 70 lo hi with
    | fault e => rfl
    | ok b =>
      have := blockFor_range fm x 70 lo hi b hl hbf
      simp only [bind_ok]
      exact rl_iter_for_block_eq m v b (by omega)

theorem rl_iter_for_bit_eq (m : Mode) (v : RL) (index : Nat) (hlen : v.len < U64)
    (hr : index < v.len → RangeOK v.rankIndex index) :
    gen_RLVector_iter_for_bit m v index = v.iterForBit index := by
  unfold gen_RLVector_iter_for_bit RL.iterForBit
  by_cases h : index ≥ v.len
  · simp only [h, decide_true, if_true]; rfl
  · simp only [h, decide_false, Bool.false_eq_true, if_false]
    exact iter_for_common m v v.rankIndex index _ _ (by omega) (hr (by omega)) (fun i hi => by
      simp only [mulM_ok (Nat.lt_of_succ_lt hi), addM_ok hi, bind_ok])

theorem rl_iter_for_one_eq (m : Mode) (v : RL) (rank : Nat) (hones : v.ones < U64)
    (hr : rank < v.ones → RangeOK v.selectIndex rank) :
    gen_RLVector_iter_for_one m v rank = v.iterForOne rank := by
  unfold gen_RLVector_iter_for_one RL.iterForOne
  by_cases h : rank ≥ v.ones
  · simp only [h, decide_true, if_true]; rfl
  · simp only [h, decide_false, Bool.false_eq_true, if_false]
    exact iter_for_common m v v.selectIndex rank _ _ (by omega) (hr (by omega)) (fun i hi => by
      simp only [mulM_ok (Nat.lt_of_succ_lt hi), bind_ok])

/-- `RLVector::iter_for_zero` (the code computes `count_zeros` with a `usize` subtraction: `ones ≤ len`) -/
theorem rl_iter_for_zero_eq (m : Mode) (v : RL) (rank : Nat) (hlen : v.len < U64) (hol : v.ones ≤ v.len)
    (hr : rank < v.countZeros → RangeOK v.selectZeroIndex rank) :
    gen_RLVector_iter_for_zero m v rank = v.iterForZero m rank := by
  unfold gen_RLVector_iter_for_zero RL.iterForZero
  rw [rl_count_zeros_eq_ok m v hol]
  simp only [bind_ok]
  by_cases h : rank ≥ v.countZeros
  · simp only [h, decide_true, if_true]; rfl
  · simp only [h, decide_false, Bool.false_eq_true, if_false]
    have hcz : v.countZeros ≤ v.len := Nat.sub_le _ _
    exact iter_for_common m v v.selectZeroIndex rank _ _ (by omega) (hr (by omega)) (fun i hi => by
      simp only [mulM_ok (Nat.lt_of_succ_lt hi), addM_ok hi, bind_ok]
      cases v.samples.get (2 * i + 1) with
      | fault e => rfl
      | ok a =>
        simp only [bind_ok]
        cases v.samples.get (2 * i) with
        | fault e => rfl
        | ok b =>
          simp only [bind_ok, subW]
          cases hs : subM m a.toNat b.toNat with
          | fault e => rfl
          | ok s =>
            have hlt := subM_lt (by have := a.isLt; rw [U64_eq]; exact this) hs
            simp only [bind_ok, pure_eq, BitVec.toNat_ofNat]
            rw [Nat.mod_eq_of_lt (by rw [← U64_eq]; exact hlt)])


/-! ### `get` -/

/-- `RLVector::get`: its loop is `RL.getLoop` (one unfolding of which is one run of the translated body) -/
theorem rl_get_eq {m : Mode} {v : RL} (hb : RLBounds m v) (index : Nat) (hlen : v.len < U64)
    (hr : index < v.len → RangeOK v.rankIndex index) :
    gen_RLVector_get m v index = v.get m index := by
  unfold gen_RLVector_get RL.get
  rw [rl_iter_for_bit_eq m v index hlen hr]
  refine bind_congr fun it => ?_
  refine loopM_bind_eq _ _ (RL.getLoop m v index) (fun _ => True) (fun _ => rfl) (fun n it _ => ?_)
    (fun _ _ _ _ => trivial) _ it trivial
  rw [RL.getLoop, run_next_eq hb, bind_assoc]
  refine bind_congr fun ⟨o, it'⟩ => ?_
  cases o with
  | none => rfl
  | some r =>
    obtain ⟨start, len⟩ := r
    dsimp only
    by_cases h1 : start > index
    · rw [if_pos (decide_eq_true h1), if_pos h1]; rfl
    · rw [if_neg (mt of_decide_eq_true h1), if_neg h1]
      by_cases h2 : index < it'.pos.2
      · rw [if_pos (decide_eq_true h2), if_pos (show index < it'.offsetBits from h2)]; rfl
      · rw [if_neg (mt of_decide_eq_true h2), if_neg (show ¬ index < it'.offsetBits from h2)]; rfl

/-! ### `rank` -/

/-- `RLVector::rank`: its loop is `RL.rankLoop` -/
theorem rl_rank_eq {m : Mode} {v : RL} (hb : RLBounds m v) (index : Nat) (hlen : v.len < U64)
    (hr : index < v.len → RangeOK v.rankIndex index) :
    gen_RLVector_rank m v index = v.rank m index := by
  unfold gen_RLVector_rank RL.rank
  rw [rl_iter_for_bit_eq m v index hlen hr]
  refine bind_congr fun it => ?_
  refine loopM_bind_eq _ _ (RL.rankLoop m v index) (fun _ => True) (fun _ => rfl) (fun n it _ => ?_)
    (fun _ _ _ _ => trivial) _ it trivial
  rw [RL.rankLoop, run_next_eq hb, bind_assoc]
  refine bind_congr fun ⟨o, it'⟩ => ?_
  cases o with
  | none => rfl
  | some r =>
    obtain ⟨start, len⟩ := r
    dsimp only
    by_cases h1 : start ≥ index
    · rw [if_pos (decide_eq_true h1), if_pos h1]
      show subM m it'.pos.1 len = _
      cases subM m it'.pos.1 len <;> rfl
    · rw [if_neg (mt of_decide_eq_true h1), if_neg h1]
      by_cases h2 : it'.pos.2 ≥ index
      · rw [if_pos (decide_eq_true h2), if_pos (show it'.offsetBits ≥ index from h2), run_rank_at_eq]
        cases it'.rankAt m index <;> rfl
      · rw [if_neg (mt of_decide_eq_true h2), if_neg (show ¬ it'.offsetBits ≥ index from h2)]; rfl


/-! ### corollaries for well-formed vectors (`RLQ.GoodB`: what `From<RLBuilder>` produces) -/

section Good
open RLQ

theorem good_blocks_mul {v : RL} {bl : Blocks} (g : GoodB v bl) (hd : v.data.len + 63 < U64) :
    bl.length * 64 < U64 := by
  by_cases hne : bl.length = 0
  · rw [hne]; decide
  · have hb : bl.length - 1 < bl.length := by omega
    have hL := g.layout (bl.length - 1) (Nat.le_of_lt hb)
    have hdrop : bl.drop (bl.length - 1) = bl[bl.length - 1] :: bl.drop (bl.length - 1 + 1) :=
      List.drop_eq_getElem_cons hb
    rw [hdrop] at hL
    have hgt := RunIter.Layout.data_len_gt hL
    have hm := g.blk_ok _ (List.getElem_mem hb)
    have hup := RunIter.unitsOf_length_pos hm.1 hm.2.1
    omega

theorem rangeOK_of_valid {s : SampleIndex} {col : List Nat} {univ x n : Nat} (hv : s.Valid col univ)
    (hlen : col.length = n) (hx : x < univ) (hmul : n * 64 < U64) : RangeOK s x := by
  refine ⟨by rw [hv.numValues]; exact hv.numValues_lt, fun lo hi h => ?_⟩
  obtain ⟨lo', hi', h1, h2, h3, _⟩ := SampleIndex.range_spec hv x hx
  rw [h1] at h
  injection h with h; injection h with ha hb
  subst ha hb
  omega

theorem rangeOK_of_trivial {s : SampleIndex} (h : TrivialIdx s) (x : Nat) (hx : x < U64 - 1) : RangeOK s x := by
  refine ⟨by rw [h.1]; decide, fun lo hi hr => ?_⟩
  rw [h.range x hx] at hr
  injection hr with hr; injection hr with ha hb
  subst ha hb
  exact ⟨Nat.le_refl _, by decide⟩

theorem good_ones_le {v : RL} {bl : Blocks} (g : GoodB v bl) : v.ones ≤ v.len := by
  have := g.span_le
  have := RunIter.lens_le_span bl.flatten
  rw [g.ones]; omega

theorem good_rank_range {v : RL} {bl : Blocks} (g : GoodB v bl) (hd : v.data.len + 63 < U64) (index : Nat)
    (hi : index < v.len) : RangeOK v.rankIndex index := by
  have := g.len_lt
  by_cases hne : bl = []
  · subst hne; exact rangeOK_of_trivial (g.triv rfl).1 index (by omega)
  · exact rangeOK_of_valid (g.rank_idx hne) (bitsCol_length bl) hi (good_blocks_mul g hd)

theorem good_select_range {v : RL} {bl : Blocks} (g : GoodB v bl) (hd : v.data.len + 63 < U64) (rank : Nat)
    (hi : rank < v.ones) : RangeOK v.selectIndex rank := by
  by_cases hne : bl = []
  · subst hne
    have := g.ones
    simp only [List.flatten_nil, RunIter.lens] at this
    omega
  · exact rangeOK_of_valid (g.sel_idx hne) (onesCol_length bl) hi (good_blocks_mul g hd)

theorem good_zero_range {v : RL} {bl : Blocks} (g : GoodB v bl) (hd : v.data.len + 63 < U64) (rank : Nat)
    (hi : rank < v.countZeros) : RangeOK v.selectZeroIndex rank := by
  have := g.len_lt
  have hi' : rank < v.len - v.ones := hi
  by_cases hne : bl = []
  · subst hne; exact rangeOK_of_trivial (g.triv rfl).2 rank (by omega)
  · exact rangeOK_of_valid (g.zero_idx hne (by omega)) (zerosCol_length bl) hi' (good_blocks_mul g hd)

/-- on a well-formed vector the bounds reduce to: the data is addressable and (release builds) holds no 23-unit code -/
theorem good_bounds {m : Mode} {v : RL} {bl : Blocks} (g : GoodB v bl) (hd : v.data.len + 63 < U64)
    (hdec : m = .wrapping → ∀ o, ¬ units23 v o) : RLBounds m v := by
  have := good_blocks_mul g hd
  exact ⟨hd, by rw [g.samples_len]; omega, hdec⟩

theorem rl_iter_for_bit_eq_good (m : Mode) {v : RL} {bl : Blocks} (g : GoodB v bl) (hd : v.data.len + 63 < U64)
    (index : Nat) : gen_RLVector_iter_for_bit m v index = v.iterForBit index :=
  rl_iter_for_bit_eq m v index g.len_lt (good_rank_range g hd index)

theorem rl_iter_for_one_eq_good (m : Mode) {v : RL} {bl : Blocks} (g : GoodB v bl) (hd : v.data.len + 63 < U64)
    (rank : Nat) : gen_RLVector_iter_for_one m v rank = v.iterForOne rank :=
  rl_iter_for_one_eq m v rank (by have := g.len_lt; have := good_ones_le g; omega) (good_select_range g hd rank)

theorem rl_iter_for_zero_eq_good (m : Mode) {v : RL} {bl : Blocks} (g : GoodB v bl) (hd : v.data.len + 63 < U64)
    (rank : Nat) : gen_RLVector_iter_for_zero m v rank = v.iterForZero m rank :=
  rl_iter_for_zero_eq m v rank g.len_lt (good_ones_le g) (good_zero_range g hd rank)

theorem rl_count_zeros_eq_good (m : Mode) {v : RL} {bl : Blocks} (g : GoodB v bl) :
    gen_RLVector_count_zeros m v = ok v.countZeros :=
  rl_count_zeros_eq_ok m v (good_ones_le g)

theorem rl_get_eq_good {m : Mode} {v : RL} {bl : Blocks} (g : GoodB v bl) (hd : v.data.len + 63 < U64)
    (hdec : m = .wrapping → ∀ o, ¬ units23 v o) (index : Nat) : gen_RLVector_get m v index = v.get m index :=
  rl_get_eq (good_bounds g hd hdec) index g.len_lt (good_rank_range g hd index)

theorem rl_rank_eq_good {m : Mode} {v : RL} {bl : Blocks} (g : GoodB v bl) (hd : v.data.len + 63 < U64)
    (hdec : m = .wrapping → ∀ o, ¬ units23 v o) (index : Nat) : gen_RLVector_rank m v index = v.rank m index :=
  rl_rank_eq (good_bounds g hd hdec) index g.len_lt (good_rank_range g hd index)

theorem run_next_eq_good {m : Mode} {v : RL} {bl : Blocks} (g : GoodB v bl) (hd : v.data.len + 63 < U64)
    (hdec : m = .wrapping → ∀ o, ¬ units23 v o) (it : RunIter) : gen_RunIter_next m v it = it.nextQ m v :=
  run_next_eq (good_bounds g hd hdec) it

end Good


/-! ### the hypotheses are needed: concrete witnesses -/

/-- a vector whose only run starts at 1 and has length `2^64 - 1` (code units `1`, then the 22 units of `2^64 - 2`):
its end position `2^64` is not representable.  `load` does not validate `data`, so this is a crafted file. -/
def rlBig : RL :=
  { (default : RL) with len := 100, ones := 5, data := IntVec.ofList 4 (1 :: RLBuilder.encodeUnits 23 (U64 - 2)) }

/-- DIVERGENCE between `advance_if` and the model's `peek` (overflow checks on, a closure that declines): on `rlBig`,
from the initial iterator, the code decodes the run `(1, 2^64 - 1)`, asks the closure, and returns without touching the
position; the model's `peek` has already added `1 + (2^64 - 1)` and panicked.  `AdvAgree` fails exactly here.  The
model's `predLoop` (the loop of `predecessor`, whose closure declines a run starting after the value) inherits the
panic; the real loop stops normally.  Without overflow checks both sides agree. -/
theorem run_advance_if_ne :
    rlBig.data.len = 23 ∧
    rlBig.runIter = ok ⟨0, (0, 0), 5⟩ ∧
    prePeek .checked rlBig ⟨0, (0, 0), 5⟩ = ok (.run 1 (U64 - 1) 23 5) ∧
    gen_RunIter_advance_if .checked rlBig ⟨0, (0, 0), 5⟩ (fun _ => false) =
      ok (some (1, U64 - 1), ⟨0, (0, 0), 5⟩) ∧
    RunIter.peek .checked rlBig ⟨0, (0, 0), 5⟩ = fault (.panic .overflow) ∧
    RL.predLoop .checked rlBig 0 25 ⟨0, (0, 0), 5⟩ = fault (.panic .overflow) ∧
    gen_RunIter_advance_if .wrapping rlBig ⟨0, (0, 0), 5⟩ (fun _ => false) =
      ok (some (1, U64 - 1), ⟨0, (0, 0), 5⟩) ∧
    RunIter.peek .wrapping rlBig ⟨0, (0, 0), 5⟩ = ok (.run 1 (U64 - 1) ⟨23, (U64 - 1, 0), 5⟩) := by
  decide +kernel

/-- hence the unconditional statement (arbitrary closure) is FALSE with overflow checks on, under all the bounds -/
theorem run_advance_if_not_unconditional :
    ¬ ∀ (v : RL) (it : RunIter) (advance : Option (Nat × Nat) → Bool), RLBounds .checked v →
      gen_RunIter_advance_if .checked v it advance = (it.peek .checked v >>= fun q => ok (advApply it advance q)) := by
  intro h
  have hb : RLBounds .checked rlBig := RLBounds.checked (by decide +kernel) (by decide +kernel)
  have := h rlBig ⟨0, (0, 0), 5⟩ (fun _ => false) hb
  rw [run_advance_if_ne.2.2.2.1, run_advance_if_ne.2.2.2.2.1] at this
  cases this

/-- `RLBounds.data` is sharp, but only outside the representable range (a header claiming `2^64 - 1` code units):
`div_round_up(offset, 64)` adds `offset + 64` in `usize`; the model rounds in `Nat`. -/
theorem run_advance_if_data_ne :
    let v : RL := { (default : RL) with data := ⟨U64 - 1, 4, ⟨0, #[]⟩⟩ }
    let it : RunIter := ⟨U64 - 2, (0, 0), 0⟩
    gen_RunIter_advance_if .checked v it (fun _ => true) = fault (.panic .overflow) ∧
    gen_RunIter_advance_if .wrapping v it (fun _ => true) = ok (none, ⟨0, (0, 0), 0⟩) ∧
    it.peek .checked v = ok (.noMoreBlocks U64) := by
  decide +kernel

/-- `ones ≤ len` is needed for `count_zeros` (a `usize` subtraction in the code, a truncated one in `RL.countZeros`)
and therefore for `iter_for_zero`: DIVERGENCE on a vector with `ones > len` (never built; `load` computes the same
subtraction, so it rejects such a file with overflow checks on and accepts it without): the code does not see
`rank ≥ count_zeros`, goes on to the sample index (here the default one: division by zero), the model returns the
empty iterator. -/
theorem rl_count_zeros_ne :
    let v : RL := { (default : RL) with len := 3, ones := 5 }
    gen_RLVector_count_zeros .checked v = fault (.panic .overflow) ∧
    gen_RLVector_count_zeros .wrapping v = ok (U64 - 2) ∧
    v.countZeros = 0 ∧
    gen_RLVector_iter_for_zero .checked v 0 = fault (.panic .overflow) ∧
    gen_RLVector_iter_for_zero .wrapping v 0 = fault (.panic .other) ∧
    v.iterForZero .wrapping 0 = ok (RunIter.emptyIter v) := by
  decide +kernel

/-- `RangeOK.range` (`lo ≤ hi`) is needed: `block_for` subtracts `high - low` in `usize`.  Not reachable: the sample
indexes are never read from a file, `SampleIndex::new` rebuilds them (`rangeOK_of_valid`). -/
theorem rl_iter_for_bit_ne :
    let v : RL := { (default : RL) with len := 10, rankIndex := ⟨10, 1, IntVec.ofList 8 [5, 0]⟩ }
    v.rankIndex.range 0 = ok (5, 1) ∧
    gen_RLVector_iter_for_bit .checked v 0 = fault (.panic .overflow) ∧
    gen_RLVector_iter_for_bit .wrapping v 0 = fault (.panic .assert) ∧
    v.iterForBit 0 = ok ⟨320, (0, 0), 0⟩ := by
  decide +kernel

end Sds.GenEq
