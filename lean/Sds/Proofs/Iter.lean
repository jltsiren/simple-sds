/-
Proofs/Iter: the iterators yield the reference sequence under any interleaving of
next / next_back / nth / nth_back / len, as instances of Proofs/IterSim.lean.

* the two-cursor machine (`AccessIter`, `bit_vector::Iter`) over a fallible `get` (`cursorStepM`); the pure `cursorStep`
  of Model/Iter.lean is its instance at a `get` that never faults;
* `OneIter<T>` of the plain bitvector: `Rel tr v it r R` (the state stands for the ranks `[r, R)`), one lemma per
  method (`next` is `nth(0)`), and the relation as a window of the `(rank, position)` pairs (`OneWin`);
* `predecessor` / `successor` / `select_iter` as iterators at a rank.
-/
import Sds.Proofs.IterSim
import Sds.Proofs.Select
import Sds.Proofs.BitsMore
import Sds.Proofs.Sparse
set_option linter.unusedSimpArgs false
set_option linter.unusedVariables false

namespace Sds.IterProofs
open Sds Outcome

/-! ### two-cursor iterators against the reference deque -/

/-- the simulation relation between the cursor pair and the deque -/
def R {α} (xs : List α) (c : Cursor) (d : List α) : Prop :=
  c.next ≤ c.limit ∧ c.limit ≤ xs.length ∧ d = seg xs c.next c.limit

theorem R_def {α} (xs : List α) (c : Cursor) (d : List α) :
    R xs c d ↔ (c.next ≤ c.limit ∧ c.limit ≤ xs.length ∧ d = (xs.take c.limit).drop c.next) := Iff.rfl

theorem R_init {α} (xs : List α) : R xs ⟨0, xs.length⟩ xs := by
  refine ⟨Nat.zero_le _, Nat.le_refl _, ?_⟩
  simp [seg]

/-! `nth k` / `nth_back k` are, on both machines and by definition, `next` / `next_back` after one cursor has
skipped `min k (limit - next)` places (`d.drop k`, resp. `d.take (d.length - k)`, on the deque): the relation
survives the skip (`R_skip`, `R_skipBack`), so only `next` and `next_back` need an argument. -/

theorem R_skip {α} {xs : List α} {c : Cursor} {d : List α} (hR : R xs c d) (k : Nat) :
    R xs { c with next := c.next + min k (c.limit - c.next) } (d.drop k) := by
  obtain ⟨h1, h2, rfl⟩ := hR
  refine ⟨Nat.add_le_of_le_sub' h1 (Nat.min_le_right _ _), h2, ?_⟩
  rw [seg_drop]
  by_cases h : k ≤ c.limit - c.next
  · rw [Nat.min_eq_left h]
  · rw [Nat.min_eq_right (Nat.le_of_not_le h), Nat.add_sub_cancel' h1, seg_nil xs _ _ (by omega), seg_nil xs _ _ (Nat.le_refl _)]

theorem R_skipBack {α} {xs : List α} {c : Cursor} {d : List α} (hR : R xs c d) (k : Nat) :
    R xs { c with limit := c.limit - min k (c.limit - c.next) } (d.take (d.length - k)) := by
  obtain ⟨h1, h2, rfl⟩ := hR
  rw [seg_length xs _ _ h2]
  by_cases h : k ≤ c.limit - c.next
  · have hk : c.next + k ≤ c.limit := Nat.add_le_of_le_sub' h1 h
    rw [Nat.min_eq_left h, seg_take xs _ _ _ (by omega)]
    exact ⟨Nat.le_sub_of_add_le hk, Nat.le_trans (Nat.sub_le _ _) h2,
      show seg xs c.next _ = seg xs c.next (c.limit - k) by congr 1; omega⟩
  · rw [Nat.min_eq_right (Nat.le_of_not_le h), Nat.sub_sub_self h1,
      Nat.sub_eq_zero_of_le (Nat.le_of_not_le h), List.take_zero]
    exact ⟨Nat.le_refl _, Nat.le_trans h1 h2, (seg_nil xs _ _ (Nat.le_refl _)).symm⟩

section Cursor
open Iter2
variable {α : Type} (xs : List α) (get : Nat → Outcome α) (hget : ∀ i (h : i < xs.length), get i = ok xs[i])
include hget

theorem cursorM_next {c : Cursor} {d : List α} (hR : R xs c d) :
    ∃ c', cursorStepM get c .next = ok ((dequeStep d .next).1, c') ∧ R xs c' (dequeStep d .next).2 := by
  obtain ⟨h1, h2, rfl⟩ := hR
  simp only [cursorStepM, dequeStep]
  by_cases h : c.next ≥ c.limit
  · rw [if_pos h, seg_nil xs _ _ h]
    exact ⟨c, rfl, h1, h2, (seg_nil xs _ _ h).symm⟩
  · have hlt := Nat.lt_of_not_le h
    rw [if_neg h, seg_cons_getElem xs hlt h2, hget _ (Nat.lt_of_lt_of_le hlt h2)]
    exact ⟨_, rfl, hlt, h2, rfl⟩

theorem cursorM_nextBack {c : Cursor} {d : List α} (hR : R xs c d) :
    ∃ c', cursorStepM get c .nextBack = ok ((dequeStep d .nextBack).1, c') ∧ R xs c' (dequeStep d .nextBack).2 := by
  obtain ⟨h1, h2, rfl⟩ := hR
  simp only [cursorStepM, dequeStep]
  by_cases h : c.next ≥ c.limit
  · rw [if_pos h, seg_nil xs _ _ h]
    exact ⟨c, rfl, h1, h2, (seg_nil xs _ _ h).symm⟩
  · have hlt := Nat.lt_of_not_le h
    rw [if_neg h, seg_getLast?_getElem xs hlt h2, seg_dropLast xs _ _ hlt h2, hget _ (by omega)]
    exact ⟨_, rfl, Nat.le_sub_one_of_lt hlt, Nat.le_trans (Nat.sub_le _ _) h2, rfl⟩

/-- **One step of `AccessIter` over a fallible `get`.**  Every call (`nth k` / `nthBack k` with arbitrary `k : Nat`)
answers as the reference deque, without fault, and the relation is preserved. -/
theorem cursorStepM_sim : StepSim (cursorStepM get) id (R xs) := by
  intro c d hR call
  cases call with
  | next => exact cursorM_next xs get hget hR
  | nextBack => exact cursorM_nextBack xs get hget hR
  | nth k => exact cursorM_next xs get hget (R_skip hR k)
  | nthBack k => exact cursorM_nextBack xs get hget (R_skipBack hR k)
  | len =>
    obtain ⟨h1, h2, rfl⟩ := hR
    exact ⟨c, by simp only [cursorStepM, dequeStep, id, seg_length xs _ _ h2], h1, h2, rfl⟩

/-- **`AccessIter` with a fallible `get`**: if `get i` answers `xs[i]` for every `i < |xs|`, every call history
over the full alphabet answers as the reference queue, with no fault -/
theorem cursorRunM_deque (calls : List ICall) : cursorRunM get ⟨0, xs.length⟩ calls = ok (dequeRunM xs calls) := by
  simpa only [List.map_id] using
    run_sim (run := cursorRunM get) (fun _ => rfl) (fun _ _ _ => rfl) (cursorStepM_sim xs get hget) calls (R_init xs)

omit hget

/-- the pure machine `cursorStep` of Model/Iter.lean is the fallible one over a `get` that never faults -/
theorem cursorStepM_pure (g : Nat → α) (c : Cursor) (call : ICall) :
    cursorStepM (fun i => ok (g i)) c call = ok (cursorStep g c call) := by
  cases call <;> simp only [cursorStepM, cursorStep] <;> split <;> rfl

theorem cursorRunM_pure (g : Nat → α) (calls : List ICall) :
    ∀ c : Cursor, cursorRunM (fun i => ok (g i)) c calls = ok (cursorRun g c calls) := by
  induction calls with
  | nil => intro c; rfl
  | cons k ks ih =>
    intro c
    unfold cursorRunM cursorRun
    rw [cursorStepM_pure, bind_ok, ih]
    rfl

end Cursor

theorem get_ok_of_getElem? {α} {xs : List α} {get : Nat → α} (hx : ∀ i, i < xs.length → xs[i]? = some (get i))
    (i : Nat) (h : i < xs.length) : (ok (get i) : Outcome α) = ok xs[i] := by
  rw [← Option.some.inj ((List.getElem?_eq_getElem h).symm.trans (hx i h))]

/-- **One step.**  Every call (`nth k` / `nthBack k` with arbitrary `k : Nat`) gives the same answer on the
cursor machine as on the reference deque, and the relation is preserved. -/
theorem cursorStep_sim {α} (xs : List α) (get : Nat → α) (hx : ∀ i, i < xs.length → xs[i]? = some (get i))
    (c : Cursor) (d : List α) (hR : R xs c d) (call : ICall) :
    (dequeStep d call).1 = (cursorStep get c call).1 ∧
      R xs (cursorStep get c call).2 (dequeStep d call).2 := by
  obtain ⟨c', h1, h2⟩ := cursorStepM_sim xs (fun i => ok (get i)) (get_ok_of_getElem? hx) hR call
  rw [cursorStepM_pure] at h1
  injection h1 with h1
  rw [h1]; exact ⟨rfl, h2⟩

/-- the step lemma with the result of the step named `(o, c')` -/
theorem cursorStep_sim' {α} (xs : List α) (get : Nat → α) (hx : ∀ i, i < xs.length → xs[i]? = some (get i))
    (c c' : Cursor) (d : List α) (o : IOut α) (hR : R xs c d) (call : ICall)
    (h : cursorStep get c call = (o, c')) :
    ∃ d', dequeStep d call = (o, d') ∧ R xs c' d' := by
  have := cursorStep_sim xs get hx c d hR call
  rw [h] at this
  exact ⟨(dequeStep d call).2, Prod.ext this.1 rfl, this.2⟩

/-- **Two-cursor iterators yield the reference sequence under every finite call history.** -/
theorem cursorRun_eq {α} (xs : List α) (get : Nat → α) (hx : ∀ i, i < xs.length → xs[i]? = some (get i))
    (calls : List ICall) : cursorRun get ⟨0, xs.length⟩ calls = dequeRunM xs calls := by
  have h := cursorRunM_deque xs (fun i => ok (get i)) (get_ok_of_getElem? hx) calls
  rw [cursorRunM_pure] at h
  injection h

/-! corollaries: exact `len`, absorbing `None` -/

/-- `len` answers are exact at every step: the cursor machine reports the length of the reference deque -/
theorem cursor_len_exact {α} (xs : List α) (get : Nat → α) (c : Cursor) (d : List α) (hR : R xs c d) :
    cursorStep get c .len = (.len d.length, c) := by
  obtain ⟨h1, h2, rfl⟩ := hR
  simp only [cursorStep, seg_length xs _ _ h2]

/-- an output is "no item": `None`, or a remaining length of zero -/
def IsEmptyOut {α} : IOut α → Prop
  | .none => True
  | .len n => n = 0
  | .item _ => False

def Exhausted (c : Cursor) : Prop := c.next ≥ c.limit

/-- whenever an item call answers `None`, the cursor pair is exhausted afterwards -/
theorem none_exhausted {α} (get : Nat → α) (c : Cursor) (call : ICall) (hcall : call ≠ .len)
    (h : (cursorStep get c call).1 = .none) : Exhausted (cursorStep get c call).2 := by
  -- every item call is `if next' ≥ limit' then (none, c') else (item, …)` for a cursor `c'` (`c` after the skip)
  have key : ∀ (c' c'' : Cursor) (a : α),
      (if c'.next ≥ c'.limit then ((.none : IOut α), c') else (.item a, c'')).1 = .none →
      Exhausted (if c'.next ≥ c'.limit then ((.none : IOut α), c') else (.item a, c'')).2 := by
    intro c' c'' a h
    by_cases hc : c'.next ≥ c'.limit
    · rw [if_pos hc]; exact hc
    · rw [if_neg hc] at h; cases h
  cases call with
  | next => exact key c _ _ h
  | nextBack => exact key c _ _ h
  | nth k => exact key { c with next := c.next + min k (c.limit - c.next) } _ _ h
  | nthBack k => exact key { c with limit := c.limit - min k (c.limit - c.next) } _ _ h
  | len => exact absurd rfl hcall

/-- `None` is absorbing: an exhausted cursor pair answers `None` (resp. length 0) to every call and stays
exhausted -/
theorem exhausted_step {α} (get : Nat → α) (c : Cursor) (hc : Exhausted c) (call : ICall) :
    IsEmptyOut (cursorStep get c call).1 ∧ Exhausted (cursorStep get c call).2 := by
  have hnext : ∀ c : Cursor, Exhausted c →
      IsEmptyOut (cursorStep get c .next).1 ∧ Exhausted (cursorStep get c .next).2 := by
    intro c hc; simp only [cursorStep]; rw [if_pos (show c.next ≥ c.limit from hc)]; exact ⟨trivial, hc⟩
  have hback : ∀ c : Cursor, Exhausted c →
      IsEmptyOut (cursorStep get c .nextBack).1 ∧ Exhausted (cursorStep get c .nextBack).2 := by
    intro c hc; simp only [cursorStep]; rw [if_pos (show c.next ≥ c.limit from hc)]; exact ⟨trivial, hc⟩
  cases call with
  | next => exact hnext c hc
  | nextBack => exact hback c hc
  | nth k => exact hnext { c with next := c.next + min k (c.limit - c.next) } (Nat.le_trans hc (Nat.le_add_right _ _))
  | nthBack k =>
    exact hback { c with limit := c.limit - min k (c.limit - c.next) } (Nat.le_trans (Nat.sub_le _ _) hc)
  | len => exact ⟨Nat.sub_eq_zero_of_le hc, hc⟩

theorem exhausted_run {α} (get : Nat → α) (calls : List ICall) : ∀ (c : Cursor), Exhausted c →
    ∀ o, o ∈ cursorRun get c calls → IsEmptyOut o := by
  induction calls with
  | nil => intro c _ o ho; cases ho
  | cons k ks ih =>
    intro c hc o ho
    have hs := exhausted_step get c hc k
    unfold cursorRun at ho
    simp only [List.mem_cons] at ho
    rcases ho with rfl | ho
    · exact hs.1
    · exact ih _ hs.2 o ho

/-- once an item call has answered `None`, every later call (any kind, any argument) answers `None` / length 0 -/
theorem none_absorbing {α} (get : Nat → α) (c : Cursor) (call : ICall) (hcall : call ≠ .len)
    (h : (cursorStep get c call).1 = .none) (calls : List ICall) :
    ∀ o, o ∈ cursorRun get (cursorStep get c call).2 calls → IsEmptyOut o :=
  exhausted_run get calls _ (none_exhausted get c call hcall h)

/-- the same on the reference side: when the deque answers `None` it is empty afterwards -/
theorem deque_none_empty {α} (d : List α) (call : ICall) (hcall : call ≠ .len)
    (h : (dequeStep d call).1 = .none) : (dequeStep d call).2 = [] := by
  cases call with
  | next => cases d <;> simp_all [dequeStep]
  | nextBack =>
    simp only [dequeStep] at h ⊢
    cases hl : d.getLast? <;> simp_all
  | nth k =>
    simp only [dequeStep] at h ⊢
    cases hl : d.drop k <;> simp_all
  | nthBack k =>
    simp only [dequeStep] at h ⊢
    cases hl : (d.take (d.length - k)).getLast? <;> simp_all
  | len => exact absurd rfl hcall

/-! ### `OneIter<T>`: facts about the transformed bit sequence -/

theorem P_iff (tr : Tr) (v : RawVec) (r p : Nat) :
    (onesPos (bitsT tr v.bits))[r]? = some p ↔ bitT tr v p = true ∧ cnt (bitT tr v) p = r := by
  rw [← selectSpec_eq_onesPos, selectSpec_bitsT]

theorem P_length (tr : Tr) (v : RawVec) : (onesPos (bitsT tr v.bits)).length = cnt (bitT tr v) v.len := by
  rw [length_onesPos, count_bitsT]

theorem exists_pos (tr : Tr) (v : RawVec) (r : Nat) (h : r < cnt (bitT tr v) v.len) :
    ∃ p, bitT tr v p = true ∧ cnt (bitT tr v) p = r := by
  rw [← count_bitsT] at h
  obtain ⟨p, hp⟩ := selectSpec_isSome _ r h
  exact ⟨p, (selectSpec_bitsT tr v r p).mp hp⟩

theorem word_lt_size {v : RawVec} (hv : v.WF) {p : Nat} (hp : p < v.len) : p / 64 < v.data.size := by
  rw [hv.1]; omega

/-! ### the simulation relation for `OneIter<T>` -/

/-- the standing hypotheses: `b` is a bitvector over the well-formed raw vector `v` of length `< 2^64`
with a correct cached count of ones -/
structure Ctx (b : BitVector) (v : RawVec) : Prop where
  wf : v.WF
  len : v.len < 2 ^ 64
  data : b.data = v
  ones : b.ones = v.bits.count true

/-- `Rel tr v it r R`: the iterator state `it` stands for the ranks `[r, R)` of the set bits of the transformed
vector.  The rank components are `r` and `R`; the position component of each cursor has exactly that many set
bits strictly before it (equivalently, see `rank_eq_iff_sandwich`: it lies strictly after `P[r-1]` and at or
before `P[r]`), and both positions are at most `len`. -/
structure Rel (tr : Tr) (v : RawVec) (it : OneIterSt) (r R : Nat) : Prop where
  next_rank : it.next.1 = r
  limit_rank : it.limit.1 = R
  le : r ≤ R
  R_le : R ≤ (onesPos (bitsT tr v.bits)).length
  next_pos : rankSpec (bitsT tr v.bits) it.next.2 = r
  limit_pos : rankSpec (bitsT tr v.bits) it.limit.2 = R
  next_le : it.next.2 ≤ v.len
  limit_le : it.limit.2 ≤ v.len

theorem countT_eq_len {b : BitVector} {v : RawVec} (C : Ctx b v) (tr : Tr) :
    b.countT tr = (onesPos (bitsT tr v.bits)).length := by
  rw [countT_eq C.data C.ones tr, length_onesPos]

theorem rank_len (tr : Tr) (v : RawVec) :
    rankSpec (bitsT tr v.bits) v.len = (onesPos (bitsT tr v.bits)).length := by
  rw [rankSpec_bitsT, P_length]

theorem Rel_full {b : BitVector} {v : RawVec} (C : Ctx b v) (tr : Tr) :
    Rel tr v (OneIterSt.full tr b) 0 (onesPos (bitsT tr v.bits)).length := by
  unfold OneIterSt.full
  refine ⟨rfl, countT_eq_len C tr, Nat.zero_le _, Nat.le_refl _, ?_, ?_, Nat.zero_le _, ?_⟩
  · simp [rankSpec]
  · show rankSpec _ b.data.len = _
    rw [C.data]; exact rank_len tr v
  · show b.data.len ≤ v.len
    rw [C.data]; exact Nat.le_refl _

theorem Rel_empty {b : BitVector} {v : RawVec} (C : Ctx b v) (tr : Tr) :
    Rel tr v (OneIterSt.emptyIter tr b) (onesPos (bitsT tr v.bits)).length (onesPos (bitsT tr v.bits)).length := by
  unfold OneIterSt.emptyIter
  have e : b.len = v.len := by show b.data.len = v.len; rw [C.data]
  rw [e]
  exact ⟨countT_eq_len C tr, countT_eq_len C tr, Nat.le_refl _, Nat.le_refl _, rank_len tr v, rank_len tr v,
    Nat.le_refl _, Nat.le_refl _⟩

/-- the front cursor moved just past the set bit `p` of rank `r'` -/
theorem Rel.front {tr : Tr} {v : RawVec} {it : OneIterSt} {r R r' p : Nat} (h : Rel tr v it r R)
    (hp : bitT tr v p = true) (hpr : cnt (bitT tr v) p = r') (hr : r' < R) :
    Rel tr v { it with next := (r' + 1, p + 1) } (r' + 1) R :=
  ⟨rfl, h.limit_rank, hr, h.R_le, by rw [rankSpec_bitsT, cnt_succ, hp, hpr]; rfl, h.limit_pos, bitT_lt hp,
    h.limit_le⟩

/-- the back cursor moved onto the set bit `p` of rank `R'` -/
theorem Rel.back {tr : Tr} {v : RawVec} {it : OneIterSt} {r R R' p : Nat} (h : Rel tr v it r R)
    (hp : bitT tr v p = true) (hpr : cnt (bitT tr v) p = R') (hr : r ≤ R') (hR : R' ≤ R) :
    Rel tr v { it with limit := (R', p) } r R' :=
  ⟨h.next_rank, rfl, hr, Nat.le_trans hR h.R_le, h.next_pos, by rw [rankSpec_bitsT]; exact hpr, h.next_le,
    Nat.le_of_lt (bitT_lt hp)⟩

/-- what the steps use of a state: the set bit `p` of a rank `r' < R` exists, and everything fits a `u64` -/
theorem Rel.pos {b : BitVector} {tr : Tr} {it : OneIterSt} {r R : Nat} (hlen : b.data.len < 2 ^ 64)
    (h : Rel tr b.data it r R) {r' : Nat} (hr : r' < R) :
    ∃ p, bitT tr b.data p = true ∧ cnt (bitT tr b.data) p = r' ∧ (onesPos (bitsT tr b.data.bits))[r']? = some p ∧
      p + 1 < U64 ∧ r' + 1 < U64 := by
  have h4 := h.R_le
  rw [P_length] at h4
  obtain ⟨p, hp, hpr⟩ := exists_pos tr b.data r' (Nat.lt_of_lt_of_le hr h4)
  have hplen := bitT_lt hp
  have hcl := cnt_le (bitT tr b.data) b.data.len
  exact ⟨p, hp, hpr, (P_iff tr b.data r' p).mpr ⟨hp, hpr⟩, by rw [U64_eq]; omega, by rw [U64_eq]; omega⟩

theorem nextQ_none (tr : Tr) (m : Mode) (b : BitVector) (it : OneIterSt) (h : it.next.1 ≥ it.limit.1) :
    OneIterSt.nextQ tr m b it = ok (none, it) := by
  unfold OneIterSt.nextQ; rw [if_pos h]

/-- the state produced by `select_iter` / `select_zero_iter` (any valid select support) -/
theorem Rel_selectIter {b : BitVector} {v : RawVec} {s : SelSup} (C : Ctx b v) (tr : Tr) (m : Mode)
    (hsup : b.supT tr = some s) (hs : s.Valid tr v) (r : Nat) :
    (r < (onesPos (bitsT tr v.bits)).length →
      ∃ p, (onesPos (bitsT tr v.bits))[r]? = some p ∧
        b.selectIterT tr m r = ok ⟨(r, p), (b.countT tr, b.len)⟩ ∧
        Rel tr v ⟨(r, p), (b.countT tr, b.len)⟩ r (onesPos (bitsT tr v.bits)).length) ∧
    ((onesPos (bitsT tr v.bits)).length ≤ r → b.selectIterT tr m r = ok (OneIterSt.emptyIter tr b)) := by
  have hcount := countT_eq_len C tr
  have hblen : b.len = v.len := by show b.data.len = v.len; rw [C.data]
  constructor
  · intro hr
    obtain ⟨p, hp1, hp2⟩ := selectU_ok C.wf C.len hs m r (by rw [← length_onesPos]; exact hr)
    rw [selectSpec_eq_onesPos] at hp2
    have hp3 := (P_iff tr v r p).mp hp2
    refine ⟨p, hp2, ?_, ?_⟩
    · unfold BitVector.selectIterT
      rw [if_neg (by omega), hsup, C.data]
      simp only [hp1, bind_ok, pure_eq]
    · refine ⟨rfl, hcount, Nat.le_of_lt hr, Nat.le_refl _, ?_, ?_, ?_, ?_⟩
      · rw [rankSpec_bitsT]; exact hp3.2
      · show rankSpec _ b.len = _
        rw [hblen]; exact rank_len tr v
      · exact Nat.le_of_lt (bitT_lt hp3.1)
      · show b.len ≤ v.len
        omega
  · intro hr
    unfold BitVector.selectIterT
    rw [if_pos (by omega)]

/-! ### `nth` -/

/-- the counted scan of `nth` followed by in-word select is the word scan of `select` -/
theorem fwdN_of_scan (tr : Tr) (m : Mode) (v : RawVec) : ∀ (fuel word : Nat) (value : Word) (rr p : Nat),
    SelSup.scan tr m v fuel word value rr = ok p →
    ∃ i W q o, OneIterSt.fwdN tr v fuel word value rr = ok (i, W, q) ∧ selWord W q = ok o ∧
      bitOffset m i o = ok p := by
  intro fuel
  induction fuel with
  | zero => intro word value rr p h; simp [SelSup.scan] at h
  | succ fuel ih =>
    intro word value rr p h
    unfold SelSup.scan at h
    unfold OneIterSt.fwdN
    simp only [] at h ⊢
    by_cases hones : popcount value > rr
    · rw [if_pos hones] at h
      rw [if_neg (by omega)]
      cases hs : selWord value rr with
      | fault e => rw [hs] at h; cases h
      | ok o =>
        rw [hs] at h
        exact ⟨word, value, rr, o, rfl, hs, h⟩
    · rw [if_neg hones] at h
      rw [if_pos (by omega)]
      cases hw : wordT tr v (word + 1) with
      | fault e => rw [hw] at h; cases h
      | ok nv =>
        rw [hw] at h
        simp only [bind_ok] at h ⊢
        exact ih _ _ _ _ h

/-- **`nth(n)` inside the range** (any `n : Nat`; the repaired `nth` compares `n` with `limit - next`, so no rank
sum can overflow). -/
theorem nthQ_some {b : BitVector} {v : RawVec} (C : Ctx b v) (tr : Tr) (m : Mode) {it : OneIterSt} {r R : Nat}
    (hrel : Rel tr v it r R) (n : Nat) (h : r + n < R) :
    ∃ p, (onesPos (bitsT tr v.bits))[r + n]? = some p ∧
      OneIterSt.nthQ tr m b it n = ok (some (r + n, p), { it with next := (r + n + 1, p + 1) }) ∧
      Rel tr v { it with next := (r + n + 1, p + 1) } (r + n + 1) R := by
  obtain ⟨hwf, hlen, hdata, hones⟩ := C
  subst hdata
  obtain ⟨p, hp, hpr, hP, hp1, hr1⟩ := Rel.pos hlen hrel h
  refine ⟨p, hP, ?_, hrel.front hp hpr h⟩
  have h5 := hrel.next_pos
  rw [rankSpec_bitsT] at h5
  have h4 := hrel.R_le
  rw [P_length] at h4
  have hxl : it.next.2 < b.data.len := lt_of_cnt_lt (bitT tr b.data) (by omega)
  have hidx : it.next.2 / 64 < b.data.data.size := word_lt_size hwf hxl
  have hscan := scan_ok_cnt hwf tr m p hp (Nat.lt_of_succ_lt (U64_eq ▸ hp1)) (b.data.data.size + 1) (it.next.2 / 64)
    (it.next.2 % 64) n (Nat.le_of_lt (Nat.mod_lt _ (by decide))) hidx (by omega)
    (by rw [Nat.div_add_mod, hpr, h5])
  obtain ⟨i, W, q, o, hf, hsel, hbo⟩ := fwdN_of_scan tr m b.data _ _ _ _ _ hscan
  unfold OneIterSt.nthQ
  rw [hrel.next_rank, hrel.limit_rank, subM_ok hrel.le]
  simp only [bind_ok]
  rw [if_neg (by omega), addM_ok (Nat.lt_of_succ_lt hr1)]
  simp only [bind_ok]
  rw [wordT_eq tr b.data _ hidx]
  simp only [bind_ok, hf, hsel, hbo]
  rw [addM_ok hr1, addM_ok hp1]
  rfl

/-- **`nth(n)` past the range** (EVERY `n : Nat`, however large): `None`, and the iterator is exhausted
(`next := limit`); no fault in either arithmetic mode. -/
theorem nthQ_none {b : BitVector} {v : RawVec} (tr : Tr) (m : Mode) {it : OneIterSt} {r R : Nat}
    (hrel : Rel tr v it r R) (n : Nat) (h : R ≤ r + n) :
    OneIterSt.nthQ tr m b it n = ok (none, { it with next := it.limit }) ∧
      Rel tr v { it with next := it.limit } R R := by
  obtain ⟨h1, h2, h3, h4, h5, h6, h7, h8⟩ := hrel
  constructor
  · unfold OneIterSt.nthQ
    rw [h1, h2, subM_ok h3]
    simp only [bind_ok]
    rw [if_pos (by omega)]
    rfl
  · exact ⟨h2, h2, Nat.le_refl _, h4, h6, h6, h8, h8⟩

/-! ### `next` is `nth(0)`: the forward scan `fwd` is the counted scan `fwdN` at count 0, and the lowest set bit of the
word it stops at is the in-word select of rank 0 -/

theorem popcount_le_zero {w : Word} (h : popcount w ≤ 0) : w = 0 := by
  apply Classical.byContradiction
  intro hne
  obtain ⟨i, hi, hb⟩ := exists_bit_of_ne_zero w hne
  have := cnt_lt_of_true (fun i => w.getLsbD i) hb hi
  rw [← popcount_eq_cnt] at this
  omega

theorem selWord_zero {w : Word} (h : w ≠ 0) : selWord w 0 = ok (ctz w) := by
  obtain ⟨h1, h2, h3⟩ := ctz_spec w h
  exact (selWord_ok_iff w 0 (ctz w)).mpr ⟨h1, h2, cnt_false _ _ h3⟩

theorem fwdN_zero (tr : Tr) (v : RawVec) : ∀ (fuel index : Nat) (word : Word),
    OneIterSt.fwdN tr v fuel index word 0 = (do let r ← OneIterSt.fwd tr v fuel index word; return (r.1, r.2, 0)) := by
  intro fuel
  induction fuel with
  | zero => intro index word; rfl
  | succ fuel ih =>
    intro index word
    unfold OneIterSt.fwdN OneIterSt.fwd
    simp only []
    by_cases hw : word = 0
    · rw [if_pos (by rw [hw, popcount_zero]; exact Nat.le_refl _), if_pos hw, Nat.zero_sub]
      cases wordT tr v (index + 1) with
      | fault e => rfl
      | ok w => simp only [bind_ok]; exact ih _ _
    · rw [if_neg (fun h => hw (popcount_le_zero h)), if_neg hw]; rfl

/-- the scan of `next` stops at a non-zero word -/
theorem fwd_ne_zero (tr : Tr) (v : RawVec) : ∀ (fuel index : Nat) (word : Word) (i : Nat) (W : Word),
    OneIterSt.fwd tr v fuel index word = ok (i, W) → W ≠ 0 := by
  intro fuel
  induction fuel with
  | zero => intro index word i W h; cases h
  | succ fuel ih =>
    intro index word i W h
    unfold OneIterSt.fwd at h
    by_cases hw : word = 0
    · rw [if_pos hw] at h
      obtain ⟨w, _, h⟩ := Outcome.bind_eq_ok h
      exact ih _ _ _ _ h
    · rw [if_neg hw] at h
      cases h; exact hw

/-- **`next()` is `nth(0)`** on every state with ranks left -/
theorem nextQ_eq_nthQ (tr : Tr) (m : Mode) (b : BitVector) (it : OneIterSt) (h : it.next.1 < it.limit.1)
    (hu : it.next.1 < U64) : OneIterSt.nextQ tr m b it = OneIterSt.nthQ tr m b it 0 := by
  unfold OneIterSt.nextQ OneIterSt.nthQ
  rw [if_neg (Nat.not_le_of_lt h), subM_ok (Nat.le_of_lt h)]
  simp only [bind_ok]
  rw [if_neg (by omega), addM_ok (show it.next.1 + 0 < U64 from hu)]
  simp only [bind_ok, Nat.add_zero]
  cases wordT tr b.data (it.next.2 / 64) with
  | fault e => rfl
  | ok w =>
    simp only [bind_ok, fwdN_zero]
    cases hf : OneIterSt.fwd tr b.data (b.data.data.size + 1) (it.next.2 / 64) (w &&& ~~~ lowSet (it.next.2 % 64)) with
    | fault e => rfl
    | ok r =>
      obtain ⟨i, W⟩ := r
      simp only [bind_ok, pure_eq, selWord_zero (fwd_ne_zero tr b.data _ _ _ i W hf)]

/-- **`next`.**  With ranks `[r, R)` left and `r < R`, `next` returns `(r, P[r])` and leaves `[r+1, R)`;
no fault in either arithmetic mode. -/
theorem nextQ_some {b : BitVector} {v : RawVec} (C : Ctx b v) (tr : Tr) (m : Mode) {it : OneIterSt} {r R : Nat}
    (hrel : Rel tr v it r R) (h : r < R) :
    ∃ p, (onesPos (bitsT tr v.bits))[r]? = some p ∧
      OneIterSt.nextQ tr m b it = ok (some (r, p), { it with next := (r + 1, p + 1) }) ∧
      Rel tr v { it with next := (r + 1, p + 1) } (r + 1) R := by
  have hR := hrel.R_le
  have hP := C.len
  rw [P_length] at hR
  have := cnt_le (bitT tr v) v.len
  rw [nextQ_eq_nthQ tr m b it (by rw [hrel.next_rank, hrel.limit_rank]; exact h)
    (by rw [hrel.next_rank, U64_eq]; omega)]
  exact nthQ_some C tr m hrel 0 h

/-! ### `next_back` -/

theorem clz_eq_of (w : Word) (j : Nat) (hj : j < 64) (hb : w.getLsbD j = true)
    (hhigh : ∀ i, j < i → i < 64 → w.getLsbD i = false) : 63 - clz w = j := by
  have hne : w ≠ 0 := by
    intro h; subst h; simp at hb
  obtain ⟨h1, h2, h3⟩ := clz_spec w hne
  by_cases hlt : 63 - clz w < j
  · have := h3 j hlt hj
    rw [hb] at this; cases this
  · by_cases hgt : j < 63 - clz w
    · have := hhigh _ hgt (by omega)
      rw [h2] at this; cases this
    · omega

theorem lowmasked_bit {v : RawVec} (hv : v.WF) (tr : Tr) (k : Nat) (hk : k < v.data.size) (hi i : Nat)
    (h : i < 64) :
    (wordTv tr v k &&& lowSet hi).getLsbD i = (bitT tr v (64 * k + i) && decide (i < hi)) := by
  rw [BitVec.getLsbD_and, lowSet_getLsbD _ _ h, wordTv_bit hv tr k hk i h]

/-- **Backward scan.**  Starting in word `word` with only the bits below `hi` kept, if the last set bit of the
transformed vector before `64*word+hi` is `p`, the scan stops in word `p/64` with a word whose highest set bit
is `p % 64`; the index subtraction never underflows and no word outside the buffer is read. -/
theorem bwd_ok {v : RawVec} (hv : v.WF) (tr : Tr) (m : Mode) (p : Nat) (hp : bitT tr v p = true) :
    ∀ (fuel word hi : Nat), hi ≤ 64 → word < v.data.size → word < fuel →
      p < 64 * word + hi → (∀ j, p < j → j < 64 * word + hi → bitT tr v j = false) →
      ∃ W, OneIterSt.bwd tr m v fuel word (wordTv tr v word &&& lowSet hi) = ok (p / 64, W) ∧
        63 - clz W = p % 64 := by
  intro fuel
  induction fuel with
  | zero => intro word hi _ _ h2; omega
  | succ fuel ih =>
    intro word hi hhi hword hfuel hlt hno
    unfold OneIterSt.bwd
    by_cases hin : 64 * word ≤ p
    · obtain ⟨i, rfl⟩ : ∃ i, p = 64 * word + i := ⟨p - 64 * word, by omega⟩
      have hi64 : i < 64 := by omega
      have hbit : (wordTv tr v word &&& lowSet hi).getLsbD i = true := by
        rw [lowmasked_bit hv tr word hword hi i hi64, hp, decide_eq_true (Nat.lt_of_add_lt_add_left hlt)]; rfl
      have hclz := clz_eq_of _ i hi64 hbit (fun j hj hj64 => by
        rw [lowmasked_bit hv tr word hword hi j hj64]
        by_cases hjh : j < hi
        · rw [hno _ (Nat.add_lt_add_left hj _) (Nat.add_lt_add_left hjh _), Bool.false_and]
        · rw [decide_eq_false hjh, Bool.and_false])
      rw [if_neg (fun hz => by rw [hz] at hbit; simp at hbit)]
      exact ⟨_, by rw [show (64 * word + i) / 64 = word by omega], by rw [hclz]; omega⟩
    · have hz : wordTv tr v word &&& lowSet hi = 0 := by
        apply BitVec.eq_of_getLsbD_eq
        intro i hi'
        rw [lowmasked_bit hv tr word hword hi i hi', show (0 : Word).getLsbD i = false from BitVec.getLsbD_zero]
        by_cases hih : i < hi
        · rw [hno _ (by omega) (Nat.add_lt_add_left hih _), Bool.false_and]
        · rw [decide_eq_false hih, Bool.and_false]
      rw [if_pos hz, subM_ok (show 1 ≤ word by omega)]
      simp only [bind_ok]
      rw [wordT_eq tr v _ (show word - 1 < v.data.size by omega)]
      simp only [bind_ok]
      have := ih (word - 1) 64 (Nat.le_refl _) (by omega) (by omega) (by omega) (fun j h1 h2 => hno j h1 (by omega))
      rw [lowSet_64, BitVec.and_allOnes] at this
      exact this

theorem pos_before_cursor (f : Nat → Bool) {x p : Nat} (hp : f p = true) (h : cnt f x = cnt f p + 1) :
    p < x ∧ ∀ j, p < j → j < x → f j = false := by
  constructor
  · by_cases hx : p < x
    · exact hx
    · have := cnt_mono f (show x ≤ p by omega); omega
  · intro j h1 h2
    cases hf : f j with
    | false => rfl
    | true =>
      have a1 := cnt_lt_of_true f hp h1
      have a2 := cnt_succ f j
      rw [hf] at a2
      have a3 := cnt_mono f (show j + 1 ≤ x from h2)
      simp at a2
      omega

theorem nextBackQ_none (tr : Tr) (m : Mode) (b : BitVector) (it : OneIterSt) (h : it.next.1 ≥ it.limit.1) :
    OneIterSt.nextBackQ tr m b it = ok (none, it) := by
  unfold OneIterSt.nextBackQ; rw [if_pos h]

/-- **`next_back`.**  With ranks `[r, R)` left and `r < R`, `next_back` returns `(R-1, P[R-1])` and leaves
`[r, R-1)`; no fault in either arithmetic mode. -/
theorem nextBackQ_some {b : BitVector} {v : RawVec} (C : Ctx b v) (tr : Tr) (m : Mode) {it : OneIterSt}
    {r R : Nat} (hrel : Rel tr v it r R) (h : r < R) :
    ∃ p, (onesPos (bitsT tr v.bits))[R - 1]? = some p ∧
      OneIterSt.nextBackQ tr m b it = ok (some (R - 1, p), { it with limit := (R - 1, p) }) ∧
      Rel tr v { it with limit := (R - 1, p) } r (R - 1) := by
  obtain ⟨hwf, hlen, hdata, hones⟩ := C
  subst hdata
  have hR1 : R - 1 < R := by omega
  obtain ⟨p, hp, hpr, hP, hp1, _⟩ := Rel.pos hlen hrel hR1
  refine ⟨p, hP, ?_, hrel.back hp hpr (Nat.le_sub_one_of_lt h) (Nat.sub_le _ _)⟩
  have h6 := hrel.limit_pos
  rw [rankSpec_bitsT] at h6
  obtain ⟨hpx, hno⟩ := pos_before_cursor (bitT tr b.data) (x := it.limit.2) hp (by rw [hpr, h6]; omega)
  have h8 := hrel.limit_le
  have hidx : (it.limit.2 - 1) / 64 < b.data.data.size :=
    word_lt_size hwf (show it.limit.2 - 1 < b.data.len by omega)
  have e : 64 * ((it.limit.2 - 1) / 64) + ((it.limit.2 - 1) % 64 + 1) = it.limit.2 := by omega
  obtain ⟨W, hW, hclz⟩ := bwd_ok hwf tr m p hp (b.data.data.size + 1) ((it.limit.2 - 1) / 64)
    ((it.limit.2 - 1) % 64 + 1) (Nat.mod_lt _ (by decide)) hidx (by omega) (by rw [e]; exact hpx)
    (by rw [e]; exact hno)
  unfold OneIterSt.nextBackQ
  rw [if_neg (by rw [hrel.next_rank, hrel.limit_rank]; exact Nat.not_le_of_lt h), hrel.limit_rank,
    subM_ok (Nat.succ_le_of_lt (Nat.zero_lt_of_lt h)), subM_ok (Nat.succ_le_of_lt (Nat.zero_lt_of_lt hpx))]
  simp only [bind_ok]
  rw [wordT_eq tr b.data _ hidx]
  simp only [bind_ok, hW, hclz]
  have e2 : p / 64 * 64 + p % 64 = p := by omega
  rw [bitOffset_ok m _ _ (by omega), e2]
  rfl

/-- `len` (`ExactSizeIterator`): the remaining count is exact -/
theorem remaining_eq {tr : Tr} {v : RawVec} {it : OneIterSt} {r R : Nat} (hrel : Rel tr v it r R) :
    it.remaining = R - r := by
  unfold OneIterSt.remaining; rw [hrel.next_rank, hrel.limit_rank]

/-! ### `nth_back` (not specialised by `OneIter`: the `DoubleEndedIterator` default) -/

/-- the default `nth_back(k)`: `k` times `next_back`, stopping with `None` at the first `None`, then one more
`next_back` -/
def nthBackQ (tr : Tr) (m : Mode) (b : BitVector) : Nat → OneIterSt → Outcome (Option (Nat × Nat) × OneIterSt)
  | 0, it => OneIterSt.nextBackQ tr m b it
  | k + 1, it => do
    let r ← OneIterSt.nextBackQ tr m b it
    match r.1 with
    | none => return (none, r.2)
    | some _ => nthBackQ tr m b k r.2

/-- **`nth_back(k)` inside the range**: returns `(R-k-1, P[R-k-1])` and leaves `[r, R-k-1)`. -/
theorem nthBackQ_some {b : BitVector} {v : RawVec} (C : Ctx b v) (tr : Tr) (m : Mode) :
    ∀ (k : Nat) {it : OneIterSt} {r R : Nat}, Rel tr v it r R → r + k < R →
    ∃ p, (onesPos (bitsT tr v.bits))[R - k - 1]? = some p ∧
      nthBackQ tr m b k it = ok (some (R - k - 1, p), { it with limit := (R - k - 1, p) }) ∧
      Rel tr v { it with limit := (R - k - 1, p) } r (R - k - 1) := by
  intro k
  induction k with
  | zero =>
    intro it r R hrel h
    unfold nthBackQ
    exact nextBackQ_some C tr m hrel (by omega)
  | succ k ih =>
    intro it r R hrel h
    obtain ⟨q, hq1, hq2, hq3⟩ := nextBackQ_some C tr m hrel (by omega)
    obtain ⟨p, hp1, hp2, hp3⟩ := ih hq3 (by omega)
    have e : R - 1 - k - 1 = R - (k + 1) - 1 := by omega
    rw [e] at hp1 hp2 hp3
    refine ⟨p, hp1, ?_, hp3⟩
    unfold nthBackQ
    rw [hq2]
    simp only [bind_ok]
    exact hp2

/-- **`nth_back(k)` past the range**: `None`, and the iterator is exhausted. -/
theorem nthBackQ_none {b : BitVector} {v : RawVec} (C : Ctx b v) (tr : Tr) (m : Mode) :
    ∀ (k : Nat) {it : OneIterSt} {r R : Nat}, Rel tr v it r R → R ≤ r + k →
    ∃ it', nthBackQ tr m b k it = ok (none, it') ∧ Rel tr v it' r r := by
  intro k
  induction k with
  | zero =>
    intro it r R hrel h
    have hle := hrel.le
    have e : R = r := by omega
    subst e
    refine ⟨it, ?_, hrel⟩
    unfold nthBackQ
    exact nextBackQ_none tr m b it (by rw [hrel.next_rank, hrel.limit_rank]; omega)
  | succ k ih =>
    intro it r R hrel h
    have hle := hrel.le
    by_cases hlt : r < R
    · obtain ⟨q, hq1, hq2, hq3⟩ := nextBackQ_some C tr m hrel hlt
      obtain ⟨it', hp1, hp2⟩ := ih hq3 (by omega)
      refine ⟨it', ?_, hp2⟩
      unfold nthBackQ
      rw [hq2]
      simp only [bind_ok]
      exact hp1
    · have e : R = r := by omega
      subst e
      refine ⟨it, ?_, hrel⟩
      unfold nthBackQ
      rw [nextBackQ_none tr m b it (by rw [hrel.next_rank, hrel.limit_rank]; omega)]
      rfl

/-! ### the combined simulation for `OneIter<T>` -/

/-- the reference sequence of the set-bit iterator: `(rank, position)` pairs -/
def pairs (P : List Nat) : List (Nat × Nat) := (List.range P.length).map fun i => (i, P[i]?.getD 0)

theorem pairs_length (P : List Nat) : (pairs P).length = P.length := by simp [pairs]

theorem pairs_get (P : List Nat) (i : Nat) (h : i < (pairs P).length) :
    (pairs P)[i]? = some ((fun i => (i, P[i]?.getD 0)) i) := by
  rw [pairs_length] at h
  simp [pairs, h]

theorem pairs_eq_zip (P : List Nat) : pairs P = (List.range P.length).zip P := by
  apply List.ext_getElem?
  intro i
  by_cases h : i < P.length
  · simp [pairs, h, List.getElem?_zip_eq_some]
  · simp [pairs, h, List.getElem?_eq_none]

/-- one call of `OneIter<T>` in the call alphabet (`nth_back` is not specialised by `OneIter`: it is the default
iteration of `next_back`, `nthBackQ`) -/
def oneStep (tr : Tr) (m : Mode) (b : BitVector) (it : OneIterSt) : ICall → Outcome (IOut (Nat × Nat) × OneIterSt)
  | .next => do let r ← OneIterSt.nextQ tr m b it; return (optOut r.1, r.2)
  | .nextBack => do let r ← OneIterSt.nextBackQ tr m b it; return (optOut r.1, r.2)
  | .nth k => do let r ← OneIterSt.nthQ tr m b it k; return (optOut r.1, r.2)
  | .nthBack k => do let r ← nthBackQ tr m b k it; return (optOut r.1, r.2)
  | .len => ok (.len it.remaining, it)

def oneRun (tr : Tr) (m : Mode) (b : BitVector) : OneIterSt → List ICall → Outcome (List (IOut (Nat × Nat)))
  | _, [] => ok []
  | it, c :: cs => do
    let r ← oneStep tr m b it c
    let os ← oneRun tr m b r.2 cs
    return r.1 :: os

section One
open Iter2
variable {b : BitVector} {v : RawVec}

/-- the item of rank `i` -/
abbrev pairF (P : List Nat) (i : Nat) : Nat × Nat := (i, P[i]?.getD 0)

theorem pairs_win {P : List Nat} (r : Nat) {R : Nat} (hR : R ≤ P.length) : seg (pairs P) r R = win (pairF P) r R :=
  seg_eq_win (pairs_get P) r (by rw [pairs_length]; exact hR)

theorem pairs_drop (P : List Nat) (r : Nat) : (pairs P).drop r = win (pairF P) r P.length := by
  rw [pairs, ← win_zero, win_drop, Nat.zero_add]

/-- the state stands for the window `[r, R)` of the `(rank, position)` pairs -/
def OneWin (tr : Tr) (v : RawVec) (it : OneIterSt) (d : List (Nat × Nat)) : Prop :=
  ∃ r R, Rel tr v it r R ∧ d = win (pairF (onesPos (bitsT tr v.bits))) r R

theorem Rel.done {tr : Tr} {it : OneIterSt} {r R : Nat} (h : Rel tr v it r R) (hr : R ≤ r) :
    it.next.1 ≥ it.limit.1 := by rw [h.next_rank, h.limit_rank]; exact hr

theorem one_fwdSim (C : Ctx b v) (tr : Tr) (m : Mode) : FwdSim (OneIterSt.nextQ tr m b) (OneWin tr v) :=
  win_fwdSim (fun h hr => ⟨_, _, _, nextQ_none tr m b _ (h.done hr), h, hr⟩) fun h hr =>
    let ⟨_, h1, h2, h3⟩ := nextQ_some C tr m h hr
    ⟨_, by rw [h2, pairF, h1]; rfl, h3⟩

theorem one_bwdSim (C : Ctx b v) (tr : Tr) (m : Mode) : BwdSim (OneIterSt.nextBackQ tr m b) (OneWin tr v) :=
  win_bwdSim (fun h hr => ⟨_, _, _, nextBackQ_none tr m b _ (h.done hr), h, hr⟩) fun h hr =>
    let ⟨_, h1, h2, h3⟩ := nextBackQ_some C tr m h hr
    ⟨_, by rw [h2, pairF, h1]; rfl, h3⟩

theorem one_nthSim (C : Ctx b v) (tr : Tr) (m : Mode) (k : Nat) :
    CallSim (fun it => OneIterSt.nthQ tr m b it k) (.nth k) (OneWin tr v) :=
  win_nthSim (Inv := fun r R it => Rel tr v it r R) (fun h hr => ⟨_, _, _, (nthQ_none (b := b) tr m h k hr).1,
    (nthQ_none (b := b) tr m h k hr).2, Nat.le_refl _⟩) fun h hr =>
    let ⟨_, h1, h2, h3⟩ := nthQ_some C tr m h k hr
    ⟨_, by rw [h2, pairF, h1]; rfl, h3⟩

/-- `nth_back` of `OneIter<T>` is the library default over `next_back` -/
theorem nthBackQ_eq (tr : Tr) (m : Mode) (b : BitVector) : ∀ (k : Nat) (it : OneIterSt),
    nthBackQ tr m b k it = nthDefault (OneIterSt.nextBackQ tr m b) k it := by
  intro k
  induction k with
  | zero => intro it; rfl
  | succ k ih =>
    intro it
    rw [nthBackQ, nthDefault]
    simp only [ih]
    congr 1; funext r
    cases r.1 <;> rfl

/-- **One step of `OneIter<T>` against the reference deque** on a window of the `(rank, position)` pairs: same
answer, no fault in either arithmetic mode, relation preserved.  Call alphabet: all of `next`, `next_back`, `nth k`,
`nth_back k` (every `k : Nat`), `len`. -/
theorem oneStep_sim (C : Ctx b v) (tr : Tr) (m : Mode) : StepSim (oneStep tr m b) id (OneWin tr v) := by
  intro it d h c
  cases c with
  | next => exact step_of_sim (next_sim (one_fwdSim C tr m) h)
  | nextBack => exact step_of_sim (nextBack_sim (one_bwdSim C tr m) h)
  | nth k => exact step_of_sim (one_nthSim C tr m k h)
  | nthBack k => exact step_of_sim (nthBackQ_eq tr m b k it ▸ nthBackDefault_sim (one_bwdSim C tr m) k h)
  | len =>
    obtain ⟨r, R, hrel, hd⟩ := h
    exact ⟨it, by simp only [oneStep, dequeStep, id, remaining_eq hrel, hd, win_length], r, R, hrel, hd⟩

/-- **Every finite call history** (`next` / `next_back` / `nth k` / `nth_back k` with arbitrary `k : Nat` / `len`,
in any interleaving) on a set-bit iterator standing for the ranks `[r, R)` yields exactly what the reference deque
yields, with no fault in either arithmetic mode. -/
theorem oneRun_sim (C : Ctx b v) (tr : Tr) (m : Mode) (calls : List ICall) {it : OneIterSt} {r R : Nat}
    (hrel : Rel tr v it r R) :
    oneRun tr m b it calls = ok (dequeRunM (seg (pairs (onesPos (bitsT tr v.bits))) r R) calls) := by
  simpa only [List.map_id, pairs_win r hrel.R_le] using
    run_sim (run := oneRun tr m b) (fun _ => rfl) (fun _ _ _ => rfl) (oneStep_sim C tr m) calls ⟨r, R, hrel, rfl⟩

end One

/-- the full iterator (`one_iter` / `zero_iter`) yields the `(rank, position)` pairs of all set bits -/
theorem oneRun_full {b : BitVector} {v : RawVec} (C : Ctx b v) (tr : Tr) (m : Mode) (calls : List ICall) :
    oneRun tr m b (OneIterSt.full tr b) calls = ok (dequeRunM (pairs (onesPos (bitsT tr v.bits))) calls) := by
  rw [oneRun_sim C tr m calls (Rel_full C tr)]
  congr 2
  unfold seg
  rw [← pairs_length, List.take_length, List.drop_zero]

/-! ### the defect F1 of `nth` as first written (`OneIterSt.nthQOld`): it adds `n` to the rank without clamping;
the repaired `nth` (`OneIterSt.nthQ`) answers `None` on the same inputs -/

/-- in a checked build the ORIGINAL `nth(n)` panics as soon as `rank + n` overflows (any vector, any state) -/
theorem nthQ_checked_overflow (tr : Tr) (b : BitVector) (it : OneIterSt) (n : Nat) (h : 2 ^ 64 ≤ it.next.1 + n) :
    OneIterSt.nthQOld tr .checked b it n = fault (.panic .overflow) := by
  unfold OneIterSt.nthQOld addM
  rw [if_neg (by rw [U64_eq]; omega)]
  rfl

/-- the two-bit vector `11` with all supports enabled -/
def bEx : BitVector := (BitVector.ofRaw (RawVec.ofBits [true, true])).enableAll

/-- the same vector without supports -/
def bEx0 : BitVector := { ones := 2, data := RawVec.ofBits [true, true] }

theorem bEx_ctx : Ctx bEx (RawVec.ofBits [true, true]) := by
  refine ⟨by decide +kernel, by decide +kernel, by decide +kernel, by decide +kernel⟩

/-- one `next` from the full iterator over `11`: yields `(0, 0)`, the state is `⟨(1,1),(2,2)⟩` -/
theorem F1_setup : OneIterSt.nextQ .ident .checked bEx (OneIterSt.full .ident bEx) =
    ok (some (0, 0), ⟨(1, 1), (2, 2)⟩) := by decide +kernel

/-- **F1, checked build** (original code): `nth(2^64 - 1)` after one `next` panics on `next.0 + n` (the reference
answer is `None`) -/
theorem F1_checked : OneIterSt.nthQOld .ident .checked bEx ⟨(1, 1), (2, 2)⟩ (2 ^ 64 - 1) = fault (.panic .overflow) := by
  decide +kernel

/-- **F1, release build** (original code): the sum wraps to `0 < limit`, the counted scan runs past the single data word and
reads out of bounds -/
theorem F1_wrapping : OneIterSt.nthQOld .ident .wrapping bEx ⟨(1, 1), (2, 2)⟩ (2 ^ 64 - 1) = fault .oob := by
  decide +kernel

theorem F1_checked0 : OneIterSt.nthQOld .ident .checked bEx0 ⟨(1, 1), (2, 2)⟩ (2 ^ 64 - 1) = fault (.panic .overflow) := by
  decide +kernel

theorem F1_wrapping0 : OneIterSt.nthQOld .ident .wrapping bEx0 ⟨(1, 1), (2, 2)⟩ (2 ^ 64 - 1) = fault .oob := by
  decide +kernel

/-- **F1 repaired, checked build**: the repaired `nth(2^64 - 1)` on the same state answers `None` and exhausts the
iterator, as the reference does (`F1_reference`) -/
theorem F1_fixed_checked :
    OneIterSt.nthQ .ident .checked bEx ⟨(1, 1), (2, 2)⟩ (2 ^ 64 - 1) = ok (none, ⟨(2, 2), (2, 2)⟩) := by
  decide +kernel

/-- **F1 repaired, release build**: the same answer -/
theorem F1_fixed_wrapping :
    OneIterSt.nthQ .ident .wrapping bEx ⟨(1, 1), (2, 2)⟩ (2 ^ 64 - 1) = ok (none, ⟨(2, 2), (2, 2)⟩) := by
  decide +kernel

theorem F1_fixed_checked0 :
    OneIterSt.nthQ .ident .checked bEx0 ⟨(1, 1), (2, 2)⟩ (2 ^ 64 - 1) = ok (none, ⟨(2, 2), (2, 2)⟩) := by
  decide +kernel

theorem F1_fixed_wrapping0 :
    OneIterSt.nthQ .ident .wrapping bEx0 ⟨(1, 1), (2, 2)⟩ (2 ^ 64 - 1) = ok (none, ⟨(2, 2), (2, 2)⟩) := by
  decide +kernel

/-- what the reference deque answers to the same call: `None` -/
theorem F1_reference :
    (dequeStep (seg (pairs (onesPos (bitsT .ident (RawVec.ofBits [true, true]).bits))) 1 2) (.nth (2 ^ 64 - 1))).1
      = .none := by
  simp only [dequeStep, seg_drop]
  rw [seg_nil _ _ _ (by omega)]

/-- the state used in F1 is a legitimate one: it stands for the ranks `[1, 2)` of the vector `11` -/
theorem F1_state_rel : Rel .ident (RawVec.ofBits [true, true]) ⟨(1, 1), (2, 2)⟩ 1 2 := by
  have hl : (onesPos (bitsT .ident (RawVec.ofBits [true, true]).bits)).length = 2 := by decide +kernel
  have hfull := Rel_full bEx_ctx .ident
  rw [hl] at hfull
  obtain ⟨p, _, hp2, hp3⟩ := nextQ_some bEx_ctx .ident .checked hfull (by omega)
  rw [F1_setup] at hp2
  have hp : p = 0 := by
    have := congrArg (fun o => match o with | ok (some (_, q), _) => q | _ => 0) hp2
    exact this.symm
  subst hp
  exact hp3

/-! ### predecessor / successor -/

theorem filter_onesFrom_length (B : List Bool) : ∀ (s y : Nat),
    ((onesFrom B s).filter (· < y)).length = (B.take (y - s)).count true := by
  induction B with
  | nil => intro s y; simp [onesFrom]
  | cons a bs ih =>
    intro s y
    cases a with
    | true =>
      simp only [onesFrom]
      by_cases h : s < y
      · have e : y - s = (y - (s + 1)) + 1 := by omega
        rw [List.filter_cons_of_pos (by simpa using h), List.length_cons, ih (s + 1) y, e, List.take_succ_cons,
          List.count_cons]
        simp
      · have e : y - s = 0 := by omega
        have e2 : y - (s + 1) = 0 := by omega
        rw [List.filter_cons_of_neg (by simpa using h), ih (s + 1) y, e2, e]
        rfl
    | false =>
      simp only [onesFrom]
      by_cases h : s < y
      · have e : y - s = (y - (s + 1)) + 1 := by omega
        rw [e, List.take_succ_cons, List.count_cons, ih (s + 1) y]
        simp
      · have e : y - s = 0 := by omega
        have e2 : y - (s + 1) = 0 := by omega
        rw [e, List.take_zero, ih (s + 1) y, e2]
        simp

theorem filter_lt_length (B : List Bool) (y : Nat) :
    ((onesPos B).filter (· < y)).length = rankSpec B y := by
  unfold onesPos rankSpec
  rw [filter_onesFrom_length B 0 y]; rfl

theorem rankSpec_le_P (B : List Bool) (y : Nat) : rankSpec B y ≤ (onesPos B).length := by
  rw [← filter_lt_length B y]; exact List.length_filter_le _ _

/-- the bit-level references are the set-level ones of Spec/Bits.lean on the list of set positions -/
theorem predSpec_eq_predSet (B : List Bool) (x : Nat) : predSpec B x = predSet (onesPos B) x := rfl

theorem succSpec_eq_succSet (B : List Bool) (x : Nat) : succSpec B x = succSet (onesPos B) x := by
  unfold succSpec succSet
  simp only [List.head?_drop]

theorem filter_le_length (B : List Bool) (x : Nat) : ((onesPos B).filter (· ≤ x)).length = rankSpec B (x + 1) := by
  rw [← filter_lt_length]
  congr 1
  exact List.filter_congr fun a _ => by simp only [decide_eq_decide]; omega

/-- `predSpec` in terms of rank and the position list -/
theorem predSpec_eq (tr : Tr) (v : RawVec) (x : Nat) :
    predSpec (bitsT tr v.bits) x =
      if rankSpec (bitsT tr v.bits) (x + 1) = 0 then none
      else some (rankSpec (bitsT tr v.bits) (x + 1) - 1,
        (onesPos (bitsT tr v.bits))[rankSpec (bitsT tr v.bits) (x + 1) - 1]?.getD 0) := by
  have hl := filter_le_length (bitsT tr v.bits) x
  have hle := rankSpec_le_P (bitsT tr v.bits) (x + 1)
  rw [predSpec_eq_predSet]
  by_cases hk : rankSpec (bitsT tr v.bits) (x + 1) = 0
  · rw [if_pos hk, predSet_none x (hl.trans hk)]
  · rw [if_neg hk, predSet_some ((onesPos_sorted tr v).imp Nat.le_of_lt) x (rankSpec (bitsT tr v.bits) (x + 1) - 1)
      (by omega) (by omega), List.getElem?_eq_getElem (by omega)]
    rfl

/-- `succSpec` in terms of rank and the position list -/
theorem succSpec_eq (B : List Bool) (x : Nat) :
    succSpec B x = match (onesPos B)[rankSpec B x]? with
      | none => none
      | some p => some (rankSpec B x, p) := by
  rw [succSpec_eq_succSet, succSet_eq x _ (filter_lt_length B x)]
  cases (onesPos B)[rankSpec B x]? <;> rfl

theorem bitsT_ident (B : List Bool) : bitsT .ident B = B := rfl

/-- the saturated `x + 1` has the same rank as `x + 1`: when it is clamped to `2^64 - 1` both are past the end of
the vector (`len < 2^64`) -/
theorem rankSpec_satAdd {v : RawVec} (hlen : v.len < 2 ^ 64) (x : Nat) :
    rankSpec v.bits (BitVector.satAdd x 1) = rankSpec v.bits (x + 1) := by
  unfold BitVector.satAdd
  by_cases h : x + 1 ≤ U64 - 1
  · rw [Nat.min_eq_left h]
  · rw [Nat.min_eq_right (by omega), rankSpec_of_ge _ _ (by rw [RawVec.bits_length, U64_eq]; omega),
      rankSpec_of_ge _ _ (by rw [RawVec.bits_length]; rw [U64_eq] at h; omega)]

/-! the defect F2 of `predecessor` as first written (`BitVector.predecessorQOld`): it adds 1 to the value without
clamping; the repaired `predecessor` (`BitVector.predecessorQ`, `saturating_add`) agrees with the reference -/

/-- **F2, checked build** (original code): `predecessor(2^64 - 1)` panics, whatever the vector -/
theorem F2_checked (b : BitVector) : b.predecessorQOld .checked (2 ^ 64 - 1) = fault (.panic .overflow) := by
  unfold BitVector.predecessorQOld addM
  rw [if_neg (by rw [U64_eq]; omega)]
  rfl

/-- **F2, release build** (original code): the value wraps to 0, `rank(0) = 0`, and the result is the EMPTY iterator although the
vector `11` has set bits `≤ 2^64 - 1` (the reference answer is rank 1 at position 1) -/
theorem F2_wrapping : bEx.predecessorQOld .wrapping (2 ^ 64 - 1) = ok (OneIterSt.emptyIter .ident bEx) := by
  decide +kernel

theorem F2_reference : predSpec (RawVec.ofBits [true, true]).bits (2 ^ 64 - 1) = some (1, 1) := by
  decide +kernel

/-- **F2 repaired** (both builds): `predecessor(2^64 - 1)` on `11` is the iterator at rank 1, position 1, as the
reference says (`F2_reference`) -/
theorem F2_fixed (m : Mode) : bEx.predecessorQ m (2 ^ 64 - 1) = ok ⟨(1, 1), (2, 2)⟩ := by
  cases m <;> decide +kernel

/-! ### the relation in terms of the position list, and absorbing `None` for `OneIter<T>` -/

/-- the positional reading of `Rel`: a cursor position `x` has rank `r` exactly when it lies strictly after
`P[r-1]` (if `r > 0`) and at or before `P[r]` (if `r < |P|`) -/
theorem rank_eq_iff_sandwich (tr : Tr) (v : RawVec) (x r : Nat) (hr : r ≤ (onesPos (bitsT tr v.bits)).length) :
    rankSpec (bitsT tr v.bits) x = r ↔
      (∀ p, 0 < r → (onesPos (bitsT tr v.bits))[r - 1]? = some p → p < x) ∧
      (∀ p, (onesPos (bitsT tr v.bits))[r]? = some p → x ≤ p) := by
  have htot := rankSpec_le_P (bitsT tr v.bits) x
  rw [P_length] at hr htot
  rw [rankSpec_bitsT] at htot ⊢
  constructor
  · intro hx
    constructor
    · intro p h0 hp
      obtain ⟨hp1, hp2⟩ := (P_iff tr v _ p).mp hp
      by_cases h : p < x
      · exact h
      · have := cnt_mono (bitT tr v) (show x ≤ p by omega); omega
    · intro p hp
      obtain ⟨hp1, hp2⟩ := (P_iff tr v _ p).mp hp
      by_cases h : x ≤ p
      · exact h
      · have := cnt_lt_of_true (bitT tr v) hp1 (show p < x by omega); omega
  · rintro ⟨h1, h2⟩
    by_cases hlt : cnt (bitT tr v) x < r
    · exfalso
      obtain ⟨p, hp1, hp2⟩ := exists_pos tr v (r - 1) (by omega)
      have hpx := h1 p (by omega) ((P_iff tr v _ p).mpr ⟨hp1, hp2⟩)
      have a1 := cnt_succ (bitT tr v) p
      rw [hp1] at a1
      have a2 := cnt_mono (bitT tr v) (show p + 1 ≤ x from hpx)
      simp at a1
      omega
    · by_cases hgt : r < cnt (bitT tr v) x
      · exfalso
        obtain ⟨p, hp1, hp2⟩ := exists_pos tr v r (by omega)
        have hxp := h2 p ((P_iff tr v _ p).mpr ⟨hp1, hp2⟩)
        have := cnt_mono (bitT tr v) hxp
        omega
      · omega

theorem deque_nil_step {α} (call : ICall) :
    IsEmptyOut (dequeStep ([] : List α) call).1 ∧ (dequeStep ([] : List α) call).2 = [] := by
  cases call <;> simp [dequeStep, IsEmptyOut]

theorem dequeRun_nil {α} (calls : List ICall) : ∀ o, o ∈ dequeRunM ([] : List α) calls → IsEmptyOut o := by
  induction calls with
  | nil => intro o ho; cases ho
  | cons c cs ih =>
    intro o ho
    have hs := deque_nil_step (α := α) c
    unfold dequeRunM at ho
    simp only [List.mem_cons] at ho
    rcases ho with rfl | ho
    · exact hs.1
    · rw [hs.2] at ho; exact ih o ho

/-- **`None` is absorbing for `OneIter<T>`**: once the ranks are used up (`R ≤ r`, which is the state after any
call that answered `None`), every call history answers only `None` / length 0, without fault -/
theorem oneRun_exhausted {b : BitVector} {v : RawVec} (C : Ctx b v) (tr : Tr) (m : Mode) (calls : List ICall)
    {it : OneIterSt} {r R : Nat} (hrel : Rel tr v it r R) (h : R ≤ r) :
    ∃ os, oneRun tr m b it calls = ok os ∧ ∀ o, o ∈ os → IsEmptyOut o := by
  refine ⟨_, oneRun_sim C tr m calls hrel, ?_⟩
  rw [seg_nil _ _ _ h]
  exact dequeRun_nil calls

/-- an item call that answers `None` leaves the iterator exhausted (`r' = R'`) -/
theorem oneStep_none_exhausted {b : BitVector} {v : RawVec} (C : Ctx b v) (tr : Tr) (m : Mode) {it : OneIterSt}
    {r R : Nat} (hrel : Rel tr v it r R) (call : ICall) (hlen : call ≠ .len)
    (hnone : (dequeStep (seg (pairs (onesPos (bitsT tr v.bits))) r R) call).1 = .none) :
    ∃ it' r', oneStep tr m b it call = ok (.none, it') ∧ Rel tr v it' r' r' := by
  obtain ⟨it', h1, r', R', h3, h2⟩ : ∃ it', oneStep tr m b it call = ok ((dequeStep _ call).1, it') ∧
      OneWin tr v it' (dequeStep _ call).2 := oneStep_sim C tr m ⟨r, R, hrel, pairs_win r hrel.R_le⟩ call
  rw [hnone] at h1
  rw [deque_none_empty _ call hlen hnone] at h2
  obtain rfl : r' = R' := Nat.le_antisymm h3.le (Iter2.win_eq_nil h2)
  exact ⟨it', r', h1, h3⟩

/-! ### the statements with `P[r]` spelled out, and the instances without side hypotheses -/

theorem nextQ_spec {b : BitVector} {v : RawVec} (C : Ctx b v) (tr : Tr) (m : Mode) {it : OneIterSt} {r R : Nat}
    (hrel : Rel tr v it r R) (h : r < R) :
    OneIterSt.nextQ tr m b it =
      ok (some (r, (onesPos (bitsT tr v.bits))[r]'(Nat.lt_of_lt_of_le h hrel.R_le)),
        { it with next := (r + 1, (onesPos (bitsT tr v.bits))[r]'(Nat.lt_of_lt_of_le h hrel.R_le) + 1) }) := by
  obtain ⟨p, hp1, hp2, _⟩ := nextQ_some C tr m hrel h
  rw [List.getElem?_eq_getElem (Nat.lt_of_lt_of_le h hrel.R_le)] at hp1
  rw [Option.some.inj hp1]; exact hp2

theorem nthQ_spec {b : BitVector} {v : RawVec} (C : Ctx b v) (tr : Tr) (m : Mode) {it : OneIterSt} {r R : Nat}
    (hrel : Rel tr v it r R) (n : Nat) (h : r + n < R) :
    OneIterSt.nthQ tr m b it n =
      ok (some (r + n, (onesPos (bitsT tr v.bits))[r + n]'(Nat.lt_of_lt_of_le h hrel.R_le)),
        { it with next := (r + n + 1, (onesPos (bitsT tr v.bits))[r + n]'(Nat.lt_of_lt_of_le h hrel.R_le) + 1) }) := by
  obtain ⟨p, hp1, hp2, _⟩ := nthQ_some C tr m hrel n h
  rw [List.getElem?_eq_getElem (Nat.lt_of_lt_of_le h hrel.R_le)] at hp1
  rw [Option.some.inj hp1]; exact hp2

theorem nextBackQ_spec {b : BitVector} {v : RawVec} (C : Ctx b v) (tr : Tr) (m : Mode) {it : OneIterSt}
    {r R : Nat} (hrel : Rel tr v it r R) (h : r < R) :
    OneIterSt.nextBackQ tr m b it =
      ok (some (R - 1, (onesPos (bitsT tr v.bits))[R - 1]'(by have := hrel.R_le; omega)),
        { it with limit := (R - 1, (onesPos (bitsT tr v.bits))[R - 1]'(by have := hrel.R_le; omega)) }) := by
  obtain ⟨p, hp1, hp2, _⟩ := nextBackQ_some C tr m hrel h
  rw [List.getElem?_eq_getElem (by have := hrel.R_le; omega)] at hp1
  rw [Option.some.inj hp1]; exact hp2

/-- `BitVector::from(raw)` with all supports enabled satisfies the standing hypotheses -/
theorem ctx_enableAll {v : RawVec} (hv : v.WF) (hlen : v.len < 2 ^ 64) : Ctx (BitVector.ofRaw v).enableAll v :=
  ⟨hv, hlen, rfl, countOnes_eq v hv⟩

theorem ctx_ofRaw {v : RawVec} (hv : v.WF) (hlen : v.len < 2 ^ 64) : Ctx (BitVector.ofRaw v) v :=
  ⟨hv, hlen, rfl, countOnes_eq v hv⟩

/-- `one_iter` / `zero_iter` of `BitVector::from(raw)` (no support needed): the reference sequence, no fault -/
theorem oneRun_full_ofRaw {v : RawVec} (hv : v.WF) (hlen : v.len < 2 ^ 64) (tr : Tr) (m : Mode)
    (calls : List ICall) :
    oneRun tr m (BitVector.ofRaw v) (OneIterSt.full tr (BitVector.ofRaw v)) calls =
      ok (dequeRunM (pairs (onesPos (bitsT tr v.bits))) calls) :=
  oneRun_full (ctx_ofRaw hv hlen) tr m calls

/-! ### `select_iter` at a rank

`predecessor` / `successor` ARE `select_iter` at a rank computed from the bits (`predRank`, `rankSpec`), and
`select_iter(r)` is the iterator that stands for the ranks `[r, count)`.  First item, "never faults" and "continues with
consecutive ranks" of all three are then one statement each. -/

/-- the rank at which `predecessor(x)` positions its iterator: that of the last set bit at or before `x`, and the
number of set bits (the empty iterator) when there is none -/
def predRank (B : List Bool) (x : Nat) : Nat :=
  if rankSpec B (x + 1) = 0 then B.count true else rankSpec B (x + 1) - 1

theorem pairs_getElem? (P : List Nat) (r : Nat) : (pairs P)[r]? = P[r]?.map fun p => (r, p) := by
  by_cases h : r < P.length
  · rw [pairs_get P r (by rw [pairs_length]; exact h), List.getElem?_eq_getElem h]
    simp only [List.getElem?_eq_getElem h]; rfl
  · rw [List.getElem?_eq_none (by rw [pairs_length]; omega), List.getElem?_eq_none (by omega)]; rfl

theorem pairs_drop_length (P : List Nat) : (pairs P).drop P.length = [] :=
  List.drop_eq_nil_of_le (by rw [pairs_length]; exact Nat.le_refl _)

/-- the first item of the reference sequence from `predRank` on is `predSpec` -/
theorem pairs_predRank (B : List Bool) (x : Nat) : (pairs (onesPos B))[predRank B x]? = predSpec B x := by
  have e := predSpec_eq .ident (RawVec.ofBits B) x
  rw [RawVec.bits_ofBits, bitsT_ident] at e
  have hle := rankSpec_le_P B (x + 1)
  rw [e, pairs_getElem?]
  unfold predRank
  by_cases hk : rankSpec B (x + 1) = 0
  · rw [if_pos hk, if_pos hk, ← length_onesPos, List.getElem?_eq_none (Nat.le_refl _)]; rfl
  · rw [if_neg hk, if_neg hk, List.getElem?_eq_getElem (by omega)]; rfl

theorem predRank_of_ge (B : List Bool) (x : Nat) (h : B.length ≤ x + 1) :
    predRank B x = if B.count true = 0 then 0 else B.count true - 1 := by
  unfold predRank
  rw [rankSpec_of_ge B (x + 1) h]
  split <;> simp_all

theorem pairs_succRank (B : List Bool) (x : Nat) : (pairs (onesPos B))[rankSpec B x]? = succSpec B x := by
  rw [succSpec_eq, pairs_getElem?]
  cases (onesPos B)[rankSpec B x]? <;> rfl

theorem pairs_eq_some {P : List Nat} {k k' p : Nat} (h : (pairs P)[k]? = some (k', p)) : k' = k ∧ P[k]? = some p := by
  rw [pairs_getElem?] at h
  cases hk : P[k]? with
  | none => rw [hk] at h; cases h
  | some q => rw [hk] at h; cases h; exact ⟨rfl, rfl⟩

/-- the reference sequence of a positioned iterator, read off its first item (the property statements split on it) -/
theorem drop_of_none {P : List Nat} {k : Nat} (h : (pairs P)[k]? = none) : (pairs P).drop k = [] :=
  List.drop_eq_nil_of_le (List.getElem?_eq_none_iff.mp h)

theorem drop_of_some {P : List Nat} {k k' p : Nat} (h : (pairs P)[k]? = some (k', p)) :
    (pairs P).drop k = (pairs P).drop k' := by
  rw [(pairs_eq_some h).1]

section
variable {b : BitVector} {v : RawVec} (C : Ctx b v)
include C

/-- **`select_iter(r)` / `select_zero_iter(r)`, every `r`**: the returned state stands for the ranks `[r, count)`
(for `r ≥ count`: the empty interval at `count`) -/
theorem selectIterT_rel {s : SelSup} (tr : Tr) (m : Mode) (hsup : b.supT tr = some s) (hs : s.Valid tr v) (r : Nat) :
    ∃ it, b.selectIterT tr m r = ok it ∧
      Rel tr v it (min r (onesPos (bitsT tr v.bits)).length) (onesPos (bitsT tr v.bits)).length := by
  obtain ⟨h1, h2⟩ := Rel_selectIter C tr m hsup hs r
  by_cases hr : r < (onesPos (bitsT tr v.bits)).length
  · obtain ⟨p, _, hit, hrel⟩ := h1 hr
    exact ⟨_, hit, by rw [Nat.min_eq_left (Nat.le_of_lt hr)]; exact hrel⟩
  · exact ⟨_, h2 (by omega), by rw [Nat.min_eq_right (by omega)]; exact Rel_empty C tr⟩

/-- `predecessor(x)` is `select_iter` at `predRank` -/
theorem predecessorQ_eq_selectIter {rs : RankSup} (hrank : b.rank = some rs) (hrs : rs.Valid v) (m : Mode) (x : Nat) :
    b.predecessorQ m x = b.selectIterT .ident m (predRank v.bits x) := by
  unfold BitVector.predecessorQ predRank
  simp only []
  rw [rankQ_ok C.wf C.data hrank hrs C.ones (BitVector.satAdd x 1), rankSpec_satAdd C.len x]
  simp only [bind_ok, pure_eq]
  split
  · unfold BitVector.selectIterT
    rw [if_pos (by rw [countT_eq C.data C.ones .ident]; exact Nat.le_refl _)]
  · rfl

/-- `successor(x)` is `select_iter` at the rank of `x` -/
theorem successorQ_eq_selectIter {rs : RankSup} (hrank : b.rank = some rs) (hrs : rs.Valid v) (m : Mode) (x : Nat) :
    b.successorQ m x = b.selectIterT .ident m (rankSpec v.bits x) := by
  unfold BitVector.successorQ
  rw [rankQ_ok C.wf C.data hrank hrs C.ones x]
  simp only [bind_ok, pure_eq]
  split
  · rename_i h
    unfold BitVector.selectIterT
    rw [if_pos (show rankSpec v.bits x ≥ b.countT .ident from h)]
  · rfl

/-- a state standing for `[k, count)`: its first item, and every call history on it -/
theorem Rel.first {tr : Tr} (m : Mode) {it : OneIterSt} {k : Nat}
    (hrel : Rel tr v it k (onesPos (bitsT tr v.bits)).length) :
    ∃ it', OneIterSt.nextQ tr m b it = ok ((pairs (onesPos (bitsT tr v.bits)))[k]?, it') := by
  rw [pairs_getElem?]
  by_cases hk : k < (onesPos (bitsT tr v.bits)).length
  · obtain ⟨p, hp, h, _⟩ := nextQ_some C tr m hrel hk
    exact ⟨_, by rw [h, hp]; rfl⟩
  · rw [List.getElem?_eq_none (by omega)]
    exact ⟨_, nextQ_none tr m b it (by rw [hrel.next_rank, hrel.limit_rank]; omega)⟩

theorem Rel.run {tr : Tr} (m : Mode) {it : OneIterSt} {k : Nat}
    (hrel : Rel tr v it k (onesPos (bitsT tr v.bits)).length) (calls : List ICall) :
    oneRun tr m b it calls = ok (dequeRunM ((pairs (onesPos (bitsT tr v.bits))).drop k) calls) := by
  rw [oneRun_sim C tr m calls hrel]
  unfold seg
  rw [List.take_of_length_le (by rw [pairs_length]; exact Nat.le_refl _)]

/-- **the iterator `select_iter(r)` returns**: first item `(r, P[r])` (nothing from `count` on), and under every call
history the answers of the reference queue over the pairs of rank `r, r + 1, …` -/
theorem selectIterT_at {s : SelSup} (tr : Tr) (m : Mode) (hsup : b.supT tr = some s) (hs : s.Valid tr v) (r : Nat) :
    ∃ it, b.selectIterT tr m r = ok it ∧
      (∃ it', OneIterSt.nextQ tr m b it = ok ((pairs (onesPos (bitsT tr v.bits)))[r]?, it')) ∧
      ∀ calls, oneRun tr m b it calls = ok (dequeRunM ((pairs (onesPos (bitsT tr v.bits))).drop r) calls) := by
  obtain ⟨it, h, hrel⟩ := selectIterT_rel C tr m hsup hs r
  have hd : (pairs (onesPos (bitsT tr v.bits))).drop (min r (onesPos (bitsT tr v.bits)).length) =
      (pairs (onesPos (bitsT tr v.bits))).drop r := by
    by_cases hr : r ≤ (onesPos (bitsT tr v.bits)).length
    · rw [Nat.min_eq_left hr]
    · rw [Nat.min_eq_right (by omega), pairs_drop_length, List.drop_eq_nil_of_le (by rw [pairs_length]; omega)]
  refine ⟨it, h, ?_, fun calls => by rw [hrel.run C m calls, hd]⟩
  obtain ⟨it', h'⟩ := hrel.first C m
  refine ⟨it', ?_⟩
  rw [h', ← List.head?_drop, ← List.head?_drop, hd]

end

/-! ### `IntoIter` (forward only) -/

theorem intoIterStep_sim {α} (xs : List α) (get : Nat → α) (hx : ∀ i, i < xs.length → xs[i]? = some (get i))
    (i : Nat) (hi : i ≤ xs.length) :
    (dequeStep (xs.drop i) .next).1 = (intoIterStep get xs.length i).1 ∧
      (dequeStep (xs.drop i) .next).2 = xs.drop (intoIterStep get xs.length i).2 ∧
      (intoIterStep get xs.length i).2 ≤ xs.length := by
  simp only [intoIterStep, dequeStep]
  by_cases h : i ≥ xs.length
  · rw [if_pos h, List.drop_eq_nil_of_le h]
    exact ⟨rfl, rfl, hi⟩
  · have hlt : i < xs.length := Nat.lt_of_not_le h
    rw [if_neg h, List.drop_eq_getElem_cons hlt, ← Option.some.inj ((List.getElem?_eq_getElem hlt).symm.trans (hx i hlt))]
    exact ⟨rfl, rfl, hlt⟩

end Sds.IterProofs
