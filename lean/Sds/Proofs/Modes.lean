/-
Proofs/Modes: the two arithmetic modes compared.  `x.Le y` — `y` returns what `x` returns, whenever `x` returns — is kept by
`>>=`, `if` and `mapM`, and holds between an arithmetic primitive with overflow checks and the same primitive in any mode.
Hence it holds for every function of the model built from them, one `bind` per `>>=` (the `_le` lemmas beside the functions):
a release build computes what a debug build computes whenever the debug build does not panic.
-/
import Sds.Proofs.Outcome

namespace Sds
open Outcome

def Outcome.Le {α : Type} (x y : Outcome α) : Prop := ∀ a, x = ok a → y = ok a

namespace Outcome.Le
variable {α β : Type}

theorem refl (x : Outcome α) : x.Le x := fun _ h => h

theorem bind {x y : Outcome α} {f g : α → Outcome β} (h : x.Le y) (hf : ∀ a, (f a).Le (g a)) :
    (x >>= f).Le (y >>= g) := by
  intro r hr
  obtain ⟨a, ha, hr⟩ := Outcome.bind_eq_ok hr
  rw [h a ha]; exact hf a r hr

theorem ite {c : Prop} [Decidable c] {x y x' y' : Outcome α} (h : x.Le x') (h' : y.Le y') :
    (if c then x else y).Le (if c then x' else y') := by
  split <;> assumption

theorem mapM_loop {f g : α → Outcome β} (h : ∀ a, (f a).Le (g a)) : ∀ (l : List α) (acc : List β),
    (List.mapM.loop f l acc).Le (List.mapM.loop g l acc)
  | [], _ => refl _
  | a :: l, _ => bind (h a) fun _ => mapM_loop h l _

theorem mapM {f g : α → Outcome β} (h : ∀ a, (f a).Le (g a)) (l : List α) : (l.mapM f).Le (l.mapM g) :=
  mapM_loop h l []

end Outcome.Le

theorem addM_le (m : Mode) (a b : Nat) : (addM .checked a b).Le (addM m a b) := by
  intro r h
  unfold addM at h ⊢
  split at h
  · next hlt => rw [if_pos hlt]; exact h
  · cases h

theorem subM_le (m : Mode) (a b : Nat) : (subM .checked a b).Le (subM m a b) := by
  intro r h
  unfold subM at h ⊢
  split at h
  · next hle => rw [if_pos hle]; exact h
  · cases h

theorem mulM_le (m : Mode) (a b : Nat) : (mulM .checked a b).Le (mulM m a b) := by
  intro r h
  unfold mulM at h ⊢
  split at h
  · next hlt => rw [if_pos hlt]; exact h
  · cases h

end Sds
