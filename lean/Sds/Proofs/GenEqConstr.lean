/-
Proofs/GenEqConstr: the two constructors with nested loops, as TRANSLATED statement by statement from the source
(Generated/FnsConstr.lean), are equal to the hand-written model definitions.

* `rank_support_new_eq : gen_RankSupport_new m v = ok (RankSup.build v)` under
  `hwf : v.data.size = (v.len + 63) / 64` (the code derives the word count from the length, the model from the buffer;
  sharp both ways: `rank_support_new_ne_short`, `rank_support_new_ne_long`) and `hl : v.len + 512 < U64`
  (`(len + 512 - 1) / 512` in `usize`; sharp: `rank_support_new_ne_len`).  Everything else is derived: `block * 8`,
  `block * 8 + word`, `word * 9 ≤ 63` (the shift amount never overflows), the block count ≤ 512 and the running count
  ≤ 512 * block never overflow, and `((ones << (word * 9)) mod 2^64) as u64` is the model's
  `BitVec.ofNat 64 ones <<< (word * 9)` for EVERY `ones` (`ofNat_shl_mod`).
* `sample_index_new_eq : gen_SampleIndex_new m values univ = SampleIndex.new m values univ` under `univ < U64` and
  `values.length < 2^60`; `sample_index_new_eq_of` is the general form (`values.length ≤ U64` and the bit length
  `ns * width + 63 < U64` of the sample vector that `with_len` allocates).  No hypothesis on the values themselves:
  both sides compare them in `Nat`, and the only arithmetic on them is `sample * divisor` (mode arithmetic in both).
  Same order of effects on both sides: `parameters`, `with_len`, `assert_eq!(prev, 0)`, then per sample the threshold
  product, the `while` (= `consume`: stop at `value > threshold`, then `assert!(prev <= value)`, `offset += 1` — which
  cannot overflow because `offset + remaining ≤ len` —, `iter.next()`; an exhausted iterator leaves the loop), the
  `set`, and finally `assert!(universe > prev)`.

Method: `RankSupport::new` cannot fault under its hypotheses, so each of its loops is `for_sat` with the model's fold
and the bound on the running count as invariant.  `SampleIndex::new` faults like the model: the outer loop is the
model's fold of one round (`siStep`, `fill_eq_fold`) by `for_range_sim`, with the numeric invariant that keeps
`offset += 1` in range; inside a round the `while` with `break` is the model's `consume` (`si_while`).
-/
import Sds.Generated.FnsConstr
import Sds.Proofs.GenFns
import Sds.Proofs.GenEqBits
import Sds.Proofs.Tables
import Sds.Proofs.GenEqIdx
import Sds.Proofs.GenEqVec
import Sds.Proofs.GenEqVec2
import Sds.Proofs.GenEqLoop4
import Sds.Proofs.BitsMore
import Sds.Proofs.IntVec
import Sds.Proofs.RL

namespace Sds.GenEq
open Sds Outcome Generated


theorem ofNat_shl_mod (a k : Nat) : BitVec.ofNat 64 ((a <<< k) % U64) = BitVec.ofNat 64 a <<< k := by
  apply BitVec.eq_of_toNat_eq
  rw [U64_eq]
  simp only [BitVec.toNat_shiftLeft, BitVec.toNat_ofNat, Nat.shiftLeft_eq, Nat.mod_mod, Nat.mod_mul_mod]

/-! ### `RankSupport::new` -/

/-- the step of the fold in `RankSup.blockSample` -/
def rsWordStep (data : Array Word) (block : Nat) (acc : Nat × Word) (word : Nat) : Nat × Word :=
  (acc.1 + popcount (rd data (block * 8 + word)),
    acc.2 ||| ((BitVec.ofNat 64 (acc.1 + popcount (rd data (block * 8 + word)))) <<< (word * 9)))

theorem blockSample_eq (data : Array Word) (block bw : Nat) :
    RankSup.blockSample data block bw =
      (((List.range bw).foldl (rsWordStep data block) (0, 0)).1,
       ((List.range bw).foldl (rsWordStep data block) (0, 0)).2 &&& lowSet 63) := rfl

/-- the step of the fold in `RankSup.build` -/
def rsBlockStep (data : Array Word) (acc : Array (Word × Word) × Nat) (block : Nat) : Array (Word × Word) × Nat :=
  (acc.1.push (BitVec.ofNat 64 acc.2, (RankSup.blockSample data block (min 8 (data.size - block * 8))).2),
    acc.2 + (RankSup.blockSample data block (min 8 (data.size - block * 8))).1)

theorem build_eq (v : RawVec) :
    RankSup.build v = ⟨((List.range ((v.len + 511) / 512)).foldl (rsBlockStep v.data) (#[], 0)).1⟩ := rfl

theorem rank_support_new_eq (m : Mode) (v : RawVec) (hwf : v.data.size = (v.len + 63) / 64)
    (hl : v.len + 512 < U64) : gen_RankSupport_new m v = ok (RankSup.build v) := by
  have hU := U64_val
  have e1 : gen_bits_to_words m v.len = ok v.data.size := by
    rw [hwf]; exact vbits_to_words_ok m v.len (by omega)
  have e2 : addM m v.len 512 = ok (v.len + 512) := addM_ok (by omega)
  have e3 : subM m (v.len + 512) 1 = ok (v.len + 511) := subM_ok (by omega)
  have e4 : gDiv (v.len + 511) 512 = ok ((v.len + 511) / 512) := gDiv_ok _ (by decide)
  refine sat_eq.1 ?_
  unfold gen_RankSupport_new
  simp only [e1, e2, e3, e4, bind_ok]
  -- outer loop: `(samples, ones)` is the model's fold over the blocks so far; at most 512 ones per block
  refine for_sat (fun i (s : Nat × Array (Word × Word)) =>
      (s.2, s.1) = (List.range i).foldl (rsBlockStep v.data) (#[], 0) ∧ s.1 ≤ 512 * i) (Nat.zero_le _) _ _
    (fun i s _ hi hI => ?_) (fun s _ => ?_) ⟨rfl, Nat.le_refl _⟩ (fun s hI => ?_)
  · obtain ⟨ones, samples⟩ := s
    obtain ⟨hF, hones⟩ := hI
    have f1 : mulM m i 8 = ok (i * 8) := mulM_ok (by omega)
    have f2 : subM m v.data.size (i * 8) = ok (v.data.size - i * 8) := subM_ok (by omega)
    simp only [hi, decide_true, if_true, f1, f2, bind_ok]
    -- inner loop: `(block_ones, relative_ranks)` is the fold of `blockSample`; at most 64 ones per word
    refine for_sat (fun j (t : Nat × Word) =>
        t = (List.range j).foldl (rsWordStep v.data i) (0, 0) ∧ t.1 ≤ 64 * j) (Nat.zero_le _) _ _
      (fun j t _ hj hJ => ?_) (fun t _ => ?_) ⟨rfl, Nat.le_refl _⟩ (fun t hJ => ?_)
    · obtain ⟨bo, rel⟩ := t
      obtain ⟨hG, hbo⟩ := hJ
      have hj8 : j < 8 := Nat.lt_of_lt_of_le hj (Nat.min_le_left _ _)
      have hp := popcount_le (rd v.data (i * 8 + j))
      have g2 : addM m (i * 8) j = ok (i * 8 + j) := addM_ok (by omega)
      have g3 : v.wordM (i * 8 + j) = ok (rd v.data (i * 8 + j)) := getC_ok (by omega)
      have g4 : mulM m j 9 = ok (j * 9) := mulM_ok (by omega)
      have g5 : addM m bo (popcount (rd v.data (i * 8 + j))) = ok (bo + popcount (rd v.data (i * 8 + j))) :=
        addM_ok (by omega)
      simp only [hj, decide_true, if_true, g2, g3, g4, g5, shlU_ok m _ (show j * 9 < 64 by omega), ofNat_shl_mod,
        bind_ok, pure_eq]
      refine sat_next ⟨rfl, ?_, by show bo + _ ≤ _; omega⟩
      rw [foldl_range_succ, ← hG]; rfl
    · simp only [Nat.lt_irrefl, decide_false, Bool.false_eq_true, if_false]; rfl
    · obtain ⟨bo, rel⟩ := t
      obtain ⟨hG, hbo⟩ := hJ
      have hbw : min 8 (v.data.size - i * 8) ≤ 8 := Nat.min_le_left _ _
      have g6 : addM m ones bo = ok (ones + bo) := addM_ok (by omega)
      simp only [low_set_eq, lowSetT_eq 63 (by decide), g6, bind_ok, pure_eq]
      refine sat_next ⟨rfl, ?_, by show ones + bo ≤ _; omega⟩
      rw [foldl_range_succ, ← hF]
      show _ = rsBlockStep v.data (samples, ones) i
      rw [rsBlockStep, blockSample_eq, ← hG]
  · simp only [Nat.lt_irrefl, decide_false, Bool.false_eq_true, if_false]; rfl
  · obtain ⟨ones, samples⟩ := s
    simp only [pure_eq]
    refine sat_ok ?_
    rw [build_eq, ← hI.1]

/-! ### `SampleIndex::new` -/

/-- state of the inner `while`: the iterator (remaining items), the look-ahead `next`, `offset`, `prev` -/
abbrev SiSt := List Nat × Option Nat × Nat × Nat

theorem consume_inv (thr : Nat) : ∀ (fuel o p : Nat) (vs : List Nat) (r : Nat × Nat × List Nat),
    SampleIndex.consume thr fuel o p vs = ok r → r.1 + r.2.2.length = o + vs.length ∧ o ≤ r.1 := by
  intro fuel
  induction fuel with
  | zero => intro o p vs r h; simp [SampleIndex.consume] at h
  | succ f ih =>
    intro o p vs r h
    cases vs with
    | nil => simp only [SampleIndex.consume] at h; cases h; exact ⟨rfl, Nat.le_refl _⟩
    | cons v rest =>
      simp only [SampleIndex.consume] at h
      by_cases hv : v > thr
      · rw [if_pos hv] at h; cases h; exact ⟨rfl, Nat.le_refl _⟩
      · rw [if_neg hv] at h
        by_cases hp : p ≤ v
        · rw [if_pos hp] at h
          have := ih _ _ _ _ h
          simp only [List.length_cons]; omega
        · rw [if_neg hp] at h; cases h

/-- the `while next.is_some() { … }` loop of `new` (with its `break`), followed by the rest `k` of the body, is the
model's `consume`: for every step function with the four one-step equations of the translated body -/
theorem si_while {ρ τ : Type} (m : Mode) (thr : Nat) (step : SiSt → Outcome (Ctl SiSt ρ)) (k : Ctl SiSt ρ → Outcome τ)
    (h_none : ∀ it o p, step (it, none, o, p) = ok (Ctl.brk (it, none, o, p)))
    (h_gt : ∀ it v o p, v > thr → step (it, some v, o, p) = ok (Ctl.brk (it, some v, o, p)))
    (h_bad : ∀ it v o p, ¬ v > thr → ¬ p ≤ v → step (it, some v, o, p) = fault (.panic .assert))
    (h_le : ∀ it v o p, ¬ v > thr → p ≤ v →
      step (it, some v, o, p) = (addM m o 1 >>= fun o' => ok (Ctl.next (it.tail, it.head?, o', v)))) :
    ∀ (vs : List Nat) (fuel fuel' o p : Nat), vs.length < fuel → vs.length < fuel' → o + vs.length < U64 →
      (loopM fuel step (vs.tail, vs.head?, o, p) >>= k) =
        (SampleIndex.consume thr fuel' o p vs >>= fun r => k (Ctl.brk (r.2.2.tail, r.2.2.head?, r.1, r.2.1))) := by
  intro vs
  induction vs with
  | nil =>
    intro fuel fuel' o p hf hf' _
    obtain ⟨f, rfl⟩ : ∃ f, fuel = f + 1 := ⟨fuel - 1, by simp at hf; omega⟩
    obtain ⟨f', rfl⟩ : ∃ f, fuel' = f + 1 := ⟨fuel' - 1, by simp at hf'; omega⟩
    rw [loopM_succ]
    simp only [List.tail_nil, List.head?_nil, h_none, SampleIndex.consume]
    rfl
  | cons v rest ih =>
    intro fuel fuel' o p hf hf' hb
    simp only [List.length_cons] at hf hf' hb
    obtain ⟨f, rfl⟩ : ∃ f, fuel = f + 1 := ⟨fuel - 1, by omega⟩
    obtain ⟨f', rfl⟩ : ∃ f, fuel' = f + 1 := ⟨fuel' - 1, by omega⟩
    rw [loopM_succ]
    simp only [List.tail_cons, List.head?_cons, SampleIndex.consume]
    by_cases hv : v > thr
    · rw [h_gt _ _ _ _ hv, if_pos hv]; rfl
    · rw [if_neg hv]
      by_cases hp : p ≤ v
      · rw [h_le _ _ _ _ hv hp, if_pos hp, addM_ok (by omega)]
        exact ih f f' (o + 1) v (by omega) (by omega) (by omega)
      · rw [h_bad _ _ _ _ hv hp, if_neg hp]; rfl

theorem set_inv {v v' : IntVec} {i : Nat} {x : Word} (hwf : v.WF) (h : v.set i x = ok v') :
    v'.WF ∧ v'.len = v.len ∧ v'.width = v.width := by
  by_cases hi : i < v.len
  · rw [IntVec.set_ok v i x hi] at h
    cases h
    exact ⟨IntVec.set_WF hwf i hi x, rfl, rfl⟩
  · rw [IntVec.set_fault v i x (by omega)] at h; cases h

/-- one round of `SampleIndex.fill`; the state is `offset`, `prev`, the values left, `samples` -/
def siStep (m : Mode) (divisor : Nat) (t : Nat × Nat × List Nat × IntVec) (sample : Nat) :
    Outcome (Nat × Nat × List Nat × IntVec) :=
  mulM m sample divisor >>= fun thr =>
  SampleIndex.consume thr (t.2.2.1.length + 1) t.1 t.2.1 t.2.2.1 >>= fun r =>
  t.2.2.2.set sample (BitVec.ofNat 64 r.1) >>= fun smp => ok (r.1, r.2.1, r.2.2, smp)

theorem fill_eq_fold (m : Mode) (d : Nat) : ∀ (ls : List Nat) (o p : Nat) (vs : List Nat) (smp : IntVec),
    SampleIndex.fill m d ls o p vs smp = (ls.foldlM (siStep m d) (o, p, vs, smp) >>= fun t => ok (t.2.2.2, t.2.1)) := by
  intro ls
  induction ls with
  | nil => intro o p vs smp; rfl
  | cons a ls ih =>
    intro o p vs smp
    rw [List.foldlM_cons, SampleIndex.fill]
    simp only [siStep, bind_assoc, bind_ok]
    refine bind_congr fun thr => bind_congr fun r => ?_
    obtain ⟨o', p', vs'⟩ := r
    exact bind_congr fun smp' => ih o' p' vs' smp'

theorem obind_ok' {α β : Type} (a : α) (f : α → Outcome β) : (ok a).bind f = f a := rfl

/-- the early return: no values, or an empty universe -/
theorem si_new_early (m : Mode) (values : List Nat) (univ : Nat) (h : values.length = 0 ∨ univ = 0) :
    gen_SampleIndex_new m values univ = SampleIndex.new m values univ := by
  have hw1 : gen_IntVector_with_len m 1 1 (0 : Word) = IntVec.withLen 1 1 0 :=
    int_with_len_eq' m 1 1 0 (by decide)
  have hw2 : IntVec.withLen 1 1 0 = ok _ := IntVec.withLen_eq 1 1 0 (by decide) (by decide)
  have hc : (decide (values.length = 0) || decide (univ = 0)) = true := by simpa using h
  unfold gen_SampleIndex_new
  refine (if_pos hc).trans ?_
  rw [hw1, hw2]
  unfold SampleIndex.new
  cases values with
  | nil => rw [hw2]; rfl
  | cons first rest =>
    have hu : univ = 0 := h.resolve_left (by simp)
    dsimp only
    rw [if_pos hu, hw2]; rfl

/-- general form: after the early return and `parameters`, the outer `for` from sample 1 is the model's fold of
`siStep` (`for_range_sim`, under the numeric invariant), which is `SampleIndex.fill` (`fill_eq_fold`); `hns` is the bit
length of the vector `with_len` allocates -/
theorem sample_index_new_eq_of (m : Mode) (values : List Nat) (univ : Nat) (hu : univ < U64)
    (hlen : values.length ≤ U64)
    (hns : ∀ ns d, 1 ≤ values.length → 1 ≤ univ → SampleIndex.parameters m values.length univ = ok (ns, d) →
      ns * bitLen (BitVec.ofNat 64 (values.length - 1)) + 63 < U64) :
    gen_SampleIndex_new m values univ = SampleIndex.new m values univ := by
  by_cases hearly : values.length = 0 ∨ univ = 0
  · exact si_new_early m values univ hearly
  have hu0 : ¬ univ = 0 := fun h => hearly (Or.inr h)
  unfold gen_SampleIndex_new SampleIndex.new
  cases values with
  | nil => exact absurd (Or.inl rfl) hearly
  | cons first rest =>
    have hl0 : ¬ ((first :: rest).length = 0) := by simp
    simp only [hl0, hu0, decide_false, Bool.or_false, Bool.false_eq_true, if_false,
      sample_parameters_eq m _ univ hu]
    refine bind_congr_ok fun r hp => ?_
    obtain ⟨ns, d⟩ := r
    have hb := hns ns d (by simp) (by omega) hp
    obtain ⟨b1, b2, _, _⟩ := bitLen_spec (BitVec.ofNat 64 ((first :: rest).length - 1))
    obtain ⟨smp, e1, swf, sw, sl, _⟩ := IntVec.withLen_spec ns _ (0 : Word) b1 b2
    have e0 : subM m (first :: rest).length 1 = ok ((first :: rest).length - 1) := subM_ok (by simp)
    have e2 : gen_IntVector_with_len m ns (bitLen (BitVec.ofNat 64 ((first :: rest).length - 1))) (0 : Word) =
        ok smp := by rw [int_with_len_eq' m ns _ 0 hb, e1]
    simp only [e0, bind_ok, bit_len_eq, e2, e1, unwrapRes, List.head?_cons, List.tail_cons, unwrapM]
    by_cases h0 : first = 0
    · subst h0
      simp only [gAssert, decide_true, if_true, bind_ok, ne_eq, not_true_eq_false, if_false, fill_eq_fold, bind_assoc]
      by_cases hn0 : smp.len = 0
      · have hns0 : ns = 0 := by omega
        subst hns0
        rw [hn0, show 0 - 1 + 1 = 0 + 1 from rfl, loopM_succ]
        simp only [Nat.not_lt_zero, decide_false, Bool.false_eq_true, if_false, pure_eq, obind_ok, bind_ok,
          List.range_zero, List.drop_nil, List.foldlM_nil]
        by_cases hup : univ > 0
        · simp only [hup, decide_true, if_true, bind_ok]
        · simp only [hup, decide_false, Bool.false_eq_true, if_false]; rfl
      · simp only [List.length_cons] at hlen
        -- the state of the loop for the model's `offset`, `prev`, values left, `samples`
        rw [(for_range_sim smp.len (fun t => (t.2.2.1.tail, t.2.2.1.head?, t.1, t.2.1, t.2.2.2)) (siStep m d)
            (fun _ t => t.2.2.1.length ≤ (0 :: rest).length ∧ t.1 + t.2.2.1.length < U64 ∧ t.2.2.2.WF ∧
              t.2.2.2.len * t.2.2.2.width < U64) _ ?h1 ?h2 (smp.len - 1) 1 (0, 0, rest, smp) (by omega)
            ⟨by simp, by simp; omega, swf, by rw [sl, sw]; omega⟩).1,
          show List.drop 1 (List.range ns) = List.range' 1 (smp.len - 1) by
            rw [sl, List.range_eq_range', List.drop_range'], bind_assoc]
        case h2 => intro s; simp only [Nat.lt_irrefl, decide_false, Bool.false_eq_true, if_false]; rfl
        case h1 =>
          intro i t hi hI
          obtain ⟨o, p, vs, sm⟩ := t
          obtain ⟨hl, hb, hwf, hsz⟩ := hI
          simp only at hl hb hwf hsz
          simp only [hi, decide_true, if_true, siStep]
          cases mulM m i d with
          | fault e => exact ⟨rfl, fun t' e => by cases e⟩
          | ok thr =>
            simp only [bind_ok]
            rw [si_while m thr _ _ ?none ?gt ?bad ?le vs _ (vs.length + 1) o p (Nat.lt_succ_of_le hl)
              (Nat.lt_succ_self _) hb]
            case none => intro it o p; rfl
            case gt => intro it v o p hv; simp only [Option.isSome_some, if_true, bind_ok, hv, decide_true]; rfl
            case bad =>
              intro it v o p hv hp
              simp only [Option.isSome_some, if_true, bind_ok, hv, hp, decide_false, Bool.false_eq_true, if_false,
                bind_fault]
            case le =>
              intro it v o p hv hp
              simp only [Option.isSome_some, if_true, bind_ok, hv, hp, decide_false, decide_true, Bool.false_eq_true,
                if_false, pure_eq]
            cases hc : SampleIndex.consume thr (vs.length + 1) o p vs with
            | fault e => exact ⟨rfl, fun t' e => by cases e⟩
            | ok r =>
              obtain ⟨o', p', vs'⟩ := r
              obtain ⟨i1, i2⟩ := consume_inv thr _ _ _ _ _ hc
              simp only [bind_ok, int_set_eq m sm i _ hwf hsz] at i1 i2 ⊢
              cases hs : sm.set i (BitVec.ofNat 64 o') with
              | fault e => exact ⟨rfl, fun t' e => by cases e⟩
              | ok smp' =>
                obtain ⟨j1, j2, j3⟩ := set_inv hwf hs
                exact ⟨rfl, fun t' e => by
                  cases e; dsimp only; exact ⟨by omega, by omega, j1, by rw [j2, j3]; exact hsz⟩⟩
        refine bind_congr fun t => ?_
        simp only [bind_ok, pure_eq]
        by_cases hup : univ > t.2.1
        · simp only [hup, decide_true, if_true, bind_ok]
        · simp only [hup, decide_false, Bool.false_eq_true, if_false]; rfl
    · simp only [gAssert, h0, decide_false, Bool.false_eq_true, if_false, ne_eq, not_false_eq_true, if_true]
      rfl

/-- the number of samples chosen by `parameters` is at most the first rounding `⌈values / 8⌉` -/
theorem nsam_le_ns0 {values univ : Nat} (hv : 1 ≤ values) (hu : 1 ≤ univ) :
    SampleIndex.nsam values univ ≤ SampleIndex.ns0 values := by
  have hn := SampleIndex.ns0_pos hv
  have hd := SampleIndex.div0_pos (univ := univ) hv hu
  unfold SampleIndex.nsam
  have hm := Nat.div_add_mod (univ + SampleIndex.ns0 values - 1) (SampleIndex.ns0 values)
  have hr := Nat.mod_lt (univ + SampleIndex.ns0 values - 1) (show 0 < SampleIndex.ns0 values by omega)
  rw [show (univ + SampleIndex.ns0 values - 1) / SampleIndex.ns0 values = SampleIndex.div0 values univ from rfl] at hm
  apply Nat.le_of_lt_succ
  rw [Nat.div_lt_iff_lt_mul (by omega), Nat.succ_mul]
  generalize SampleIndex.div0 values univ = dv at *
  generalize SampleIndex.ns0 values = n0 at *
  generalize (univ + n0 - 1) % n0 = r at *
  omega

/-- `SampleIndex::new` for every input of a realistic size: fewer than 2^60 values, a `usize` universe -/
theorem sample_index_new_eq (m : Mode) (values : List Nat) (univ : Nat) (hu : univ < U64)
    (hlen : values.length < 2 ^ 60) :
    gen_SampleIndex_new m values univ = SampleIndex.new m values univ := by
  apply sample_index_new_eq_of m values univ hu (by rw [U64_eq]; omega)
  intro ns d hv hu1 hp
  rw [SampleIndex.parameters_ok m hv hu1 (by unfold SampleIndex.NoOverflow; rw [U64_eq]; omega)] at hp
  injection hp with hp
  injection hp with hp1 hp2
  subst hp1
  have h1 := nsam_le_ns0 (univ := univ) hv hu1
  have h2 := (bitLen_spec (BitVec.ofNat 64 (values.length - 1))).2.1
  have h3 := Nat.mul_le_mul h1 h2
  unfold SampleIndex.ns0 at h3
  rw [U64_eq]
  omega

/-! ### sharpness of the hypotheses -/

/-- `hl`: `(len + 512 - 1) / 512` is computed in `usize`; at `len = 2^64 - 512` the addition overflows (a panic with
overflow checks on) while the model divides in `Nat`.  Only a vector of ≥ 2^64 - 512 bits (2 EiB of data) gets
there. -/
theorem rank_support_new_ne_len :
    gen_RankSupport_new .checked ⟨U64 - 512, #[]⟩ = fault (.panic .overflow) := by decide

/-- `hwf` (too few words): the code computes the word count from the length and indexes the buffer (index panic),
the model reads the missing word as 0 -/
theorem rank_support_new_ne_short :
    gen_RankSupport_new .checked ⟨1, #[]⟩ = fault (.panic .index) ∧
    RankSup.build ⟨1, #[]⟩ = ⟨#[(0, 0)]⟩ := by decide

/-- `hwf` (too many words): the code only visits `bits_to_words(len)` words, the model's `build` all of `data` -/
theorem rank_support_new_ne_long :
    gen_RankSupport_new .checked ⟨1, #[1, 1]⟩ = ok ⟨#[(0, 1)]⟩ ∧
    RankSup.build ⟨1, #[1, 1]⟩ = ⟨#[(0, 1025)]⟩ := by decide

/-- `hu`: the universe size is a `usize`; at the first non-representable value `2^64` the overflow-free rounding of
the code (`value / n + (value % n != 0) as usize`, mode arithmetic) and the model's (in `Nat`) part ways.  Not an
input of the real code. -/
theorem sample_index_new_ne_univ :
    gen_SampleIndex_new .checked [0] U64 = fault (.panic .overflow) ∧
    (SampleIndex.new .checked [0] U64).isOk = true := by decide

/-- the theorem is not vacuous: first value ≠ 0 and a decreasing value below a threshold (the code and the model
panic alike); a value above the universe that is never consumed (`break`: both succeed — the final
`assert!(universe > prev)` only sees consumed values, which are ≤ the last threshold < universe); the iterator
running out inside the `while` -/
theorem sample_index_new_examples :
    gen_SampleIndex_new .checked [1, 3] 32 = fault (.panic .assert) ∧
    SampleIndex.new .checked [1, 3] 32 = fault (.panic .assert) ∧
    gen_SampleIndex_new .checked [0, 1, 2, 3, 4, 5, 6, 7, 5] 32 = fault (.panic .assert) ∧
    SampleIndex.new .checked [0, 1, 2, 3, 4, 5, 6, 7, 5] 32 = fault (.panic .assert) ∧
    gen_SampleIndex_new .checked [0, 1, 2, 3, 4, 5, 6, 7, 40] 32 =
      SampleIndex.new .checked [0, 1, 2, 3, 4, 5, 6, 7, 40] 32 ∧
    (SampleIndex.new .checked [0, 1, 2, 3, 4, 5, 6, 7, 40] 32).isOk = true ∧
    gen_SampleIndex_new .checked [0, 1, 2, 3, 4, 5, 6, 7, 8] 32 =
      SampleIndex.new .checked [0, 1, 2, 3, 4, 5, 6, 7, 8] 32 ∧
    (SampleIndex.new .checked [0, 1, 2, 3, 4, 5, 6, 7, 8] 32).isOk = true := by decide +kernel

end Sds.GenEq
