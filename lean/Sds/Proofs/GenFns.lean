/-
Proofs/GenFns: the arithmetic helpers of `bits.rs` as TRANSLATED from the source on every run
(Generated/BitsFns.lean, produced expression by expression by tools/gen_lean.py) are equal to the hand-written
model definitions of Model/Bits.lean that all other theorems are about.  If the source of one of these helpers
changes, the generated definition changes with it and the corresponding equation either still holds (the model
follows the code) or stops checking — a named broken obligation, after which the correspondence check supplies
the failing argument.
-/
import Sds.Model.Bits
import Sds.Generated.BitsFns
import Sds.Proofs.GenSupport

namespace Sds.GenFns
open Sds Outcome Generated

theorem words_to_bytes_eq (m : Mode) (n : Nat) : gen_words_to_bytes m n = wordsToBytes m n := by
  unfold gen_words_to_bytes wordsToBytes
  cases mulM m n 8 <;> rfl

theorem words_to_bits_eq (m : Mode) (n : Nat) : gen_words_to_bits m n = wordsToBits m n := by
  unfold gen_words_to_bits wordsToBits
  cases mulM m n 64 <;> rfl

theorem bytes_to_words_eq (m : Mode) (n : Nat) : gen_bytes_to_words m n = bytesToWords m n := by
  unfold gen_bytes_to_words bytesToWords
  cases addM m n 7 <;> rfl

theorem bits_to_words_eq (m : Mode) (n : Nat) : gen_bits_to_words m n = bitsToWords m n := by
  unfold gen_bits_to_words bitsToWords
  cases addM m n 63 <;> rfl

theorem round_up_to_word_bytes_eq (m : Mode) (n : Nat) :
    gen_round_up_to_word_bytes m n = roundUpToWordBytes m n := by
  unfold gen_round_up_to_word_bytes roundUpToWordBytes
  rw [bytes_to_words_eq]
  refine bind_congr fun w => ?_
  rw [words_to_bytes_eq]

theorem round_up_to_word_bits_eq (m : Mode) (n : Nat) :
    gen_round_up_to_word_bits m n = roundUpToWordBits m n := by
  unfold gen_round_up_to_word_bits roundUpToWordBits
  rw [bits_to_words_eq]
  refine bind_congr fun w => ?_
  rw [words_to_bits_eq]

theorem div_round_up_eq (m : Mode) (value n : Nat) : gen_div_round_up m value n = divRoundUp m value n := by
  unfold gen_div_round_up divRoundUp
  refine bind_congr fun a => bind_congr fun b => ?_
  by_cases hn : n = 0 <;> simp [gDiv, hn, Pure.pure]

theorem split_offset_eq (m : Mode) (b : Nat) : gen_split_offset m b = ok (splitOffset b) := rfl

theorem bit_offset_eq (m : Mode) (index offset : Nat) : gen_bit_offset m index offset = bitOffset m index offset := by
  unfold gen_bit_offset bitOffset
  cases addM m (index <<< 6 % U64) offset <;> rfl

end Sds.GenFns
