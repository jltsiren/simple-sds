/-
Proofs/GenEqVec: the methods of `raw_vector.rs` / `int_vector.rs` as TRANSLATED statement by statement from the
source (Generated/FnsVec.lean, produced by tools/rs2lean.py) are equal to the hand-written model definitions of
Model/RawVec.lean and Model/IntVec.lean, under hypotheses that follow from the representation invariants
(`RawVec.WF` / `IntVec.WF`) and from "lengths in bits are below 2^64".
-/
import Sds.Model.IntVec
import Sds.Generated.FnsVec
import Sds.Proofs.GenFns
import Sds.Proofs.GenEqBits
import Sds.Proofs.Tables
import Sds.Proofs.Round
import Sds.Proofs.RawVec

namespace Sds.GenEq
open Sds Outcome Generated


theorem vboolW_eq (b : Bool) : boolW b = if b then (1 : Word) else 0 := rfl

attribute [gen_simp] vboolW_eq

theorem vand_one_eq_one (w : Word) (k : Nat) : decide ((w >>> k) &&& (1 : Word) = (1 : Word)) = w.getLsbD k := by
  have e : (w >>> k) &&& (1 : Word) = if w.getLsbD k then (1 : Word) else 0 := by
    apply BitVec.eq_of_getLsbD_eq
    intro i hi
    by_cases h0 : i = 0
    · subst h0; cases hb : w.getLsbD k <;> simp [hb]
    · cases hb : w.getLsbD k <;> simp [BitVec.getLsbD_one, h0]
  rw [e]
  cases w.getLsbD k <;> decide

/-! ### raw_vector.rs : readers -/

theorem raw_bit_eq (m : Mode) (v : RawVec) (i : Nat) : gen_RawVector_bit m v i = v.bitM i := by
  unfold gen_RawVector_bit RawVec.bitM
  by_cases h : i / 64 < v.data.size <;> simp only [gen_simp, h, mod64_lt]
  exact congrArg ok (vand_one_eq_one _ _)

theorem raw_int_eq' (m : Mode) (v : RawVec) (off w : Nat) (hw : w ≤ 64) (ho : off < U64) :
    gen_RawVector_int m v off w = if w = 0 then ok 0 else readIntM v.data off w := by
  unfold gen_RawVector_int
  simp only [gen_simp, read_int_eq m v.data off w hw ho]

theorem raw_int_eq (m : Mode) (v : RawVec) (off w : Nat) (hw : w ≤ 64) (ho : off < U64)
    (hin : off + w ≤ 64 * v.data.size) : gen_RawVector_int m v off w = ok (v.int off w) := by
  rw [raw_int_eq' m v off w hw ho]
  unfold RawVec.int
  by_cases h0 : w = 0
  · rw [if_pos h0, if_pos h0]
  · rw [if_neg h0, if_neg h0, readIntM_ok _ _ _ (Nat.pos_of_ne_zero h0) hw hin]

theorem raw_word_eq (m : Mode) (v : RawVec) (i : Nat) : gen_RawVector_word m v i = v.wordM i := by
  unfold gen_RawVector_word RawVec.wordM; rfl

theorem raw_word_unchecked_eq (m : Mode) (v : RawVec) (i : Nat) : gen_RawVector_word_unchecked m v i = v.wordU i := by
  unfold gen_RawVector_word_unchecked RawVec.wordU; rfl

attribute [gen_simp] raw_bit_eq raw_word_eq raw_word_unchecked_eq

/-! ### raw_vector.rs : writers -/

theorem raw_set_unused_bits_eq' (m : Mode) (v : RawVec) (b : Bool)
    (hs : v.len % 64 ≠ 0 → v.len / 64 < v.data.size) :
    gen_RawVector_set_unused_bits m v b = ok (v.setUnusedBits b) := by
  unfold gen_RawVector_set_unused_bits RawVec.setUnusedBits
  by_cases h0 : v.len % 64 > 0
  · have hi := hs (Nat.ne_of_gt h0)
    cases b <;> simp only [gen_simp, h0, hi, Nat.le_of_lt (mod64_lt v.len)]
  · simp only [gen_simp, h0]

theorem raw_set_unused_bits_eq (m : Mode) (v : RawVec) (b : Bool) (hs : v.data.size = (v.len + 63) / 64) :
    gen_RawVector_set_unused_bits m v b = ok (v.setUnusedBits b) :=
  raw_set_unused_bits_eq' m v b (by omega)

theorem raw_set_bit_eq (m : Mode) (v : RawVec) (i : Nat) (b : Bool) (hi : i / 64 < v.data.size) :
    gen_RawVector_set_bit m v i b = ok (v.setBit i b) := by
  unfold gen_RawVector_set_bit RawVec.setBit
  simp only [gen_simp, mod64_lt, hi, Array.size_setIfInBounds, rd_set_self, Array.setIfInBounds_setIfInBounds]

theorem raw_set_int_eq (m : Mode) (v : RawVec) (off : Nat) (x : Word) (w : Nat) (hw : w ≤ 64) (ho : off < U64)
    (hin : off + w ≤ 64 * v.data.size) : gen_RawVector_set_int m v off x w = ok (v.setInt off x w) := by
  unfold gen_RawVector_set_int RawVec.setInt
  by_cases h0 : w = 0
  · simp only [gen_simp, h0]
  · simp only [gen_simp, h0, write_int_eq m v.data off x w ho, writeIntM_ok _ _ _ _ (Nat.pos_of_ne_zero h0) hw hin]

theorem raw_push_bit_eq (m : Mode) (v : RawVec) (b : Bool) (hs : v.len / 64 ≤ v.data.size) (hl : v.len + 1 < U64) :
    gen_RawVector_push_bit m v b = ok (v.pushBit b) := by
  unfold gen_RawVector_push_bit RawVec.pushBit
  by_cases he : v.len / 64 = v.data.size
  · simp only [gen_simp, he, mod64_lt, hl, Array.size_push, Nat.lt_succ_self]
  · simp only [gen_simp, he, mod64_lt, hl, Nat.lt_of_le_of_ne hs he]

theorem raw_push_int_eq (m : Mode) (v : RawVec) (x : Word) (w : Nat) (hw : w ≤ 64)
    (hs : v.len ≤ 64 * v.data.size) (hc : 64 * v.data.size < U64) (hl : v.len + w < U64) :
    gen_RawVector_push_int m v x w = ok (v.pushInt x w) := by
  unfold gen_RawVector_push_int RawVec.pushInt
  by_cases h0 : w = 0
  · simp only [gen_simp, h0]
  · have hlen : v.len < U64 := Nat.lt_of_le_of_lt (Nat.le_add_right _ _) hl
    have hw1 : 1 ≤ w := Nat.pos_of_ne_zero h0
    simp only [gen_simp, h0, hl, wordsToBits_ok m _ (Nat.mul_comm _ _ ▸ hc), Nat.mul_comm v.data.size 64]
    by_cases hp : v.len + w > 64 * v.data.size
    · have hin : v.len + w ≤ 64 * (v.data.push (0 : Word)).size := by rw [Array.size_push]; omega
      simp only [gen_simp, hp, write_int_eq m _ v.len x w hlen, writeIntM_ok _ _ _ _ hw1 hw hin]
    · simp only [gen_simp, hp, write_int_eq m _ v.len x w hlen, writeIntM_ok _ _ _ _ hw1 hw (Nat.le_of_not_lt hp)]

theorem vbits_to_words_ok (m : Mode) (n : Nat) (h : n + 63 < U64) : gen_bits_to_words m n = ok ((n + 63) / 64) := by
  rw [Sds.GenFns.bits_to_words_eq, bitsToWords_ok m n h]

/-- the end of `pop_bit`, `pop_int` and `resize`: the buffer is cut (or filled) to the words of the new length and
its unused bits are cleared -/
theorem truncate_eq (m : Mode) (n : Nat) (a : Array Word) (x : Word) (h : n + 63 < U64) {α : Type}
    (k : RawVec → Outcome α) :
    (bitsToWords m n >>= fun t => gen_RawVector_set_unused_bits m ⟨n, resizeArr a t x⟩ false >>= k) =
      k (RawVec.setUnusedBits ⟨n, resizeArr a ((n + 63) / 64) x⟩ false) := by
  rw [bitsToWords_ok m n h, bind_ok, raw_set_unused_bits_eq m _ false (by simp only [size_resizeArr]), bind_ok]

theorem raw_pop_bit_eq (m : Mode) (v : RawVec) (hs : v.data.size = (v.len + 63) / 64) (hl : v.len + 62 < U64) :
    gen_RawVector_pop_bit m v = ok v.popBit := by
  unfold gen_RawVector_pop_bit RawVec.popBit
  obtain ⟨len, data⟩ := v
  simp only [] at hs hl
  by_cases h0 : len = 0
  · simp only [gen_simp, h0]
  · have h1 : 1 ≤ len := Nat.pos_of_ne_zero h0
    have hi : (len - 1) / 64 < data.size := by omega
    simp only [gen_simp, h0, h1, RawVec.bitM, hi, truncate_eq m (len - 1) data 0 (by omega)]

/-- `pop_int`, from what the code needs: the word count only has to cover the length, and the bound is on the length
AFTER the pop (nothing is computed for `w = 0`) -/
theorem raw_pop_int_eq' (m : Mode) (v : RawVec) (w : Nat) (hw : w ≤ 64) (hs : v.len ≤ 64 * v.data.size)
    (hl : w ≠ 0 → v.len + 63 < U64 + w) : gen_RawVector_pop_int m v w = ok (v.popInt w) := by
  unfold gen_RawVector_pop_int RawVec.popInt
  obtain ⟨len, data⟩ := v
  simp only [] at hs hl
  by_cases hge : len ≥ w
  · by_cases h0 : w = 0
    · simp only [gen_simp, h0, Nat.zero_le]
    · have hl := hl h0
      have hint := raw_int_eq m ⟨len, data⟩ (len - w) w hw (by omega) (by simp only []; omega)
      simp only [gen_simp, hge, h0, hint, truncate_eq m (len - w) data 0 (by omega)]
  · simp only [gen_simp, hge]

theorem raw_pop_int_eq (m : Mode) (v : RawVec) (w : Nat) (hw : w ≤ 64) (hs : v.data.size = (v.len + 63) / 64)
    (hl : v.len + 62 < U64) : gen_RawVector_pop_int m v w = ok (v.popInt w) :=
  raw_pop_int_eq' m v w hw (wordCount_bounds hs).1 (by omega)

theorem raw_resize_eq (m : Mode) (v : RawVec) (n : Nat) (b : Bool)
    (hs : n > v.len → v.len % 64 ≠ 0 → v.len / 64 < v.data.size) (hn : n + 63 < U64) :
    gen_RawVector_resize m v n b = ok (v.resize n b) := by
  unfold gen_RawVector_resize RawVec.resize
  obtain ⟨len, data⟩ := v
  by_cases hg : n > len
  · simp only [gen_simp, hg, raw_set_unused_bits_eq' m ⟨len, data⟩ b (hs hg), truncate_eq m n _ _ hn]
  · simp only [gen_simp, hg, truncate_eq m n _ _ hn]

/-! ### with the size-exact word count (first conjunct of `RawVec.WF`) as hypothesis -/

theorem raw_push_bit_eq_sz (m : Mode) (v : RawVec) (b : Bool) (hs : v.data.size = (v.len + 63) / 64)
    (hl : v.len + 1 < U64) : gen_RawVector_push_bit m v b = ok (v.pushBit b) :=
  raw_push_bit_eq m v b (hs ▸ Nat.div_le_div_right (Nat.le_add_right _ _)) hl

theorem raw_push_int_eq_sz (m : Mode) (v : RawVec) (x : Word) (w : Nat) (hw : w ≤ 64)
    (hs : v.data.size = (v.len + 63) / 64) (hl : v.len + 63 < U64) (hl' : v.len + w < U64) :
    gen_RawVector_push_int m v x w = ok (v.pushInt x w) :=
  raw_push_int_eq m v x w hw (wordCount_bounds hs).1
    (Nat.lt_of_le_of_lt (Nat.le_of_lt_succ (wordCount_bounds hs).2) hl) hl'

theorem raw_resize_eq_sz (m : Mode) (v : RawVec) (n : Nat) (b : Bool) (hs : v.data.size = (v.len + 63) / 64)
    (hn : n + 63 < U64) : gen_RawVector_resize m v n b = ok (v.resize n b) :=
  raw_resize_eq m v n b (by intros; omega) hn

/-! ### int_vector.rs -/

/-- item `i < len` of a well-formed vector lies in the buffer and below the bit length -/
theorem intvec_item {v : IntVec} (hwf : v.WF) {i : Nat} (hi : i < v.len) :
    i * v.width + v.width ≤ 64 * v.data.data.size ∧ i * v.width + v.width ≤ v.len * v.width := by
  obtain ⟨_, _, hlen, hsz, _⟩ := hwf
  have h1 : (i + 1) * v.width ≤ v.len * v.width := Nat.mul_le_mul_right _ hi
  rw [Nat.succ_mul] at h1
  omega

theorem int_get_eq (m : Mode) (v : IntVec) (i : Nat) (hwf : v.WF) (hb : v.len * v.width < U64) :
    gen_IntVector_get m v i = v.get i := by
  unfold gen_IntVector_get IntVec.get IntVec.getRaw
  by_cases hi : i < v.len
  · obtain ⟨hin, h1⟩ := intvec_item hwf hi
    have hm : i * v.width < U64 := by omega
    simp only [gen_simp, hi, hm, raw_int_eq m v.data (i * v.width) v.width hwf.2.1 hm hin]
  · simp only [gen_simp, hi]

theorem int_set_eq (m : Mode) (v : IntVec) (i : Nat) (x : Word) (hwf : v.WF) (hb : v.len * v.width < U64) :
    gen_IntVector_set m v i x = v.set i x := by
  unfold gen_IntVector_set IntVec.set
  by_cases hi : i < v.len
  · obtain ⟨hin, h1⟩ := intvec_item hwf hi
    have hm : i * v.width < U64 := by omega
    simp only [gen_simp, hi, hm, raw_set_int_eq m v.data (i * v.width) x v.width hwf.2.1 hm hin]
  · simp only [gen_simp, hi]

theorem int_push_eq (m : Mode) (v : IntVec) (x : Word) (hwf : v.WF) (hb : (v.len + 1) * v.width + 63 < U64) :
    gen_IntVector_push m v x = ok (v.push x) := by
  unfold gen_IntVector_push IntVec.push
  obtain ⟨hw1, hw2, hlen, hsz, _⟩ := hwf
  rw [Nat.succ_mul] at hb
  have hle : v.len + 1 ≤ v.len * v.width + v.width := by
    have := Nat.mul_le_mul_left v.len hw1
    omega
  simp only [gen_simp, raw_push_int_eq_sz m v.data x v.width hw2 hsz (by omega) (by omega),
    show v.len + 1 < U64 by omega]

/-! ### the remaining hypotheses are needed: outside them the code faults (or wraps) where the total model
function returns a value -/

example : gen_RawVector_set_bit .checked ⟨0, #[]⟩ 0 true = fault (.panic .index) ∧
    (RawVec.setBit ⟨0, #[]⟩ 0 true) = ⟨0, #[]⟩ := by decide
example : gen_RawVector_set_unused_bits .checked ⟨1, #[]⟩ false = fault (.panic .index) := by decide
example : gen_RawVector_push_bit .wrapping ⟨U64 - 1, #[]⟩ false = fault (.panic .index) := by decide
example : gen_RawVector_push_int .checked ⟨0, #[]⟩ 0 65 = fault (.panic .index) ∧
    RawVec.pushInt ⟨0, #[]⟩ 0 65 = ⟨65, #[0]⟩ := by decide
example : gen_RawVector_resize .checked ⟨0, #[]⟩ (U64 - 63) false = fault (.panic .overflow) := by decide

end Sds.GenEq
