/-
Proofs/GenEqLoop: the methods of `sparse_vector.rs` that contain `while` loops, as TRANSLATED statement by statement
from the source (Generated/FnsLoop.lean, loops through `loopM` / `Ctl`), are equal to the hand-written model
definitions (Model/Sparse.lean, fuel-indexed structural recursions) — under explicit hypotheses, each of which is
either a representation bound (lengths < 2^64) or shown to be necessary by a concrete counterexample.

  count_zeros : unconditional
  get, successor : width ≤ 64 (argument < 2^64 at width 64), `high.len < 2^64`, `low.len < 2^64`
  rank, predecessor : width ≤ 64 (argument < 2^64 at width 64) and `low ≤ high` for the position returned by
    `upper_bound` — automatic with overflow checks on, and in both modes when `select_zero(h) ≥ h`
  every `Sparse.Encodes` vector: unconditional, both modes (`*_of_encodes`)

Each loop is related to its model recursion through `loopM_ind` / `loopM_bind_eq` / `loopM_eq` of Proofs/GenSupport,
applied to the translated definition itself: what is proved is that one unfolding of the recursion is one run of the
loop body.  The backward scan of `rank` and `predecessor` carries the invariant `low ≤ high` (`rank` also
`low + 1 < 2^64`, for the `+ 1` after the loop).
-/
import Sds.Generated.FnsLoop
import Sds.Proofs.GenEqIdx
import Sds.Proofs.Sparse


namespace Sds.GenEq
open Sds Outcome Generated

/-! ### count_zeros -/

theorem sparse_count_zeros_eq (m : Mode) (s : Sparse) :
    gen_SparseVector_count_zeros m s = ok s.countZeros := by
  unfold gen_SparseVector_count_zeros Sparse.countZeros
  by_cases h : s.countOnes ≥ s.len
  · simp [h]
  · have h1 : subM m s.len s.countOnes = ok (s.len - s.countOnes) := subM_ok (by omega)
    simp [h, h1]

/-! ### get -/

/-- `get`.  `hw`, `hi`: as for `split` (`hi` only matters at width 64); `hh`, `hl`: representation bounds (the model
advances positions in `Nat`, the code with `usize` additions; the loop continues only below the lengths).  `hl` can
only fail with a length `≥ 2^64`: `sparse_get_ne`. -/
theorem sparse_get_eq (m : Mode) (s : Sparse) (i : Nat) (hw : s.width ≤ 64) (hi : s.width = 64 → i < U64)
    (hh : s.high.len < U64) (hl : s.low.len < U64) :
    gen_SparseVector_get m s i = s.get m i := by
  unfold gen_SparseVector_get Sparse.get
  rw [split_eq m s i hw hi, bind_ok]
  simp only [lower_bound_eq]
  refine bind_congr fun p => ?_
  refine loopM_bind_eq _ _ (s.getLoop (s.split i).2) (fun _ => True) (fun _ => rfl) (fun n p _ => ?_)
    (fun _ _ _ _ => trivial) _ p trivial
  rw [Sparse.getLoop]
  by_cases h1 : p.high < s.high.len
  · rw [if_pos h1, if_pos (decide_eq_true h1)]
    cases s.high.get p.high with
    | fault f => rfl
    | ok b =>
      cases b with
      | false => rfl
      | true =>
        simp only [bind_ok, pure_eq, if_true, IntVec.get]
        by_cases h2 : p.low < s.low.len
        · rw [if_pos h2, bind_ok, bind_ok]
          by_cases h3 : (s.low.getRaw p.low).toNat ≥ (s.split i).2
          · rw [if_pos (decide_eq_true h3), if_pos h3]
            exact congrArg ok (Bool.beq_eq_decide_eq _ _)
          · rw [if_neg h3, if_neg (mt of_decide_eq_true h3), bind_of_ok _ (addM_ok (Nat.lt_of_le_of_lt h1 hh)),
              bind_of_ok _ (addM_ok (Nat.lt_of_le_of_lt h2 hl))]
            rfl
        · rw [if_neg h2]; rfl
  · rw [if_neg h1, if_neg (mt of_decide_eq_true h1)]; rfl

/-! ### the hypothesis on `upper_bound` -/

theorem scan_lt (tr : Tr) (m : Mode) (v : RawVec) :
    ∀ (fuel word : Nat) (value : Word) (rr r : Nat), SelSup.scan tr m v fuel word value rr = ok r → r < U64 := by
  intro fuel
  induction fuel with
  | zero => intro word value rr r h; simp [SelSup.scan] at h
  | succ n ih =>
    intro word value rr r h
    rw [SelSup.scan] at h
    split at h
    · obtain ⟨p, _, h2⟩ := bind_eq_ok h
      exact addM_lt h2
    · obtain ⟨nv, _, h2⟩ := bind_eq_ok h
      exact ih _ _ _ _ h2

/-- `select_unchecked` returns a `usize` -/
theorem selectU_lt (s : SelSup) (tr : Tr) (m : Mode) (v : RawVec) (rank r : Nat)
    (h : s.selectU tr m v rank = ok r) : r < U64 := by
  unfold SelSup.selectU at h
  simp only at h
  obtain ⟨r0, _, h⟩ := bind_eq_ok h
  have hr0 : r0.toNat < U64 := by rw [U64_eq]; exact r0.isLt
  split at h
  · simp at h; omega
  · obtain ⟨p, _, h⟩ := bind_eq_ok h
    split at h
    · obtain ⟨d, _, h⟩ := bind_eq_ok h
      exact addM_lt h
    · obtain ⟨d, _, h⟩ := bind_eq_ok h
      obtain ⟨res, hres, h⟩ := bind_eq_ok h
      split at h
      · obtain ⟨w, _, h⟩ := bind_eq_ok h
        exact scan_lt _ _ _ _ _ _ _ _ h
      · simp at h
        have := addM_lt hres
        omega

theorem selectT_lt (tr : Tr) (m : Mode) (b : BitVector) (r z : Nat)
    (h : BitVector.selectT tr m b r = ok (some z)) : z < U64 := by
  unfold BitVector.selectT at h
  split at h
  · simp at h
  · split at h
    · simp at h
    · obtain ⟨p, hp, h⟩ := bind_eq_ok h
      simp at h
      rw [← h]; exact selectU_lt _ _ _ _ _ _ hp

/-- the pair returned by `upper_bound` consists of `usize` values -/
theorem upperBound_lt (m : Mode) (s : Sparse) (hp : Nat) (p : Pos) (h : s.upperBound m hp = ok p) :
    p.high < U64 ∧ p.low < U64 := by
  unfold Sparse.upperBound at h
  obtain ⟨ho, h1, h⟩ := bind_eq_ok h
  obtain ⟨lo, h2, h⟩ := bind_eq_ok h
  obtain ⟨o, h3, h1⟩ := bind_eq_ok h1
  cases o with
  | none => simp [unwrapM] at h1
  | some z =>
    simp [unwrapM] at h1 h
    have hz := selectT_lt _ _ _ _ _ h3
    subst h1
    have := subM_lt hz h2
    rw [← h]; exact ⟨hz, this⟩

/-- with overflow checks on, a position returned by `upper_bound` has `low ≤ high` (the subtraction did not panic) -/
theorem upperBound_le_checked (s : Sparse) (hp : Nat) (p : Pos) (h : s.upperBound .checked hp = ok p) :
    p.low ≤ p.high := by
  unfold Sparse.upperBound at h
  obtain ⟨ho, h1, h⟩ := bind_eq_ok h
  obtain ⟨lo, h2, h⟩ := bind_eq_ok h
  simp at h
  unfold subM at h2
  by_cases h3 : hp ≤ ho
  · simp [h3] at h2
    rw [← h]; simp only; omega
  · simp [h3] at h2

/-- in either mode: `low ≤ high` as soon as `select_zero(hp)`, when it answers, answers with a position `≥ hp` (the
`hp`-th zero is preceded by `hp` zeros) -/
theorem upperBound_le_of_selz (m : Mode) (s : Sparse) (hp : Nat)
    (hz : ∀ z, s.high.selectZeroQ m hp = ok (some z) → hp ≤ z) (p : Pos) (h : s.upperBound m hp = ok p) :
    p.low ≤ p.high := by
  unfold Sparse.upperBound at h
  obtain ⟨ho, h1, h⟩ := bind_eq_ok h
  obtain ⟨lo, h2, h⟩ := bind_eq_ok h
  obtain ⟨o, h3, h1⟩ := bind_eq_ok h1
  cases o with
  | none => simp [unwrapM] at h1
  | some z =>
    simp [unwrapM] at h1 h
    subst h1
    have := hz _ h3
    rw [subM_ok this] at h2
    simp at h2
    rw [← h]; simp only; omega

/-! ### rank -/

/-- `rank`.  `hw`, `hi`: as for `split` (`hi` only matters at width 64).  `hub`: the position returned by `upper_bound`
(for an argument in range) has `low ≤ high`; it keeps `high ≥ 1` whenever the scan steps back (the code computes
`high - 1` in `usize`, the model in `Nat`).  It holds with overflow checks on (`upperBound_le_checked`), when
`select_zero` is correct (`upperBound_le_of_selz`), hence for every encoding (`sparse_rank_eq_of_encodes`); without
it the statement is false (`sparse_rank_ne`). -/
theorem sparse_rank_eq (m : Mode) (s : Sparse) (i : Nat) (hw : s.width ≤ 64) (hi : s.width = 64 → i < U64)
    (hub : i < s.len → ∀ p, s.upperBound m (s.split i).1 = ok p → p.low ≤ p.high) :
    gen_SparseVector_rank m s i = s.rank m i := by
  unfold gen_SparseVector_rank Sparse.rank
  by_cases h0 : i ≥ s.len
  · simp [h0]
  · simp only [h0, decide_false, if_false, split_eq m s i hw hi, bind_ok, upper_bound_eq, Bool.false_eq_true]
    cases h : s.upperBound m (s.split i).1 with
    | fault f => rfl
    | ok p =>
      have hle := hub (by omega) p h
      have hlt := (upperBound_lt m s _ p h).2
      by_cases h1 : p.low = 0
      · simp only [bind_ok, if_pos h1, decide_eq_true h1, if_true]
      · have e1 : subM m p.high 1 = ok (p.high - 1) := subM_ok (by omega)
        have e2 : subM m p.low 1 = ok (p.low - 1) := subM_ok (by omega)
        simp only [bind_ok, if_neg h1, decide_eq_false h1, if_false, e1, e2, Bool.false_eq_true]
        refine loopM_ind _ _ (fun n q => s.backLoop (s.split i).2 false n q >>= _)
          (fun q => q.low ≤ q.high ∧ q.low + 1 < U64) (fun _ => rfl) (fun n q hq R hR => ?_) _ _
          ⟨Nat.sub_le_sub_right hle 1, by simp only; omega⟩
        rw [Sparse.backLoop]
        have ea : addM m q.low 1 = ok (q.low + 1) := addM_ok hq.2
        cases s.high.get q.high with
        | fault f => rfl
        | ok b =>
          cases b with
          | false => exact ea
          | true =>
            simp only [bind_ok, if_true, IntVec.get, Bool.false_eq_true, if_false]
            by_cases h2 : q.low < s.low.len
            · rw [if_pos h2, bind_ok, bind_ok, pure_eq, bind_ok]
              by_cases h3 : (s.low.getRaw q.low).toNat ≥ (s.split i).2
              · rw [if_pos (decide_eq_true h3), if_pos h3]
                by_cases h4 : q.low = 0
                · rw [if_pos (decide_eq_true h4), if_pos h4]; rfl
                · have h5 : 1 ≤ q.low := Nat.pos_of_ne_zero h4
                  rw [if_neg (mt of_decide_eq_true h4), if_neg h4, subM_bind (Nat.le_trans h5 hq.1), subM_bind h5]
                  exact hR _ ⟨Nat.sub_le_sub_right hq.1 1, Nat.lt_of_le_of_lt (Nat.add_le_add_right (Nat.sub_le _ _) 1) hq.2⟩
              · rw [if_neg (mt of_decide_eq_true h3), if_neg h3]; exact ea
            · rw [if_neg h2]; rfl

/-! ### predecessor -/

/-- `predecessor`.  `hv`: as for `split` (only matters at width 64); `hub`: the position returned by `upper_bound` has
`low ≤ high`, as for `rank` (necessary: `sparse_predecessor_ne`).  The second loop subtracts with the mode's
arithmetic in the model as well and needs nothing. -/
theorem sparse_predecessor_eq (m : Mode) (s : Sparse) (v : Nat) (hw : s.width ≤ 64)
    (hv : s.width = 64 → min v (s.len - 1) < U64)
    (hub : s.len ≠ 0 → ∀ p, s.upperBound m (s.split (min v (s.len - 1))).1 = ok p → p.low ≤ p.high) :
    gen_SparseVector_predecessor m s v = s.predecessor m v := by
  unfold gen_SparseVector_predecessor Sparse.predecessor
  by_cases h0 : s.len = 0
  · simp [h0]
  · have e0 : subM m s.len 1 = ok (s.len - 1) := subM_ok (by omega)
    simp only [h0, decide_false, if_false, e0, split_eq m s _ hw hv, bind_ok, upper_bound_eq, Bool.false_eq_true]
    cases h : s.upperBound m (s.split (min v (s.len - 1))).1 with
    | fault f => rfl
    | ok p =>
      have hle := hub h0 p h
      by_cases h1 : p.low = 0
      · simp only [bind_ok, if_pos h1, decide_eq_true h1, if_true]
      · have e1 : subM m p.high 1 = ok (p.high - 1) := subM_ok (by omega)
        have e2 : subM m p.low 1 = ok (p.low - 1) := subM_ok (by omega)
        simp only [bind_ok, if_neg h1, decide_eq_false h1, if_false, e1, e2, Bool.false_eq_true]
        -- the first loop, with what follows a `break` left as it stands …
        refine (loopM_ind _ ?fin (fun n q => s.backLoop (s.split (min v (s.len - 1))).2 true n q >>= fun r =>
            match r with
            | none => pure (SpOneIter.emptyIter s)
            | some q => ?fin (Ctl.brk q))
          (fun q => q.low ≤ q.high) (fun _ => rfl) (fun n q hq R hR => ?_) _ ⟨p.high - 1, p.low - 1⟩ (Nat.sub_le_sub_right hle 1)).trans ?_
        · rw [Sparse.backLoop]
          cases s.high.get q.high with
          | fault f => rfl
          | ok b =>
            cases b with
            | false => rfl
            | true =>
              simp only [bind_ok, if_true, IntVec.get]
              by_cases h2 : q.low < s.low.len
              · rw [if_pos h2, bind_ok, bind_ok, pure_eq, bind_ok]
                by_cases h3 : (s.low.getRaw q.low).toNat > (s.split (min v (s.len - 1))).2
                · rw [if_pos (decide_eq_true h3), if_pos h3]
                  by_cases h4 : q.low = 0
                  · rw [if_pos (decide_eq_true h4), if_pos h4]; rfl
                  · have h5 : 1 ≤ q.low := Nat.pos_of_ne_zero h4
                    rw [if_neg (mt of_decide_eq_true h4), if_neg h4, subM_bind (Nat.le_trans h5 hq), subM_bind h5]
                    exact hR _ (Nat.sub_le_sub_right hq 1)
                · rw [if_neg (mt of_decide_eq_true h3), if_neg h3]; rfl
              · rw [if_neg h2]; rfl
        -- … then the second one, from the position `q` where the first one stops
        · refine bind_congr fun r => ?_
          cases r with
          | none => rfl
          | some q =>
            refine loopM_ind _ _ (fun n (q' : Pos) => SpOneIter.skipBwd m s n q'.high >>= fun h =>
              pure (⟨⟨h, q.low⟩, ⟨s.high.len, s.low.len⟩⟩ : SpOneIter)) (fun q' => q'.low = q.low) (fun _ => rfl)
              (fun n q' hq' R hR => ?_) _ q rfl
            rw [SpOneIter.skipBwd]
            cases s.high.get q'.high with
            | fault f => rfl
            | ok b =>
              cases b with
              | true => obtain ⟨h, l⟩ := q'; cases hq'; rfl
              | false =>
                cases subM m q'.high 1 with
                | fault f => rfl
                | ok h' => exact hR _ hq'

/-! ### successor -/

/-- `successor`.  `hw`, `hi`: as for `split`; `hh`, `hl`: representation bounds, as for `get` (`sparse_successor_ne`).
The first loop is `succLoop1` (leaving with `ret` when an element is found, with `brk` otherwise), the second
`succLoop2`. -/
theorem sparse_successor_eq (m : Mode) (s : Sparse) (v : Nat) (hw : s.width ≤ 64) (hi : s.width = 64 → v < U64)
    (hh : s.high.len < U64) (hl : s.low.len < U64) :
    gen_SparseVector_successor m s v = s.successor m v := by
  unfold gen_SparseVector_successor Sparse.successor
  by_cases h0 : v ≥ s.len
  · rw [if_pos (decide_eq_true h0), if_pos h0]; rfl
  rw [if_neg (mt of_decide_eq_true h0), if_neg h0, split_eq m s v hw hi, bind_ok]
  simp only [lower_bound_eq]
  refine bind_congr fun p => ?_
  refine (congrArg (· >>= _) (loopM_eq _ (fun fuel p => s.succLoop1 (s.split v).2 fuel p >>= fun r =>
    pure (if r.1 then Ctl.ret (⟨r.2, (⟨s.high.len, s.low.len⟩ : Pos)⟩ : SpOneIter) else Ctl.brk r.2))
    (fun _ => True) (fun _ => rfl) (fun n p _ => ?_) (fun _ _ _ _ => trivial) _ p trivial)).trans ?_
  · simp only [Sparse.succLoop1]
    by_cases h1 : p.high < s.high.len
    · rw [if_pos h1, if_pos (decide_eq_true h1)]
      cases s.high.get p.high with
      | fault f => rfl
      | ok b =>
        cases b with
        | false => rfl
        | true =>
          simp only [bind_ok, pure_eq, if_true, IntVec.get]
          by_cases h2 : p.low < s.low.len
          · rw [if_pos h2, bind_ok, bind_ok]
            by_cases h3 : (s.low.getRaw p.low).toNat ≥ (s.split v).2
            · rw [if_pos (decide_eq_true h3), if_pos h3]; rfl
            · rw [if_neg h3, if_neg (mt of_decide_eq_true h3), bind_of_ok _ (addM_ok (Nat.lt_of_le_of_lt h1 hh)),
                bind_of_ok _ (addM_ok (Nat.lt_of_le_of_lt h2 hl))]
              rfl
          · rw [if_neg h2]; rfl
    · rw [if_neg h1, if_neg (mt of_decide_eq_true h1)]; rfl
  · rw [bind_assoc]
    refine bind_congr fun ⟨found, q⟩ => ?_
    cases found with
    | true => rfl
    | false =>
      refine loopM_bind_eq _ _ (fun fuel p => s.succLoop2 fuel p >>= fun r =>
        match r with
        | some q => pure (⟨q, (⟨s.high.len, s.low.len⟩ : Pos)⟩ : SpOneIter)
        | none => pure (SpOneIter.emptyIter s))
        (fun _ => True) (fun _ => rfl) (fun n p _ => ?_) (fun _ _ _ _ => trivial) _ q trivial
      simp only [Sparse.succLoop2]
      by_cases h1 : p.high < s.high.len
      · rw [if_pos h1, if_pos (decide_eq_true h1)]
        cases s.high.get p.high with
        | fault f => rfl
        | ok b =>
          cases b with
          | true => rfl
          | false =>
            simp only [bind_ok, Bool.false_eq_true, if_false]
            rw [bind_of_ok _ (addM_ok (Nat.lt_of_le_of_lt h1 hh))]
            rfl
      · rw [if_neg h1, if_neg (mt of_decide_eq_true h1)]; rfl

/-! ### corollaries: overflow checks on -/

/-- with overflow checks on, `rank` needs nothing beyond the hypotheses of `split` -/
theorem sparse_rank_eq_checked (s : Sparse) (i : Nat) (hw : s.width ≤ 64) (hi : s.width = 64 → i < U64) :
    gen_SparseVector_rank .checked s i = s.rank .checked i :=
  sparse_rank_eq .checked s i hw hi (fun _ p h => upperBound_le_checked s _ p h)

theorem sparse_predecessor_eq_checked (s : Sparse) (v : Nat) (hw : s.width ≤ 64)
    (hv : s.width = 64 → min v (s.len - 1) < U64) :
    gen_SparseVector_predecessor .checked s v = s.predecessor .checked v :=
  sparse_predecessor_eq .checked s v hw hv (fun _ p h => upperBound_le_checked s _ p h)

/-! ### corollaries: either mode, `select_zero` answers with a position `≥` its argument -/

theorem sparse_rank_eq_of_selz (m : Mode) (s : Sparse) (i : Nat) (hw : s.width ≤ 64) (hi : s.width = 64 → i < U64)
    (hz : ∀ z, s.high.selectZeroQ m (s.split i).1 = ok (some z) → (s.split i).1 ≤ z) :
    gen_SparseVector_rank m s i = s.rank m i :=
  sparse_rank_eq m s i hw hi (fun _ p h => upperBound_le_of_selz m s _ hz p h)

theorem sparse_predecessor_eq_of_selz (m : Mode) (s : Sparse) (v : Nat) (hw : s.width ≤ 64)
    (hv : s.width = 64 → min v (s.len - 1) < U64)
    (hz : ∀ z, s.high.selectZeroQ m (s.split (min v (s.len - 1))).1 = ok (some z) →
      (s.split (min v (s.len - 1))).1 ≤ z) :
    gen_SparseVector_predecessor m s v = s.predecessor m v :=
  sparse_predecessor_eq m s v hw hv (fun _ p h => upperBound_le_of_selz m s _ hz p h)

/-! ### corollaries: well-formed vectors (`Sparse.Encodes`), both modes, all arguments -/

section Encodes
variable {s : Sparse} {n w : Nat} {P : List Nat}

theorem encodes_width (hs : s.Encodes n w P) : s.width ≤ 64 ∧ s.width ≠ 64 := by
  have h1 := hs.width_eq
  have h2 := hs.w_lt
  unfold Sparse.width
  omega

theorem encodes_low_lt (hs : s.Encodes n w P) : s.low.len < U64 := by
  have := hs.m_lt
  rw [hs.low_len, U64_eq]; omega

theorem encodes_upperBound_le (hs : s.Encodes n w P) (m : Mode) (i : Nat) (hi : i < n) :
    ∀ p, s.upperBound m (s.split i).1 = ok p → p.low ≤ p.high := by
  intro p h
  have e : (s.split i).1 = i >>> w := by simp [Sparse.split, Sparse.width, hs.width_eq]
  rw [e, upperBound_ok hs m _ (shr_lt_getBuckets hs.w_lt hi)] at h
  injection h with h
  subst h
  exact Nat.le_add_left _ _

theorem sparse_get_eq_of_encodes (hs : s.Encodes n w P) (m : Mode) (i : Nat) :
    gen_SparseVector_get m s i = s.get m i :=
  sparse_get_eq m s i (encodes_width hs).1 (fun h => absurd h (encodes_width hs).2) hs.high_lt (encodes_low_lt hs)

theorem sparse_rank_eq_of_encodes (hs : s.Encodes n w P) (m : Mode) (i : Nat) :
    gen_SparseVector_rank m s i = s.rank m i :=
  sparse_rank_eq m s i (encodes_width hs).1 (fun h => absurd h (encodes_width hs).2)
    (fun hi => encodes_upperBound_le hs m i (by rw [← hs.len_eq]; exact hi))

theorem sparse_predecessor_eq_of_encodes (hs : s.Encodes n w P) (m : Mode) (v : Nat) :
    gen_SparseVector_predecessor m s v = s.predecessor m v :=
  sparse_predecessor_eq m s v (encodes_width hs).1 (fun h => absurd h (encodes_width hs).2)
    (fun h0 => encodes_upperBound_le hs m _ (by have := hs.len_eq; omega))

theorem sparse_successor_eq_of_encodes (hs : s.Encodes n w P) (m : Mode) (v : Nat) :
    gen_SparseVector_successor m s v = s.successor m v :=
  sparse_successor_eq m s v (encodes_width hs).1 (fun h => absurd h (encodes_width hs).2) hs.high_lt
    (encodes_low_lt hs)

end Encodes

/-! ### the hypotheses are necessary

All four examples use a hand-made `select_zero` support that answers `select_zero(1) = 0` (no support built by
`SelectSupport::new`, in particular none obtained by loading a file, does that) and arithmetic without overflow
checks: `upper_bound(1) = (0, 2^64 - 1)`, `lower_bound(2) = (1, 2^64 - 1)` are then positions with `low > high`. -/

/-- a `select_zero` support with `select_zero(1) = 0` -/
def badSelZero : SelSup := ⟨⟨2, 64, ⟨128, #[0, 0]⟩⟩, ⟨2, 64, ⟨128, #[0, 0]⟩⟩, ⟨0, 64, ⟨0, #[]⟩⟩⟩

/-- universe 8, width 1, `high` = 128 bits with first word `w0`, an empty-data `low` of length `ll` -/
def badSparse (w0 : Word) (ones ll : Nat) : Sparse :=
  ⟨8, { ones := ones, data := ⟨128, #[w0, 0]⟩, selectZero := some badSelZero }, ⟨ll, 1, ⟨0, #[]⟩⟩⟩

/-- `hub` is necessary for `rank`: from `(0, 2^64 - 1)` the code steps to `high = 0 - 1 = 2^64 - 1` and the read of
`high` panics; the model steps to `high = 0` (truncated subtraction), finds an unset bit and answers `2^64 - 1`. -/
theorem sparse_rank_ne :
    (badSparse 0 0 0).upperBound .wrapping ((badSparse 0 0 0).split 2).1 = ok ⟨0, 2 ^ 64 - 1⟩ ∧
    gen_SparseVector_rank .wrapping (badSparse 0 0 0) 2 = fault (.panic .index) ∧
    (badSparse 0 0 0).rank .wrapping 2 = ok (2 ^ 64 - 1) := by
  decide +kernel

/-- `hub` is necessary for `predecessor`: same position, bit 0 of `high` set; the code panics on the read of `high` at
`2^64 - 1`, the model on the read of `low` at `2^64 - 2` (a different panic). -/
theorem sparse_predecessor_ne :
    gen_SparseVector_predecessor .wrapping (badSparse 1 1 0) 2 = fault (.panic .index) ∧
    (badSparse 1 1 0).predecessor .wrapping 2 = fault (.panic .assert) := by
  decide +kernel

/-- `hl` is necessary for `get` and `successor`, but only violated by a `low` of length `≥ 2^64` (not representable):
`lower_bound(2) = (1, 2^64 - 1)`, the code wraps `low + 1` to 0, the model goes on to `2^64`. -/
theorem sparse_get_ne :
    gen_SparseVector_get .wrapping (badSparse 6 2 (2 ^ 64)) 5 = ok false ∧
    (badSparse 6 2 (2 ^ 64)).get .wrapping 5 = fault (.panic .assert) := by
  decide +kernel

theorem sparse_successor_ne :
    gen_SparseVector_successor .wrapping (badSparse 6 2 (2 ^ 64)) 5 =
      ok ⟨⟨128, 2 ^ 64⟩, ⟨128, 2 ^ 64⟩⟩ ∧
    (badSparse 6 2 (2 ^ 64)).successor .wrapping 5 = fault (.panic .assert) := by
  decide +kernel

end Sds.GenEq
