/-
Proofs/Glue5: glue lemmas for the property files C03, C08, C09 (all in namespace `Sds.Glue5`).

* run-length vector: the answers decided by the first comparison in the code (`rl_select_past`,
  `rl_selectZero_past`, `rl_successor_past`, `rl_predecessor_clamp`), `select_zero_iter` succeeds
  (`rl_selectZeroIter_ok`), `select_iter` drained (`rl_selectIter_drain`), `getSpec` in list terms.
* list-level facts about the reference answers for out-of-range arguments (`succSpec_none_of_ge`,
  `predSpec_of_ge`, `predSpec_clamp`, `selectZeroSpec_eq_none`) and the set-level reference functions on
  `onesPos B` (`set_specs_onesPos`, `selectZeroSet_onesPos`, `onesPos_admissible`).
* sparse vector: "no out-of-bounds access" (`≠ fault .oob`) for `get(i)` with ANY `i` (`sparse_get_not_oob`),
  `select_zero_iter` succeeds (`sparse_selectZeroIter_ok`), the documented out-of-range answers
  (`sparse_rank_past`, …), first items of `predecessor` / `successor`, positioned iterators under every
  `next` / `next_back` history (`sparse_iter_histories`).
-/
import Sds.Proofs.Glue4
import Sds.Proofs.RLQueries
import Sds.Proofs.Sparse2
import Sds.Proofs.Glue

namespace Sds
open Outcome

namespace Glue5
open RunIter RLBuilder SampleIndex

/-! ### run-length vector: the answers the code gives before looking at the data -/

theorem rl_select_past (m : Mode) (v : RL) (r : Nat) (h : v.ones ≤ r) :
    v.select m r = ok none ∧ v.selectIter m r = ok (RLOneIter.emptyIter v) := by
  constructor
  · unfold RL.select; rw [if_pos h]
  · unfold RL.selectIter; rw [if_pos h]

/-- the iterator returned by `select_zero_iter(r)`, `r ≥ count_zeros` -/
def rlZeroEnd (v : RL) : RLZeroIter := ⟨RunIter.emptyIter v, true, (v.countZeros, v.len)⟩

theorem rl_selectZero_past (m : Mode) (v : RL) (r : Nat) (h : v.countZeros ≤ r) :
    v.selectZero m r = ok none ∧ v.selectZeroIter m r = ok (rlZeroEnd v) := by
  constructor
  · unfold RL.selectZero; rw [if_pos h]
  · unfold RL.selectZeroIter; rw [if_pos h]; rfl

/-- … which is empty (`ones ≤ len`: so that `rank_zero` of the end position does not underflow) -/
theorem rl_zeroEnd_next (m : Mode) (v : RL) (h : v.ones ≤ v.len) :
    (rlZeroEnd v).nextQ m v = ok (none, rlZeroEnd v) := by
  unfold RLZeroIter.nextQ rlZeroEnd RunIter.rankZero RunIter.emptyIter RunIter.offsetBits RunIter.rank
  simp only [subM_ok h, bind_ok]
  simp

theorem rl_successor_past (m : Mode) (v : RL) (x : Nat) (h : v.len ≤ x) :
    v.successor m x = ok (RLOneIter.emptyIter v) := by
  unfold RL.successor; rw [if_pos h]

/-- `predecessor(x)`, `x ≥ len`: literally the computation of `predecessor(len - 1)` (the argument is clamped
first); the empty iterator for the empty vector -/
theorem rl_predecessor_clamp (m : Mode) (v : RL) (x : Nat) (h : v.len ≤ x) :
    v.predecessor m x = v.predecessor m (v.len - 1) ∧
    (v.len = 0 → v.predecessor m x = ok (RLOneIter.emptyIter v)) := by
  constructor
  · unfold RL.predecessor
    rw [show min x (v.len - 1) = min (v.len - 1) (v.len - 1) by omega]
  · intro h0
    unfold RL.predecessor; rw [if_pos h0]

/-- `select_zero_iter(r)` succeeds for every `r` on a well-formed vector, positioned at `(r, select_zero(r))` -/
theorem rl_selectZeroIter_ok (m : Mode) {v : RL} {R : List (Nat × Nat)} (g : RLQ.Good v R) (r : Nat) :
    ∃ z, v.selectZeroIter m r = ok z ∧
      (r < v.countZeros → z.pos.1 = r ∧ v.selectZero m r = ok (some z.pos.2)) := by
  by_cases hr : r ≥ v.countZeros
  · exact ⟨_, (rl_selectZero_past m v r hr).2, fun h => absurd h (by omega)⟩
  · have h := g.selectZero m r
    unfold RL.selectZero at h
    rw [if_neg hr] at h
    obtain ⟨it, h1, h⟩ := Outcome.bind_eq_ok h
    obtain ⟨⟨r', it', gn⟩, h2, h3⟩ := Outcome.bind_eq_ok h
    refine ⟨⟨it', gn, (r, r')⟩, ?_, fun _ => ⟨rfl, ?_⟩⟩
    · unfold RL.selectZeroIter
      rw [if_neg hr, h1, bind_ok, h2]; rfl
    · unfold RL.selectZero
      rw [if_neg hr, h1, bind_ok, h2]; rfl

/-! ### the reference answers for out-of-range arguments -/

theorem selectZeroSpec_eq_none (B : List Bool) (r : Nat) (h : B.count false ≤ r) : selectZeroSpec B r = none :=
  selectSpec_eq_none (B.map not) r (by rw [Glue.count_true_map_not]; exact h)

theorem succSpec_none_of_ge (B : List Bool) (x : Nat) (h : B.length ≤ x) : succSpec B x = none := by
  rw [IterProofs.succSpec_eq, rankSpec_of_ge B x h,
    List.getElem?_eq_none (by rw [length_onesPos]; exact Nat.le_refl _)]

/-- `predSpec B x` for `x + 1 ≥ |B|`: the last set bit with its rank, `none` when there is none -/
theorem predSpec_of_ge (B : List Bool) (x : Nat) (h : B.length ≤ x + 1) :
    predSpec B x = if B.count true = 0 then none
      else some (B.count true - 1, (onesPos B)[B.count true - 1]?.getD 0) := by
  have e := IterProofs.predSpec_eq .ident (RawVec.ofBits B) x
  rw [RawVec.bits_ofBits, IterProofs.bitsT_ident, rankSpec_of_ge B (x + 1) h] at e
  exact e

theorem predSpec_clamp (B : List Bool) (x : Nat) (h : B.length ≤ x) : predSpec B x = predSpec B (B.length - 1) := by
  rw [predSpec_of_ge B x (by omega), predSpec_of_ge B (B.length - 1) (by omega)]

/-- the set-level reference functions on the list of set positions are the bit-level ones -/
theorem set_specs_onesPos (B : List Bool) :
    (∀ i, rankSet (onesPos B) i = rankSpec B i) ∧ (∀ r, selectSet (onesPos B) r = selectSpec B r) ∧
    (∀ x, predSet (onesPos B) x = predSpec B x) ∧ (∀ x, succSet (onesPos B) x = succSpec B x) :=
  ⟨fun i => IterProofs.filter_lt_length B i, fun r => (selectSpec_eq_onesPos B r).symm,
    fun x => (IterProofs.predSpec_eq_predSet B x).symm, fun x => (IterProofs.succSpec_eq_succSet B x).symm⟩

/-! ### sparse vector: `get` past the end, `select_zero_iter` -/

theorem unwrapM_not_oob {α} (o : Option α) : unwrapM o ≠ fault .oob := by
  cases o <;> (intro h; cases h)

theorem intVec_get_not_oob (v : IntVec) (i : Nat) : v.get i ≠ fault .oob := by
  by_cases h : i < v.len
  · rw [IntVec.get_ok v i h]; exact Glue.ok_not_oob _
  · rw [IntVec.get_fault v i (by omega)]; intro h; cases h

theorem sparse_getLoop_not_oob {s : Sparse} {n w : Nat} {P : List Nat} (hs : s.Encodes n w P) (L : Nat) :
    ∀ (fuel : Nat) (p : Pos), Sparse.getLoop s L fuel p ≠ fault .oob := by
  intro fuel
  induction fuel with
  | zero => intro p h; simp [Sparse.getLoop] at h
  | succ f ih =>
    intro p
    unfold Sparse.getLoop
    split
    · rename_i hlt
      rw [hs.high_get _ hlt, bind_ok]
      split
      · refine Glue.bind_not_oob (intVec_get_not_oob _ _) (fun l => ?_)
        split
        · exact Glue.ok_not_oob _
        · exact ih _
      · exact Glue.ok_not_oob _
    · exact Glue.ok_not_oob _

theorem sparse_lowerBound_not_oob {s : Sparse} {n w : Nat} {P : List Nat} (hs : s.Encodes n w P) (m : Mode)
    (hp : Nat) : s.lowerBound m hp ≠ fault .oob := by
  unfold Sparse.lowerBound
  split
  · exact Glue.ok_not_oob _
  · rw [hs.high_selz, bind_ok]
    refine Glue.bind_not_oob (unwrapM_not_oob _) (fun z => ?_)
    refine Glue.bind_not_oob (Glue.addM_not_oob _ _ _) (fun ho => ?_)
    refine Glue.bind_not_oob (Glue.subM_not_oob _ _ _) (fun lo => ?_)
    exact Glue.ok_not_oob _

/-- **`get(i)` for EVERY `i`** — also `i ≥ len`, where the library documents a possible panic — never reads out
of bounds: the `high` bit vector is read below its length only, the `low` reads are asserted -/
theorem sparse_get_not_oob {s : Sparse} {n w : Nat} {P : List Nat} (hs : s.Encodes n w P) (m : Mode) (i : Nat) :
    s.get m i ≠ fault .oob := by
  unfold Sparse.get
  exact Glue.bind_not_oob (sparse_lowerBound_not_oob hs m _) (fun p => sparse_getLoop_not_oob hs _ _ p)

/-- **`select_zero_iter(r)` succeeds for every `r`** (set mode), both modes -/
theorem sparse_selectZeroIter_ok {s : Sparse} {n w : Nat} {P : List Nat} (hs : s.Encodes n w P)
    (hstrict : sortedStrict P = true) (m : Mode) (r : Nat) : ∃ z, s.selectZeroIter m r = ok z := by
  by_cases hr : r < n - P.length
  · obtain ⟨z, _, h, _⟩ := Sparse2.selectZeroIter_ok hs hstrict m r hr
    exact ⟨z, h⟩
  · unfold Sparse.selectZeroIter
    rw [hs.countZeros_eq, if_pos (by omega)]
    exact ⟨_, rfl⟩

/-- the empty zero-iterator returned for `r ≥ count_zeros` is empty -/
theorem sparse_zeroEmpty_next (m : Mode) (s : Sparse) :
    SpZeroIter.nextQ m s (SpZeroIter.emptyIter s) = ok (none, SpZeroIter.emptyIter s) := by
  unfold SpZeroIter.nextQ SpZeroIter.emptyIter
  simp

/-- `predecessor(x)`, `x ≥ len`, equals `predecessor(len - 1)` (set or multiset) -/
theorem sparse_predecessor_clamp {s : Sparse} {n w : Nat} {P : List Nat} (hs : s.Encodes n w P) (m : Mode)
    (x : Nat) (hx : n ≤ x) : s.predecessor m x = s.predecessor m (n - 1) ∧ predSet P x = predSet P (n - 1) := by
  have e : predSet P x = predSet P (n - 1) := by
    rw [← predSet_clamp hs x, ← predSet_clamp hs (n - 1)]
    rw [show min x (n - 1) = min (n - 1) (n - 1) by omega]
  refine ⟨?_, e⟩
  rw [pred_ok hs m x, pred_ok hs m (n - 1), e]

/-! ### run-length vector: `get` in terms of the list, `select_iter` -/

theorem getSpec_lt (B : List Bool) (i : Nat) (hi : i < B.length) : RLQ.getSpec B i = B[i] := by
  simp [RLQ.getSpec, List.getD_eq_getElem?_getD, hi]

theorem getSpec_ge (B : List Bool) (i : Nat) (hi : B.length ≤ i) : RLQ.getSpec B i = false := by
  simp [RLQ.getSpec, List.getD_eq_getElem?_getD, hi]

/-- **`select_iter(r)` on built vectors**, every `r`: the items are the set positions of rank `r, r+1, …` of
`B`, in order, each with its rank; then `None` (nothing at all for `r ≥ count_ones`) -/
theorem rl_selectIter_drain (m : Mode) {v : RL} (B : List Bool) (g : RLQ.Good v (maximalRuns B))
    (e2 : v.ones = B.count true) (r F : Nat) (hF : B.count true - r + 1 ≤ F) :
    ∃ st items, v.selectIter m r = ok st ∧ RLQ.drainOne m v F st = ok items ∧
      items.map (·.2) = (onesPos B).drop r ∧ items.map (·.1) = List.range' r (B.count true - r) := by
  obtain ⟨bl, gb, hR⟩ := g
  obtain ⟨st, h1, h2⟩ := gb.selectIter_drain m r F (by rw [e2]; exact hF)
  rw [← hR, e2] at h2
  refine ⟨st, _, h1, h2, ?_, RLQ.oneItems_fst _ _ _⟩
  by_cases hr : r ≤ B.count true
  · rw [RLQ.oneItems_snd B _ r (by omega)]
    apply List.take_of_length_le
    rw [List.length_drop, length_onesPos]; omega
  · rw [show B.count true - r = 0 by omega, List.drop_of_length_le (by rw [length_onesPos]; omega)]
    rfl

/-! ### sparse vector: the documented out-of-range answers -/

section SparsePast
variable {s : Sparse} {n w : Nat} {P : List Nat}

theorem sparse_counts (hs : s.Encodes n w P) :
    s.len = n ∧ s.countOnes = P.length ∧ s.countZeros = n - P.length :=
  ⟨hs.len_eq, hs.countOnes_eq, hs.countZeros_eq⟩

theorem sparse_rank_past (hs : s.Encodes n w P) (m : Mode) (i : Nat) (hi : n ≤ i) :
    s.rank m i = ok P.length := by
  rw [rank_ok hs m i, rankSet_of_ge hs i hi]

theorem sparse_select_past (hs : s.Encodes n w P) (m : Mode) (r : Nat) (hr : P.length ≤ r) :
    s.select m r = ok none ∧ s.selectIter m r = ok (SpOneIter.emptyIter s) ∧
    SpOneIter.nextQ m s (SpOneIter.emptyIter s) = ok (none, SpOneIter.emptyIter s) := by
  refine ⟨?_, ?_, nextQ_none hs m _ (empty_IterAt hs)⟩
  · rw [select_ok hs m r]; unfold selectSet; rw [List.getElem?_eq_none hr]
  · rw [selectIter_ok hs m r]; unfold Sparse.iterAt; rw [dif_neg (by omega)]

theorem sparse_successor_past (hs : s.Encodes n w P) (m : Mode) (x : Nat) (hx : n ≤ x) :
    s.successor m x = ok (SpOneIter.emptyIter s) := by
  rw [succ_ok hs m x, succSet_none_of_ge hs x hx]

theorem sparse_predecessor_empty (hs : s.Encodes n w P) (hP : P = []) (m : Mode) (x : Nat) :
    s.predecessor m x = ok (SpOneIter.emptyIter s) := by
  rw [pred_ok hs m x, hP]; rfl

theorem sparse_rankZero_past (hs : s.Encodes n w P) (hstrict : sortedStrict P = true) (m : Mode) (i : Nat)
    (hi : n ≤ i) : s.rankZero m i = ok (i - P.length) := by
  rw [rankZero_ok hs hstrict m i, rankSet_of_ge hs i hi]

theorem sparse_selectZero_past (hs : s.Encodes n w P) (hstrict : sortedStrict P = true) (m : Mode) (r : Nat)
    (hr : n - P.length ≤ r) :
    s.selectZero m r = ok none ∧ s.selectZeroIter m r = ok (SpZeroIter.emptyIter s) := by
  have hz : r ≥ s.countZeros := by rw [hs.countZeros_eq]; exact hr
  exact ⟨by unfold Sparse.selectZero; rw [if_pos hz], by unfold Sparse.selectZeroIter; rw [if_pos hz]⟩

/-- `predecessor(x)` in one form: the call succeeds and the first item of the returned iterator is
`predSet P x` (`None`: the iterator is empty) -/
theorem sparse_pred_first_item (hs : s.Encodes n w P) (m : Mode) (x : Nat) :
    ∃ it it', s.predecessor m x = ok it ∧ SpOneIter.nextQ m s it = ok (predSet P x, it') :=
  first_answer hs m (pred_ok hs m x) (predSet_spec hs.pw x)

theorem sparse_succ_first_item (hs : s.Encodes n w P) (m : Mode) (x : Nat) :
    ∃ it it', s.successor m x = ok it ∧ SpOneIter.nextQ m s it = ok (succSet P x, it') :=
  first_answer hs m (succ_ok hs m x) fun kv h => (succSet_spec x kv h).imp fun _ h => h.2

end SparsePast

/-! ### the unset positions: set-level `select_zero` on the set positions of `B` is the bit-level one -/

theorem zeros_filter_eq (B : List Bool) :
    (List.range B.length).filter (fun i => !(onesPos B).contains i) = zerosPos B := by
  apply pairwise_lt_ext
  · exact List.pairwise_lt_range.filter _
  · exact onesPos_pairwise (B.map not)
  · intro x
    rw [List.mem_filter, List.mem_range]
    unfold zerosPos
    rw [show onesFrom (B.map not) 0 = onesPos (B.map not) from rfl, Glue.mem_onesPos]
    constructor
    · rintro ⟨hx, hc⟩
      rw [contains_onesPos B x hx] at hc
      rw [List.getElem?_map, List.getElem?_eq_getElem hx]
      simpa using hc
    · intro h
      have hx : x < B.length := by
        rcases Nat.lt_or_ge x B.length with h' | h'
        · exact h'
        · rw [List.getElem?_eq_none (by simpa using h')] at h; cases h
      refine ⟨hx, ?_⟩
      rw [contains_onesPos B x hx]
      rw [List.getElem?_map, List.getElem?_eq_getElem hx] at h
      simpa using h

theorem selectZeroSet_onesPos (B : List Bool) (r : Nat) :
    selectZeroSet (onesPos B) B.length r = selectZeroSpec B r := by
  unfold selectZeroSet selectZeroSpec
  rw [zeros_filter_eq]
  exact (selectSpec_eq_onesPos (B.map not) r).symm

/-- the set positions of a bit list are an admissible input of the sparse builder -/
theorem onesPos_admissible (B : List Bool) :
    sortedStrict (onesPos B) = true ∧ (∀ p ∈ onesPos B, p < B.length) ∧ (onesPos B).length = B.count true :=
  ⟨BuildersProofs.sortedStrict_of_pairwise _ (onesPos_pairwise B), fun p hp => onesPos_lt B p hp, length_onesPos B⟩

/-! ### sparse vector: positioned iterators under every `next` / `next_back` history -/

theorem sparse_iter_histories {s : Sparse} {n w : Nat} {P : List Nat} (hs : s.Encodes n w P) (m : Mode)
    (calls : List Sparse2.End) :
    (∀ r, ∃ it res, s.selectIter m r = ok it ∧ Sparse2.runCalls m s calls it = ok res) ∧
    (∀ x, ∃ it res, s.predecessor m x = ok it ∧ Sparse2.runCalls m s calls it = ok res) ∧
    (∀ x, ∃ it res, s.successor m x = ok it ∧ Sparse2.runCalls m s calls it = ok res) := by
  have key : ∀ o : Option (Nat × Nat), ∃ res, Sparse2.runCalls m s calls (match o with
      | none => SpOneIter.emptyIter s
      | some kv => s.iterAt w P kv.1) = ok res := by
    intro o
    have hit : ∃ r, IterAt s w P r (match o with
        | none => SpOneIter.emptyIter s
        | some kv => s.iterAt w P kv.1) := by
      cases o with
      | none => exact ⟨_, empty_IterAt hs⟩
      | some kv => exact ⟨_, iterAt_IterAt hs kv.1⟩
    obtain ⟨r, hit⟩ := hit
    obtain ⟨it', h, _⟩ := Sparse2.runCalls_between hs m calls ⟨_, _, Sparse2.between_of_IterAt hs hit, rfl⟩
    exact ⟨_, h⟩
  refine ⟨fun r => ?_, fun x => ?_, fun x => ?_⟩
  · obtain ⟨res, h⟩ := key (some (r, 0)); exact ⟨_, res, selectIter_ok hs m r, h⟩
  · obtain ⟨res, h⟩ := key (predSet P x); exact ⟨_, res, pred_ok hs m x, h⟩
  · obtain ⟨res, h⟩ := key (succSet P x); exact ⟨_, res, succ_ok hs m x, h⟩

end Glue5
end Sds
