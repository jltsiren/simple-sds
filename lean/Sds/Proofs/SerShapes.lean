/-
Proofs/SerShapes: obligations over the serialization shapes extracted from the source on every run
(Generated/SerShape.lean, tools/ser_shape.py).

1. `all_q_joined`: every statement of every `serialize_header` / `serialize_body` in the library is a `?`-joined
   `serialize` / `write_all` step (no `write`, no discarded result, no unknown control flow).  This discharges, for the
   code as it is now, the assumption of the sink theorem of C14 (`serialize` is a `?`-joined sequence of `write_all`s).
2. `*_layout`: the order in which each type writes its fields, the order in which `load` reads them back, and the
   summands of `size_in_elements` are the ones the model codecs (Model/Ser, Sparse, RL, WM) implement.  The equalities
   are `rfl` between the generated value and the literal: any reordering, omission or addition in the source changes
   the generated value and the obligation stops checking.
-/
import Sds.Generated.SerShape
import Sds.Model.WM
import Sds.Model.RL

namespace Sds.SerShapes
open Sds Generated

theorem all_q_joined : allSerShapes.all SerShape.qJoined = true := by decide +kernel

theorem number_of_serializers : allSerShapes.length = 14 := rfl

theorem serializer_types : allSerShapes.map (·.type) =
    ["V", "Vec<V>", "Vec<u8>", "String", "Option<V>", "RawVector", "IntVector", "BitVector", "RankSupport",
     "SelectSupport<T>", "SparseVector", "RLVector", "WaveletMatrix", "WMCore"] := rfl

/-- a step that is not `?`-joined is detected (non-vacuity of `all_q_joined`) -/
example : SerShape.qJoined ⟨"X", [.other "let _ = self.len.serialize(writer)"], [], [], []⟩ = false := rfl

theorem primitive_layout :
    serShape_V.header = [] ∧ serShape_V.body = [.writeAll] ∧ serShape_V.size = ["Self::elements()"] := ⟨rfl, rfl, rfl⟩

theorem vec_layout :
    serShape_Vec_V.header = [.localValue "size"] ∧ serShape_Vec_V.body = [.writeAll] ∧
    serShape_Vec_V.loads = ["usize"] ∧ serShape_Vec_V.size = ["1", "self.len() * V::elements()"] := ⟨rfl, rfl, rfl, rfl⟩

theorem bytes_layout :
    serShape_Vec_u8.header = [.localValue "size"] ∧ serShape_Vec_u8.body = [.writeAll, .condWriteAll] ∧
    serShape_Vec_u8.loads = ["usize"] ∧ serShape_Vec_u8.size = ["1", "bits::bytes_to_words(self.len())"] :=
  ⟨rfl, rfl, rfl, rfl⟩

theorem string_layout :
    serShape_String.header = [.localValue "size"] ∧ serShape_String.body = [.writeAll, .condWriteAll] ∧
    serShape_String.loads = ["Vec::<u8>"] ∧ serShape_String.size = ["1", "bits::bytes_to_words(self.len())"] :=
  ⟨rfl, rfl, rfl, rfl⟩

theorem option_layout :
    serShape_Option_V.header = [.localValue "size"] ∧ serShape_Option_V.body = [.optValue] ∧
    serShape_Option_V.loads = ["usize", "V"] := ⟨rfl, rfl, rfl⟩

theorem raw_vector_layout :
    serShape_RawVector.header = [.field "len", .fieldHeader "data"] ∧ serShape_RawVector.body = [.fieldBody "data"] ∧
    serShape_RawVector.loads = ["usize", "<Vec<u64> as Serialize>"] ∧
    serShape_RawVector.size = ["self.len.size_in_elements()", "self.data.size_in_elements()"] := ⟨rfl, rfl, rfl, rfl⟩

theorem int_vector_layout :
    serShape_IntVector.header = [.field "len", .field "width", .fieldHeader "data"] ∧
    serShape_IntVector.body = [.fieldBody "data"] ∧ serShape_IntVector.loads = ["usize", "usize", "RawVector"] ∧
    serShape_IntVector.size = ["self.len.size_in_elements()", "self.width.size_in_elements()", "self.data.size_in_elements()"] :=
  ⟨rfl, rfl, rfl, rfl⟩

theorem bit_vector_layout :
    serShape_BitVector.header = [.field "ones"] ∧
    serShape_BitVector.body = [.field "data", .field "rank", .field "select", .field "select_zero"] ∧
    serShape_BitVector.loads = ["usize", "RawVector", "Option::<RankSupport>", "Option::<SelectSupport<Identity>>",
      "Option::<SelectSupport<Complement>>"] ∧
    serShape_BitVector.size = ["self.ones.size_in_elements()", "self.data.size_in_elements()",
      "self.rank.size_in_elements()", "self.select.size_in_elements()", "self.select_zero.size_in_elements()"] :=
  ⟨rfl, rfl, rfl, rfl⟩

theorem rank_support_layout :
    serShape_RankSupport.header = [.fieldHeader "samples"] ∧ serShape_RankSupport.body = [.fieldBody "samples"] ∧
    serShape_RankSupport.loads = ["Vec::<(u64, u64)>"] ∧ serShape_RankSupport.size = ["self.samples.size_in_elements()"] :=
  ⟨rfl, rfl, rfl, rfl⟩

theorem select_support_layout :
    serShape_SelectSupport_T.header = [] ∧
    serShape_SelectSupport_T.body = [.field "samples", .field "long", .field "short"] ∧
    serShape_SelectSupport_T.loads = ["IntVector", "IntVector", "IntVector"] ∧
    serShape_SelectSupport_T.size = ["self.samples.size_in_elements()", "self.long.size_in_elements()",
      "self.short.size_in_elements()"] := ⟨rfl, rfl, rfl, rfl⟩

theorem sparse_vector_layout :
    serShape_SparseVector.header = [.field "len"] ∧ serShape_SparseVector.body = [.field "high", .field "low"] ∧
    serShape_SparseVector.loads = ["usize", "BitVector", "IntVector"] ∧
    serShape_SparseVector.size = ["self.len.size_in_elements()", "self.high.size_in_elements()",
      "self.low.size_in_elements()"] := ⟨rfl, rfl, rfl, rfl⟩

theorem rl_vector_layout :
    serShape_RLVector.header = [.field "len", .field "ones"] ∧ serShape_RLVector.body = [.field "samples", .field "data"] ∧
    serShape_RLVector.loads = ["usize", "usize", "IntVector", "IntVector"] ∧
    serShape_RLVector.size = ["self.len.size_in_elements()", "self.ones.size_in_elements()",
      "self.samples.size_in_elements()", "self.data.size_in_elements()"] := ⟨rfl, rfl, rfl, rfl⟩

theorem wavelet_matrix_layout :
    serShape_WaveletMatrix.header = [.field "len"] ∧ serShape_WaveletMatrix.body = [.field "data", .field "first"] ∧
    serShape_WaveletMatrix.loads = ["usize", "WMCore", "IntVector"] := ⟨rfl, rfl, rfl⟩

theorem wm_core_layout :
    serShape_WMCore.header = [] ∧ serShape_WMCore.body = [.localValue "width", .each "levels"] ∧
    serShape_WMCore.loads = ["usize", "BitVector"] := ⟨rfl, rfl, rfl⟩

/-! The model codecs write the same fields in the same order (definitional unfoldings of the codecs the C06 / C07 / C14
theorems are about), stated next to the layouts so that the two can be compared line by line. -/

theorem sparse_codec_order (s : Sparse) :
    sparseC.ser s = usizeC.ser s.len ++ (bitVectorC.ser s.high ++ intVecC.ser s.low) := rfl

theorem wm_core_codec_order (c : WMCore) :
    wmCoreC.ser c = usizeC.ser c.width ++ c.levels.toList.flatMap bitVectorC.ser := rfl

end Sds.SerShapes
