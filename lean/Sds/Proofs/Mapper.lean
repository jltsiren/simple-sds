/-
Proofs/Mapper: the memory-mapped views over a file `pre ++ ser x ++ post`.
(a) each constructor accepts the serialization at `offset = pre.length`, exposes exactly the payload,
    and `offset + mapLen` is the offset of the next structure;
(b) each constructor refuses offsets at or past the end of the file (`View.int`, repaired, included;
    the F11 theorems are about the as-first-coded `View.intOld`, which evaluates `offset + 1` first);
(c) each constructor refuses a file that is cut short.
-/
import Sds.Model.Mapper
import Sds.Proofs.Codec

namespace Sds
open Outcome

/-! ### reading the file -/

theorem size_eq_of_toList {file : Array Word} {l : List Word} (hf : file.toList = l) :
    file.size = l.length := by
  rw [← hf]; simp

theorem fileAt_of_toList {file : Array Word} {pre : List Word} {w : Word} {rest : List Word}
    (hf : file.toList = pre ++ w :: rest) : fileAt file pre.length = ok w.toNat := by
  unfold fileAt
  have : file[pre.length]? = some w := by
    rw [← Array.getElem?_toList, hf]; simp
  rw [this]

theorem fileAt_oob {file : Array Word} {i : Nat} (h : file.size ≤ i) :
    fileAt file i = fault (.panic .index) := by
  unfold fileAt
  rw [Array.getElem?_eq_none h]

theorem toNat_ofNat64_map {n : Nat} (h : n < U64) : (BitVec.ofNat 64 n).toNat = n :=
  toNat_ofNat64 (U64_eq ▸ h)

/-- a file holding the word of `n` at `pre.length`: what reading it gives, and how long the file is -/
theorem header_word {file : Array Word} {pre rest : List Word} {n : Nat}
    (hf : file.toList = pre ++ BitVec.ofNat 64 n :: rest) (hn : n < U64) :
    fileAt file pre.length = ok n ∧ file.size = pre.length + (1 + rest.length) := by
  refine ⟨by rw [fileAt_of_toList hf, toNat_ofNat64_map hn], ?_⟩
  rw [size_eq_of_toList hf, List.length_append, List.length_cons, Nat.add_comm rest.length]

theorem drop_take_mid (pre : List Word) (w : Word) (body post : List Word) (n : Nat)
    (hn : n = body.length) :
    ((pre ++ w :: body ++ post).drop (pre.length + 1)).take n = body := by
  subst hn
  have : pre ++ w :: body ++ post = (pre ++ [w]) ++ (body ++ post) := by simp
  rw [this, List.drop_left' (by simp), List.take_left' rfl]

/-! ### (a) `View.slice` -/

/-- `View.slice` on a file holding the length word `n` at `offset`, when the end offset does not overflow -/
theorem slice_eval (m : Mode) (k : Nat) (file : Array Word) (offset n : Nat) (ho : offset < file.size)
    (hat : fileAt file offset = ok n) (hov : offset + 1 + n * k < U64) :
    View.slice m k file offset = if offset + 1 + n * k > file.size then fault (.err .eof)
      else ok ⟨offset, n * k + 1, n, (file.toList.drop (offset + 1)).take (n * k)⟩ := by
  unfold View.slice
  rw [if_neg (Nat.not_le.mpr ho), hat, bind_ok, addM_ok (by omega), bind_ok, mulM_ok (by omega), bind_ok,
    addM_ok hov, bind_ok]
  rfl

/-- generic form: a length word `n` followed by `n * k` elements -/
theorem slice_ok (m : Mode) (k : Nat) (file : Array Word) (pre body post : List Word) (n : Nat)
    (hf : file.toList = pre ++ BitVec.ofNat 64 n :: body ++ post)
    (hn : n < U64) (hb : body.length = n * k) (hsz : file.size < U64) :
    View.slice m k file pre.length = ok ⟨pre.length, n * k + 1, n, body⟩ := by
  obtain ⟨hat, hsize⟩ := header_word (pre := pre) (n := n) (rest := body ++ post)
    (by rw [hf, List.append_assoc]; rfl) hn
  rw [List.length_append] at hsize
  rw [slice_eval m k file _ n (by omega) hat (by omega), if_neg (by omega), hf, drop_take_mid _ _ _ _ _ hb.symm]

/-- the view tiles the file: the element after the view is the first element of `post` -/
theorem View.next_offset (v : View) (pre ser post : List Word)
    (ho : v.offset = pre.length) (hl : v.mapLen = ser.length) :
    (pre ++ ser ++ post).drop (v.offset + v.mapLen) = post := by
  rw [ho, hl, ← List.length_append, List.drop_left]

theorem vecU64C_ser_length (a : Array Word) : (vecU64C.ser a).length = a.size + 1 := by
  simp [vecU64C]

theorem vecPairC_ser_length (a : Array (Word × Word)) : (vecPairC.ser a).length = a.size * 2 + 1 := by
  simp only [vecPairC, List.length_cons, length_flatMap_pair, Array.length_toList, Nat.mul_comm]

/-- `MappedSlice<u64>` over a serialized `Vec<u64>` -/
theorem slice_vecU64 (m : Mode) (pre post : List Word) (a : Array Word)
    (hsz : (pre ++ vecU64C.ser a ++ post).length < U64) :
    View.slice m 1 (pre ++ vecU64C.ser a ++ post).toArray pre.length =
      ok ⟨pre.length, (vecU64C.ser a).length, a.size, a.toList⟩ := by
  have hlen := hsz
  simp only [List.length_append, vecU64C_ser_length] at hlen
  rw [slice_ok m 1 _ pre a.toList post a.size (by simp [vecU64C]) (by omega) (by simp)
    (by simpa using hsz), vecU64C_ser_length, Nat.mul_one]

/-- `MappedSlice<(u64, u64)>` over a serialized `Vec<(u64, u64)>` -/
theorem slice_vecPair (m : Mode) (pre post : List Word) (a : Array (Word × Word))
    (hsz : (pre ++ vecPairC.ser a ++ post).length < U64) :
    View.slice m 2 (pre ++ vecPairC.ser a ++ post).toArray pre.length =
      ok ⟨pre.length, (vecPairC.ser a).length, a.size, a.toList.flatMap fun p => [p.1, p.2]⟩ := by
  have hlen := hsz
  simp only [List.length_append, vecPairC_ser_length] at hlen
  rw [slice_ok m 2 _ pre (a.toList.flatMap fun p => [p.1, p.2]) post a.size (by simp [vecPairC])
    (by omega) (by rw [length_flatMap_pair, Array.length_toList, Nat.mul_comm]) (by simpa using hsz), vecPairC_ser_length]

/-! ### (a) `View.raw` -/

/-- `View.raw` on a file holding the bit length `len` at `offset`: the rest is the slice that follows -/
theorem raw_eval (m : Mode) (file : Array Word) (offset len : Nat) (ho : offset < file.size)
    (hat : fileAt file offset = ok len) (hov : offset + 1 < U64) :
    View.raw m file offset = (do
      let d ← View.slice m 1 file (offset + 1)
      let mo ← subM m d.offset 1
      return ⟨mo, d.mapLen + 1, len, d.payload⟩) := by
  unfold View.raw
  rw [if_neg (Nat.not_le.mpr ho), hat, bind_ok, addM_ok hov, bind_ok]

theorem raw_ok (m : Mode) (file : Array Word) (pre body post : List Word) (len n : Nat)
    (hf : file.toList = pre ++ BitVec.ofNat 64 len :: BitVec.ofNat 64 n :: body ++ post)
    (hlen : len < U64) (hb : body.length = n) (hsz : file.size < U64) :
    View.raw m file pre.length = ok ⟨pre.length, n + 2, len, body⟩ := by
  obtain ⟨hat, hsize⟩ := header_word (pre := pre) (n := len) (rest := BitVec.ofNat 64 n :: (body ++ post))
    (by rw [hf, List.append_assoc]; rfl) hlen
  rw [List.length_cons, List.length_append] at hsize
  have hsl : View.slice m 1 file (pre.length + 1) = ok ⟨pre.length + 1, n * 1 + 1, n, body⟩ := by
    have := slice_ok m 1 file (pre ++ [BitVec.ofNat 64 len]) body post n (by rw [hf]; simp)
      (by omega) (by omega) hsz
    simpa using this
  rw [raw_eval m file _ len (by omega) hat (by omega), hsl, bind_ok, subM_ok (Nat.le_add_left 1 pre.length), bind_ok]
  simp

theorem rawVecC_ser_length (v : RawVec) : (rawVecC.ser v).length = v.data.size + 2 := by
  simp [rawVecC, vecU64C]

/-- `RawVectorMapper` over a serialized `RawVector` -/
theorem raw_rawVec (m : Mode) (pre post : List Word) (v : RawVec) (hlen : v.len < U64)
    (hsz : (pre ++ rawVecC.ser v ++ post).length < U64) :
    View.raw m (pre ++ rawVecC.ser v ++ post).toArray pre.length =
      ok ⟨pre.length, (rawVecC.ser v).length, v.len, v.data.toList⟩ := by
  rw [raw_ok m _ pre v.data.toList post v.len v.data.size (by simp [rawVecC, vecU64C]) hlen (by simp)
    (by simpa using hsz), rawVecC_ser_length]

/-! ### (a) `View.int` -/

/-- the two header words of a structure that starts at `pre.length` -/
theorem fileAt_two {file : Array Word} {pre : List Word} {w0 w1 : Word} {rest : List Word}
    (hf : file.toList = pre ++ w0 :: w1 :: rest) :
    fileAt file pre.length = ok w0.toNat ∧ fileAt file (pre.length + 1) = ok w1.toNat := by
  have h1 := fileAt_of_toList (file := file) (pre := pre ++ [w0]) (w := w1) (rest := rest) (by rw [hf]; simp)
  rw [List.length_append] at h1
  exact ⟨fileAt_of_toList hf, h1⟩

/-- `View.int` on a file holding `len` and `width` at `offset`: the rest is the raw vector that follows -/
theorem int_eval (m : Mode) (file : Array Word) (offset len width : Nat) (ho : offset + 1 < file.size)
    (hat : fileAt file offset = ok len) (hat1 : fileAt file (offset + 1) = ok width) (hov : offset + 2 < U64) :
    View.int m file offset = (do
      let d ← View.raw m file (offset + 2)
      let mo ← subM m d.offset 2
      return (⟨mo, d.mapLen + 2, len, d.payload⟩, width)) := by
  unfold View.int
  rw [if_neg (by omega), addM_ok (by omega), bind_ok, if_neg (by omega), hat, bind_ok, hat1, bind_ok,
    addM_ok hov, bind_ok]

theorem int_ok (m : Mode) (file : Array Word) (pre body post : List Word) (len width rlen n : Nat)
    (hf : file.toList = pre ++ BitVec.ofNat 64 len :: BitVec.ofNat 64 width :: BitVec.ofNat 64 rlen ::
      BitVec.ofNat 64 n :: body ++ post)
    (hlen : len < U64) (hw : width < U64) (hrlen : rlen < U64) (hb : body.length = n)
    (hsz : file.size < U64) :
    View.int m file pre.length = ok (⟨pre.length, n + 4, len, body⟩, width) := by
  have hsize : file.size = pre.length + (4 + body.length) + post.length := by
    rw [size_eq_of_toList hf]; simp only [List.length_append, List.length_cons]; omega
  obtain ⟨hat, hat1⟩ := fileAt_two (pre := pre) (w0 := BitVec.ofNat 64 len) (w1 := BitVec.ofNat 64 width)
    (rest := BitVec.ofNat 64 rlen :: BitVec.ofNat 64 n :: body ++ post) (by rw [hf]; simp)
  rw [toNat_ofNat64_map hlen] at hat
  rw [toNat_ofNat64_map hw] at hat1
  have hraw : View.raw m file (pre.length + 2) = ok ⟨pre.length + 2, n + 2, rlen, body⟩ := by
    have := raw_ok m file (pre ++ [BitVec.ofNat 64 len, BitVec.ofNat 64 width]) body post rlen n
      (by rw [hf]; simp) hrlen hb hsz
    simpa using this
  rw [int_eval m file _ len width (by omega) hat hat1 (by omega), hraw, bind_ok,
    subM_ok (Nat.le_add_left 2 pre.length), bind_ok]
  simp

theorem intVecC_ser_length (v : IntVec) : (intVecC.ser v).length = v.data.data.size + 4 := by
  simp [intVecC, rawVecC, vecU64C]

/-- `IntVectorMapper` over a serialized `IntVector`; the second component is the width -/
theorem int_intVec (m : Mode) (pre post : List Word) (v : IntVec)
    (hlen : v.len < U64) (hw : v.width < U64) (hrlen : v.data.len < U64)
    (hsz : (pre ++ intVecC.ser v ++ post).length < U64) :
    View.int m (pre ++ intVecC.ser v ++ post).toArray pre.length =
      ok (⟨pre.length, (intVecC.ser v).length, v.len, v.data.data.toList⟩, v.width) := by
  rw [int_ok m _ pre v.data.data.toList post v.len v.width v.data.len v.data.data.size
    (by simp [intVecC, rawVecC, vecU64C]) hlen hw hrlen (by simp) (by simpa using hsz),
    intVecC_ser_length]

/-! ### (b) refusal at or past the end of the file -/

theorem slice_refuses (m : Mode) (k : Nat) (file : Array Word) (offset : Nat) (h : offset ≥ file.size) :
    View.slice m k file offset = fault (.err .eof) := by
  unfold View.slice; rw [if_pos h]

theorem bytes_refuses (m : Mode) (file : Array Word) (offset : Nat) (h : offset ≥ file.size) :
    View.bytes m file offset = fault (.err .eof) := by
  unfold View.bytes; rw [if_pos h]

theorem str_refuses (m : Mode) (valid : List UInt8 → Bool) (file : Array Word) (offset : Nat)
    (h : offset ≥ file.size) : View.str m valid file offset = fault (.err .eof) := by
  unfold View.str; rw [bytes_refuses m file offset h]; rfl

theorem raw_refuses (m : Mode) (file : Array Word) (offset : Nat) (h : offset ≥ file.size) :
    View.raw m file offset = fault (.err .eof) := by
  unfold View.raw; rw [if_pos h]

theorem option_refuses (m : Mode) (inner : Array Word → Nat → Outcome View) (file : Array Word)
    (offset : Nat) (h : offset ≥ file.size) : View.option m inner file offset = fault (.err .eof) := by
  unfold View.option; rw [if_pos h]

/-- `View.int` (repaired) refuses as soon as `offset` or `offset + 1` is not inside the file — every
offset, every mode, no overflow proviso -/
theorem int_refuses (m : Mode) (file : Array Word) (offset : Nat) (hsz : file.size < U64)
    (h : offset ≥ file.size ∨ offset + 1 ≥ file.size) : View.int m file offset = fault (.err .eof) := by
  unfold View.int
  by_cases h0 : offset ≥ file.size
  · rw [if_pos h0]
  · rw [if_neg h0, addM_ok (by omega)]
    simp only [bind_ok]
    rw [if_pos (by omega)]

theorem int_refuses_past_end (m : Mode) (file : Array Word) (offset : Nat)
    (h : offset ≥ file.size) : View.int m file offset = fault (.err .eof) := by
  unfold View.int; rw [if_pos h]

/-- the positive counterpart of F11: the repaired constructor returns the error at the last offset,
whatever the file and the build mode -/
theorem int_last_offset (m : Mode) (file : Array Word) (h : file.size < U64) :
    View.int m file (2 ^ 64 - 1) = fault (.err .eof) :=
  int_refuses_past_end m file _ (by rw [U64_eq] at h; omega)

/-- the as-first-coded constructor agrees with the repaired one at every offset inside the file (the repair is
the range test on `offset` in front) -/
theorem intOld_eq_int (m : Mode) (file : Array Word) (offset : Nat) (h : offset < file.size) :
    View.intOld m file offset = View.int m file offset := by
  unfold View.int View.intOld
  rw [if_neg (by omega)]

/-- `View.intOld` refuses as soon as `offset + 1` is not inside the file, PROVIDED `offset + 1` does not
overflow -/
theorem intOld_refuses (m : Mode) (file : Array Word) (offset : Nat) (ho : offset + 1 < U64)
    (h : offset + 1 ≥ file.size) : View.intOld m file offset = fault (.err .eof) := by
  unfold View.intOld
  rw [addM_ok ho]
  simp only [bind_ok]
  rw [if_pos h]

/-- F11: at the last offset the as-first-coded `IntVectorMapper::new` panics (checked build) instead of
returning an error, whatever the file -/
theorem int_F11_checked (file : Array Word) :
    View.intOld .checked file (2 ^ 64 - 1) = fault (.panic .overflow) := by
  unfold View.intOld
  have : addM .checked (2 ^ 64 - 1) 1 = fault (.panic .overflow) := by decide
  rw [this]; rfl

theorem int_F11_wrapping_addM : addM .wrapping (2 ^ 64 - 1) 1 = ok 0 := by decide

/-- F11, release build: `offset + 1` wraps to 0; an empty file is refused … -/
theorem int_F11_wrapping_empty (file : Array Word) (h : file.size = 0) :
    View.intOld .wrapping file (2 ^ 64 - 1) = fault (.err .eof) := by
  unfold View.intOld
  rw [int_F11_wrapping_addM]
  simp only [bind_ok]
  rw [if_pos (by omega)]

/-- … and for every non-empty file the range test `0 ≥ file.size` passes and the constructor indexes
the file at `2^64 - 1`: an index panic whenever that is out of range -/
theorem int_F11_wrapping_nonempty (file : Array Word) (h0 : 0 < file.size) (h : file.size < U64) :
    View.intOld .wrapping file (2 ^ 64 - 1) = fault (.panic .index) := by
  unfold View.intOld
  rw [int_F11_wrapping_addM]
  simp only [bind_ok]
  rw [if_neg (by omega), fileAt_oob (by rw [U64_eq] at h; omega)]
  rfl

/-! ### (c) truncated files -/

theorem size_cut (pre : List Word) (w : Word) (body : List Word) (j : Nat) :
    (pre ++ (w :: body).take (j + 1)).toArray.size = pre.length + (1 + min j body.length) := by
  rw [List.size_toArray, List.length_append, List.take_succ_cons, List.length_cons, List.length_take,
    Nat.add_comm _ 1]

/-- a file cut inside `n :: body` (`body.length = n * k`) is refused -/
theorem slice_cut (m : Mode) (k : Nat) (pre : List Word) (n : Nat) (body : List Word) (j : Nat)
    (hn : n < U64) (hb : body.length = n * k) (hj : j < 1 + body.length)
    (hsz : pre.length + 1 + n * k < U64) :
    View.slice m k (pre ++ (BitVec.ofNat 64 n :: body).take j).toArray pre.length = fault (.err .eof) := by
  cases j with
  | zero => exact slice_refuses m k _ _ (by simp)
  | succ j =>
    have hsize := size_cut pre (BitVec.ofNat 64 n) body j
    obtain ⟨hat, -⟩ := header_word (file := (pre ++ (BitVec.ofNat 64 n :: body).take (j + 1)).toArray)
      (pre := pre) (rest := body.take j) rfl hn
    rw [slice_eval m k _ _ n (by omega) hat hsz, if_pos (by omega)]

/-- (c) a file cut inside a serialized `Vec<u64>` is refused -/
theorem slice_vecU64_truncated (m : Mode) (pre : List Word) (a : Array Word) (j : Nat)
    (hj : j < (vecU64C.ser a).length) (hsz : (pre ++ vecU64C.ser a).length < U64) :
    View.slice m 1 (pre ++ (vecU64C.ser a).take j).toArray pre.length = fault (.err .eof) := by
  rw [List.length_append, vecU64C_ser_length] at hsz
  rw [vecU64C_ser_length] at hj
  exact slice_cut m 1 pre a.size a.toList j (by omega) (by simp) (by simp; omega) (by omega)

theorem slice_vecPair_truncated (m : Mode) (pre : List Word) (a : Array (Word × Word)) (j : Nat)
    (hj : j < (vecPairC.ser a).length) (hsz : (pre ++ vecPairC.ser a).length < U64) :
    View.slice m 2 (pre ++ (vecPairC.ser a).take j).toArray pre.length = fault (.err .eof) := by
  rw [List.length_append, vecPairC_ser_length] at hsz
  rw [vecPairC_ser_length] at hj
  have hb : (a.toList.flatMap fun p => [p.1, p.2]).length = a.size * 2 := by
    rw [length_flatMap_pair, Array.length_toList, Nat.mul_comm]
  exact slice_cut m 2 pre a.size _ j (by omega) hb (by omega) (by omega)

/-- a file cut inside `len :: n :: body` (`body.length = n`) is refused -/
theorem raw_cut (m : Mode) (pre : List Word) (len n : Nat) (body : List Word) (j : Nat)
    (hlen : len < U64) (hb : body.length = n) (hj : j < 2 + body.length) (hsz : pre.length + 2 + n < U64) :
    View.raw m (pre ++ (BitVec.ofNat 64 len :: BitVec.ofNat 64 n :: body).take j).toArray pre.length =
      fault (.err .eof) := by
  cases j with
  | zero => exact raw_refuses m _ _ (by simp)
  | succ j =>
    have hsize := size_cut pre (BitVec.ofNat 64 len) (BitVec.ofNat 64 n :: body) j
    obtain ⟨hat, -⟩ := header_word
      (file := (pre ++ (BitVec.ofNat 64 len :: BitVec.ofNat 64 n :: body).take (j + 1)).toArray)
      (pre := pre) (rest := (BitVec.ofNat 64 n :: body).take j) rfl hlen
    have hsl := slice_cut m 1 (pre ++ [BitVec.ofNat 64 len]) n body j (by omega) (by omega) (by omega)
      (by simp; omega)
    rw [List.append_assoc, List.length_append] at hsl
    rw [raw_eval m _ _ len (by omega) hat (by omega), List.take_succ_cons]
    exact congrArg (· >>= _) hsl

theorem raw_rawVec_truncated (m : Mode) (pre : List Word) (v : RawVec) (j : Nat)
    (hj : j < (rawVecC.ser v).length) (hlen : v.len < U64)
    (hsz : (pre ++ rawVecC.ser v).length < U64) :
    View.raw m (pre ++ (rawVecC.ser v).take j).toArray pre.length = fault (.err .eof) := by
  rw [List.length_append, rawVecC_ser_length] at hsz
  rw [rawVecC_ser_length] at hj
  exact raw_cut m pre v.len v.data.size v.data.toList j hlen (by simp) (by simp; omega) (by omega)

/-- a file cut inside `len :: width :: rlen :: n :: body` (`body.length = n`) is refused -/
theorem int_cut (m : Mode) (pre : List Word) (len width rlen n : Nat) (body : List Word) (j : Nat)
    (hlen : len < U64) (hw : width < U64) (hrlen : rlen < U64) (hb : body.length = n)
    (hj : j < 4 + body.length) (hsz : pre.length + 4 + n < U64) :
    View.int m (pre ++ (BitVec.ofNat 64 len :: BitVec.ofNat 64 width :: BitVec.ofNat 64 rlen ::
      BitVec.ofNat 64 n :: body).take j).toArray pre.length = fault (.err .eof) := by
  match j with
  | 0 => exact int_refuses_past_end m _ _ (by simp)
  | 1 => exact int_refuses m _ _ (by simp; omega) (by simp)
  | j + 2 =>
    have hsize := size_cut pre (BitVec.ofNat 64 len)
      (BitVec.ofNat 64 width :: BitVec.ofNat 64 rlen :: BitVec.ofNat 64 n :: body) (j + 1)
    simp only [List.length_cons, show j + 1 + 1 = j + 2 from rfl] at hsize
    obtain ⟨hat, hat1⟩ := fileAt_two
      (file := (pre ++ (BitVec.ofNat 64 len :: BitVec.ofNat 64 width :: BitVec.ofNat 64 rlen ::
        BitVec.ofNat 64 n :: body).take (j + 2)).toArray) (pre := pre)
      (rest := (BitVec.ofNat 64 rlen :: BitVec.ofNat 64 n :: body).take j) rfl
    rw [toNat_ofNat64_map hlen] at hat
    rw [toNat_ofNat64_map hw] at hat1
    have hraw := raw_cut m (pre ++ [BitVec.ofNat 64 len, BitVec.ofNat 64 width]) rlen n body j hrlen hb
      (by omega) (by simp; omega)
    rw [List.append_assoc, List.length_append] at hraw
    rw [int_eval m _ _ len width (by omega) hat hat1 (by omega), List.take_succ_cons, List.take_succ_cons]
    exact congrArg (· >>= _) hraw

theorem int_intVec_truncated (m : Mode) (pre : List Word) (v : IntVec) (j : Nat)
    (hj : j < (intVecC.ser v).length) (hlen : v.len < U64) (hw : v.width < U64)
    (hrlen : v.data.len < U64) (hsz : (pre ++ intVecC.ser v).length < U64) :
    View.int m (pre ++ (intVecC.ser v).take j).toArray pre.length = fault (.err .eof) := by
  rw [List.length_append, intVecC_ser_length] at hsz
  rw [intVecC_ser_length] at hj
  exact int_cut m pre v.len v.width v.data.len v.data.data.size v.data.data.toList j hlen hw hrlen (by simp)
    (by simp; omega) (by omega)

/-! ### `View.bytes`, `View.str` -/

theorem bytesC_ser_length (bs : List UInt8) : (bytesC.ser bs).length = (bs.length + 7) / 8 + 1 := by
  simp [bytesC, length_packBytes]

private theorem bytesToWords_ok' (m : Mode) (n : Nat) (h : n + 7 < U64) :
    bytesToWords m n = ok ((n + 7) / 8) := by
  unfold bytesToWords; rw [addM_ok h]; rfl

/-- `View.bytes` on a file holding the byte count `n` at `offset`, when the end offset does not overflow -/
theorem bytes_eval (m : Mode) (file : Array Word) (offset n : Nat) (ho : offset < file.size)
    (hat : fileAt file offset = ok n) (hn : n + 7 < U64) (hov : offset + 1 + (n + 7) / 8 < U64) :
    View.bytes m file offset = if offset + 1 + (n + 7) / 8 > file.size then fault (.err .eof)
      else ok ⟨offset, (n + 7) / 8 + 1, n, (file.toList.drop (offset + 1)).take ((n + 7) / 8)⟩ := by
  unfold View.bytes
  rw [if_neg (Nat.not_le.mpr ho), hat, bind_ok, addM_ok (by omega), bind_ok, bytesToWords_ok' m n hn, bind_ok,
    addM_ok hov, bind_ok]
  rfl

/-- generic form: a byte count `n` followed by `⌈n/8⌉` elements -/
theorem bytes_ok (m : Mode) (file : Array Word) (pre body post : List Word) (n : Nat)
    (hf : file.toList = pre ++ BitVec.ofNat 64 n :: body ++ post)
    (hn : n + 7 < U64) (hb : body.length = (n + 7) / 8) (hsz : file.size < U64) :
    View.bytes m file pre.length = ok ⟨pre.length, (n + 7) / 8 + 1, n, body⟩ := by
  obtain ⟨hat, hsize⟩ := header_word (pre := pre) (n := n) (rest := body ++ post)
    (by rw [hf, List.append_assoc]; rfl) (by omega)
  rw [List.length_append] at hsize
  rw [bytes_eval m file _ n (by omega) hat hn (by omega), if_neg (by omega), hf, drop_take_mid _ _ _ _ _ hb.symm]

/-- `MappedBytes` over a serialized `Vec<u8>` -/
theorem bytes_bytesC (m : Mode) (pre post : List Word) (bs : List UInt8) (hn : bs.length + 7 < U64)
    (hsz : (pre ++ bytesC.ser bs ++ post).length < U64) :
    View.bytes m (pre ++ bytesC.ser bs ++ post).toArray pre.length =
      ok ⟨pre.length, (bytesC.ser bs).length, bs.length, packBytes bs⟩ := by
  rw [bytes_ok m _ pre (packBytes bs) post bs.length (by simp [bytesC]) hn (length_packBytes bs)
    (by simpa using hsz), bytesC_ser_length]

/-- `MappedStr` over a serialized `String`: accepted iff the validity test accepts the bytes -/
theorem str_bytesC (m : Mode) (valid : List UInt8 → Bool) (pre post : List Word) (bs : List UInt8)
    (hn : bs.length + 7 < U64) (hsz : (pre ++ bytesC.ser bs ++ post).length < U64) :
    View.str m valid (pre ++ (stringC valid).ser bs ++ post).toArray pre.length =
      if valid bs then
        ok ⟨pre.length, (bytesC.ser bs).length, bs.length, packBytes bs⟩
      else fault (.err .invalid) := by
  unfold View.str
  show (View.bytes m (pre ++ bytesC.ser bs ++ post).toArray pre.length >>= _) = _
  rw [bytes_bytesC m pre post bs hn hsz]
  simp only [bind_ok, toBytes_packBytes_take]
  rfl

/-- the bytes a `MappedBytes` view exposes (first `len` bytes of its payload) are the serialized bytes -/
theorem bytes_bytesC_content (m : Mode) (pre post : List Word) (bs : List UInt8) (hn : bs.length + 7 < U64)
    (hsz : (pre ++ bytesC.ser bs ++ post).length < U64) :
    ∃ v, View.bytes m (pre ++ bytesC.ser bs ++ post).toArray pre.length = ok v ∧
      (toBytes v.payload).take v.len = bs :=
  ⟨_, bytes_bytesC m pre post bs hn hsz, toBytes_packBytes_take bs⟩

/-- a file cut inside `n :: body` (`body.length = ⌈n/8⌉`) is refused -/
theorem bytes_cut (m : Mode) (pre : List Word) (n : Nat) (body : List Word) (j : Nat)
    (hn : n + 7 < U64) (hb : body.length = (n + 7) / 8) (hj : j < 1 + body.length)
    (hsz : pre.length + 1 + (n + 7) / 8 < U64) :
    View.bytes m (pre ++ (BitVec.ofNat 64 n :: body).take j).toArray pre.length = fault (.err .eof) := by
  cases j with
  | zero => exact bytes_refuses m _ _ (by simp)
  | succ j =>
    have hsize := size_cut pre (BitVec.ofNat 64 n) body j
    obtain ⟨hat, -⟩ := header_word (file := (pre ++ (BitVec.ofNat 64 n :: body).take (j + 1)).toArray)
      (pre := pre) (rest := body.take j) rfl (by omega)
    rw [bytes_eval m _ _ n (by omega) hat hn hsz, if_pos (by omega)]

theorem bytes_bytesC_truncated (m : Mode) (pre : List Word) (bs : List UInt8) (j : Nat)
    (hj : j < (bytesC.ser bs).length) (hn : bs.length + 7 < U64)
    (hsz : (pre ++ bytesC.ser bs).length < U64) :
    View.bytes m (pre ++ (bytesC.ser bs).take j).toArray pre.length = fault (.err .eof) := by
  rw [List.length_append, bytesC_ser_length] at hsz
  rw [bytesC_ser_length] at hj
  exact bytes_cut m pre bs.length (packBytes bs) j hn (length_packBytes bs) (by rw [length_packBytes]; omega)
    (by omega)

theorem str_bytesC_truncated (m : Mode) (valid : List UInt8 → Bool) (pre : List Word) (bs : List UInt8)
    (j : Nat) (hj : j < (bytesC.ser bs).length) (hn : bs.length + 7 < U64)
    (hsz : (pre ++ bytesC.ser bs).length < U64) :
    View.str m valid (pre ++ (bytesC.ser bs).take j).toArray pre.length = fault (.err .eof) := by
  unfold View.str; rw [bytes_bytesC_truncated m pre bs j hj hn hsz]; rfl

/-! ### `View.option` -/

theorem optionC_ser_none {α} (c : Codec α) : (optionC c).ser none = [0] := rfl
theorem optionC_ser_some {α} (c : Codec α) (x : α) :
    (optionC c).ser (some x) = BitVec.ofNat 64 (c.ser x).length :: c.ser x := rfl

/-- absent value: one element, nothing exposed -/
theorem option_none (m : Mode) {α} (c : Codec α) (inner : Array Word → Nat → Outcome View)
    (pre post : List Word) :
    View.option m inner (pre ++ (optionC c).ser none ++ post).toArray pre.length =
      ok (⟨pre.length, ((optionC c).ser (none : Option α)).length, 0, []⟩, false) := by
  have hat : fileAt (pre ++ (optionC c).ser none ++ post).toArray pre.length = ok 0 := by
    rw [fileAt_of_toList (w := 0) (rest := post) (by simp [optionC_ser_none])]; rfl
  unfold View.option
  have h1 : ¬ (pre.length ≥ (pre ++ (optionC c).ser none ++ post).toArray.size) := by
    simp [optionC_ser_none]
  rw [if_neg h1, hat]
  rfl

/-- present value (non-empty serialization): the inner constructor is run at `offset + 1` and the
option view spans the length word plus the declared number of elements -/
theorem option_some (m : Mode) {α} (c : Codec α) (inner : Array Word → Nat → Outcome View)
    (pre post : List Word) (x : α) (hpos : 0 < (c.ser x).length)
    (hsz : (pre ++ (optionC c).ser (some x) ++ post).length < U64) :
    View.option m inner (pre ++ (optionC c).ser (some x) ++ post).toArray pre.length =
      (inner (pre ++ (optionC c).ser (some x) ++ post).toArray (pre.length + 1)).bind fun v =>
        ok (⟨pre.length, ((optionC c).ser (some x)).length, (c.ser x).length, v.payload⟩, true) := by
  have hlen := hsz
  simp only [List.length_append, optionC_ser_some, List.length_cons] at hlen
  have hat : fileAt (pre ++ (optionC c).ser (some x) ++ post).toArray pre.length = ok (c.ser x).length := by
    rw [fileAt_of_toList (w := BitVec.ofNat 64 (c.ser x).length) (rest := c.ser x ++ post)
      (by simp [optionC_ser_some]), toNat_ofNat64_map (by omega)]
  unfold View.option
  have h1 : ¬ (pre.length ≥ (pre ++ (optionC c).ser (some x) ++ post).toArray.size) := by
    simp [optionC_ser_some]
  rw [if_neg h1, hat]
  simp only [bind_ok]
  rw [if_pos hpos, addM_ok (by omega)]
  rfl

/-- the inner offset handed to the inner constructor is where the inner serialization starts, so the
acceptance theorems above apply with `pre ++ [length word]` as the prefix; instance: `Option<Vec<u64>>` -/
theorem option_some_vecU64 (m : Mode) (pre post : List Word) (a : Array Word)
    (hsz : (pre ++ (optionC vecU64C).ser (some a) ++ post).length < U64) :
    View.option m (View.slice m 1) (pre ++ (optionC vecU64C).ser (some a) ++ post).toArray pre.length =
      ok (⟨pre.length, ((optionC vecU64C).ser (some a)).length, (vecU64C.ser a).length, a.toList⟩, true) := by
  rw [option_some m vecU64C _ pre post a (by rw [vecU64C_ser_length]; omega) hsz]
  have e : pre ++ (optionC vecU64C).ser (some a) ++ post =
      (pre ++ [BitVec.ofNat 64 (vecU64C.ser a).length]) ++ vecU64C.ser a ++ post := by
    simp [optionC_ser_some]
  have := slice_vecU64 m (pre ++ [BitVec.ofNat 64 (vecU64C.ser a).length]) post a (by rw [← e]; exact hsz)
  rw [← e] at this
  simp only [List.length_append, List.length_cons, List.length_nil, Nat.zero_add] at this
  rw [this]
  rfl

/-! ### tiling: consecutive structures -/

/-- two serialized vectors in a row: the second view starts exactly where the first one ends -/
theorem slice_then_slice (m : Mode) (pre post : List Word) (a b : Array Word)
    (hsz : (pre ++ vecU64C.ser a ++ vecU64C.ser b ++ post).length < U64) :
    ∃ v1 v2, View.slice m 1 (pre ++ vecU64C.ser a ++ vecU64C.ser b ++ post).toArray pre.length = ok v1 ∧
      View.slice m 1 (pre ++ vecU64C.ser a ++ vecU64C.ser b ++ post).toArray (v1.offset + v1.mapLen) = ok v2 ∧
      v1.payload = a.toList ∧ v2.payload = b.toList ∧ v2.offset = v1.offset + v1.mapLen := by
  have h1 := slice_vecU64 m pre (vecU64C.ser b ++ post) a (by simpa [List.append_assoc] using hsz)
  have h2 := slice_vecU64 m (pre ++ vecU64C.ser a) post b hsz
  rw [← List.append_assoc] at h1
  rw [List.length_append] at h2
  exact ⟨_, _, h1, h2, rfl, rfl, rfl⟩

/-- a raw vector followed by an int vector (as inside the serialized bit-vector structures) -/
theorem raw_then_int (m : Mode) (pre post : List Word) (r : RawVec) (v : IntVec)
    (hr : r.len < U64) (hlen : v.len < U64) (hw : v.width < U64) (hrlen : v.data.len < U64)
    (hsz : (pre ++ rawVecC.ser r ++ intVecC.ser v ++ post).length < U64) :
    ∃ v1 v2, View.raw m (pre ++ rawVecC.ser r ++ intVecC.ser v ++ post).toArray pre.length = ok v1 ∧
      View.int m (pre ++ rawVecC.ser r ++ intVecC.ser v ++ post).toArray (v1.offset + v1.mapLen) =
        ok (v2, v.width) ∧
      v1.payload = r.data.toList ∧ v2.payload = v.data.data.toList ∧
      v2.offset + v2.mapLen = pre.length + (rawVecC.ser r).length + (intVecC.ser v).length := by
  have h1 := raw_rawVec m pre (intVecC.ser v ++ post) r hr (by simpa [List.append_assoc] using hsz)
  have h2 := int_intVec m (pre ++ rawVecC.ser r) post v hlen hw hrlen hsz
  rw [← List.append_assoc] at h1
  rw [List.length_append] at h2
  exact ⟨_, _, h1, h2, rfl, rfl, rfl⟩

end Sds
