/-
Proofs/Builders: the run-length builder (`RLBuilder`) rejects invalid steps without side effects and keeps
its counter-level invariant `RlInv` under every call history.  (The builder of the sparse vector, in the same
namespace, is in Proofs/SparseBuild.)

In the model a rejected `try_*` call is `.fault (.err _)` and the caller keeps the old builder, so
"a rejected call leaves the builder unchanged" holds by construction.  What is proven here is *when*
calls are rejected / accepted and *what* accepted calls do to the observables.
-/
import Sds.Proofs.RL
import Sds.Proofs.SparseBuild

namespace Sds.BuildersProofs
open Sds Outcome

/-! ## `RLBuilder` -/

section RL

theorem addM_not_err (m : Mode) (a c : Nat) (k : ErrKind) : addM m a c ≠ fault (.err k) := by
  unfold addM; split
  · intro h; cases h
  · cases m <;> intro h <;> cases h

theorem subM_not_err (m : Mode) (a c : Nat) (k : ErrKind) : subM m a c ≠ fault (.err k) := by
  unfold subM; split
  · intro h; cases h
  · cases m <;> intro h <;> cases h

/-- `addM` when it returns: the sum modulo 2^64 -/
theorem addM_eq_ok {m : Mode} {a c r : Nat} (h : addM m a c = ok r) : r = (a + c) % U64 := by
  unfold addM at h
  split at h
  · next hlt => cases h; exact (Nat.mod_eq_of_lt hlt).symm
  · cases m
    · cases h
    · cases h; rfl

/-- the state after `flush` when there is a pending run -/
def flushResult (b : RLBuilder) : RLBuilder :=
  let gap := b.run.1 - b.tail
  let units := RLBuilder.codeLen gap + RLBuilder.codeLen (b.run.2 - 1)
  let b1 : RLBuilder :=
    if b.data.len + units > b.samples.size * 64 then
      { b with data := b.data.resize (b.samples.size * 64) 0,
               samples := b.samples.push (b.ones - b.run.2, b.tail) }
    else b
  let d := RLBuilder.encode (RLBuilder.encode b1.data gap) (b.run.2 - 1)
  { b1 with data := d, tail := b.run.1 + b.run.2, run := (b.len, 0) }

theorem flushResult_len (b : RLBuilder) : (flushResult b).len = b.len := by
  unfold flushResult; simp only []; split <;> rfl
theorem flushResult_ones (b : RLBuilder) : (flushResult b).ones = b.ones := by
  unfold flushResult; simp only []; split <;> rfl
theorem flushResult_run (b : RLBuilder) : (flushResult b).run = (b.len, 0) := rfl
theorem flushResult_tail (b : RLBuilder) : (flushResult b).tail = b.run.1 + b.run.2 := rfl

theorem flush_noop (m : Mode) (b : RLBuilder) (h : b.run.2 = 0) : b.flush m = ok b := by
  unfold RLBuilder.flush; rw [if_pos h]

theorem flush_pending (m : Mode) (b : RLBuilder) (h : b.run.2 ≠ 0) (ht : b.tail ≤ b.run.1) :
    b.flush m = ok (flushResult b) := by
  unfold RLBuilder.flush; rw [if_neg h, subM_ok ht]; rfl

theorem bind_not_err {α β : Type} {x : Outcome α} {f : α → Outcome β} {k : ErrKind}
    (hx : x ≠ fault (.err k)) (hf : ∀ a, f a ≠ fault (.err k)) : (x >>= f) ≠ fault (.err k) := by
  cases x with
  | ok a => exact hf a
  | fault e => intro h; rw [bind_fault] at h; injection h with h; exact hx (by rw [h])

theorem flush_not_err (m : Mode) (b : RLBuilder) (k : ErrKind) : b.flush m ≠ fault (.err k) := by
  unfold RLBuilder.flush
  split
  · intro h; cases h
  · exact bind_not_err (subM_not_err m _ _ k) fun _ => by intro h; cases h

/-- `flush` never changes `len` or `ones` -/
theorem flush_len_ones {m : Mode} {b b' : RLBuilder} (h : b.flush m = ok b') :
    b'.len = b.len ∧ b'.ones = b.ones := by
  unfold RLBuilder.flush at h
  split at h
  · cases h; exact ⟨rfl, rfl⟩
  · cases hs : subM m b.run.1 b.tail with
    | fault f => rw [hs] at h; cases h
    | ok g =>
      rw [hs] at h
      simp only [bind_ok, pure_eq] at h
      injection h with h
      subst h
      constructor <;> (simp only []; split <;> rfl)

theorem setRunUnchecked_not_err (m : Mode) (b : RLBuilder) (s l : Nat) (k : ErrKind) :
    b.setRunUnchecked m s l ≠ fault (.err k) := by
  unfold RLBuilder.setRunUnchecked
  split
  · intro h; cases h
  · split
    · exact bind_not_err (addM_not_err m _ _ k) fun _ =>
        bind_not_err (addM_not_err m _ _ k) fun _ =>
        bind_not_err (addM_not_err m _ _ k) fun _ => by intro h; cases h
    · exact bind_not_err (flush_not_err m b k) fun _ =>
        bind_not_err (addM_not_err m _ _ k) fun _ =>
        bind_not_err (addM_not_err m _ _ k) fun _ => by intro h; cases h

/-- **when `try_set` is rejected**: exactly when the run starts before the current length or its end
does not fit a `usize` — in both arithmetic modes and for every builder state. -/
theorem rl_trySet_reject_iff (m : Mode) (b : RLBuilder) (start len : Nat) :
    b.trySet m start len = fault (.err .other) ↔ (start < b.len ∨ U64 - 1 - len < start) := by
  refine ⟨fun h => ?_, RLBuilder.trySet_reject m b⟩
  apply Classical.byContradiction
  intro hc
  unfold RLBuilder.trySet at h
  rw [if_neg (by omega), if_neg (by omega)] at h
  exact setRunUnchecked_not_err m b start len .other h

/-- an accepted call with an empty run does nothing -/
theorem rl_trySet_zero (m : Mode) (b : RLBuilder) (start : Nat)
    (h1 : b.len ≤ start) (h2 : start ≤ U64 - 1) : b.trySet m start 0 = ok b :=
  RLBuilder.trySet_zero m b (by omega)

/-! ### `set_len` without the invariant -/

/-- `set_len` as first written never decreases `len` either -/
theorem setLenOld_len_ge {m : Mode} {b b' : RLBuilder} {n : Nat} (h : b.setLenOld m n = ok b') :
    b.len ≤ b'.len ∧ b'.len = max b.len n ∧ b'.ones = b.ones := by
  unfold RLBuilder.setLenOld at h
  split at h
  · next hn =>
    obtain ⟨b0, h0, h⟩ := Outcome.bind_eq_ok h
    cases h
    exact ⟨Nat.le_of_lt hn, (Nat.max_eq_right (Nat.le_of_lt hn)).symm, (flush_len_ones h0).2⟩
  · next hn =>
    cases h
    exact ⟨Nat.le_refl _, (Nat.max_eq_left (Nat.le_of_not_gt hn)).symm, rfl⟩

/-- the repaired `set_len` differs from the original one only in the pending run -/
theorem setLen_eq_setLenOld (m : Mode) (b : RLBuilder) (n : Nat) :
    b.setLen m n = (do let b' ← b.setLenOld m n
                       return (if n > b.len then { b' with run := (n, 0) } else b')) := by
  unfold RLBuilder.setLen RLBuilder.setLenOld
  by_cases hc : n > b.len
  · simp only [if_pos hc]
    cases b.flush m with
    | ok b0 => rfl
    | fault f => rfl
  · simp only [if_neg hc]; rfl

/-- **`set_len` never decreases `len`** -/
theorem setLen_len_ge {m : Mode} {b b' : RLBuilder} {n : Nat} (h : b.setLen m n = ok b') :
    b.len ≤ b'.len ∧ b'.len = max b.len n ∧ b'.ones = b.ones := by
  rw [setLen_eq_setLenOld] at h
  obtain ⟨b0, h0, h⟩ := Outcome.bind_eq_ok h
  cases h
  have := setLenOld_len_ge h0
  split <;> exact this

/-! ### F9: `set_len` as first written forgot to move the (empty) pending run

The model keeps the original code as `RLBuilder.setLenOld`; `RLBuilder.setLen` is the repaired
function (it resets the pending run to `(len, 0)`). -/

/-- The builder invariant: the counters are `usize` values, the pending run `run = (start, length)`
ends at `len` (also when it is empty: then it *starts* at `len`, which is what the `start == len`
fast path of `set_run_unchecked` relies on), it starts at or after the encoded prefix `tail`, and its
bits are counted in `ones`. -/
structure RlInv (b : RLBuilder) : Prop where
  len_lt : b.len < U64
  ones_le : b.ones ≤ b.len
  run_le : b.run.2 ≤ b.ones
  run_end : b.run.1 + b.run.2 = b.len
  tail_le : b.tail ≤ b.run.1

theorem rlInv_default : RlInv ({} : RLBuilder) := by
  refine ⟨by decide, ?_, ?_, ?_, ?_⟩ <;> decide

/-- under the invariant `flush` succeeds in both modes, keeps `len`/`ones`, and leaves the empty run
`(len, 0)` -/
theorem flush_spec (m : Mode) {b : RLBuilder} (h : RlInv b) :
    ∃ b', b.flush m = ok b' ∧ b'.len = b.len ∧ b'.ones = b.ones ∧ b'.run = (b.len, 0) ∧
      b'.tail ≤ b.len ∧ RlInv b' := by
  by_cases hr : b.run.2 = 0
  · have he := h.run_end
    have hrun : b.run = (b.len, 0) := by
      rw [hr, Nat.add_zero] at he
      exact Prod.ext he hr
    exact ⟨b, flush_noop m b hr, rfl, rfl, hrun, by have := h.tail_le; omega, h⟩
  · refine ⟨flushResult b, flush_pending m b hr h.tail_le, flushResult_len b, flushResult_ones b,
      flushResult_run b, ?_, ?_⟩
    · rw [flushResult_tail]; exact Nat.le_of_eq h.run_end
    · refine ⟨?_, ?_, ?_, ?_, ?_⟩
      · rw [flushResult_len]; exact h.len_lt
      · rw [flushResult_len, flushResult_ones]; exact h.ones_le
      · rw [flushResult_run]; exact Nat.zero_le _
      · rw [flushResult_run, flushResult_len]; rfl
      · rw [flushResult_run, flushResult_tail]; exact Nat.le_of_eq h.run_end

/-- the original `set_len` does keep the counter part of the invariant … -/
theorem setLen_weak (m : Mode) {b : RLBuilder} (h : RlInv b) (n : Nat) (hn : n < U64) :
    ∃ b', b.setLenOld m n = ok b' ∧ b'.len = max b.len n ∧ b'.ones = b.ones ∧
      b'.len < U64 ∧ b'.ones ≤ b'.len ∧ b'.run.2 ≤ b'.ones ∧ b'.tail ≤ b'.run.1 ∧
      (b.len < n → b'.run = (b.len, 0)) := by
  unfold RLBuilder.setLenOld
  by_cases hc : n > b.len
  · rw [if_pos hc]
    obtain ⟨b0, hb0, f1, f2, f3, f4, f5⟩ := flush_spec m h
    rw [hb0]
    simp only [bind_ok, pure_eq]
    have := h.ones_le
    refine ⟨_, rfl, ?_, f2, hn, ?_, f5.run_le, f5.tail_le, fun _ => f3⟩
    · show n = max b.len n; omega
    · show b0.ones ≤ n; omega
  · rw [if_neg hc]
    have := h.len_lt
    exact ⟨b, rfl, by omega, rfl, h.len_lt, h.ones_le, h.run_le, h.tail_le, fun h' => absurd h' hc⟩

/-- … but whenever it really extends the vector it breaks `run.1 + run.2 = len`:
the empty pending run stays at the old length. -/
theorem setLen_breaks_inv (m : Mode) {b b' : RLBuilder} (h : RlInv b) (n : Nat) (hn : n < U64)
    (hlt : b.len < n) (hb : b.setLenOld m n = ok b') : ¬ RlInv b' := by
  obtain ⟨b1, hb1, f1, _, _, _, _, _, f7⟩ := setLen_weak m h n hn
  rw [hb] at hb1; cases hb1
  intro hi
  have := hi.run_end
  rw [f7 hlt, f1] at this
  simp at this; omega

/-- the repaired `set_len` preserves the invariant, never faults (in either arithmetic mode), never
decreases `len`, keeps `ones`, and parks the empty pending run at the new length -/
theorem setLenFixed_spec (m : Mode) {b : RLBuilder} (h : RlInv b) (n : Nat) (hn : n < U64) :
    ∃ b', b.setLen m n = ok b' ∧ RlInv b' ∧ b'.len = max b.len n ∧ b'.ones = b.ones ∧
      (b.len < n → b'.run = (n, 0)) := by
  by_cases hc : n > b.len
  · -- the original function did the work; only the pending run is parked at `n` instead of the old length
    obtain ⟨b0, hb0, f1, f2, f3, f4, _, f6, f7⟩ := setLen_weak m h n hn
    rw [setLen_eq_setLenOld, hb0]
    simp only [bind_ok, pure_eq, if_pos hc]
    have := f7 hc
    refine ⟨_, rfl, ⟨f3, f4, Nat.zero_le _, ?_, ?_⟩, f1, f2, fun _ => rfl⟩
    · show n + 0 = b0.len; omega
    · show b0.tail ≤ n; rw [this] at f6; exact Nat.le_trans f6 (Nat.le_of_lt hc)
  · unfold RLBuilder.setLen
    rw [if_neg hc]
    have := h.len_lt
    exact ⟨b, rfl, h, by omega, rfl, fun h' => absurd h' hc⟩

theorem setLen_inv (m : Mode) {b b' : RLBuilder} (h : RlInv b) (n : Nat) (hn : n < U64)
    (hb : b.setLen m n = ok b') : RlInv b' := by
  obtain ⟨b1, hb1, hi, _⟩ := setLenFixed_spec m h n hn
  rw [hb] at hb1; cases hb1; exact hi

/-! ### accepted `try_set`: a run at the end of the vector extends the pending run; a run after a gap is
`set_len(start)` followed by such a run (`RLBuilder.trySet_gap`) -/

/-- a run starting at `len`, no invariant assumed: `len`, `ones` and the pending run grow by the run,
modulo 2^64 -/
theorem rl_trySet_adjacent {m : Mode} {b b' : RLBuilder} {len : Nat} (hz : len ≠ 0)
    (h : b.trySet m b.len len = ok b') :
    ∃ l o r, addM m b.len len = ok l ∧ addM m b.ones len = ok o ∧ addM m b.run.2 len = ok r ∧
      b' = { b with len := l, ones := o, run := (b.run.1, r) } := by
  have hacc : ¬ (b.len < b.len ∨ U64 - 1 - len < b.len) := by
    rw [← rl_trySet_reject_iff m, h]; intro h'; cases h'
  unfold RLBuilder.trySet RLBuilder.setRunUnchecked at h
  rw [if_neg (Nat.lt_irrefl _), if_neg (by omega), if_neg hz, if_pos rfl] at h
  obtain ⟨l, hl, h⟩ := Outcome.bind_eq_ok h
  obtain ⟨o, ho, h⟩ := Outcome.bind_eq_ok h
  obtain ⟨r, hr, h⟩ := Outcome.bind_eq_ok h
  cases h
  exact ⟨l, o, r, hl, ho, hr, rfl⟩

/-- an accepted `try_set(start, len)`, no invariant assumed: the builder `c` on which the run is adjacent
(the builder itself, or `set_len(start)` of it) -/
theorem rl_trySet_via_adjacent {m : Mode} {b b' : RLBuilder} {start len : Nat} (hz : len ≠ 0)
    (h : b.trySet m start len = ok b') :
    b.len ≤ start ∧ ∃ c : RLBuilder, c.len = start ∧ c.ones = b.ones ∧ c.trySet m c.len len = ok b' := by
  have hacc : ¬ (start < b.len ∨ U64 - 1 - len < start) := by
    rw [← rl_trySet_reject_iff m, h]; intro h'; cases h'
  refine ⟨by omega, ?_⟩
  by_cases he : start = b.len
  · exact ⟨b, he.symm, rfl, by rw [← he]; exact h⟩
  · rw [RLBuilder.trySet_gap m b (by omega) hz (by omega)] at h
    obtain ⟨c, hc, h⟩ := Outcome.bind_eq_ok h
    obtain ⟨_, hl, ho⟩ := setLen_len_ge hc
    have hcl : c.len = start := by omega
    exact ⟨c, hcl, ho, by rw [hcl]; exact h⟩

/-- **effect of an accepted call on `len`** (no invariant needed; `len` is a `usize`) -/
theorem rl_trySet_len {m : Mode} {b b' : RLBuilder} {start len : Nat} (hl : 0 < len) (hu : len < U64)
    (h : b.trySet m start len = ok b') : b'.len = start + len ∧ b.len ≤ start := by
  have hacc : ¬ (start < b.len ∨ U64 - 1 - len < start) := by
    rw [← rl_trySet_reject_iff m, h]; intro h'; cases h'
  obtain ⟨h1, c, hcl, _, hc⟩ := rl_trySet_via_adjacent (by omega) h
  obtain ⟨l, o, r, e, _, _, rfl⟩ := rl_trySet_adjacent (by omega) hc
  rw [hcl, addM_ok (by omega)] at e
  cases e
  exact ⟨rfl, h1⟩

/-- **effect of an accepted call on `ones`** (no invariant: modulo 2^64; see `rl_trySet_spec` for the
exact value under the invariant) -/
theorem rl_trySet_ones {m : Mode} {b b' : RLBuilder} {start len : Nat} (hl : 0 < len)
    (h : b.trySet m start len = ok b') : b'.ones = (b.ones + len) % U64 := by
  obtain ⟨_, c, _, hco, hc⟩ := rl_trySet_via_adjacent (by omega) h
  obtain ⟨l, o, r, _, ho, _, rfl⟩ := rl_trySet_adjacent (by omega) hc
  rw [← hco]; exact addM_eq_ok ho

/-- a run starting at `len` under the invariant: nothing wraps -/
theorem rl_trySet_adjacent_spec (m : Mode) {b : RLBuilder} (h : RlInv b) {len : Nat} (hz : len ≠ 0)
    (hfit : b.len + len < U64) :
    ∃ b', b.trySet m b.len len = ok b' ∧ RlInv b' ∧ b'.len = b.len + len ∧ b'.ones = b.ones + len ∧
      b'.run = (b.run.1, b.run.2 + len) := by
  have ho : b.ones + len ≤ b.len + len := Nat.add_le_add_right h.ones_le _
  have hr : b.run.2 + len ≤ b.ones + len := Nat.add_le_add_right h.run_le _
  refine ⟨_, RLBuilder.trySet_at_len m b hz hfit h.ones_le h.run_le, ⟨hfit, ho, hr, ?_, h.tail_le⟩, rfl, rfl, rfl⟩
  show b.run.1 + (b.run.2 + len) = b.len + len
  rw [← Nat.add_assoc, h.run_end]

/-- **accepted `try_set` under the invariant**: never faults (in either arithmetic mode), has the
expected effect on the observables and preserves the invariant. -/
theorem rl_trySet_spec (m : Mode) {b : RLBuilder} (h : RlInv b) (start len : Nat) (hu : len < U64)
    (h1 : b.len ≤ start) (h2 : start ≤ U64 - 1 - len) :
    ∃ b', b.trySet m start len = ok b' ∧ RlInv b' ∧ b'.ones = b.ones + len ∧
      (0 < len → b'.len = start + len ∧ b'.run.1 + b'.run.2 = start + len ∧ len ≤ b'.run.2) ∧
      (len = 0 → b' = b) := by
  by_cases hl : len = 0
  · subst hl
    exact ⟨b, rl_trySet_zero m b start h1 h2, h, rfl, fun h0 => absurd h0 (Nat.lt_irrefl 0), fun _ => rfl⟩
  have hs : start + len < U64 := by omega
  clear h2
  -- the builder on which the run is adjacent: `b` itself, or `set_len(start)` of it
  obtain ⟨c, he, hi, hcl, hco⟩ : ∃ c : RLBuilder, b.trySet m start len = c.trySet m c.len len ∧
      RlInv c ∧ c.len = start ∧ c.ones = b.ones := by
    by_cases he : start = b.len
    · exact ⟨b, by rw [he], h, he.symm, rfl⟩
    · obtain ⟨c, hc, hi, hcl, hco, _⟩ := setLenFixed_spec m h start (Nat.lt_of_le_of_lt (Nat.le_add_right _ _) hs)
      have hcl : c.len = start := hcl.trans (Nat.max_eq_right h1)
      exact ⟨c, by rw [RLBuilder.trySet_gap m b (Nat.lt_of_le_of_ne h1 (Ne.symm he)) hl hs, hc, bind_ok, hcl],
        hi, hcl, hco⟩
  obtain ⟨b', e, hi', l1, l2, l3⟩ := rl_trySet_adjacent_spec m hi hl (by rw [hcl]; exact hs)
  have hre := hi'.run_end
  rw [hcl] at l1
  rw [hco] at l2
  refine ⟨b', by rw [he, e], hi', l2, fun _ => ⟨l1, by rw [hre, l1], ?_⟩, fun h0 => absurd h0 hl⟩
  rw [l3]; exact Nat.le_add_left _ _

/-- `try_set` under the invariant is total: an `Err` (exactly in the two documented cases) or a new
builder — never a panic, in checked and in wrapping arithmetic -/
theorem rl_trySet_total (m : Mode) {b : RLBuilder} (h : RlInv b) (start len : Nat) (hu : len < U64) :
    (b.trySet m start len = fault (.err .other) ∧ (start < b.len ∨ U64 - 1 - len < start)) ∨
    (∃ b', b.trySet m start len = ok b' ∧ RlInv b' ∧ b.len ≤ start ∧ start + len < U64) := by
  by_cases hc : start < b.len ∨ U64 - 1 - len < start
  · exact Or.inl ⟨(rl_trySet_reject_iff m b start len).mpr hc, hc⟩
  · have hacc : b.len ≤ start ∧ start + len < U64 := by omega
    obtain ⟨b', hb, hi, _⟩ := rl_trySet_spec m h start len hu hacc.1 (by omega)
    exact Or.inr ⟨b', hb, hi, hacc⟩

/-- F9, concrete witness: after the original `set_len(10)` on a fresh builder, the run `[10, 15)` is
recorded as starting at position 0. -/
theorem f9_witness :
    ∃ b1 b2, ({} : RLBuilder).setLenOld .checked 10 = ok b1 ∧ b1.trySet .checked 10 5 = ok b2 ∧
      b2.run = (0, 5) ∧ b2.len = 15 ∧ b2.ones = 5 ∧ ¬ RlInv b2 := by
  refine ⟨{ len := 10 }, { len := 15, ones := 5, run := (0, 5) }, by decide, by decide, rfl, rfl, rfl, ?_⟩
  intro h; have := h.run_end; revert this; decide

/-- the same in wrapping arithmetic -/
theorem f9_witness_wrapping :
    ∃ b1 b2, ({} : RLBuilder).setLenOld .wrapping 10 = ok b1 ∧ b1.trySet .wrapping 10 5 = ok b2 ∧
      b2.run = (0, 5) ∧ b2.len = 15 := by
  refine ⟨{ len := 10 }, { len := 15, ones := 5, run := (0, 5) }, by decide, by decide, rfl, rfl⟩

/-- with the repaired `set_len` (the model's `RLBuilder.setLen`) the same history records the run at
position 10 -/
theorem f9_fixed_witness :
    ∃ b1 b2, ({} : RLBuilder).setLen .checked 10 = ok b1 ∧ b1.trySet .checked 10 5 = ok b2 ∧
      b2.run = (10, 5) ∧ b2.len = 15 ∧ b2.ones = 5 ∧ RlInv b2 := by
  refine ⟨{ len := 10, run := (10, 0) }, { len := 15, ones := 5, run := (10, 5) },
    by decide, by decide, rfl, rfl, rfl, ?_⟩
  refine ⟨by decide, ?_, ?_, ?_, ?_⟩ <;> decide

/-- … in wrapping arithmetic as well -/
theorem f9_fixed_witness_wrapping :
    ∃ b1 b2, ({} : RLBuilder).setLen .wrapping 10 = ok b1 ∧ b1.trySet .wrapping 10 5 = ok b2 ∧
      b2.run = (10, 5) ∧ b2.len = 15 ∧ b2.ones = 5 := by
  refine ⟨{ len := 10, run := (10, 0) }, { len := 15, ones := 5, run := (10, 5) },
    by decide, by decide, rfl, rfl, rfl⟩

end RL

end Sds.BuildersProofs

/-! ### RLBuilder call histories -/

namespace Sds.BuildersProofs
open Sds Outcome

/-- one builder call, with the repaired `set_len` (`bit i` is `try_set(i, 1)`) -/
def applyCall (m : Mode) (b : RLBuilder) : RL.BCall → Outcome RLBuilder
  | .set start len => b.trySet m start len
  | .setLen n => b.setLen m n
  | .bit i => b.trySet m i 1

/-- the same with `set_len` as first written (F9) -/
def applyCallOld (m : Mode) (b : RLBuilder) : RL.BCall → Outcome RLBuilder
  | .set start len => b.trySet m start len
  | .setLen n => b.setLenOld m n
  | .bit i => b.trySet m i 1

/-- a history of calls by a caller that ignores `Err` results (keeping the old builder); any other
fault (a panic) aborts the history -/
def rlRunWith (ap : RLBuilder → RL.BCall → Outcome RLBuilder) : List RL.BCall → RLBuilder → Outcome RLBuilder
  | [], b => ok b
  | c :: cs, b =>
    match ap b c with
    | ok b' => rlRunWith ap cs b'
    | fault (.err _) => rlRunWith ap cs b
    | fault f => fault f

/-- histories with the repaired `set_len` -/
def rlRun (m : Mode) : List RL.BCall → RLBuilder → Outcome RLBuilder := rlRunWith (applyCall m)

/-- histories with the original `set_len` -/
def rlRunOld (m : Mode) : List RL.BCall → RLBuilder → Outcome RLBuilder := rlRunWith (applyCallOld m)

theorem rlRun_cons (m : Mode) (c : RL.BCall) (cs : List RL.BCall) (b : RLBuilder) :
    rlRun m (c :: cs) b = (match applyCall m b c with
      | ok b' => rlRun m cs b'
      | fault (.err _) => rlRun m cs b
      | fault f => fault f) := rfl

/-- the arguments are `usize` values -/
def argsOk : RL.BCall → Prop
  | .set _ len => len < U64
  | .setLen n => n < U64
  | .bit _ => True

/-- **histories**: with the repaired `set_len`, any finite list of
`try_set` / `set_len` calls with `usize` arguments (valid or not) runs to completion
in both arithmetic modes, keeps the invariant, and never shortens the vector or loses ones. -/
theorem rlRun_fixed (m : Mode) : ∀ (cs : List RL.BCall) {b : RLBuilder}, RlInv b →
    (∀ c ∈ cs, argsOk c) →
    ∃ b', rlRun m cs b = ok b' ∧ RlInv b' ∧ b.len ≤ b'.len ∧ b.ones ≤ b'.ones := by
  intro cs
  induction cs with
  | nil => intro b h _; exact ⟨b, rfl, h, Nat.le_refl _, Nat.le_refl _⟩
  | cons c cs ih =>
    intro b h hargs
    have hrest : ∀ c ∈ cs, argsOk c := fun c hc => hargs c (List.mem_cons_of_mem _ hc)
    have hc := hargs c (by simp)
    have hset : ∀ start len, len < U64 →
        (∃ k, b.trySet m start len = fault (.err k)) ∨
        (∃ b1, b.trySet m start len = ok b1 ∧ RlInv b1 ∧ b.len ≤ b1.len ∧ b.ones ≤ b1.ones) := by
      intro start len hl
      by_cases hc : start < b.len ∨ U64 - 1 - len < start
      · exact Or.inl ⟨_, (rl_trySet_reject_iff m b start len).mpr hc⟩
      · have hacc : b.len ≤ start ∧ start ≤ U64 - 1 - len := by omega
        obtain ⟨b1, hb1, hi1, ho, hlen, hz⟩ := rl_trySet_spec m h start len hl hacc.1 hacc.2
        refine Or.inr ⟨b1, hb1, hi1, ?_, by rw [ho]; exact Nat.le_add_right _ _⟩
        by_cases h0 : len = 0
        · rw [hz h0]; exact Nat.le_refl _
        · rw [(hlen (Nat.pos_of_ne_zero h0)).1]; exact Nat.le_trans hacc.1 (Nat.le_add_right _ _)
    have hstep : (∃ k, applyCall m b c = fault (.err k)) ∨
        (∃ b1, applyCall m b c = ok b1 ∧ RlInv b1 ∧ b.len ≤ b1.len ∧ b.ones ≤ b1.ones) := by
      cases c with
      | set start len => exact hset start len hc
      | bit i => exact hset i 1 (by decide)
      | setLen n =>
        right
        obtain ⟨b1, hb1, hi1, hl1, ho1, _⟩ := setLenFixed_spec m h n hc
        exact ⟨b1, hb1, hi1, by omega, by omega⟩
    rcases hstep with ⟨k, hk⟩ | ⟨b1, hb1, hi1, hl1, ho1⟩
    · obtain ⟨b', hb', hi', hl', ho'⟩ := ih h hrest
      refine ⟨b', ?_, hi', hl', ho'⟩
      rw [rlRun_cons, hk]; exact hb'
    · obtain ⟨b', hb', hi', hl', ho'⟩ := ih hi1 hrest
      refine ⟨b', ?_, hi', by omega, by omega⟩
      rw [rlRun_cons, hb1]; exact hb'

/-- `rlRun_fixed` from `RLBuilder::new()` -/
theorem rlRun_fixed_default (m : Mode) (cs : List RL.BCall) (hargs : ∀ c ∈ cs, argsOk c) :
    ∃ b', rlRun m cs {} = ok b' ∧ RlInv b' := by
  obtain ⟨b', hb', hi', _⟩ := rlRun_fixed m cs rlInv_default hargs
  exact ⟨b', hb', hi'⟩

/-- with the original `set_len` (`setLenOld`) the same statement is false: a two-call history from the
empty builder leaves the invariant (F9) -/
theorem rlRun_original_breaks :
    ∃ b', rlRunOld .checked [.setLen 10, .set 10 5] {} = ok b' ∧ ¬ RlInv b' ∧ b'.run = (0, 5) := by
  refine ⟨{ len := 15, ones := 5, run := (0, 5) }, by decide, ?_, rfl⟩
  intro h; have := h.run_end; revert this; decide

/-- the same history with the repaired `set_len` -/
theorem rlRun_fixed_same_history :
    ∃ b', rlRun .checked [.setLen 10, .set 10 5] {} = ok b' ∧ RlInv b' ∧ b'.run = (10, 5) := by
  obtain ⟨b', hb', hi', _⟩ := rlRun_fixed .checked [.setLen 10, .set 10 5] rlInv_default
    (by intro c hc; simp at hc; rcases hc with rfl | rfl <;> (show _ < U64; decide))
  refine ⟨b', hb', hi', ?_⟩
  have : rlRun .checked [.setLen 10, .set 10 5] {} =
      ok { len := 15, ones := 5, run := (10, 5) } := by decide
  rw [this] at hb'; cases hb'; rfl

end Sds.BuildersProofs
