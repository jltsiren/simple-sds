/-
Proofs/IntVec: integer vectors behave as plain sequences of naturals below 2^width under any
operation history; the representation is canonical; `pack` keeps the content and selects the
minimal width.
-/
import Sds.Model.IntVec
import Sds.Proofs.RawVec
import Sds.Proofs.BitsMore
set_option linter.unusedVariables false

namespace Sds
open Outcome

/-! ### 0. truncation to a width -/

theorem getLsbD_and_lowSet (x : Word) (w k : Nat) :
    (x &&& lowSet w).getLsbD k = (decide (k < w) && x.getLsbD k) := by
  by_cases hk : k < 64
  · rw [BitVec.getLsbD_and, lowSet_getLsbD _ _ hk, Bool.and_comm]
  · rw [BitVec.getLsbD_of_ge _ _ (by omega), BitVec.getLsbD_of_ge x _ (by omega)]; simp

theorem toNat_lowSet (w : Nat) (hw : w ≤ 64) : (lowSet w).toNat = 2 ^ w - 1 := by
  unfold lowSet
  rw [BitVec.toNat_ofNat]
  apply Nat.mod_eq_of_lt
  have : 2 ^ w ≤ 2 ^ 64 := Nat.pow_le_pow_right (by decide) hw
  have : 0 < 2 ^ w := Nat.two_pow_pos w
  omega

theorem toNat_and_lowSet (x : Word) (w : Nat) (hw : w ≤ 64) :
    (x &&& lowSet w).toNat = x.toNat % 2 ^ w := by
  rw [BitVec.toNat_and, toNat_lowSet w hw, Nat.and_two_pow_sub_one_eq_mod]

/-- the number with the given binary digits, least significant first -/
def bitsToNat : List Bool → Nat
  | [] => 0
  | b :: bs => b.toNat + 2 * bitsToNat bs

theorem testBit_bitsToNat (L : List Bool) (k : Nat) : (bitsToNat L).testBit k = L.getD k false := by
  induction L generalizing k with
  | nil => simp [bitsToNat]
  | cons b bs ih =>
    cases k with
    | zero =>
      rw [Nat.testBit_zero]
      cases b <;> simp [bitsToNat, Nat.add_mul_mod_self_left] <;> omega
    | succ k =>
      rw [Nat.testBit_succ]
      have : (bitsToNat (b :: bs)) / 2 = bitsToNat bs := by
        cases b <;> simp [bitsToNat] <;> omega
      rw [this, ih]; simp

namespace IntVec

/-! ### 1. content: items, getRaw, bits -/

theorem items_length (v : IntVec) : v.items.length = v.len := by
  unfold items; simp

theorem items_getElem? (v : IntVec) (i : Nat) :
    v.items[i]? = if i < v.len then some (v.getRaw i).toNat else none :=
  range_map_getElem? _ _ _

theorem items_getElem (v : IntVec) (i : Nat) (hi : i < v.items.length) :
    v.items[i] = (v.getRaw i).toNat := by
  simp [items]

/-- characterisation of `items` used for all operations -/
theorem items_eq_iff (v : IntVec) (L : List Nat) :
    v.items = L ↔ L.length = v.len ∧ ∀ i, i < v.len → L[i]? = some (v.getRaw i).toNat :=
  range_map_eq_iff _ _ _

/-- bit `k` of item `i` is bit `i * width + k` of the raw data, and zero at and above the width -/
theorem getRaw_getLsbD {v : IntVec} (h : v.WF) (i k : Nat) :
    (v.getRaw i).getLsbD k = (decide (k < v.width) && getBit v.data.data (i * v.width + k)) := by
  unfold getRaw
  exact RawVec.int_getLsbD _ _ _ h.1 h.2.1 k

/-- the field of item `i` lies inside the raw data -/
theorem field_le {v : IntVec} (i : Nat) (hi : i < v.len) : i * v.width + v.width ≤ v.len * v.width := by
  have : (i + 1) * v.width ≤ v.len * v.width := Nat.mul_le_mul_right _ hi
  rw [Nat.add_mul] at this; omega

theorem getRaw_lt {v : IntVec} (h : v.WF) (i : Nat) : (v.getRaw i).toNat < 2 ^ v.width := by
  apply Nat.lt_pow_two_of_testBit
  intro k hk
  have := getRaw_getLsbD h i k
  rw [BitVec.getLsbD] at this
  rw [this]; simp; omega

theorem items_lt {v : IntVec} (h : v.WF) : ∀ x ∈ v.items, x < 2 ^ v.width := by
  intro x hx
  unfold items at hx
  simp only [List.mem_map, List.mem_range] at hx
  obtain ⟨i, _, rfl⟩ := hx
  exact getRaw_lt h i

theorem getRaw_eq {v : IntVec} (h : v.WF) (i : Nat) (hi : i < v.len) :
    v.items[i]? = some (v.getRaw i).toNat := by
  rw [items_getElem?, if_pos hi]

theorem getRaw_eq_getD {v : IntVec} (i : Nat) (hi : i < v.len) :
    (v.getRaw i).toNat = v.items.getD i 0 := by
  rw [List.getD_eq_getElem?_getD, items_getElem?, if_pos hi]; rfl

theorem getRaw_eq_getElem {v : IntVec} (i : Nat) (hi : i < v.len) :
    (v.getRaw i).toNat = v.items[i]'(by rw [items_length]; exact hi) := by
  rw [items_getElem]

/-- items through bits: bit `k` of item `i` is element `i * width + k` of the bit content -/
theorem items_testBit {v : IntVec} (h : v.WF) (i : Nat) (hi : i < v.len) (k : Nat) :
    (v.items.getD i 0).testBit k = (decide (k < v.width) && v.data.bits.getD (i * v.width + k) false) := by
  rw [← getRaw_eq_getD i hi, ← BitVec.getLsbD, getRaw_getLsbD h]
  by_cases hk : k < v.width
  · have := field_le i hi
    have hlt : i * v.width + k < v.data.len := by rw [h.2.2.1]; omega
    rw [List.getD_eq_getElem?_getD, RawVec.bits_getElem?, if_pos hlt]; rfl
  · simp [hk]

/-- items through bits, as a number: item `i` is the number whose binary digits are
`bits[i*w ..< (i+1)*w)` (least significant first) -/
theorem item_eq_bitsToNat {v : IntVec} (h : v.WF) (i : Nat) (hi : i < v.len) :
    v.items.getD i 0 = bitsToNat ((v.data.bits.drop (i * v.width)).take v.width) := by
  apply Nat.eq_of_testBit_eq
  intro k
  rw [items_testBit h i hi, testBit_bitsToNat, List.getD_eq_getElem?_getD, List.getD_eq_getElem?_getD,
    List.getElem?_take]
  by_cases hk : k < v.width
  · simp [hk]
  · simp [hk]

/-- conversely every bit of the data is a bit of an item -/
theorem getBit_eq_getRaw {v : IntVec} (h : v.WF) (j : Nat) (hj : j < v.len * v.width) :
    getBit v.data.data j = (v.getRaw (j / v.width)).getLsbD (j % v.width) := by
  have hw : 0 < v.width := h.1
  rw [getRaw_getLsbD h, Nat.mul_comm, Nat.div_add_mod]
  simp [Nat.mod_lt _ hw]

/-- two fields of the item width are disjoint unless they are the same field -/
theorem field_disjoint (w i j k : Nat) (hk : k < w) (hji : j ≠ i) :
    ¬ (i * w ≤ j * w + k ∧ j * w + k < i * w + w) := by
  rcases Nat.lt_or_gt_of_ne hji with hlt | hgt
  · have : (j + 1) * w ≤ i * w := Nat.mul_le_mul_right _ hlt
    rw [Nat.add_mul] at this; omega
  · have : (i + 1) * w ≤ j * w := Nat.mul_le_mul_right _ hgt
    rw [Nat.add_mul] at this; omega

/-- Overwriting exactly the bits of field `i` with `x` (whether the field existed, as in `set`, or is
new, as in `push`) changes item `i` to `x` truncated to the width, and no other item. -/
theorem getRaw_of_field {v u : IntVec} (hv : v.WF) (hu : u.WF) (hw : u.width = v.width) (i : Nat) (x : Word)
    (hb : ∀ p, getBit u.data.data p =
      if i * v.width ≤ p ∧ p < i * v.width + v.width then x.getLsbD (p - i * v.width)
      else getBit v.data.data p) (j : Nat) :
    u.getRaw j = if j = i then x &&& lowSet v.width else v.getRaw j := by
  apply BitVec.eq_of_getLsbD_eq
  intro k _
  rw [getRaw_getLsbD hu, hw, hb]
  by_cases hk : k < v.width
  · by_cases hji : j = i
    · subst hji
      rw [if_pos rfl, if_pos (by omega), getLsbD_and_lowSet, Nat.add_sub_cancel_left]
    · rw [if_neg hji, if_neg (field_disjoint _ _ _ _ hk hji), getRaw_getLsbD hv]
  · rw [show decide (k < v.width) = false by simp [hk], Bool.false_and]
    by_cases hji : j = i
    · rw [if_pos hji, getLsbD_and_lowSet]; simp [hk]
    · rw [if_neg hji, getRaw_getLsbD hv]; simp [hk]

/-! ### 2. constructors -/

theorem empty_WF (w : Nat) (h1 : 1 ≤ w) (h2 : w ≤ 64) : (⟨0, w, RawVec.empty⟩ : IntVec).WF :=
  ⟨h1, h2, by simp [RawVec.empty], RawVec.empty_WF⟩

theorem items_empty (w : Nat) (d : RawVec) : (⟨0, w, d⟩ : IntVec).items = [] := by
  simp [items]

theorem new_ok (w : Nat) (h1 : 1 ≤ w) (h2 : w ≤ 64) : IntVec.new w = .ok ⟨0, w, RawVec.empty⟩ := by
  unfold IntVec.new; rw [if_neg (by omega)]

theorem new_ok_spec (w : Nat) (h1 : 1 ≤ w) (h2 : w ≤ 64) :
    ∃ v, IntVec.new w = .ok v ∧ v.WF ∧ v.width = w ∧ v.items = [] :=
  ⟨_, new_ok w h1 h2, empty_WF w h1 h2, rfl, items_empty _ _⟩

theorem new_reject (w : Nat) (h : w = 0 ∨ 64 < w) : IntVec.new w = .fault (.err .other) := by
  unfold IntVec.new; rw [if_pos h]

theorem withCapacity_ok (c w : Nat) (h1 : 1 ≤ w) (h2 : w ≤ 64) :
    IntVec.withCapacity c w = .ok ⟨0, w, RawVec.empty⟩ := new_ok w h1 h2

theorem withCapacity_reject (c w : Nat) (h : w = 0 ∨ 64 < w) :
    IntVec.withCapacity c w = .fault (.err .other) := new_reject w h

theorem withLen_reject (n w : Nat) (x : Word) (h : w = 0 ∨ 64 < w) :
    IntVec.withLen n w x = .fault (.err .other) := by
  unfold IntVec.withLen; rw [if_pos h]

theorem default_spec : IntVec.default.WF ∧ IntVec.default.width = 64 ∧ IntVec.default.items = [] :=
  ⟨empty_WF 64 (by decide) (by decide), rfl, items_empty _ _⟩

/-! ### 3. push -/

@[simp] theorem len_push (v : IntVec) (x : Word) : (v.push x).len = v.len + 1 := rfl
@[simp] theorem width_push (v : IntVec) (x : Word) : (v.push x).width = v.width := rfl

theorem push_WF {v : IntVec} (h : v.WF) (x : Word) : (v.push x).WF := by
  obtain ⟨h1, h2, h3, h4⟩ := h
  refine ⟨h1, h2, ?_, RawVec.pushInt_WF h4 x _ h1 h2⟩
  show (v.data.pushInt x v.width).len = (v.len + 1) * v.width
  rw [RawVec.len_pushInt, h3, Nat.add_mul]; omega

theorem getRaw_push {v : IntVec} (h : v.WF) (x : Word) (i : Nat) (hi : i ≤ v.len) :
    (v.push x).getRaw i = if i = v.len then x &&& lowSet v.width else v.getRaw i := by
  apply getRaw_of_field h (push_WF h x) rfl
  intro p
  show getBit (v.data.pushInt x v.width).data p = _
  rw [RawVec.getBit_pushInt h.2.2.2 x _ h.1 h.2.1, h.2.2.1]

theorem items_push {v : IntVec} (h : v.WF) (x : Word) :
    (v.push x).items = v.items ++ [x.toNat % 2 ^ v.width] := by
  rw [items_eq_iff]
  refine ⟨by simp [items_length], fun i hi => ?_⟩
  rw [len_push] at hi
  rw [getRaw_push h x i (by omega)]
  by_cases hil : i = v.len
  · rw [if_pos hil, toNat_and_lowSet _ _ h.2.1, List.getElem?_append_right (by rw [items_length]; omega)]
    simp [items_length, hil]
  · rw [if_neg hil, List.getElem?_append_left (by rw [items_length]; omega), items_getElem?,
      if_pos (by omega)]

/-! ### 4. get / getOr / set -/

theorem get_ok (v : IntVec) (i : Nat) (hi : i < v.len) : v.get i = .ok (v.getRaw i) := by
  unfold get; rw [if_pos hi]

theorem get_fault (v : IntVec) (i : Nat) (hi : v.len ≤ i) : v.get i = .fault (.panic .assert) := by
  unfold get; rw [if_neg (by omega)]

theorem get_spec (v : IntVec) (i : Nat) (hi : i < v.len) :
    ∃ r, v.get i = .ok r ∧ v.items[i]? = some r.toNat :=
  ⟨_, get_ok v i hi, by rw [items_getElem?, if_pos hi]⟩

theorem getOr_lt (v : IntVec) (i : Nat) (d : Word) (hi : i < v.len) : v.getOr i d = v.getRaw i := by
  unfold getOr; rw [if_pos hi]

theorem getOr_ge (v : IntVec) (i : Nat) (d : Word) (hi : v.len ≤ i) : v.getOr i d = d := by
  unfold getOr; rw [if_neg (by omega)]

theorem set_ok (v : IntVec) (i : Nat) (x : Word) (hi : i < v.len) :
    v.set i x = .ok { v with data := v.data.setInt (i * v.width) x v.width } := by
  unfold set; rw [if_pos hi]

theorem set_fault (v : IntVec) (i : Nat) (x : Word) (hi : v.len ≤ i) :
    v.set i x = .fault (.panic .assert) := by
  unfold set; rw [if_neg (by omega)]

theorem set_WF {v : IntVec} (h : v.WF) (i : Nat) (hi : i < v.len) (x : Word) :
    ({ v with data := v.data.setInt (i * v.width) x v.width } : IntVec).WF := by
  obtain ⟨h1, h2, h3, h4⟩ := h
  have := field_le i hi
  exact ⟨h1, h2, by rw [RawVec.len_setInt]; exact h3,
    RawVec.setInt_WF h4 _ x _ h1 h2 (by rw [h3]; exact this)⟩

theorem getRaw_set {v : IntVec} (h : v.WF) (i : Nat) (hi : i < v.len) (x : Word) (j : Nat) :
    ({ v with data := v.data.setInt (i * v.width) x v.width } : IntVec).getRaw j =
      if j = i then x &&& lowSet v.width else v.getRaw j := by
  apply getRaw_of_field h (set_WF h i hi x) rfl
  intro p
  exact RawVec.getBit_setInt h.2.2.2 _ x _ h.1 h.2.1 (by rw [h.2.2.1]; exact field_le i hi) p

theorem items_set {v : IntVec} (h : v.WF) (i : Nat) (hi : i < v.len) (x : Word) :
    ∃ v', v.set i x = .ok v' ∧ v'.WF ∧ v'.width = v.width ∧
      v'.items = v.items.set i (x.toNat % 2 ^ v.width) := by
  refine ⟨_, set_ok v i x hi, set_WF h i hi x, rfl, ?_⟩
  rw [items_eq_iff]
  refine ⟨by simp [items_length], fun j hj => ?_⟩
  rw [getRaw_set h i hi x j, List.getElem?_set]
  by_cases hji : j = i
  · subst hji
    rw [if_pos rfl, if_pos rfl, if_pos (by rw [items_length]; exact hi), toNat_and_lowSet _ _ h.2.1]
  · rw [if_neg hji, if_neg (Ne.symm hji), items_getElem?, if_pos hj]

/-- read-after-write through the safe API -/
theorem get_set {v : IntVec} (h : v.WF) (i : Nat) (hi : i < v.len) (x : Word) :
    ∃ v', v.set i x = .ok v' ∧ v'.get i = .ok (x &&& lowSet v.width) := by
  refine ⟨_, set_ok v i x hi, ?_⟩
  rw [get_ok ({ v with data := v.data.setInt (i * v.width) x v.width } : IntVec) i hi,
    getRaw_set h i hi x i, if_pos rfl]

/-! ### 5. truncation and pop -/

/-- shortening to `n ≤ len` items (the common part of `pop` and of a shrinking `resize`) -/
def trunc (v : IntVec) (n : Nat) : IntVec :=
  { v with len := n, data := v.data.resize (n * v.width) false }

theorem trunc_WF {v : IntVec} (h : v.WF) (n : Nat) : (v.trunc n).WF :=
  ⟨h.1, h.2.1, by simp [trunc], RawVec.resize_WF h.2.2.2 _ _⟩

theorem getRaw_trunc {v : IntVec} (h : v.WF) (n : Nat) (hn : n ≤ v.len) (i : Nat) (hi : i < n) :
    (v.trunc n).getRaw i = v.getRaw i := by
  apply BitVec.eq_of_getLsbD_eq
  intro k hk
  rw [getRaw_getLsbD (trunc_WF h n), getRaw_getLsbD h]
  show (decide (k < v.width) && getBit (v.data.resize (n * v.width) false).data (i * v.width + k)) = _
  by_cases hk : k < v.width
  · have h1 : (i + 1) * v.width ≤ n * v.width := Nat.mul_le_mul_right _ hi
    have h2 : n * v.width ≤ v.len * v.width := Nat.mul_le_mul_right _ hn
    rw [Nat.add_mul] at h1
    rw [RawVec.getBit_resize h.2.2.2 _ _ _ (by omega), if_pos (by rw [h.2.2.1]; omega)]
  · simp [hk]

theorem items_trunc {v : IntVec} (h : v.WF) (n : Nat) (hn : n ≤ v.len) :
    (v.trunc n).items = v.items.take n := by
  rw [items_eq_iff]
  refine ⟨by simp [items_length, trunc]; omega, fun i hi => ?_⟩
  have hi' : i < n := hi
  rw [getRaw_trunc h n hn i hi', List.getElem?_take, if_pos hi', items_getElem?, if_pos (by omega)]

theorem pop_empty {v : IntVec} (h : v.WF) (h0 : v.len = 0) : v.pop = (none, v) := by
  unfold pop
  have : v.data.len < v.width := by rw [h.2.2.1, h0]; have := h.1; omega
  rw [RawVec.popInt_short _ _ this]
  cases v; simp_all

theorem pop_eq {v : IntVec} (h : v.WF) (h0 : v.len ≠ 0) :
    v.pop = (some (v.getRaw (v.len - 1)), v.trunc (v.len - 1)) := by
  have hf := field_le (v := v) (v.len - 1) (by omega)
  have hsub : v.data.len - v.width = (v.len - 1) * v.width := by
    rw [h.2.2.1]
    have : (v.len - 1 + 1) * v.width = v.len * v.width := by rw [Nat.sub_add_cancel (by omega)]
    rw [Nat.add_mul] at this; omega
  unfold pop
  rw [RawVec.popInt_eq _ _ h.1 (by rw [h.2.2.1]; omega), hsub]
  simp only [trunc, getRaw]
  rw [if_pos (by omega)]

/-- `pop` on a non-empty vector: the last item comes back, the rest stays -/
theorem pop_spec {v : IntVec} (h : v.WF) (h0 : v.len ≠ 0) :
    (∃ r, v.pop.1 = some r ∧ some r.toNat = v.items.getLast?) ∧
      v.pop.2.WF ∧ v.pop.2.width = v.width ∧ v.pop.2.items = v.items.dropLast := by
  rw [pop_eq h h0]
  refine ⟨⟨_, rfl, ?_⟩, trunc_WF h _, rfl, ?_⟩
  · rw [List.getLast?_eq_getElem?, items_length, items_getElem?, if_pos (by omega)]
  · simp only []
    rw [items_trunc h _ (by omega), List.dropLast_eq_take, items_length]

theorem pop_empty_spec {v : IntVec} (h : v.WF) (h0 : v.len = 0) : v.pop.1 = none ∧ v.pop.2 = v := by
  rw [pop_empty h h0]; exact ⟨rfl, rfl⟩

/-- in both cases the content after `pop` is `dropLast` and the representation stays well formed -/
theorem pop_snd {v : IntVec} (h : v.WF) :
    v.pop.2.WF ∧ v.pop.2.width = v.width ∧ v.pop.2.items = v.items.dropLast := by
  by_cases h0 : v.len = 0
  · rw [pop_empty h h0]
    refine ⟨h, rfl, ?_⟩
    have : v.items = [] := List.eq_nil_of_length_eq_zero (by rw [items_length, h0])
    simp [this]
  · exact (pop_spec h h0).2

/-! ### 6. extend / resize / clear / withLen / ofList -/

theorem extend_spec {v : IntVec} (h : v.WF) (xs : List Word) :
    (v.extend xs).WF ∧ (v.extend xs).width = v.width ∧
      (v.extend xs).items = v.items ++ xs.map (fun x => x.toNat % 2 ^ v.width) := by
  unfold extend
  induction xs generalizing v with
  | nil => simp [h]
  | cons x xs ih =>
    obtain ⟨a, b, c⟩ := ih (push_WF h x)
    rw [List.foldl_cons]
    refine ⟨a, b, ?_⟩
    rw [c, items_push h x, width_push]; simp

theorem extend_eq (v : IntVec) (xs : List Word) :
    v.extend xs = ⟨v.len + xs.length, v.width, xs.foldl (fun d x => d.pushInt x v.width) v.data⟩ := by
  unfold extend
  induction xs generalizing v with
  | nil => rfl
  | cons x xs ih =>
    rw [List.foldl_cons, ih]
    simp only [push, List.foldl_cons, List.length_cons]
    congr 1; omega

/-- any fold of pushes is an `extend` -/
theorem foldl_push_eq_extend {α : Type} (f : α → Word) (l : List α) (v : IntVec) :
    l.foldl (fun (u : IntVec) j => u.push (f j)) v = v.extend (l.map f) := by
  unfold extend; rw [List.foldl_map]

theorem extend_len (v : IntVec) (xs : List Word) : (v.extend xs).len = v.len + xs.length := by
  rw [extend_eq]

theorem extend_width (v : IntVec) (xs : List Word) : (v.extend xs).width = v.width := by
  rw [extend_eq]

/-- pushing the same value `n` times -/
theorem pushN_spec {v : IntVec} (h : v.WF) (x : Word) (n : Nat) :
    ((List.range n).foldl (fun u _ => u.push x) v).WF ∧
    ((List.range n).foldl (fun u _ => u.push x) v).width = v.width ∧
    ((List.range n).foldl (fun u _ => u.push x) v).items =
      v.items ++ List.replicate n (x.toNat % 2 ^ v.width) := by
  rw [foldl_push_eq_extend]
  obtain ⟨a, b, c⟩ := extend_spec h ((List.range n).map fun _ => x)
  refine ⟨a, b, ?_⟩
  rw [c, List.map_const', List.map_replicate, List.length_range]

theorem resize_eq_trunc (v : IntVec) (n : Nat) (x : Word) (hn : n < v.len) :
    v.resize n x = v.trunc n := by
  unfold resize trunc
  rw [if_neg (by omega), if_pos hn]

theorem resize_spec {v : IntVec} (h : v.WF) (n : Nat) (x : Word) :
    (v.resize n x).WF ∧ (v.resize n x).width = v.width ∧
      (v.resize n x).items = v.items.take n ++ List.replicate (n - v.len) (x.toNat % 2 ^ v.width) := by
  by_cases h1 : n > v.len
  · have := pushN_spec h x (n - v.len)
    unfold resize
    rw [if_pos h1]
    rw [List.take_of_length_le (by rw [items_length]; omega)]
    exact this
  · by_cases h2 : n < v.len
    · rw [resize_eq_trunc v n x h2]
      refine ⟨trunc_WF h n, rfl, ?_⟩
      rw [items_trunc h n (by omega), show n - v.len = 0 by omega]; simp
    · have : n = v.len := by omega
      unfold resize
      rw [if_neg h1, if_neg h2]
      refine ⟨h, rfl, ?_⟩
      rw [List.take_of_length_le (by rw [items_length]; omega), show n - v.len = 0 by omega]; simp

theorem clear_spec {v : IntVec} (h : v.WF) :
    v.clear.WF ∧ v.clear.width = v.width ∧ v.clear.items = [] :=
  ⟨empty_WF v.width h.1 h.2.1, rfl, items_empty _ _⟩

theorem withLen_eq (n w : Nat) (x : Word) (h1 : 1 ≤ w) (h2 : w ≤ 64) :
    IntVec.withLen n w x = .ok ((List.range n).foldl (fun u _ => u.push x) ⟨0, w, RawVec.empty⟩) := by
  unfold IntVec.withLen
  rw [if_neg (by omega)]
  congr 1
  induction n with
  | zero => rfl
  | succ n ih =>
    rw [List.range_succ, List.foldl_append, List.foldl_append, ← ih]
    rfl

theorem withLen_spec (n w : Nat) (x : Word) (h1 : 1 ≤ w) (h2 : w ≤ 64) :
    ∃ v, IntVec.withLen n w x = .ok v ∧ v.WF ∧ v.width = w ∧ v.len = n ∧
      v.items = List.replicate n (x.toNat % 2 ^ w) := by
  obtain ⟨a, b, c⟩ := pushN_spec (empty_WF w h1 h2) x n
  refine ⟨_, withLen_eq n w x h1 h2, a, b, ?_, ?_⟩
  · rw [← items_length, c]; simp [items_empty]
  · rw [c, items_empty]; rfl

theorem ofList_spec (w : Nat) (xs : List Nat) (h1 : 1 ≤ w) (h2 : w ≤ 64) :
    (ofList w xs).WF ∧ (ofList w xs).width = w ∧ (ofList w xs).items = xs.map (· % 2 ^ w) := by
  obtain ⟨a, b, c⟩ := extend_spec (empty_WF w h1 h2) (xs.map (BitVec.ofNat 64))
  refine ⟨a, b, ?_⟩
  unfold ofList
  rw [c, items_empty, List.nil_append, List.map_map]
  apply List.map_congr_left
  intro n _
  simp only [Function.comp, BitVec.toNat_ofNat]
  exact Nat.mod_mod_of_dvd n (Nat.pow_dvd_pow 2 h2)

/-- when every element already fits, the content of `ofList` is the list itself -/
theorem ofList_items_of_lt (w : Nat) (xs : List Nat) (h1 : 1 ≤ w) (h2 : w ≤ 64)
    (hx : ∀ x ∈ xs, x < 2 ^ w) : (ofList w xs).items = xs := by
  rw [(ofList_spec w xs h1 h2).2.2]
  conv => rhs; rw [← List.map_id xs]
  apply List.map_congr_left
  intro n hn
  exact Nat.mod_eq_of_lt (hx n hn)

/-! `ofList` under `push`: no hypothesis on the width or on the values -/

theorem ofList_push (w : Nat) (xs : List Nat) (x : Nat) :
    (ofList w xs).push (BitVec.ofNat 64 x) = ofList w (xs ++ [x]) := by
  unfold ofList extend
  rw [List.map_append, List.foldl_append]
  rfl

theorem ofList_foldl_push {α : Type} (w : Nat) (g : α → Nat) (l : List α) : ∀ xs : List Nat,
    l.foldl (fun (v : IntVec) j => v.push (BitVec.ofNat 64 (g j))) (ofList w xs) = ofList w (xs ++ l.map g) := by
  induction l with
  | nil => intro xs; simp
  | cons a l ih => intro xs; rw [List.foldl_cons, ofList_push, ih]; simp

theorem ofList_len (w : Nat) (xs : List Nat) : (ofList w xs).len = xs.length := by
  unfold ofList; rw [extend_len]; simp

theorem ofList_width (w : Nat) (xs : List Nat) : (ofList w xs).width = w := by
  unfold ofList; rw [extend_width]

/-- a list of 64-bit values is the content of the width-64 vector built from it -/
theorem ofList64 (xs : List Nat) (h : ∀ x ∈ xs, x < 2 ^ 64) : (ofList 64 xs).WF ∧ (ofList 64 xs).items = xs :=
  ⟨(ofList_spec 64 xs (by decide) (by decide)).1, ofList_items_of_lt 64 xs (by decide) (by decide) h⟩

/-! ### 7. canonicity -/

/-- same width and same content ⇒ the same value: same length, same words, hence equal
serialisation, equal `PartialEq`, equal number of set bits -/
theorem canonical {v w : IntVec} (hv : v.WF) (hw : w.WF) (hwd : v.width = w.width)
    (h : v.items = w.items) : v = w := by
  have hl : v.len = w.len := by rw [← items_length v, ← items_length w, h]
  have hr : ∀ i, i < v.len → v.getRaw i = w.getRaw i := by
    intro i hi
    apply BitVec.eq_of_toNat_eq
    have h1 := items_getElem? v i
    have h2 := items_getElem? w i
    rw [h, h2, if_pos (hl ▸ hi), if_pos hi] at h1
    exact (Option.some.inj h1).symm
  have hd : v.data = w.data := by
    apply RawVec.canonical hv.2.2.2 hw.2.2.2
    have hdl : v.data.len = w.data.len := by rw [hv.2.2.1, hw.2.2.1, hl, hwd]
    apply RawVec.bits_eq_of_getBit hdl
    intro j hj
    rw [hv.2.2.1] at hj
    have hpos : 0 < v.width := hv.1
    have hq : j / v.width < v.len := by
      apply Nat.div_lt_of_lt_mul; rw [Nat.mul_comm]; exact hj
    rw [getBit_eq_getRaw hv j hj, getBit_eq_getRaw hw j (by rw [← hl, ← hwd]; exact hj), ← hwd,
      hr _ hq]
  cases v; cases w; simp_all

/-- in particular the number of set bits of the representation is determined by the content -/
theorem canonical_countOnes {v w : IntVec} (hv : v.WF) (hw : w.WF) (hwd : v.width = w.width)
    (h : v.items = w.items) : v.data.countOnes = w.data.countOnes := by
  rw [canonical hv hw hwd h]

end IntVec

/-! ### 8. bit_len and pack -/

theorem bitLen_spec_int (n : Word) :
    1 ≤ bitLen n ∧ bitLen n ≤ 64 ∧ n.toNat < 2 ^ bitLen n ∧ (n ≠ 0 → 2 ^ (bitLen n - 1) ≤ n.toNat) :=
  bitLen_spec n

theorem bitLen_zero_int : bitLen 0 = 1 := bitLen_zero

/-- `bit_len` is the least width (≥ 1) in which the value fits -/
theorem bitLen_le_of_lt (n : Word) (w : Nat) (hw : 1 ≤ w) (h : n.toNat < 2 ^ w) : bitLen n ≤ w := by
  by_cases hn : n = 0
  · subst hn; rw [bitLen_zero_int]; exact hw
  · have := (bitLen_spec_int n).2.2.2 hn
    have hlt : 2 ^ (bitLen n - 1) < 2 ^ w := Nat.lt_of_le_of_lt this h
    have := (Nat.pow_lt_pow_iff_right (by decide : 1 < 2)).mp hlt
    omega

theorem le_foldl_max (L : List Nat) (a : Nat) :
    a ≤ L.foldl max a ∧ ∀ x ∈ L, x ≤ L.foldl max a := by
  induction L generalizing a with
  | nil => simp
  | cons y ys ih =>
    obtain ⟨h1, h2⟩ := ih (max a y)
    rw [List.foldl_cons]
    refine ⟨by omega, fun x hx => ?_⟩
    rcases List.mem_cons.mp hx with rfl | hx
    · omega
    · exact h2 x hx

theorem foldl_max_mem (L : List Nat) (a : Nat) : L.foldl max a = a ∨ L.foldl max a ∈ L := by
  induction L generalizing a with
  | nil => simp
  | cons y ys ih =>
    rw [List.foldl_cons]
    rcases ih (max a y) with h | h
    · rw [h]
      by_cases hay : y ≤ a
      · left; omega
      · right; rw [show max a y = y by omega]; exact List.mem_cons_self
    · right; exact List.mem_cons_of_mem _ h

theorem foldl_max_lt (L : List Nat) (a B : Nat) (ha : a < B) (h : ∀ x ∈ L, x < B) :
    L.foldl max a < B := by
  rcases foldl_max_mem L a with e | e
  · rw [e]; exact ha
  · exact h _ e

namespace IntVec

theorem pack_empty (v : IntVec) (h0 : v.len = 0) : v.pack = v := by
  unfold pack; rw [if_pos h0]

theorem pack_same (v : IntVec) (h : bitLen (BitVec.ofNat 64 v.maxItem) = v.width) : v.pack = v := by
  unfold pack; split
  · rfl
  · simp only []; rw [if_pos h]

theorem pack_eq_ofList (v : IntVec) (h0 : v.len ≠ 0)
    (h : bitLen (BitVec.ofNat 64 v.maxItem) ≠ v.width) :
    v.pack = ofList (bitLen (BitVec.ofNat 64 v.maxItem)) v.items := by
  unfold pack ofList
  rw [if_neg h0]; simp only []; rw [if_neg h, extend_eq]
  simp [items_length, List.foldl_map]

/-- items are values of words, whatever the state of the vector -/
theorem items_lt_word (v : IntVec) : ∀ x ∈ v.items, x < 2 ^ 64 := fun x hx => by
  obtain ⟨i, _, rfl⟩ := List.mem_map.mp hx
  exact (v.getRaw i).isLt

theorem maxItem_lt_word (v : IntVec) : v.maxItem < 2 ^ 64 :=
  foldl_max_lt _ _ _ (Nat.two_pow_pos 64) (items_lt_word v)

theorem maxItem_lt {v : IntVec} (h : v.WF) : v.maxItem < 2 ^ 64 := maxItem_lt_word v

theorem item_lt_pack_width (v : IntVec) : ∀ x ∈ v.items, x < 2 ^ bitLen (BitVec.ofNat 64 v.maxItem) := by
  intro x hx
  have h1 := (le_foldl_max v.items 0).2 x hx
  have h2 := (bitLen_spec_int (BitVec.ofNat 64 v.maxItem)).2.2.1
  rw [BitVec.toNat_ofNat, Nat.mod_eq_of_lt (maxItem_lt_word v)] at h2
  exact Nat.lt_of_le_of_lt h1 h2

/-- `pack` keeps the items of every vector: it is rebuilt from them at a width that holds the largest -/
theorem pack_items (v : IntVec) : v.pack.items = v.items := by
  by_cases h0 : v.len = 0
  · rw [pack_empty v h0]
  · by_cases hs : bitLen (BitVec.ofNat 64 v.maxItem) = v.width
    · rw [pack_same v hs]
    · have hb := bitLen_spec_int (BitVec.ofNat 64 v.maxItem)
      rw [pack_eq_ofList v h0 hs]
      exact ofList_items_of_lt _ _ hb.1 hb.2.1 (item_lt_pack_width v)

/-- `pack` keeps the content; on a non-empty vector the new width is `bit_len` of the largest item -/
theorem pack_spec {v : IntVec} (h : v.WF) :
    v.pack.WF ∧ v.pack.items = v.items ∧
      (v.len ≠ 0 → v.pack.width = bitLen (BitVec.ofNat 64 (v.items.foldl max 0))) := by
  by_cases h0 : v.len = 0
  · rw [pack_empty v h0]; exact ⟨h, rfl, fun hn => absurd h0 hn⟩
  · by_cases hs : bitLen (BitVec.ofNat 64 v.maxItem) = v.width
    · rw [pack_same v hs]; exact ⟨h, rfl, fun _ => hs.symm⟩
    · have hb := bitLen_spec_int (BitVec.ofNat 64 v.maxItem)
      obtain ⟨a, b, _⟩ := ofList_spec _ v.items hb.1 hb.2.1
      rw [← pack_eq_ofList v h0 hs] at a b
      exact ⟨a, pack_items v, fun _ => b⟩

theorem pack_len (v : IntVec) : v.pack.len = v.len := by
  unfold pack; split
  · rfl
  · simp only []; split <;> rfl

/-- the width chosen by `pack` is sufficient and tight: every item fits, and the largest item
(when non-zero) needs all the bits -/
theorem pack_width_tight {v : IntVec} (h : v.WF) (h0 : v.len ≠ 0) :
    (∀ x ∈ v.items, x < 2 ^ v.pack.width) ∧
      (v.items.foldl max 0 ≠ 0 → 2 ^ (v.pack.width - 1) ≤ v.items.foldl max 0) := by
  rw [(pack_spec h).2.2 h0]
  refine ⟨item_lt_pack_width v, fun hne => ?_⟩
  have hb := (bitLen_spec_int (BitVec.ofNat 64 (v.items.foldl max 0))).2.2.2
  have hm : (BitVec.ofNat 64 (v.items.foldl max 0)).toNat = v.items.foldl max 0 := by
    rw [BitVec.toNat_ofNat]; exact Nat.mod_eq_of_lt (maxItem_lt h)
  rw [hm] at hb
  apply hb
  intro he
  rw [he] at hm
  exact hne (by simpa using hm.symm)

/-- the width chosen by `pack` is minimal: no width `w' ≥ 1` that holds all items is smaller -/
theorem pack_width_minimal {v : IntVec} (h : v.WF) (h0 : v.len ≠ 0) (w' : Nat) (hw : 1 ≤ w')
    (hfit : ∀ x ∈ v.items, x < 2 ^ w') : v.pack.width ≤ w' := by
  rw [(pack_spec h).2.2 h0]
  apply bitLen_le_of_lt _ _ hw
  rw [BitVec.toNat_ofNat, Nat.mod_eq_of_lt (show v.items.foldl max 0 < 2 ^ 64 from maxItem_lt h)]
  exact foldl_max_lt _ _ _ (Nat.two_pow_pos w') hfit

/-- `pack` is idempotent -/
theorem pack_pack {v : IntVec} (h : v.WF) : v.pack.pack = v.pack := by
  obtain ⟨a, b, c⟩ := pack_spec h
  by_cases h0 : v.len = 0
  · rw [pack_empty v h0, pack_empty v h0]
  · apply pack_same
    unfold maxItem
    rw [b, c h0]

/-! ### 9. operation histories -/

/-- the mutating operations of the in-memory API -/
inductive Op
  | push (x : Word) | pop | set (i : Nat) (x : Word) | resize (n : Nat) (x : Word)
  | clear | pack | extend (xs : List Word)

/-- effect on the representation (`set` outside its domain panics; the vector is then left as it was) -/
def Op.run : Op → IntVec → IntVec
  | .push x, v => v.push x
  | .pop, v => v.pop.2
  | .set i x, v => match v.set i x with
    | .ok v' => v'
    | .fault _ => v
  | .resize n x, v => v.resize n x
  | .clear, v => v.clear
  | .pack, v => v.pack
  | .extend xs, v => v.extend xs

/-- effect on a plain sequence of naturals together with its item width -/
def Op.spec : Nat × List Nat → Op → Nat × List Nat
  | (w, L), .push x => (w, L ++ [x.toNat % 2 ^ w])
  | (w, L), .pop => (w, L.dropLast)
  | (w, L), .set i x => (w, L.set i (x.toNat % 2 ^ w))
  | (w, L), .resize n x => (w, L.take n ++ List.replicate (n - L.length) (x.toNat % 2 ^ w))
  | (w, _), .clear => (w, [])
  | (w, L), .pack => if L = [] then (w, L) else (bitLen (BitVec.ofNat 64 (L.foldl max 0)), L)
  | (w, L), .extend xs => (w, L ++ xs.map (fun x => x.toNat % 2 ^ w))

/-- documented domain of each operation, given the current length -/
def Op.pre : Op → Nat → Prop
  | .set i _, n => i < n
  | _, _ => True

/-- abstract state of a vector -/
def view (v : IntVec) : Nat × List Nat := (v.width, v.items)

theorem Op.step (op : Op) {v : IntVec} (h : v.WF) (hp : op.pre v.len) :
    (op.run v).WF ∧ view (op.run v) = Op.spec (view v) op := by
  cases op with
  | push x => exact ⟨push_WF h x, by simp [Op.run, Op.spec, view, items_push h x]⟩
  | pop =>
    obtain ⟨a, b, c⟩ := pop_snd h
    exact ⟨a, by simp [Op.run, Op.spec, view, b, c]⟩
  | set i x =>
    obtain ⟨v', e, a, b, c⟩ := items_set h i hp x
    simp only [Op.run, Op.spec, view, e]
    exact ⟨a, by rw [b, c]⟩
  | resize n x =>
    obtain ⟨a, b, c⟩ := resize_spec h n x
    exact ⟨a, by simp [Op.run, Op.spec, view, b, c, items_length]⟩
  | clear =>
    obtain ⟨a, b, c⟩ := clear_spec h
    exact ⟨a, by simp [Op.run, Op.spec, view, b, c]⟩
  | pack =>
    obtain ⟨a, b, c⟩ := pack_spec h
    refine ⟨a, ?_⟩
    show (v.pack.width, v.pack.items) = Op.spec (v.width, v.items) Op.pack
    rw [Op.spec.eq_6]
    by_cases h0 : v.len = 0
    · have : v.items = [] := List.eq_nil_of_length_eq_zero (by rw [items_length, h0])
      rw [pack_empty v h0]
      split
      · rfl
      · rename_i e; exact absurd this e
    · have : v.items ≠ [] := fun e => h0 (by rw [← items_length, e]; rfl)
      split
      · rename_i e; exact absurd e this
      · rw [b, c h0]
  | extend xs =>
    obtain ⟨a, b, c⟩ := extend_spec h xs
    exact ⟨a, by simp [Op.run, Op.spec, view, b, c]⟩

/-- a history is valid when every operation is applied inside its domain -/
def Valid : List Op → Nat × List Nat → Prop
  | [], _ => True
  | op :: ops, s => op.pre s.2.length ∧ Valid ops (Op.spec s op)

/-- **Integer vectors behave as plain sequences under any operation history**: starting from any
well-formed vector, after any valid history the representation is well formed and its
(width, content) is the result of running the list-level specification on the initial
(width, content). -/
theorem history {v : IntVec} (h : v.WF) (ops : List Op) (hv : Valid ops (view v)) :
    (ops.foldl (fun v op => op.run v) v).WF ∧
      view (ops.foldl (fun v op => op.run v) v) = ops.foldl Op.spec (view v) := by
  induction ops generalizing v with
  | nil => exact ⟨h, rfl⟩
  | cons op ops ih =>
    obtain ⟨hp, hrest⟩ := hv
    have hp' : op.pre v.len := by simpa [view, items_length] using hp
    obtain ⟨h1, h2⟩ := op.step h hp'
    rw [← h2] at hrest
    have := ih h1 hrest
    rw [h2] at this
    exact this

/-- all items stay below `2 ^ width` along any valid history -/
theorem history_items_lt {v : IntVec} (h : v.WF) (ops : List Op) (hv : Valid ops (view v)) :
    ∀ x ∈ (ops.foldl Op.spec (view v)).2, x < 2 ^ (ops.foldl Op.spec (view v)).1 := by
  obtain ⟨a, b⟩ := history h ops hv
  rw [← b]
  exact items_lt a

/-- two valid histories (from any well-formed starting points) whose list-level results agree in
width and content produce identical `IntVec` values: same length, same width, same words; hence equal
`PartialEq`, serialisation and number of set bits. -/
theorem history_canonical {v1 v2 : IntVec} (hw1 : v1.WF) (hw2 : v2.WF) (ops1 ops2 : List Op)
    (h1 : Valid ops1 (view v1)) (h2 : Valid ops2 (view v2))
    (he : ops1.foldl Op.spec (view v1) = ops2.foldl Op.spec (view v2)) :
    ops1.foldl (fun v op => op.run v) v1 = ops2.foldl (fun v op => op.run v) v2 := by
  obtain ⟨a1, b1⟩ := history hw1 ops1 h1
  obtain ⟨a2, b2⟩ := history hw2 ops2 h2
  have : view (ops1.foldl (fun v op => op.run v) v1) = view (ops2.foldl (fun v op => op.run v) v2) := by
    rw [b1, b2, he]
  unfold view at this
  exact canonical a1 a2 (congrArg Prod.fst this) (congrArg Prod.snd this)

/-- the same, for histories starting from freshly created vectors of the same width -/
theorem history_canonical_new (w : Nat) (hw1 : 1 ≤ w) (hw2 : w ≤ 64) (ops1 ops2 : List Op)
    (h1 : Valid ops1 (w, [])) (h2 : Valid ops2 (w, []))
    (he : ops1.foldl Op.spec (w, []) = ops2.foldl Op.spec (w, [])) :
    ops1.foldl (fun v op => op.run v) ⟨0, w, RawVec.empty⟩ =
      ops2.foldl (fun v op => op.run v) ⟨0, w, RawVec.empty⟩ := by
  have hv : view ⟨0, w, RawVec.empty⟩ = (w, []) := by simp [view, items_empty]
  apply history_canonical (empty_WF w hw1 hw2) (empty_WF w hw1 hw2)
  · rw [hv]; exact h1
  · rw [hv]; exact h2
  · rw [hv]; exact he

end IntVec

/-! ### `IntVector` : `ofList 64` then `pack` keeps the content -/

theorem intVec_ofList_pack_get (xs : List Nat) (_hne : xs ≠ []) (hx : ∀ x, x ∈ xs → x < 2 ^ 63) :
    ((IntVec.ofList 64 xs).pack).len = xs.length ∧
    ∀ i (h : i < xs.length), ((IntVec.ofList 64 xs).pack).get i = ok (BitVec.ofNat 64 xs[i]) := by
  have hx64 : ∀ x ∈ xs, x < 2 ^ 64 := fun x h => Nat.lt_trans (hx x h) (by decide)
  obtain ⟨hwf, _, _⟩ := IntVec.ofList_spec 64 xs (by decide) (by decide)
  have hitems : (IntVec.ofList 64 xs).items = xs :=
    IntVec.ofList_items_of_lt 64 xs (by decide) (by decide) hx64
  obtain ⟨_, hpi, _⟩ := IntVec.pack_spec hwf
  have hplen : ((IntVec.ofList 64 xs).pack).len = xs.length := by
    rw [← IntVec.items_length, hpi, hitems]
  refine ⟨hplen, fun i hi => ?_⟩
  rw [IntVec.get_ok _ i (by omega)]
  congr 1
  apply BitVec.eq_of_toNat_eq
  have h1 := IntVec.items_getElem? ((IntVec.ofList 64 xs).pack) i
  rw [if_pos (by omega), hpi, hitems, List.getElem?_eq_getElem hi] at h1
  have h2 : xs[i] = (((IntVec.ofList 64 xs).pack).getRaw i).toNat := by simpa using h1
  rw [← h2, BitVec.toNat_ofNat, Nat.mod_eq_of_lt (hx64 _ (List.getElem_mem hi))]

end Sds
