/-
Proofs/GenEqLoop4: the level loops of `wavelet_matrix/wm_core.rs` (`map_down`, `map_down_with`,
`map_down_with_two_positions`, `map_up_with`) as TRANSLATED statement by statement from the source
(Generated/FnsLoop.lean; `for level in 0..width` / `(0..width).rev()` are `loopM fuel step init` over a counter and
the control type `Ctl`) are equal to the hand-written model definitions of Model/WM.lean (`List.range width` folds).

Method: `for_loop_range`, `for_range_sim'` (forward; Proofs/GenSupport) and `rev_loop` (backward, with `?` in the body)
relate `loopM` over the counter to `List.foldlM` over `List.range n` resp. `(List.range i).reverse`, for ANY `step`
that satisfies the one-step equations below the bound.

Hypotheses:
* `c.width ≤ 64` (`bit_value` is `1 << (width - 1 - level)`; the loader enforces it).
* `hs : RankFits c`, i.e. `∀ l i b r, c.level l = ok b → b.rankQ i = ok r → b.countZeros + r < U64` (the hypothesis of
  `wm_map_down_one_eq_model` at every level: `map_down_one` adds `count_zeros() + rank(index)` with the mode's
  arithmetic, the model in `Nat`; only a level of length ≥ 2^64 violates it, `wm_map_down_one_ne`).
* NO hypothesis on `value`: `value & bit_value(level) != 0` on the word `value mod 2^64` is the model's
  `(value / 2^(width-1-level)) % 2 = 1` for every `value : Nat`, because `width - 1 - level < 64`
  (`and_two_pow_ne_zero_iff`).
* `map_down`: `value += bit_value(level)` is a `u64` addition (`addW m`), the model adds in `Nat`.  The invariant
  `acc + 2^(width - level) ≤ 2^width` shows that the partial sums never overflow (`downAcc_inv`).
* `map_down_with_two_positions`: the code advances `first` and `second` level by level, the sequential composition
  of two `mapDownWith` runs all levels for `first` and then all levels for `second`.  The RESULTS agree, but the
  FAULT can differ when BOTH runs fault, with different faults, the second one at an earlier level
  (`wm_map_down_two_ne`).  `wm_map_down_two_eq` therefore carries `hf` ("if both runs fault they fault alike"), which
  holds in particular when either run succeeds (`wm_map_down_two_eq_of_ok_left / _right`);
  `wm_map_down_two_cases` is the unconditional statement, `wm_map_down_two_ok_iff` the success case.
* Sharpness: `wm_map_down_with_width_ne` (65 levels), `wm_map_down_with_hs_ne` (a level of length 2^64),
  `wm_map_down_two_ne` + `twoNeEx_hs` (levels with inconsistent rank supports).  None of them is a divergence between
  the code and the model on a matrix that is loaded or built: for `c.Encodes V width` all hypotheses hold
  (`width_le_of_encodes`, `hs_of_encodes`; for the two-position variant `wm_map_down_two_eq_of_encodes`).
-/
import Sds.Generated.FnsLoop
import Sds.Proofs.GenFns
import Sds.Proofs.GenEqIdx
import Sds.Proofs.WM

namespace Sds.GenEq
open Sds Outcome Generated

/-! ### the bit test `value & bit_value(level)` -/

private theorem obind_fault {α β : Type} (e : Fault) (f : α → Outcome β) : (fault e : Outcome α).bind f = fault e := rfl

/-- the bit test of the code against the bit test of the model -/
theorem and_two_pow_ne_zero_iff (value k : Nat) (hk : k < 64) :
    ((BitVec.ofNat 64 value) &&& (BitVec.ofNat 64 (2 ^ k)) ≠ (0 : Word)) ↔ (value / 2 ^ k) % 2 = 1 := by
  have hp : 2 ^ k < 2 ^ 64 := Nat.pow_lt_pow_right (by decide) hk
  rw [BitVec.toNat_ne, BitVec.toNat_and, BitVec.toNat_ofNat, BitVec.toNat_ofNat, Nat.mod_eq_of_lt hp]
  have hb : value.testBit k = decide (value / 2 ^ k % 2 = 1) := Nat.testBit_eq_decide_div_mod_eq
  have hm : (value % 2 ^ 64).testBit k = value.testBit k := by
    rw [Nat.testBit_mod_two_pow]; simp [hk]
  constructor
  · intro h
    apply Classical.byContradiction
    intro hn
    apply h
    apply Nat.eq_of_testBit_eq
    intro i
    rw [Nat.testBit_and, Nat.testBit_two_pow]
    by_cases hi : k = i
    · subst hi; rw [hm, hb]; simp [hn]
    · simp [hi]
  · intro h he
    have h2 := congrArg (fun x => Nat.testBit x k) he
    simp only [Nat.testBit_and, hm, hb, h, Nat.testBit_two_pow] at h2
    simp at h2

/-- … at a level of a wavelet matrix of width ≤ 64 -/
theorem wm_bit_test (c : WMCore) (value l : Nat) (hl : l < c.width) (hw : c.width ≤ 64) :
    decide ((BitVec.ofNat 64 value) &&& (BitVec.ofNat 64 (c.bitValue l)) ≠ (0 : Word)) =
      decide ((value / c.bitValue l) % 2 = 1) := by
  have := and_two_pow_ne_zero_iff value (c.width - 1 - l) (by omega)
  unfold WMCore.bitValue
  exact decide_eq_decide.mpr this

/-! ### the backward loop (`rev_loop`) -/

private theorem foldlM_none {α : Type} (g : Option α → Nat → Outcome (Option α)) (hg : ∀ l, g none l = ok none)
    (ls : List Nat) : ls.foldlM g none = ok none := by
  induction ls with
  | nil => rfl
  | cons a t ih => rw [List.foldlM_cons, hg]; exact ih

private theorem range_succ_reverse' (n : Nat) : (List.range (n + 1)).reverse = n :: (List.range n).reverse := by
  rw [List.range_succ, List.reverse_append]; rfl

/-- a body that may produce `None` (`?` on an `Option`), lifted to the accumulator of a fold -/
def optStep {σ : Type} (body : σ → Nat → Outcome (Option σ)) (acc : Option σ) (l : Nat) : Outcome (Option σ) :=
  match acc with | none => ok none | some j => body j l

/-- `for i in (0..n).rev() { s = body(s, i)?? }` : the body may fault and may leave the function with `None` -/
theorem rev_loop {σ : Type} (n : Nat) (body : σ → Nat → Outcome (Option σ))
    (step : Nat × σ → Outcome (Ctl (Nat × σ) (Option σ)))
    (h1 : ∀ i s, 0 < i → i ≤ n → step (i, s) = (body s (i - 1)).bind (fun o =>
      match o with | none => ok (Ctl.ret none) | some s' => ok (Ctl.next (i - 1, s'))))
    (h2 : ∀ s, step (0, s) = ok (Ctl.brk (0, s))) :
    ∀ i s, i ≤ n →
      loopM (i + 1) step (i, s) =
        ((List.range i).reverse.foldlM (optStep body) (some s)).bind (fun o =>
          match o with | none => ok (Ctl.ret none) | some j => ok (Ctl.brk (0, j))) := by
  intro i
  induction i with
  | zero => intro s _; rw [loopM_succ, h2]; rfl
  | succ i ih =>
    intro s hi
    rw [loopM_succ, h1 (i + 1) s (by omega) hi, range_succ_reverse', List.foldlM_cons]
    simp only [Bind.bind, Nat.add_sub_cancel, optStep]
    cases body s i with
    | fault f => rfl
    | ok o =>
      cases o with
      | none =>
        simp only [Outcome.bind]
        rw [foldlM_none _ (fun _ => rfl)]
      | some s' => exact ih s' (by omega)

/-- `map_down_one` adds `count_zeros() + rank(index)` in `usize`, the model in `Nat`: on no level does the sum leave
the word (only a level of length ≥ 2^64 violates it, `wm_map_down_with_hs_ne`) -/
def RankFits (c : WMCore) : Prop :=
  ∀ l i b r, c.level l = ok b → b.rankQ i = ok r → b.countZeros + r < U64

/-! ### `map_down_with` -/

/-- one level of `map_down_with` in the model -/
def downStep (m : Mode) (c : WMCore) (value : Nat) (i l : Nat) : Outcome Nat :=
  if (value / c.bitValue l) % 2 = 1 then c.mapDownOne i l else c.mapDownZero m i l

theorem wm_map_down_with_eq (m : Mode) (c : WMCore) (index value : Nat) (hw : c.width ≤ 64)
    (hs : RankFits c) :
    gen_WMCore_map_down_with m c index (BitVec.ofNat 64 value) = c.mapDownWith m index value := by
  unfold gen_WMCore_map_down_with WMCore.mapDownWith
  refine bind_congr fun n => ?_
  refine (congrArg (· >>= _) (for_loop_range (ρ := Nat) c.width (downStep m c value) _ (fun i s hi => ?_)
    (fun i s hi => ?_) _)).trans ?_
  · have hbt := decide_eq_decide.mp (wm_bit_test c value i hi hw)
    simp only [gen_simp, hi, wm_bit_value_eq m c i hi hw, wm_map_down_one_eq_model m c s i (hs i s), wm_map_down_zero_eq,
      downStep, ite_bind, ← hbt, ne_eq]
  · simp only [gen_simp, hi]
  · simp only [gen_simp]
    rfl

/-! ### `map_up_with` -/

/-- one level of `map_up_with` in the model -/
def upStep (m : Mode) (c : WMCore) (value : Nat) (i l : Nat) : Outcome (Option Nat) :=
  if (value / c.bitValue l) % 2 = 1 then c.mapUpOne m i l else c.mapUpZero m i l

theorem wm_map_up_with_eq (m : Mode) (c : WMCore) (index value : Nat) (hw : c.width ≤ 64) :
    gen_WMCore_map_up_with m c index (BitVec.ofNat 64 value) = c.mapUpWith m index value := by
  unfold gen_WMCore_map_up_with
  simp only [Bind.bind]
  rw [show c.width - 0 + 1 = c.width + 1 from rfl,
    rev_loop c.width (upStep m c value) _ (fun i s hi hn => by
        have hl : i - 1 < c.width := by omega
        simp only [hi, decide_true, if_true, wm_bit_value_eq m c (i - 1) hl hw, Outcome.bind,
          wm_bit_test c value (i - 1) hl hw, wm_map_up_one_eq, wm_map_up_zero_eq, upStep]
        by_cases hb : (value / c.bitValue (i - 1)) % 2 = 1
        · simp only [hb, decide_true, if_true]
          cases c.mapUpOne m s (i - 1) with
          | fault f => rfl
          | ok o => cases o <;> rfl
        · simp only [hb, decide_false, Bool.false_eq_true, if_false]
          cases c.mapUpZero m s (i - 1) with
          | fault f => rfl
          | ok o => cases o <;> rfl)
      (fun s => by simp only [Nat.lt_irrefl, decide_false, Bool.false_eq_true, if_false]; rfl)
      c.width index (Nat.le_refl _)]
  have hfold : (List.range c.width).reverse.foldlM (optStep (upStep m c value)) (some index) =
      c.mapUpWith m index value := by
    unfold WMCore.mapUpWith
    congr 1
    funext acc l
    cases acc <;> rfl
  rw [hfold]
  cases c.mapUpWith m index value with
  | fault f => rfl
  | ok o => cases o <;> rfl

/-! ### `map_down` -/

/-- one level of `map_down` in the model -/
def downAcc (m : Mode) (c : WMCore) (acc : Nat × Nat) (l : Nat) : Outcome (Nat × Nat) := do
  let b ← c.level l
  let bit ← b.get acc.1
  if bit then do
    let i ← c.mapDownOne acc.1 l
    return (i, acc.2 + c.bitValue l)
  else do
    let i ← c.mapDownZero m acc.1 l
    return (i, acc.2)

/-- the arithmetic of one level of `map_down`: an accumulated value `v` with `v + 2^(w - l) ≤ 2^w` takes the bit of
level `l` without leaving 64 bits, and the invariant passes to level `l + 1` either way -/
theorem map_down_level {w l v : Nat} (hw : w ≤ 64) (hl : l < w) (hv : v + 2 ^ (w - l) ≤ 2 ^ w) :
    v < 2 ^ 64 ∧ 2 ^ (w - 1 - l) < 2 ^ 64 ∧ v + 2 ^ (w - 1 - l) < 2 ^ 64 ∧
      v + 2 ^ (w - 1 - l) + 2 ^ (w - (l + 1)) ≤ 2 ^ w ∧ v + 2 ^ (w - (l + 1)) ≤ 2 ^ w := by
  have he : w - l = (w - 1 - l) + 1 := by clear hv; omega
  have he' : w - (l + 1) = w - 1 - l := Nat.sub_right_comm w l 1 ▸ rfl
  have hpw : 2 ^ w ≤ 2 ^ 64 := Nat.pow_le_pow_right (by decide) hw
  have hpos : 0 < 2 ^ (w - 1 - l) := Nat.pow_pos (by decide)
  rw [he, Nat.pow_succ] at hv
  rw [he']
  generalize 2 ^ (w - 1 - l) = q at hv hpos ⊢
  generalize 2 ^ w = W at hv hpw ⊢
  generalize 2 ^ 64 = B at hpw ⊢
  omega

/-- one level of `map_down` leaves the value as it is or adds the level's bit value -/
theorem downAcc_snd {m : Mode} {c : WMCore} {acc p : Nat × Nat} {l : Nat} (h : downAcc m c acc l = ok p) :
    p.2 = acc.2 ∨ p.2 = acc.2 + c.bitValue l := by
  unfold downAcc at h
  obtain ⟨b, _, h⟩ := Outcome.bind_eq_ok h
  obtain ⟨bit, _, h⟩ := Outcome.bind_eq_ok h
  split at h <;> obtain ⟨i, _, h⟩ := Outcome.bind_eq_ok h <;> cases h
  · exact Or.inr rfl
  · exact Or.inl rfl

/-- the level loop of `map_down` keeps `v + 2^(width - l) ≤ 2^width`: before level `l` the value has bits above
`width - l` only -/
theorem downAcc_inv (m : Mode) (c : WMCore) (hw : c.width ≤ 64) {l : Nat} (hl : l < c.width) {acc p : Nat × Nat}
    (hv : acc.2 + 2 ^ (c.width - l) ≤ 2 ^ c.width) (h : downAcc m c acc l = ok p) :
    p.2 + 2 ^ (c.width - (l + 1)) ≤ 2 ^ c.width := by
  obtain ⟨_, _, _, h1, h0⟩ := map_down_level hw hl hv
  rcases downAcc_snd h with e | e <;> rw [e]
  · exact h0
  · exact h1

/-- `WMCore::map_down`: the same position, and the value as a word -/
theorem wm_map_down_eq (m : Mode) (c : WMCore) (index : Nat) (hw : c.width ≤ 64)
    (hs : RankFits c) :
    gen_WMCore_map_down m c index =
      (c.mapDown m index).bind (fun r => ok (r.map (fun p => (p.1, BitVec.ofNat 64 p.2)))) := by
  unfold gen_WMCore_map_down WMCore.mapDown
  rw [obind_eq, bind_assoc]
  refine bind_congr fun n => ?_
  by_cases hi : index ≥ n
  · simp only [gen_simp, hi]; rfl
  · simp only [gen_simp, hi]
    refine (congrArg (· >>= _) (for_range_sim' (ρ := Option (Nat × Word)) c.width
      (fun p : Nat × Nat => (p.1, BitVec.ofNat 64 p.2)) (downAcc m c)
      (fun l acc => acc.2 + 2 ^ (c.width - l) ≤ 2 ^ c.width) _ (fun l acc hl hv => ⟨?_, fun p => downAcc_inv m c hw hl hv⟩)
      (fun s => ?_) (index, 0) (by simp only [Nat.sub_zero, Nat.zero_add, Nat.le_refl]))).trans ?_
    · obtain ⟨idx, v⟩ := acc
      obtain ⟨b1, b2, b3, _⟩ := map_down_level hw hl hv
      have hadd : addW m (BitVec.ofNat 64 v) (BitVec.ofNat 64 (c.bitValue l)) = ok (BitVec.ofNat 64 (v + c.bitValue l)) := by
        unfold addW WMCore.bitValue
        rw [BitVec.toNat_ofNat, BitVec.toNat_ofNat, Nat.mod_eq_of_lt b1, Nat.mod_eq_of_lt b2, addM_ok (U64_eq ▸ b3)]
        rfl
      simp only [gen_simp, hl, wm_bit_value_eq m c l hl hw, wm_map_down_one_eq_model m c idx l (hs l idx),
        wm_map_down_zero_eq, downAcc, ite_bind, hadd]
    · simp only [gen_simp, Nat.lt_irrefl]
    · simp only [gen_simp, Option.map]
      rfl

/-- the item returned by `map_down` fits the width -/
theorem mapDown_lt (m : Mode) (c : WMCore) (index i v : Nat) (hw : c.width ≤ 64)
    (h : c.mapDown m index = ok (some (i, v))) : v < 2 ^ c.width := by
  unfold WMCore.mapDown at h
  obtain ⟨n, _, h⟩ := Outcome.bind_eq_ok h
  split at h
  · cases h
  · obtain ⟨p, hf, h⟩ := Outcome.bind_eq_ok h
    cases h
    rw [List.range_eq_range'] at hf
    have := foldlM_range_inv (downAcc m c) (fun l acc => acc.2 + 2 ^ (c.width - l) ≤ 2 ^ c.width) c.width
      (fun l t t' hl hv e => downAcc_inv m c hw hl hv e) c.width 0 (index, 0) (i, v) (Nat.zero_add _)
      (by simp only [Nat.sub_zero, Nat.zero_add, Nat.le_refl]) hf
    exact Nat.lt_of_succ_le (by simpa using this)

/-! ### `map_down_with_two_positions` -/

/-- two accumulators advanced in lockstep by the same body -/
def pairStep {σ : Type} (f : σ → Nat → Outcome σ) (p : σ × σ) (l : Nat) : Outcome (σ × σ) :=
  (f p.1 l).bind (fun a => (f p.2 l).bind (fun b => ok (a, b)))

/-- two outcomes in sequence, paired -/
def seqPair {σ : Type} (x y : Outcome σ) : Outcome (σ × σ) := x.bind (fun a => y.bind (fun b => ok (a, b)))

/-- the lockstep fold is the sequential composition of the two folds, except that when BOTH folds fault the
lockstep fold may report the fault of the second one (namely when it occurs at an earlier list element) -/
theorem pair_fold {σ : Type} (f : σ → Nat → Outcome σ) (ls : List Nat) :
    ∀ a b, ls.foldlM (pairStep f) (a, b) = seqPair (ls.foldlM f a) (ls.foldlM f b) ∨
      ∃ e e', ls.foldlM f a = fault e ∧ ls.foldlM f b = fault e' ∧ ls.foldlM (pairStep f) (a, b) = fault e' := by
  induction ls with
  | nil => intro a b; exact Or.inl rfl
  | cons l t ih =>
    intro a b
    rw [List.foldlM_cons, List.foldlM_cons, List.foldlM_cons]
    simp only [Bind.bind, pairStep]
    cases hfa : f a l with
    | fault e => exact Or.inl rfl
    | ok a' =>
      cases hfb : f b l with
      | fault e' =>
        simp only [obind_ok, obind_fault]
        cases hta : t.foldlM f a' with
        | fault e => exact Or.inr ⟨e, e', rfl, rfl, rfl⟩
        | ok a'' => exact Or.inl rfl
      | ok b' =>
        simp only [obind_ok]
        exact ih a' b'

theorem pair_fold_eq {σ : Type} (f : σ → Nat → Outcome σ) (ls : List Nat) (a b : σ)
    (hf : ∀ e e', ls.foldlM f a = fault e → ls.foldlM f b = fault e' → e = e') :
    ls.foldlM (pairStep f) (a, b) = seqPair (ls.foldlM f a) (ls.foldlM f b) := by
  cases pair_fold f ls a b with
  | inl h => exact h
  | inr h =>
    obtain ⟨e, e', h1, h2, h3⟩ := h
    rw [h3, h1, h2, hf e e' h1 h2]; rfl

/-- the loop of `map_down_with_two_positions` is the lockstep fold of the model step -/
theorem wm_map_down_two_fold (m : Mode) (c : WMCore) (first second value : Nat) (hw : c.width ≤ 64)
    (hs : RankFits c) :
    gen_WMCore_map_down_with_two_positions m c first second (BitVec.ofNat 64 value) =
      c.len.bind (fun n => (List.range c.width).foldlM (pairStep (downStep m c value)) (min first n, min second n)) := by
  unfold gen_WMCore_map_down_with_two_positions
  simp only [Bind.bind]
  cases hl : c.len with
  | fault f => rfl
  | ok n =>
    simp only [obind_ok]
    rw [for_loop_range (ρ := Nat × Nat) c.width (pairStep (downStep m c value)) _ (fun i s hi => by
        obtain ⟨a, b⟩ := s
        simp only [hi, decide_true, if_true, wm_bit_value_eq m c i hi hw, obind_ok,
          wm_bit_test c value i hi hw, wm_map_down_one_eq_model m c a i (hs i a),
          wm_map_down_one_eq_model m c b i (hs i b), wm_map_down_zero_eq, downStep, pairStep]
        by_cases hb : (value / c.bitValue i) % 2 = 1
        · simp only [hb, decide_true, if_true]
          cases c.mapDownOne a i with
          | fault f => rfl
          | ok a' => cases c.mapDownOne b i <;> rfl
        · simp only [hb, decide_false, Bool.false_eq_true, if_false]
          cases c.mapDownZero m a i with
          | fault f => rfl
          | ok a' => cases c.mapDownZero m b i <;> rfl)
      (fun i s hi => by
        obtain ⟨a, b⟩ := s
        simp only [hi, decide_false, Bool.false_eq_true, if_false]; rfl)]
    cases List.foldlM (pairStep (downStep m c value)) (min first n, min second n) (List.range c.width) with
    | fault f => rfl
    | ok p => obtain ⟨a, b⟩ := p; rfl

private theorem mapDownWith_unfold (m : Mode) (c : WMCore) (index value n : Nat) (hl : c.len = ok n) :
    c.mapDownWith m index value = (List.range c.width).foldlM (downStep m c value) (min index n) := by
  unfold WMCore.mapDownWith
  simp only [Bind.bind, hl, obind_ok]
  rfl

/-- `WMCore::map_down_with_two_positions`, unconditionally: the two `map_down_with` in sequence, or both of them fault
and the code reports the fault of the second -/
theorem wm_map_down_two_cases (m : Mode) (c : WMCore) (first second value : Nat) (hw : c.width ≤ 64)
    (hs : RankFits c) :
    gen_WMCore_map_down_with_two_positions m c first second (BitVec.ofNat 64 value) =
        (do let a ← c.mapDownWith m first value; let b ← c.mapDownWith m second value; pure (a, b)) ∨
      ∃ e e', c.mapDownWith m first value = fault e ∧ c.mapDownWith m second value = fault e' ∧
        gen_WMCore_map_down_with_two_positions m c first second (BitVec.ofNat 64 value) = fault e' := by
  rw [wm_map_down_two_fold m c first second value hw hs]
  cases hl : c.len with
  | fault f =>
    left
    unfold WMCore.mapDownWith
    simp only [Bind.bind, hl, obind_fault]
  | ok n =>
    rw [mapDownWith_unfold m c first value n hl, mapDownWith_unfold m c second value n hl, obind_ok]
    exact pair_fold (downStep m c value) (List.range c.width) (min first n) (min second n)

/-- `WMCore::map_down_with_two_positions` is the two `map_down_with` in sequence, provided that they fault alike if
they both fault (`wm_map_down_two_ne`: otherwise the FAULT of the code can be that of the second) -/
theorem wm_map_down_two_eq (m : Mode) (c : WMCore) (first second value : Nat) (hw : c.width ≤ 64)
    (hs : RankFits c)
    (hf : ∀ e e', c.mapDownWith m first value = fault e → c.mapDownWith m second value = fault e' → e = e') :
    gen_WMCore_map_down_with_two_positions m c first second (BitVec.ofNat 64 value) =
      (do let a ← c.mapDownWith m first value; let b ← c.mapDownWith m second value; pure (a, b)) := by
  cases wm_map_down_two_cases m c first second value hw hs with
  | inl h => exact h
  | inr h =>
    obtain ⟨e, e', h1, h2, h3⟩ := h
    rw [h3, h1, h2, hf e e' h1 h2]; rfl

/-- … in particular when the first one succeeds -/
theorem wm_map_down_two_eq_of_ok_left (m : Mode) (c : WMCore) (first second value a : Nat) (hw : c.width ≤ 64)
    (hs : RankFits c)
    (ha : c.mapDownWith m first value = ok a) :
    gen_WMCore_map_down_with_two_positions m c first second (BitVec.ofNat 64 value) =
      (do let b ← c.mapDownWith m second value; pure (a, b)) := by
  rw [wm_map_down_two_eq m c first second value hw hs (fun e e' h => by rw [ha] at h; cases h), ha]; rfl

/-- … or the second one -/
theorem wm_map_down_two_eq_of_ok_right (m : Mode) (c : WMCore) (first second value b : Nat) (hw : c.width ≤ 64)
    (hs : ∀ l i b r, c.level l = ok b → b.rankQ i = ok r → b.countZeros + r < U64)
    (hb : c.mapDownWith m second value = ok b) :
    gen_WMCore_map_down_with_two_positions m c first second (BitVec.ofNat 64 value) =
      (do let a ← c.mapDownWith m first value; pure (a, b)) := by
  rw [wm_map_down_two_eq m c first second value hw hs (fun e e' _ h => by rw [hb] at h; cases h), hb]
  cases c.mapDownWith m first value <;> rfl

/-- both succeed exactly when the code succeeds, with the same pair -/
theorem wm_map_down_two_ok_iff (m : Mode) (c : WMCore) (first second value a b : Nat) (hw : c.width ≤ 64)
    (hs : ∀ l i b r, c.level l = ok b → b.rankQ i = ok r → b.countZeros + r < U64) :
    gen_WMCore_map_down_with_two_positions m c first second (BitVec.ofNat 64 value) = ok (a, b) ↔
      c.mapDownWith m first value = ok a ∧ c.mapDownWith m second value = ok b := by
  constructor
  · intro h
    cases wm_map_down_two_cases m c first second value hw hs with
    | inl h' =>
      rw [h] at h'
      cases h1 : c.mapDownWith m first value with
      | fault f => rw [h1] at h'; cases h'
      | ok a' =>
        cases h2 : c.mapDownWith m second value with
        | fault f => rw [h1, h2] at h'; cases h'
        | ok b' => rw [h1, h2] at h'; cases h'; exact ⟨rfl, rfl⟩
    | inr h' =>
      obtain ⟨e, e', _, _, h3⟩ := h'
      rw [h] at h3; cases h3
  · intro ⟨h1, h2⟩
    rw [wm_map_down_two_eq_of_ok_left m c first second value a hw hs h1, h2]; rfl

/-! ### the hypotheses are needed -/

/-- a two-level matrix (not constructible through the API): level 0 holds the bits `10` and has NO rank support,
level 1 holds `00` and has a rank support without samples -/
def twoNeEx : WMCore :=
  ⟨#[{ ones := 1, data := ⟨2, #[1]⟩ }, { ones := 0, data := ⟨2, #[0]⟩, rank := some ⟨#[]⟩ }]⟩

/-- `hf` of `wm_map_down_two_eq` is needed.  On `twoNeEx` with `value = 0`, `first = 2`, `second = 0`: at level 0
`first` (= `len`, answered without the support) maps to 1 and `second` panics on the missing support (`unwrap`); at
level 1 `first` would read the missing sample (`oob`).  The code, which advances both positions level by level, reports
the fault of `second` at level 0; the two `mapDownWith` one after the other report the fault of `first` at level 1.
Only the identity of the fault differs, and only on a structure whose levels carry inconsistent supports (the other
hypotheses hold, `twoNeEx_hs`); on every matrix that encodes a sequence both runs succeed
(`wm_map_down_two_eq_of_encodes`). -/
theorem wm_map_down_two_ne :
    gen_WMCore_map_down_with_two_positions .checked twoNeEx 2 0 (BitVec.ofNat 64 0) = fault (.panic .unwrap) ∧
    twoNeEx.mapDownWith .checked 2 0 = fault .oob ∧
    twoNeEx.mapDownWith .checked 0 0 = fault (.panic .unwrap) ∧
    (do let a ← twoNeEx.mapDownWith .checked 2 0; let b ← twoNeEx.mapDownWith .checked 0 0; pure (a, b)) =
      fault .oob ∧
    twoNeEx.width ≤ 64 := by
  decide

theorem twoNeEx_hs : ∀ l i b r, twoNeEx.level l = ok b → b.rankQ i = ok r → b.countZeros + r < U64 := by
  intro l i b r hb hr
  match l with
  | 0 =>
    cases hb
    by_cases hi : i ≥ 2
    · have : r = 1 := by
        simpa [twoNeEx, BitVector.rankQ, BitVector.len, hi, BitVector.countOnes] using hr.symm
      subst this; decide
    · simp [twoNeEx, BitVector.rankQ, BitVector.len, hi] at hr
  | 1 =>
    cases hb
    by_cases hi : i ≥ 2
    · have : r = 0 := by
        simpa [twoNeEx, BitVector.rankQ, BitVector.len, hi, BitVector.countOnes] using hr.symm
      subst this; decide
    · have : i / 512 = 0 := by omega
      simp [twoNeEx, BitVector.rankQ, BitVector.len, hi, RankSup.rankU, this, Bind.bind, Outcome.bind] at hr
  | l + 2 => cases hb

/-- `c.width ≤ 64` is needed: with 65 (empty) levels `bit_value(0)` is `1 << 64`, which panics with overflow checks on;
the model tests bit 64 of the value.  No such matrix is loaded (`width > 64` is rejected) or built (`width` is a bit
length of a `u64`). -/
theorem wm_map_down_with_width_ne :
    let c : WMCore := ⟨Array.replicate 65 { ones := 0, data := ⟨0, #[]⟩ }⟩
    gen_WMCore_map_down_with .checked c 0 (BitVec.ofNat 64 0) = fault (.panic .overflow) ∧
    c.mapDownWith .checked 0 0 = ok 0 := by
  decide

/-- `hs` is needed, but only violated by a level of length ≥ 2^64 (not representable): `count_zeros() + rank(index)`
is a `usize` addition -/
theorem wm_map_down_with_hs_ne :
    let c : WMCore := ⟨#[{ ones := 0, data := ⟨2 ^ 64, #[]⟩ }]⟩
    gen_WMCore_map_down_with .checked c (2 ^ 64) (BitVec.ofNat 64 1) = fault (.panic .overflow) ∧
    c.mapDownWith .checked (2 ^ 64) 1 = ok (2 ^ 64) := by
  decide

/-! ### on a matrix that encodes a sequence all hypotheses hold -/

/-- the no-overflow hypothesis `hs` holds for every wavelet matrix that encodes a sequence (of length < 2^63) -/
theorem hs_of_encodes {c : WMCore} {V : List Nat} {width : Nat} (hc : c.Encodes V width) : RankFits c := by
  intro l i b r hb hr
  have hl : l < width := by
    apply Classical.byContradiction
    intro hn
    have : c.levels[l]? = none := Array.getElem?_eq_none (by have := hc.width_eq; unfold WMCore.width at this; omega)
    simp [WMCore.level, this] at hb
  obtain ⟨b', hb', hok⟩ := level_ok hc hl
  rw [hb] at hb'
  cases hb'
  rw [hok.rank] at hr
  cases hr
  rw [hok.zeros]
  have h1 : rankSpec (col width V l) i ≤ (col width V l).count true :=
    List.Sublist.count_le true (List.take_sublist i _)
  have h2 := length_eq_count_true_add_false (col width V l)
  have h3 : (col width V l).length = V.length := by simp only [col, List.length_map, length_S]
  have h4 := hc.len_lt
  rw [U64_eq]
  omega

theorem width_le_of_encodes {c : WMCore} {V : List Nat} {width : Nat} (hc : c.Encodes V width) : c.width ≤ 64 :=
  hc.width_eq ▸ hc.width_le

/-- on a matrix that encodes a sequence both runs of `map_down_with_two_positions` succeed -/
theorem wm_map_down_two_eq_of_encodes {c : WMCore} {V : List Nat} {width : Nat} (hc : c.Encodes V width) (m : Mode)
    (first second value : Nat) :
    gen_WMCore_map_down_with_two_positions m c first second (BitVec.ofNat 64 value) =
      (do let a ← c.mapDownWith m first value; let b ← c.mapDownWith m second value; pure (a, b)) :=
  wm_map_down_two_eq m c first second value (width_le_of_encodes hc) (hs_of_encodes hc)
    (fun e e' h => by rw [mapDownWith_ok' hc] at h; cases h)

end Sds.GenEq
