/-
Proofs/GenEqLoop2: the loop-carrying functions of `bit_vector/select_support.rs` (`select_unchecked`) and of
`bit_vector.rs` (`OneIter::next / nth / size_hint / next_back`) as TRANSLATED statement by statement from the source
(Generated/FnsLoop.lean; loops are `loopM fuel step init` over the control type `Ctl`) are equal to the hand-written
model definitions of Model/BitVector.lean (fuel-indexed structural recursions `scan`, `fwd`, `fwdN`, `bwd`).

Method: each loop with the statements after it is the model recursion followed by the model's rest, by `loopM_ind`:
the translated body is walked once, against one unfolding of the recursion.

Hypotheses, representation bounds ("the value is a `usize`"):
* `v.data.size < U64` (forward scans `fwd`, `fwdN`, `scan`): the code computes `index + 1` with `addM` BEFORE the
  unchecked word read, the model reads `wordT tr v (index + 1)` with the sum in `Nat`.  Every index that reaches the
  increment was read successfully, so `index < v.data.size` is an invariant of the loop and `index + 1 ≤ size < 2^64`
  cannot overflow.  Without the bound the two sides differ only for an array of at least `2^64` words (at
  `index = 2^64 - 1`: `panic overflow` / a wrapped read in the code, a read at `2^64` in the model) — no concrete
  (`decide`) witness exists for that, and no such `Vec<u64>` exists.
* `it.limit.1 ≤ U64` (`nth`; sharp, `one_nth_ne`): the model adds `next.0 + n` before the scan, the code after it, so
  the FAULT differs if the sum overflows and the scan faults.  For `usize` fields the sum is `< limit.0 < 2^64`.
* `rank < U64` (`select_unchecked`; `rank < 2^75` suffices and is sharp, `select_unchecked_ne`): `2 * superblock`.
* `next_back` needs no hypothesis (the model uses `subM` for `index - 1` as the code does); `relative_rank -= ones`
  is only executed when `ones ≤ relative_rank`; `ptr + offset`, `ptr + block` are `< 2^63 + 4096`.
Only `size_hint` needs an invariant instead: `next.0 ≤ limit.0` (`one_size_hint_ne`, an unreachable state).
-/
import Sds.Generated.FnsLoop
import Sds.Proofs.GenFns
import Sds.Proofs.Tables
import Sds.Proofs.BitsMore
import Sds.Proofs.GenEqBits
import Sds.Proofs.GenEqVec
import Sds.Proofs.GenEqIdx

namespace Sds.GenEq
open Sds Outcome Generated


private theorem wordT_ok_lt {tr : Tr} {v : RawVec} {i : Nat} {w : Word} (h : wordT tr v i = ok w) : i < v.data.size := by
  apply Classical.byContradiction
  intro hn
  cases tr <;> simp [wordT, getW, hn, Bind.bind, Outcome.bind] at h

/-! ### `OneIter::next` -/

theorem one_next_eq (m : Mode) (tr : Tr) (b : BitVector) (it : OneIterSt) (hv : b.data.data.size < U64) :
    gen_OneIter_next m tr b.data it = OneIterSt.nextQ tr m b it := by
  unfold gen_OneIter_next OneIterSt.nextQ
  dsimp only
  by_cases h : it.next.1 ≥ it.limit.1
  · rw [if_pos (decide_eq_true h), if_pos h]; rfl
  · rw [if_neg (mt of_decide_eq_true h), if_neg h, vsplit_bind]
    dsimp only
    cases hr : wordT tr b.data (it.next.2 / 64) with
    | fault f => rfl
    | ok w0 =>
      rw [bind_ok, bind_ok, lowSetU_bind m (Nat.le_of_lt (mod64_lt _))]
      refine loopM_ind _ _ (fun n (s : Nat × Word) => OneIterSt.fwd tr b.data n s.1 s.2 >>= _)
        (fun s => s.1 < b.data.data.size) (fun _ => rfl) (fun n s hs R hR => ?_) _ _ (wordT_ok_lt hr)
      obtain ⟨i, w⟩ := s
      rw [OneIterSt.fwd]
      dsimp only
      by_cases hw : w = 0
      · rw [if_pos (decide_eq_true hw), if_pos hw, addM_bind (Nat.lt_of_le_of_lt hs hv)]
        cases hr' : wordT tr b.data (i + 1) with
        | fault f => rfl
        | ok w' => exact hR _ (wordT_ok_lt hr')
      · rw [if_neg (mt of_decide_eq_true hw), if_neg hw]
        show (gen_bit_offset m i (ctz w) >>= _) = _
        rw [GenFns.bit_offset_eq]; rfl


/-! ### `OneIter::nth` -/

/-- `nth`: the model performs `next.0 + n` BEFORE the word scan, the code after it, so the two agree when that
addition cannot fault where it is reached (`hadd`). -/
theorem one_nth_eq' (m : Mode) (tr : Tr) (b : BitVector) (it : OneIterSt) (n : Nat) (hv : b.data.data.size < U64)
    (hadd : m = .checked → it.next.1 ≤ it.limit.1 → n < it.limit.1 - it.next.1 → it.next.1 + n < U64) :
    gen_OneIter_nth m tr b.data it n = OneIterSt.nthQ tr m b it n := by
  unfold gen_OneIter_nth OneIterSt.nthQ
  dsimp only
  cases hsub : subM m it.limit.1 it.next.1 with
  | fault f => rfl
  | ok t1 =>
    dsimp only [bind_ok]
    by_cases h : n ≥ t1
    · rw [if_pos (decide_eq_true h), if_pos h]
    · rw [if_neg (mt of_decide_eq_true h), if_neg h]
      have hs : ∃ s, addM m it.next.1 n = ok s := by
        cases m with
        | wrapping => exact addM_wrapping_ok _ _
        | checked =>
          obtain ⟨h1, h2⟩ := subM_checked_ok hsub
          exact ⟨_, addM_ok (hadd rfl h1 (by omega))⟩
      obtain ⟨s, hs⟩ := hs
      rw [vsplit_eq, hs]
      dsimp only [bind_ok]
      cases hr : wordT tr b.data (it.next.2 / 64) with
      | fault f => rfl
      | ok w0 =>
        rw [bind_ok, bind_ok, lowSetU_bind m (Nat.le_of_lt (mod64_lt _))]
        refine loopM_ind _ _ (fun k (s : Nat × Nat × Nat × Word) => OneIterSt.fwdN tr b.data k s.1 s.2.2.2 s.2.2.1 >>= _)
          (fun s => s.1 < b.data.data.size ∧ s.2.1 = popcount s.2.2.2) (fun _ => rfl) (fun k s hs R hR => ?_) _ _
          ⟨wordT_ok_lt hr, rfl⟩
        obtain ⟨i, o, r, w⟩ := s
        obtain ⟨hi, (rfl : o = popcount w)⟩ := hs
        rw [OneIterSt.fwdN]
        dsimp only
        by_cases hw : popcount w ≤ r
        · rw [if_pos (decide_eq_true hw), if_pos hw, addM_bind (Nat.lt_of_le_of_lt hi hv)]
          cases hr' : wordT tr b.data (i + 1) with
          | fault f => rfl
          | ok w' => rw [bind_ok, subM_bind hw]; exact hR _ ⟨wordT_ok_lt hr', rfl⟩
        · rw [if_neg (mt of_decide_eq_true hw), if_neg hw]
          refine bind_congr (x := selWord w r) fun o => ?_
          rw [GenFns.bit_offset_eq]

/-- `OneIter::nth` for `usize` fields (`limit.0 ≤ 2^64`) -/
theorem one_nth_eq (m : Mode) (tr : Tr) (b : BitVector) (it : OneIterSt) (n : Nat) (hv : b.data.data.size < U64)
    (hl : it.limit.1 ≤ U64) :
    gen_OneIter_nth m tr b.data it n = OneIterSt.nthQ tr m b it n :=
  one_nth_eq' m tr b it n hv (fun _ _ _ => by omega)


/-! ### `OneIter::size_hint` -/

theorem one_size_hint_eq (m : Mode) (tr : Tr) (b : BitVector) (it : OneIterSt) (h : it.next.1 ≤ it.limit.1) :
    gen_OneIter_size_hint m tr b.data it = ok (it.remaining, some it.remaining) := by
  unfold gen_OneIter_size_hint OneIterSt.remaining
  rw [subM_ok h]; rfl

/-! ### `OneIter::next_back` -/

theorem one_next_back_eq (m : Mode) (tr : Tr) (b : BitVector) (it : OneIterSt) :
    gen_OneIter_next_back m tr b.data it = OneIterSt.nextBackQ tr m b it := by
  unfold gen_OneIter_next_back OneIterSt.nextBackQ
  dsimp only
  by_cases h : it.next.1 ≥ it.limit.1
  · rw [if_pos (decide_eq_true h), if_pos h]; rfl
  · rw [if_neg (mt of_decide_eq_true h), if_neg h]
    cases subM m it.limit.1 1 with
    | fault f => rfl
    | ok l0 =>
      dsimp only [bind_ok]
      cases subM m it.limit.2 1 with
      | fault f => rfl
      | ok l1 =>
        dsimp only [bind_ok]
        rw [vsplit_eq]
        dsimp only [bind_ok]
        cases hr : wordT tr b.data (l1 / 64) with
        | fault f => rfl
        | ok w0 =>
          have ho : l1 % 64 < 64 := Nat.mod_lt _ (by decide)
          rw [bind_ok, bind_ok, addM_ok (Nat.lt_trans (Nat.succ_lt_succ ho) (by decide)), bind_ok,
            low_set_unchecked_eq, lowSetU_eq (l1 % 64 + 1) ho, bind_ok]
          refine loopM_ind _ _ (fun n (s : Nat × Word) => OneIterSt.bwd tr m b.data n s.1 s.2 >>= _)
            (fun _ => True) (fun _ => rfl) (fun n s _ R hR => ?_) _ _ trivial
          obtain ⟨i, w⟩ := s
          rw [OneIterSt.bwd]
          dsimp only
          by_cases hw : w = 0
          · rw [if_pos (decide_eq_true hw), if_pos hw]
            simp only [bind_assoc]
            exact bind_congr fun i' => bind_congr fun w' => hR _ trivial
          · rw [if_neg (mt of_decide_eq_true hw), if_neg hw]
            show (subM m 63 (clz w) >>= _) = _
            rw [subM_bind (Nat.le_of_lt_succ (clz_spec w hw).1), GenFns.bit_offset_eq]; rfl


/-! ### `SelectSupport::select_unchecked` -/

private theorem and_4095 (x : Nat) : x &&& 4095 = x % 4096 := Nat.and_two_pow_sub_one_eq_mod x 12
private theorem and_1 (x : Nat) : x &&& 1 = x % 2 := Nat.and_two_pow_sub_one_eq_mod x 1

/-- `SelectSupport::select_unchecked`; `hr` is what `2 * superblock + 1 < 2^64` needs -/
theorem select_unchecked_eq' (m : Mode) (tr : Tr) (s : SelSup) (v : RawVec) (rank : Nat)
    (hr : rank < 2 ^ 75) (hv : v.data.size < U64) :
    gen_SelectSupport_select_unchecked m tr s v rank = s.selectU tr m v rank := by
  unfold gen_SelectSupport_select_unchecked SelSup.selectU
  have hU := U64_val
  have hsb : rank / 4096 < 2 ^ 63 := Nat.div_lt_of_lt_mul hr
  have hoff : rank % 4096 < 4096 := Nat.mod_lt _ (by decide)
  refine (bind_of_ok _ (gDiv_ok rank (by decide))).trans ?_
  rw [and_4095]
  dsimp only
  -- superblock and offset become variables: the bounds below are linear
  generalize rank / 4096 = sb at hsb ⊢
  generalize rank % 4096 = off at hoff ⊢
  have h2 : 2 * sb + 1 < U64 := by omega
  refine (bind_of_ok _ (mulM_ok (Nat.lt_of_succ_lt h2))).trans ?_
  cases s.samples.get (2 * sb) with
  | fault f => rfl
  | ok r0 =>
    rw [bind_ok, bind_ok]
    by_cases hoff0 : off = 0
    · rw [if_pos (decide_eq_true hoff0), if_pos hoff0]
    rw [if_neg (mt of_decide_eq_true hoff0), if_neg hoff0]
    refine (bind_of_ok _ (mulM_ok (Nat.lt_of_succ_lt h2))).trans ?_
    refine (bind_of_ok _ (addM_ok h2)).trans ?_
    cases s.samples.get (2 * sb + 1) with
    | fault f => rfl
    | ok p =>
      rw [bind_ok, bind_ok]
      refine (bind_of_ok _ (gDiv_ok _ (by decide))).trans ?_
      rw [and_1]
      have hp : p.toNat / 2 < 2 ^ 63 := Nat.div_lt_of_lt_mul p.isLt
      have ho64 : off / 64 ≤ off := Nat.div_le_self _ _
      by_cases hsh : p.toNat % 2 = 0
      · rw [if_pos (decide_eq_true hsh), if_pos hsh]
        refine (bind_of_ok _ (addM_ok (by omega))).trans ?_
        cases s.long.get (p.toNat / 2 + off) with
        | fault f => rfl
        | ok d => rw [bind_ok, bind_ok]; exact bind_pure_id _
      rw [if_neg (mt of_decide_eq_true hsh), if_neg hsh]
      refine (bind_of_ok _ (gDiv_ok _ (by decide))).trans ?_
      rw [and_63]
      refine (bind_of_ok _ (addM_ok (by omega))).trans ?_
      cases s.short.get (p.toNat / 2 + off / 64) with
      | fault f => rfl
      | ok d =>
        rw [bind_ok, bind_ok]
        cases addM m r0.toNat d.toNat with
        | fault f => rfl
        | ok res =>
          rw [bind_ok, bind_ok]
          by_cases hrr : off % 64 > 0
          · rw [if_pos (decide_eq_true hrr), if_pos hrr, vsplit_eq]
            simp only [bind_ok, bind_assoc]
            cases hw : wordT tr v (res / 64) with
            | fault f => rfl
            | ok w0 =>
              rw [bind_ok, bind_ok, lowSetU_bind m (Nat.le_of_lt (mod64_lt _))]
              refine loopM_ind _ _ (fun n (s : Nat × Nat × Word × Nat) => SelSup.scan tr m v n s.2.2.2 s.2.2.1 s.1)
                (fun s => s.2.2.2 < v.data.size) (fun _ => rfl) (fun n s hs R hR => ?_) _ _ (wordT_ok_lt hw)
              obtain ⟨rr, res, val, w⟩ := s
              rw [SelSup.scan]
              dsimp only
              by_cases ho : popcount val > rr
              · rw [if_pos trivial, if_pos (decide_eq_true ho), if_pos ho]
                simp only [bind_assoc, GenFns.bit_offset_eq]
                exact bind_congr fun p => by cases bitOffset m w p <;> rfl
              · rw [if_pos trivial, if_neg (mt of_decide_eq_true ho), if_neg ho, subM_bind (Nat.le_of_not_lt ho),
                  addM_bind (Nat.lt_of_le_of_lt hs hv)]
                cases hr' : wordT tr v (w + 1) with
                | fault f => rfl
                | ok val' => exact hR _ (wordT_ok_lt hr')
          · rw [if_neg (mt of_decide_eq_true hrr), if_neg hrr]; rfl

/-- `SelectSupport::select_unchecked` for a `usize` rank -/
theorem select_unchecked_eq (m : Mode) (tr : Tr) (s : SelSup) (v : RawVec) (rank : Nat)
    (hr : rank < U64) (hv : v.data.size < U64) :
    gen_SelectSupport_select_unchecked m tr s v rank = s.selectU tr m v rank :=
  select_unchecked_eq' m tr s v rank (by rw [U64_eq] at hr; omega) hv


/-! ### the hypotheses are needed -/

/-- `hl` of `one_nth_eq` is sharp: with `limit.0 = 2^64 + 1` (not a `usize`), `next.0 = 2^64 - 1`, `n = 1` the sum
`next.0 + n` overflows; the model (which adds first) panics, the code (which scans first) reads out of bounds. -/
theorem one_nth_ne :
    let b : BitVector := { ones := 0, data := ⟨0, #[]⟩ }
    let it : OneIterSt := ⟨(U64 - 1, 0), (U64 + 1, 0)⟩
    gen_OneIter_nth .checked .ident b.data it 1 = fault .oob ∧
    OneIterSt.nthQ .ident .checked b it 1 = fault (.panic .overflow) := by
  decide

/-- `hr` of `select_unchecked_eq'` is sharp: for `rank = 2^75` (not a `usize`) the code overflows in `2 * superblock`,
the model indexes `samples` at `2^64`. -/
theorem select_unchecked_ne :
    let s : SelSup := ⟨IntVec.default, IntVec.default, IntVec.default⟩
    let v : RawVec := ⟨0, #[]⟩
    gen_SelectSupport_select_unchecked .checked .ident s v (2 ^ 75) = fault (.panic .overflow) ∧
    s.selectU .ident .checked v (2 ^ 75) = fault (.panic .assert) := by
  decide

/-- `h` of `one_size_hint_eq` is needed: the subtraction `limit.0 - next.0` is a `usize` subtraction in the code. -/
theorem one_size_hint_ne :
    let it : OneIterSt := ⟨(1, 0), (0, 0)⟩
    gen_OneIter_size_hint .checked .ident ⟨0, #[]⟩ it = fault (.panic .overflow) ∧
    gen_OneIter_size_hint .wrapping .ident ⟨0, #[]⟩ it = ok (U64 - 1, some (U64 - 1)) ∧
    it.remaining = 0 := by
  decide

end Sds.GenEq
