/-
Proofs/Codec: every codec of `Model/Ser` is lawful — loading a serialization followed by anything returns
the value and exactly the rest, and every strict prefix of a serialization is refused.  For the structures the law
is proved from what their loader checks (`LoadWF.…Ld`); the representation invariants (`…WF`) imply that.
-/
import Sds.Model.Ser

namespace Sds
open Outcome

/-! ### the law -/

structure Lawful {α} (c : Codec α) (WF : α → Prop) : Prop where
  /-- loading what was serialized, followed by anything, returns the value and exactly the rest -/
  roundtrip : ∀ x r, WF x → c.load (c.ser x ++ r) = .ok (x, r)
  /-- every strict prefix of a serialization is refused (never `ok`) -/
  pfx : ∀ x k, WF x → k < (c.ser x).length → ∀ y r, c.load ((c.ser x).take k) ≠ .ok (y, r)

/-- The only fault a primitive reader produces on a short stream. -/
abbrev IsEof : Fault → Prop := fun e => e = .err .eof

abbrev AnyFault : Fault → Prop := fun _ => True

/-- `Loads P L s x`: the loader `L` reads the value `x` off the front of `s ++ r` leaving `r`, and refuses every
strict prefix of `s` with a fault satisfying `P`. -/
def Loads {α} (P : Fault → Prop) (L : Elems → Outcome (α × Elems)) (s : Elems) (x : α) : Prop :=
  (∀ r, L (s ++ r) = ok (x, r)) ∧ (∀ k, k < s.length → ∃ e, P e ∧ L (s.take k) = fault e)

/-- Lawfulness with a described prefix fault. `LawfulP IsEof` is the strong form (prefixes fail with `eof`),
`LawfulP AnyFault` is equivalent to `Lawful`. -/
structure LawfulP {α} (P : Fault → Prop) (c : Codec α) (WF : α → Prop) : Prop where
  loads : ∀ x, WF x → Loads P c.load (c.ser x) x

theorem Loads.mono {α} {P Q : Fault → Prop} {L : Elems → Outcome (α × Elems)} {s x}
    (hPQ : ∀ e, P e → Q e) (h : Loads P L s x) : Loads Q L s x :=
  ⟨h.1, fun k hk => let ⟨e, he, h'⟩ := h.2 k hk; ⟨e, hPQ e he, h'⟩⟩

theorem LawfulP.mono {α} {P Q : Fault → Prop} {c : Codec α} {WF} (hPQ : ∀ e, P e → Q e)
    (h : LawfulP P c WF) : LawfulP Q c WF := ⟨fun x hx => (h.loads x hx).mono hPQ⟩

theorem LawfulP.weaken {α} {P : Fault → Prop} {c : Codec α} {WF WF' : α → Prop} (hW : ∀ x, WF' x → WF x)
    (h : LawfulP P c WF) : LawfulP P c WF' := ⟨fun x hx => h.loads x (hW x hx)⟩

theorem LawfulP.lawful {α} {P : Fault → Prop} {c : Codec α} {WF} (h : LawfulP P c WF) : Lawful c WF where
  roundtrip x r hx := (h.loads x hx).1 r
  pfx x k hx hk y r heq := by
    obtain ⟨e, _, he⟩ := (h.loads x hx).2 k hk
    rw [he] at heq; cases heq

theorem Lawful.lawfulP {α} {c : Codec α} {WF} (h : Lawful c WF) : LawfulP AnyFault c WF where
  loads x hx := by
    refine ⟨fun r => h.roundtrip x r hx, fun k hk => ?_⟩
    cases hl : c.load ((c.ser x).take k) with
    | ok p => exact absurd hl (h.pfx x k hx hk p.1 p.2)
    | fault e => exact ⟨e, trivial, rfl⟩

theorem lawful_iff_lawfulP {α} {c : Codec α} {WF} : Lawful c WF ↔ LawfulP AnyFault c WF :=
  ⟨Lawful.lawfulP, LawfulP.lawful⟩

/-- strong prefix law, as an equation -/
theorem LawfulP.pfx_eof {α} {c : Codec α} {WF} (h : LawfulP IsEof c WF) (x : α) (k : Nat) (hx : WF x)
    (hk : k < (c.ser x).length) : c.load ((c.ser x).take k) = fault (.err .eof) := by
  obtain ⟨e, he, h'⟩ := (h.loads x hx).2 k hk
  rw [h', he]

/-! ### sequencing -/

theorem Loads.cast {α} {P} {L : Elems → Outcome (α × Elems)} {s s' : Elems} {x x' : α}
    (h : Loads P L s x) (hs : s' = s) (hx : x' = x) : Loads P L s' x' := by subst hs; subst hx; exact h

/-- the sequencing principle: a loader that runs `L1` and continues with `f` reads `s1 ++ s2`. -/
theorem Loads.bind {α β} {P} {L1 : Elems → Outcome (α × Elems)} {f : α × Elems → Outcome (β × Elems)}
    {s1 s2 : Elems} {a : α} {b : β}
    (h1 : Loads P L1 s1 a) (h2 : Loads P (fun r => f (a, r)) s2 b) :
    Loads P (fun es => L1 es >>= f) (s1 ++ s2) b := by
  constructor
  · intro r
    show L1 (s1 ++ s2 ++ r) >>= f = _
    rw [List.append_assoc, h1.1, bind_ok]; exact h2.1 r
  · intro k hk
    rw [List.length_append] at hk
    show ∃ e, P e ∧ (L1 ((s1 ++ s2).take k) >>= f) = fault e
    by_cases hlt : k < s1.length
    · obtain ⟨e, he, h⟩ := h1.2 k hlt
      refine ⟨e, he, ?_⟩
      rw [List.take_append_of_le_length (Nat.le_of_lt hlt), h, bind_fault]
    · obtain ⟨e, he, h⟩ := h2.2 (k - s1.length) (by omega)
      refine ⟨e, he, ?_⟩
      rw [List.take_append, List.take_of_length_le (by omega), h1.1, bind_ok]; exact h

/-- the end of a sequence: return the value, consume nothing -/
theorem Loads.ret {α} {P} (v : α) : Loads P (fun r => (pure (v, r) : Outcome (α × Elems))) [] v :=
  ⟨fun _ => rfl, fun k hk => absurd hk (Nat.not_lt_zero k)⟩

/-- a test (e.g. a validation) that takes the `else` branch -/
theorem Loads.ite_neg {α} {P} {c : Prop} [Decidable c] {L1 L2 : Elems → Outcome (α × Elems)} {s x}
    (hc : ¬ c) (h : Loads P L2 s x) : Loads P (fun r => if c then L1 r else L2 r) s x := by
  simp only [if_neg hc]; exact h

/-- a test that takes the `then` branch -/
theorem Loads.ite_pos {α} {P} {c : Prop} [Decidable c] {L1 L2 : Elems → Outcome (α × Elems)} {s x}
    (hc : c) (h : Loads P L1 s x) : Loads P (fun r => if c then L1 r else L2 r) s x := by
  simp only [if_pos hc]; exact h

/-- the end of a sequence, with the returned value stated up to an equation -/
theorem Loads.ret' {α} {P} {v x : α} (h : v = x) : Loads P (fun r => (pure (v, r) : Outcome (α × Elems))) [] x :=
  h ▸ Loads.ret v

/-- codec-level form of the sequencing principle: two fields back to back -/
def seqC {α β} (c1 : Codec α) (c2 : Codec β) : Codec (α × β) where
  ser p := c1.ser p.1 ++ c2.ser p.2
  load es := do let (a, r) ← c1.load es; let (b, r) ← c2.load r; return ((a, b), r)

theorem seqC_lawfulP {α β} {P} {c1 : Codec α} {c2 : Codec β} {W1 : α → Prop} {W2 : β → Prop}
    (h1 : LawfulP P c1 W1) (h2 : LawfulP P c2 W2) : LawfulP P (seqC c1 c2) (fun p => W1 p.1 ∧ W2 p.2) := by
  refine ⟨fun p hp => ?_⟩
  refine Loads.cast (s := c1.ser p.1 ++ (c2.ser p.2 ++ [])) ?_ (by simp [seqC]) rfl
  refine Loads.bind (h1.loads _ hp.1) ?_
  refine Loads.bind (h2.loads _ hp.2) ?_
  exact Loads.ret' rfl

theorem seqC_lawful {α β} {c1 : Codec α} {c2 : Codec β} {W1 : α → Prop} {W2 : β → Prop}
    (h1 : Lawful c1 W1) (h2 : Lawful c2 W2) : Lawful (seqC c1 c2) (fun p => W1 p.1 ∧ W2 p.2) :=
  (seqC_lawfulP h1.lawfulP h2.lawfulP).lawful

/-! ### primitive readers -/

theorem Loads.readElem {P} (hP : P (.err .eof)) (w : Word) : Loads P readElem [w] w := by
  refine ⟨fun _ => rfl, fun k hk => ⟨_, hP, ?_⟩⟩
  have : k = 0 := by simpa using hk
  subst this; rfl

theorem readN_append {n : Nat} {ws : List Word} (h : ws.length = n) (r : Elems) :
    readN n (ws ++ r) = ok (ws, r) := by
  subst h
  simp [readN]

theorem readN_short {n : Nat} {es : Elems} (h : es.length < n) : readN n es = fault (.err .eof) := by
  simp [readN]; omega

theorem Loads.readN {P} (hP : P (.err .eof)) {n : Nat} {ws : List Word} (h : ws.length = n) :
    Loads P (readN n) ws ws := by
  refine ⟨readN_append h, fun k hk => ⟨_, hP, readN_short ?_⟩⟩
  rw [List.length_take]; omega

theorem toNat_ofNat64 {n : Nat} (h : n < 2 ^ 64) : (BitVec.ofNat 64 n).toNat = n := by
  rw [BitVec.toNat_ofNat, Nat.mod_eq_of_lt h]

theorem isEof_eof : IsEof (.err .eof) := rfl

/-! ### items -/

theorem u64C_loads {P} (hP : P (.err .eof)) (w : Word) : Loads P u64C.load (u64C.ser w) w :=
  Loads.readElem hP w

theorem usizeC_loads {P} (hP : P (.err .eof)) {n : Nat} (h : n < 2 ^ 64) :
    Loads P usizeC.load [BitVec.ofNat 64 n] n := by
  refine Loads.cast (s := [BitVec.ofNat 64 n] ++ []) ?_ rfl rfl
  refine Loads.bind (Loads.readElem hP _) ?_
  exact Loads.ret' (toNat_ofNat64 h)

theorem pairC_loads {P} (hP : P (.err .eof)) (p : Word × Word) : Loads P pairC.load (pairC.ser p) p := by
  refine Loads.cast (s := [p.1] ++ ([p.2] ++ [])) ?_ rfl rfl
  refine Loads.bind (Loads.readElem hP _) ?_
  refine Loads.bind (Loads.readElem hP _) ?_
  exact Loads.ret' rfl

theorem u64C_lawfulEof : LawfulP IsEof u64C (fun _ => True) := ⟨fun w _ => u64C_loads isEof_eof w⟩
theorem usizeC_lawfulEof : LawfulP IsEof usizeC (fun n => n < 2 ^ 64) := ⟨fun _ h => usizeC_loads isEof_eof h⟩
theorem pairC_lawfulEof : LawfulP IsEof pairC (fun _ => True) := ⟨fun p _ => pairC_loads isEof_eof p⟩

theorem u64C_lawful : Lawful u64C (fun _ => True) := u64C_lawfulEof.lawful
theorem usizeC_lawful : Lawful usizeC (fun n => n < 2 ^ 64) := usizeC_lawfulEof.lawful
theorem pairC_lawful : Lawful pairC (fun _ => True) := pairC_lawfulEof.lawful

/-! ### vectors of items -/

theorem vecU64C_loads {P} (hP : P (.err .eof)) {a : Array Word} (h : a.size < 2 ^ 64) :
    Loads P vecU64C.load (vecU64C.ser a) a := by
  refine Loads.cast (s := [BitVec.ofNat 64 a.size] ++ (a.toList ++ [])) ?_ (by simp [vecU64C]) rfl
  refine Loads.bind (Loads.readElem hP _) ?_
  refine Loads.bind (Loads.readN hP ?_) ?_
  · rw [toNat_ofNat64 h]; simp
  · exact Loads.ret' (by simp)

theorem pairsOf_flatMap (l : List (Word × Word)) : pairsOf (l.flatMap fun p => [p.1, p.2]) = l := by
  induction l with
  | nil => rfl
  | cons p l ih => simp [List.flatMap_cons, pairsOf, ih]

theorem length_flatMap_pair (l : List (Word × Word)) :
    (l.flatMap fun p => [p.1, p.2]).length = 2 * l.length := by
  induction l with
  | nil => rfl
  | cons p l ih => simp [List.flatMap_cons, ih]; omega

theorem vecPairC_loads {P} (hP : P (.err .eof)) {a : Array (Word × Word)} (h : a.size < 2 ^ 64) :
    Loads P vecPairC.load (vecPairC.ser a) a := by
  refine Loads.cast (s := [BitVec.ofNat 64 a.size] ++ ((a.toList.flatMap fun p => [p.1, p.2]) ++ [])) ?_
    (by simp [vecPairC]) rfl
  refine Loads.bind (Loads.readElem hP _) ?_
  refine Loads.bind (Loads.readN hP ?_) ?_
  · rw [toNat_ofNat64 h, length_flatMap_pair]; simp
  · exact Loads.ret' (by simp [pairsOf_flatMap])

theorem vecU64C_lawfulEof : LawfulP IsEof vecU64C (fun a => a.size < 2 ^ 64) :=
  ⟨fun _ h => vecU64C_loads isEof_eof h⟩
theorem vecPairC_lawfulEof : LawfulP IsEof vecPairC (fun a => a.size < 2 ^ 64) :=
  ⟨fun _ h => vecPairC_loads isEof_eof h⟩
theorem vecU64C_lawful : Lawful vecU64C (fun a => a.size < 2 ^ 64) := vecU64C_lawfulEof.lawful
theorem vecPairC_lawful : Lawful vecPairC (fun a => a.size < 2 ^ 64) := vecPairC_lawfulEof.lawful

/-! ### Option -/

/-- a present value is valid, and its serialization is non-empty and its length fits the length prefix -/
def optWF {α} (c : Codec α) (W : α → Prop) : Option α → Prop
  | none => True
  | some x => W x ∧ 0 < (c.ser x).length ∧ (c.ser x).length < 2 ^ 64

theorem optionC_loads {α} {P} (hP : P (.err .eof)) {c : Codec α} {W : α → Prop}
    (hc : ∀ x, W x → Loads P c.load (c.ser x) x) {o : Option α} (ho : optWF c W o) :
    Loads P (optionC c).load ((optionC c).ser o) o := by
  cases o with
  | none =>
    refine Loads.cast (s := [0] ++ []) ?_ rfl rfl
    refine Loads.bind (Loads.readElem hP _) ?_
    exact Loads.ite_pos rfl (Loads.ret _)
  | some x =>
    obtain ⟨hx, hpos, hlt⟩ := ho
    refine Loads.cast (s := [BitVec.ofNat 64 (c.ser x).length] ++ (c.ser x ++ [])) ?_ (by simp [optionC]) rfl
    refine Loads.bind (Loads.readElem hP _) ?_
    refine Loads.ite_neg (by rw [toNat_ofNat64 hlt]; omega) ?_
    refine Loads.bind (hc x hx) ?_
    exact Loads.ret _

theorem optionC_lawfulP {α} {P} (hP : P (.err .eof)) {c : Codec α} {W : α → Prop} (h : LawfulP P c W) :
    LawfulP P (optionC c) (optWF c W) := ⟨fun _ ho => optionC_loads hP h.loads ho⟩

theorem optionC_lawful {α} {c : Codec α} {W : α → Prop} (h : Lawful c W) :
    Lawful (optionC c) (fun o => match o with
      | none => True
      | some x => W x ∧ 0 < (c.ser x).length ∧ (c.ser x).length < 2 ^ 64) := by
  refine ((optionC_lawfulP (P := AnyFault) trivial h.lawfulP).weaken ?_).lawful
  intro o ho; cases o <;> exact ho

theorem skipOptionSpec_ser {α} (c : Codec α) (W : α → Prop) (o : Option α) (r : Elems) (ho : optWF c W o) :
    skipOptionSpec ((optionC c).ser o ++ r) = ok r := by
  cases o with
  | none => rfl
  | some x =>
    obtain ⟨_, _, hlt⟩ := ho
    simp [skipOptionSpec, optionC, readElem, toNat_ofNat64 hlt]

theorem skipOptionSpec_pfx {α} (c : Codec α) (W : α → Prop) (o : Option α) (ho : optWF c W o) (k : Nat)
    (hk : k < ((optionC c).ser o).length) :
    skipOptionSpec (((optionC c).ser o).take k) = fault (.err .eof) := by
  cases k with
  | zero => rfl
  | succ k =>
    cases o with
    | none => simp [optionC] at hk
    | some x =>
      obtain ⟨_, _, hlt⟩ := ho
      simp [optionC] at hk
      simp [skipOptionSpec, optionC, readElem, toNat_ofNat64 hlt, List.length_take]
      omega

theorem skipOptionSpec_pfx' {α} (c : Codec α) (W : α → Prop) (o : Option α) (ho : optWF c W o) (k : Nat)
    (hk : k < ((optionC c).ser o).length) :
    ∃ e, skipOptionSpec (((optionC c).ser o).take k) = fault e := ⟨_, skipOptionSpec_pfx c W o ho k hk⟩

/-- the as-coded `skip_option` accepts a truncated stream: the prefix says 3 elements follow, only 1 does -/
theorem skipOptionImpl_truncated : skipOptionImpl [3, 7] = ok [] := by decide

/-- ... which the specified version refuses -/
theorem skipOptionSpec_truncated : skipOptionSpec [3, 7] = fault (.err .eof) := by decide

/-! ### structures

Each structure has two predicates.  `…WF` is the representation invariant the builders establish.  `…Ld x` lists
exactly the facts the loader of the type tests before it returns `x` (plus: every stored length is a `usize`, which
holds of anything read from a file); the differences are the facts **trusted on load**.  The codec law needs only
`…Ld`, and `…WF` implies it. -/

def rawVecWF (v : RawVec) : Prop := v.WF ∧ v.len < 2 ^ 64

def intVecWF (v : IntVec) : Prop := v.WF ∧ v.len < 2 ^ 64 ∧ v.width < 2 ^ 64 ∧ v.data.len < 2 ^ 64

/-- a well-formed integer vector whose bits fit a `usize` meets the bounds of its codec -/
theorem intVecWF_of_bits_lt {v : IntVec} (h : v.WF) (hb : v.len * v.width < 2 ^ 64) : intVecWF v :=
  ⟨h, Nat.lt_of_le_of_lt (Nat.le_mul_of_pos_right _ h.1) hb, Nat.lt_of_le_of_lt h.2.1 (by decide), h.2.2.1 ▸ hb⟩

def rankSupWF (s : RankSup) : Prop := s.samples.size < 2 ^ 64

def selSupWF (s : SelSup) : Prop :=
  intVecWF s.samples ∧ intVecWF s.long ∧ intVecWF s.short ∧
  s.superblocks = s.longSuperblocks + s.shortSuperblocks

namespace LoadWF

/-- `RawVector::load`: the word count matches the bit length.  **Not** checked: the unused bits of the last word
(`RawVec.WF` requires them to be zero). -/
def rawVecLd (v : RawVec) : Prop := (v.len + 63) / 64 = v.data.size ∧ v.len < 2 ^ 64

/-- `IntVector::load`: `len * width` is the bit length of the data.  **Not** checked: `1 ≤ width ≤ 64`
(`IntVec.WF`), the unused bits. -/
def intVecLd (v : IntVec) : Prop :=
  v.len < 2 ^ 64 ∧ v.width < 2 ^ 64 ∧ v.len * v.width = v.data.len ∧ rawVecLd v.data

/-- `SelectSupport::load`: three integer vectors, and the superblock count splits into long and short ones.
**Not** checked: any relation between the contents and a bitvector. -/
def selSupLd (s : SelSup) : Prop :=
  intVecLd s.samples ∧ intVecLd s.long ∧ intVecLd s.short ∧
  s.superblocks = s.longSuperblocks + s.shortSuperblocks

theorem rawVecLd_of_wf {v : RawVec} (h : rawVecWF v) : rawVecLd v := ⟨h.1.1.symm, h.2⟩
theorem intVecLd_of_wf {v : IntVec} (h : intVecWF v) : intVecLd v :=
  ⟨h.2.1, h.2.2.1, h.1.2.2.1.symm, h.1.2.2.2.1.symm, h.2.2.2⟩
theorem selSupLd_of_wf {s : SelSup} (h : selSupWF s) : selSupLd s :=
  ⟨intVecLd_of_wf h.1, intVecLd_of_wf h.2.1, intVecLd_of_wf h.2.2.1, h.2.2.2⟩

theorem rawVecC_loads_ld {P} (hP : P (.err .eof)) {v : RawVec} (h : rawVecLd v) :
    Loads P rawVecC.load (rawVecC.ser v) v := by
  obtain ⟨hsz, hlen⟩ := h
  refine Loads.cast (s := [BitVec.ofNat 64 v.len] ++ (vecU64C.ser v.data ++ [])) ?_ (by simp [rawVecC]) rfl
  refine Loads.bind (usizeC_loads hP hlen) ?_
  refine Loads.bind (vecU64C_loads hP (by omega)) ?_
  refine Loads.ite_neg (by omega) ?_
  exact Loads.ret' rfl

theorem intVecC_loads_ld {P} (hP : P (.err .eof)) {v : IntVec} (h : intVecLd v) :
    Loads P intVecC.load (intVecC.ser v) v := by
  obtain ⟨hlen, hw, hdl, hd⟩ := h
  refine Loads.cast (s := [BitVec.ofNat 64 v.len] ++ ([BitVec.ofNat 64 v.width] ++ (rawVecC.ser v.data ++ [])))
    ?_ (by simp [intVecC]) rfl
  refine Loads.bind (usizeC_loads hP hlen) ?_
  refine Loads.bind (usizeC_loads hP hw) ?_
  refine Loads.bind (rawVecC_loads_ld hP hd) ?_
  refine Loads.ite_neg (by omega) ?_
  exact Loads.ret' rfl

theorem selSupC_loads_ld {P} (hP : P (.err .eof)) {s : SelSup} (h : selSupLd s) :
    Loads P selSupC.load (selSupC.ser s) s := by
  obtain ⟨h1, h2, h3, hsb⟩ := h
  refine Loads.cast (s := intVecC.ser s.samples ++ (intVecC.ser s.long ++ (intVecC.ser s.short ++ [])))
    ?_ (by simp [selSupC]) rfl
  refine Loads.bind (intVecC_loads_ld hP h1) ?_
  refine Loads.bind (intVecC_loads_ld hP h2) ?_
  refine Loads.bind (intVecC_loads_ld hP h3) ?_
  refine Loads.ite_neg (fun hne => hne hsb) ?_
  exact Loads.ret' rfl

theorem rawVecC_lawful_ld : LawfulP IsEof rawVecC rawVecLd := ⟨fun _ h => rawVecC_loads_ld isEof_eof h⟩
theorem intVecC_lawful_ld : LawfulP IsEof intVecC intVecLd := ⟨fun _ h => intVecC_loads_ld isEof_eof h⟩
theorem selSupC_lawful_ld : LawfulP IsEof selSupC selSupLd := ⟨fun _ h => selSupC_loads_ld isEof_eof h⟩

end LoadWF
open LoadWF

theorem rawVecC_loads {P} (hP : P (.err .eof)) {v : RawVec} (h : rawVecWF v) :
    Loads P rawVecC.load (rawVecC.ser v) v := rawVecC_loads_ld hP (rawVecLd_of_wf h)

theorem intVecC_loads {P} (hP : P (.err .eof)) {v : IntVec} (h : intVecWF v) :
    Loads P intVecC.load (intVecC.ser v) v := intVecC_loads_ld hP (intVecLd_of_wf h)

theorem rankSupC_loads {P} (hP : P (.err .eof)) {s : RankSup} (h : rankSupWF s) :
    Loads P rankSupC.load (rankSupC.ser s) s := by
  refine Loads.cast (s := vecPairC.ser s.samples ++ []) ?_ (by simp [rankSupC]) rfl
  refine Loads.bind (vecPairC_loads hP h) ?_
  exact Loads.ret' rfl

theorem rawVecC_lawfulEof : LawfulP IsEof rawVecC rawVecWF := rawVecC_lawful_ld.weaken fun _ => rawVecLd_of_wf
theorem intVecC_lawfulEof : LawfulP IsEof intVecC intVecWF := intVecC_lawful_ld.weaken fun _ => intVecLd_of_wf
theorem rankSupC_lawfulEof : LawfulP IsEof rankSupC rankSupWF := ⟨fun _ h => rankSupC_loads isEof_eof h⟩
theorem selSupC_lawfulEof : LawfulP IsEof selSupC selSupWF := selSupC_lawful_ld.weaken fun _ => selSupLd_of_wf

theorem rawVecC_lawful : Lawful rawVecC (fun v => v.WF ∧ v.len < 2 ^ 64) := rawVecC_lawfulEof.lawful
theorem intVecC_lawful :
    Lawful intVecC (fun v => v.WF ∧ v.len < 2 ^ 64 ∧ v.width < 2 ^ 64 ∧ v.data.len < 2 ^ 64) :=
  intVecC_lawfulEof.lawful
theorem rankSupC_lawful : Lawful rankSupC (fun s => s.samples.size < 2 ^ 64) := rankSupC_lawfulEof.lawful
theorem selSupC_lawful : Lawful selSupC selSupWF := selSupC_lawfulEof.lawful

/-- The serialization invariant of a `BitVector`, for all 8 combinations of present supports at once.
The serialization of a present support is never empty (see `rankSupC_ser_pos`, `selSupC_ser_pos`), so only the
upper length bound (the length prefix of the option must fit a `usize`) is required. -/
def bitVectorWF (b : BitVector) : Prop :=
  rawVecWF b.data ∧ b.ones ≤ b.data.len ∧ b.ones < 2 ^ 64 ∧
  (∀ s, b.rank = some s →
    rankSupWF s ∧ s.samples.size = (b.data.len + 511) / 512 ∧ (rankSupC.ser s).length < 2 ^ 64) ∧
  (∀ s, b.select = some s →
    selSupWF s ∧ s.superblocks = (b.ones + 4095) / 4096 ∧ (selSupC.ser s).length < 2 ^ 64) ∧
  (∀ s, b.selectZero = some s →
    selSupWF s ∧ s.superblocks = (b.data.len - b.ones + 4095) / 4096 ∧ (selSupC.ser s).length < 2 ^ 64)

namespace LoadWF

/-- `BitVector::load`: the checks of the raw vector and of each present support, `ones ≤ len`, and one count per
present support (rank blocks for `len`, select superblocks for `ones`, select_zero superblocks for `len - ones`);
the last clause of each select support says that its size fits the length prefix of the option (true of every file
shorter than 2^64 elements).  **Not** checked: that `ones` is the number of set bits of `data`, the unused bits of
`data`, the contents of any support. -/
def bitVectorLd (b : BitVector) : Prop :=
  rawVecLd b.data ∧ b.ones ≤ b.data.len ∧
  (∀ s, b.rank = some s → s.samples.size = (b.data.len + 511) / 512) ∧
  (∀ s, b.select = some s →
    selSupLd s ∧ s.superblocks = (b.ones + 4095) / 4096 ∧ (selSupC.ser s).length < 2 ^ 64) ∧
  (∀ s, b.selectZero = some s →
    selSupLd s ∧ s.superblocks = (b.data.len - b.ones + 4095) / 4096 ∧ (selSupC.ser s).length < 2 ^ 64)

theorem bitVectorLd_of_wf {b : BitVector} (h : bitVectorWF b) : bitVectorLd b := by
  obtain ⟨h1, h2, _, h4, h5, h6⟩ := h
  exact ⟨rawVecLd_of_wf h1, h2, fun s e => (h4 s e).2.1,
    fun s e => ⟨selSupLd_of_wf (h5 s e).1, (h5 s e).2⟩, fun s e => ⟨selSupLd_of_wf (h6 s e).1, (h6 s e).2⟩⟩

end LoadWF

theorem rankSupC_ser_pos (s : RankSup) : 0 < (rankSupC.ser s).length := by simp [rankSupC, vecPairC]
theorem selSupC_ser_pos (s : SelSup) : 0 < (selSupC.ser s).length := by simp [selSupC, intVecC]

theorem SupportProofs.rankSupC_ser_length (s : RankSup) : (rankSupC.ser s).length = 1 + 2 * s.samples.size := by
  show (BitVec.ofNat 64 s.samples.size :: s.samples.toList.flatMap fun p => [p.1, p.2]).length = _
  rw [List.length_cons, length_flatMap_pair, Array.length_toList]; omega

/-- a present optional support passes the option codec as soon as each clause of the bitvector predicate gives its
validity `W s` and the bound on its serialized length -/
theorem optWF_of_clause {α} {c : Codec α} {W : α → Prop} {o : Option α} (hpos : ∀ s, 0 < (c.ser s).length)
    (h : ∀ s, o = some s → W s ∧ (c.ser s).length < 2 ^ 64) : optWF c W o := by
  cases o with
  | none => trivial
  | some s => exact ⟨(h s rfl).1, hpos s, (h s rfl).2⟩

theorem LoadWF.bitVectorC_loads_ld {P} (hP : P (.err .eof)) {b : BitVector} (h : bitVectorLd b) :
    Loads P bitVectorC.load (bitVectorC.ser b) b := by
  obtain ⟨hd, hle, hr, hs, hz⟩ := h
  have hlen := hd.2
  have hr' : optWF rankSupC rankSupWF b.rank := optWF_of_clause rankSupC_ser_pos fun s hb => by
    have := hr s hb
    exact ⟨by unfold rankSupWF; omega, by rw [SupportProofs.rankSupC_ser_length]; omega⟩
  have hs' : optWF selSupC selSupLd b.select := optWF_of_clause selSupC_ser_pos fun s hb => ⟨(hs s hb).1, (hs s hb).2.2⟩
  have hz' : optWF selSupC selSupLd b.selectZero :=
    optWF_of_clause selSupC_ser_pos fun s hb => ⟨(hz s hb).1, (hz s hb).2.2⟩
  refine Loads.cast (s := [BitVec.ofNat 64 b.ones] ++ (rawVecC.ser b.data ++ ((optionC rankSupC).ser b.rank ++
    ((optionC selSupC).ser b.select ++ ((optionC selSupC).ser b.selectZero ++ [])))))
    ?_ (by simp [bitVectorC]) rfl
  refine Loads.bind (usizeC_loads hP (by omega)) ?_
  refine Loads.bind (rawVecC_loads_ld hP hd) ?_
  refine Loads.ite_neg (by omega) ?_
  refine Loads.bind (optionC_loads hP (fun _ => rankSupC_loads hP) hr') ?_
  refine Loads.ite_neg ?_ ?_
  · cases hb : b.rank with
    | none => simp
    | some s => simp [hr s hb]
  refine Loads.bind (optionC_loads hP (fun _ => selSupC_loads_ld hP) hs') ?_
  refine Loads.ite_neg ?_ ?_
  · cases hb : b.select with
    | none => simp
    | some s => simp [(hs s hb).2.1]
  refine Loads.bind (optionC_loads hP (fun _ => selSupC_loads_ld hP) hz') ?_
  refine Loads.ite_neg ?_ ?_
  · cases hb : b.selectZero with
    | none => simp
    | some s => simp [(hz s hb).2.1]
  exact Loads.ret' rfl

theorem LoadWF.bitVectorC_lawful_ld : LawfulP IsEof bitVectorC bitVectorLd :=
  ⟨fun _ h => bitVectorC_loads_ld isEof_eof h⟩

theorem bitVectorC_loads {P} (hP : P (.err .eof)) {b : BitVector} (h : bitVectorWF b) :
    Loads P bitVectorC.load (bitVectorC.ser b) b := bitVectorC_loads_ld hP (bitVectorLd_of_wf h)

theorem bitVectorC_lawfulEof : LawfulP IsEof bitVectorC bitVectorWF := ⟨fun _ h => bitVectorC_loads isEof_eof h⟩
theorem bitVectorC_lawful : Lawful bitVectorC bitVectorWF := bitVectorC_lawfulEof.lawful

/-! ### the byte view -/

/-- little-endian digits, structurally -/
def natToBytes : Nat → Nat → List UInt8
  | 0, _ => []
  | k + 1, n => UInt8.ofNat (n % 256) :: natToBytes k (n / 256)

theorem map_range_digits (k n : Nat) :
    (List.range k).map (fun i => UInt8.ofNat ((n >>> (8 * i)) % 256)) = natToBytes k n := by
  induction k generalizing n with
  | zero => rfl
  | succ k ih =>
    rw [List.range_succ_eq_map, List.map_cons, List.map_map, natToBytes, ← ih]
    refine congrArg _ (List.map_congr_left fun i _ => ?_)
    show UInt8.ofNat ((n >>> (8 * (i + 1))) % 256) = _
    rw [Nat.mul_add, Nat.add_comm, Nat.shiftRight_add, Nat.shiftRight_eq_div_pow n]

theorem wordToBytes_eq_natToBytes (w : Word) : wordToBytes w = natToBytes 8 w.toNat := map_range_digits 8 _

theorem length_natToBytes (k n : Nat) : (natToBytes k n).length = k := by
  induction k generalizing n with
  | zero => rfl
  | succ k ih => rw [natToBytes, List.length_cons, ih]

theorem bytesToNat_natToBytes (k n : Nat) : bytesToNat (natToBytes k n) = n % 256 ^ k := by
  induction k generalizing n with
  | zero => rw [Nat.pow_zero, Nat.mod_one]; rfl
  | succ k ih =>
    rw [natToBytes, bytesToNat, ih, UInt8.toNat_ofNat', Nat.pow_succ (m := k), Nat.mul_comm (256 ^ k), Nat.mod_mul]
    exact congrArg (· + _) (Nat.mod_mod n 256)

theorem length_wordToBytes (w : Word) : (wordToBytes w).length = 8 := by
  rw [wordToBytes_eq_natToBytes, length_natToBytes]

theorem bytesToNat_wordToBytes (w : Word) : bytesToNat (wordToBytes w) = w.toNat := by
  rw [wordToBytes_eq_natToBytes, bytesToNat_natToBytes]
  exact Nat.mod_eq_of_lt w.isLt

theorem ofBytes_short {bs : List UInt8} (h : bs.length < 8) : ofBytes bs = [] :=
  ofBytes.eq_2 bs fun _ _ _ _ _ _ _ _ _ e => by
    rw [e] at h
    simp only [List.length_cons] at h
    omega

theorem ofBytes_wordToBytes_append (w : Word) (rest : List UInt8) :
    ofBytes (wordToBytes w ++ rest) = w :: ofBytes rest := by
  have h : ofBytes (natToBytes 8 w.toNat ++ rest) =
      BitVec.ofNat 64 (bytesToNat (natToBytes 8 w.toNat)) :: ofBytes rest := rfl
  rw [wordToBytes_eq_natToBytes, h, ← wordToBytes_eq_natToBytes, bytesToNat_wordToBytes, BitVec.ofNat_toNat,
    BitVec.setWidth_eq]

theorem toBytes_cons (w : Word) (es : Elems) : toBytes (w :: es) = wordToBytes w ++ toBytes es := rfl

theorem length_toBytes (es : Elems) : (toBytes es).length = 8 * es.length := by
  induction es with
  | nil => rfl
  | cons w es ih => rw [toBytes_cons, List.length_append, length_wordToBytes, ih, List.length_cons]; omega

theorem ofBytes_take (es : Elems) (k : Nat) : ofBytes ((toBytes es).take k) = es.take (k / 8) := by
  induction es generalizing k with
  | nil => rw [toBytes, List.flatMap_nil, List.take_nil, List.take_nil]; rfl
  | cons w es ih =>
    rw [toBytes_cons, List.take_append, length_wordToBytes]
    by_cases hk : k < 8
    · rw [Nat.sub_eq_zero_of_le (Nat.le_of_lt hk), Nat.div_eq_of_lt hk, List.take_zero, List.append_nil,
        List.take_zero]
      exact ofBytes_short (by rw [List.length_take, length_wordToBytes]; exact Nat.lt_of_le_of_lt (Nat.min_le_left _ _) hk)
    · obtain ⟨j, rfl⟩ : ∃ j, k = j + 8 := ⟨k - 8, by omega⟩
      rw [List.take_of_length_le (by rw [length_wordToBytes]; omega), ofBytes_wordToBytes_append,
        Nat.add_sub_cancel, ih, Nat.add_div_right j (by decide), List.take_succ_cons]

theorem ofBytes_toBytes (es : Elems) : ofBytes (toBytes es) = es := by
  have h := ofBytes_take es (8 * es.length)
  rw [List.take_of_length_le (by rw [length_toBytes]; omega)] at h
  rw [h, List.take_of_length_le (by omega)]

/-! ### byte vectors and strings -/

theorem bytesToNat_lt (l : List UInt8) : bytesToNat l < 256 ^ l.length := by
  induction l with
  | nil => exact Nat.one_pos
  | cons b l ih =>
    have hb := b.toNat_lt
    rw [bytesToNat, List.length_cons, Nat.pow_succ]
    generalize bytesToNat l = X at *
    generalize 256 ^ l.length = p at *
    omega

theorem natToBytes_bytesToNat (l : List UInt8) : natToBytes l.length (bytesToNat l) = l := by
  induction l with
  | nil => rfl
  | cons b l ih =>
    rw [List.length_cons, bytesToNat, natToBytes, Nat.add_mul_mod_self_left, Nat.add_mul_div_left _ _ (by decide),
      Nat.mod_eq_of_lt b.toNat_lt, Nat.div_eq_of_lt b.toNat_lt, Nat.zero_add, ih, UInt8.ofNat_toNat]

theorem bytesToNat_replicate_zero (n : Nat) : bytesToNat (List.replicate n 0) = 0 := by
  induction n with
  | zero => rfl
  | succ n ih => rw [List.replicate_succ, bytesToNat, ih]; rfl

theorem bytesToNat_append_zeros (l : List UInt8) (n : Nat) :
    bytesToNat (l ++ List.replicate n 0) = bytesToNat l := by
  induction l with
  | nil => exact bytesToNat_replicate_zero n
  | cons b l ih => rw [List.cons_append, bytesToNat, ih, bytesToNat]

theorem wordToBytes_bytesToNat8 {l : List UInt8} (h : l.length = 8) :
    wordToBytes (BitVec.ofNat 64 (bytesToNat l)) = l := by
  have hlt := bytesToNat_lt l
  rw [h] at hlt
  rw [wordToBytes_eq_natToBytes, toNat_ofNat64 hlt, ← h]
  exact natToBytes_bytesToNat l

/-- a word packed from at most 8 bytes unpacks to those bytes followed by zero padding -/
theorem wordToBytes_bytesToNat {l : List UInt8} (h : l.length ≤ 8) :
    wordToBytes (BitVec.ofNat 64 (bytesToNat l)) = l ++ List.replicate (8 - l.length) 0 := by
  rw [← bytesToNat_append_zeros l (8 - l.length)]
  exact wordToBytes_bytesToNat8 (by rw [List.length_append, List.length_replicate]; omega)

theorem packBytesAux_nil (fuel : Nat) : packBytesAux fuel [] = [] := by cases fuel <;> rfl

/-- the bytes of the packed words are the bytes followed by fewer than 8 zero bytes -/
theorem toBytes_packBytesAux_pad (fuel : Nat) (bs : List UInt8) (h : bs.length ≤ fuel) :
    ∃ n, n < 8 ∧ toBytes (packBytesAux fuel bs) = bs ++ List.replicate n 0 := by
  induction fuel generalizing bs with
  | zero => exact ⟨0, by decide, by rw [List.eq_nil_of_length_eq_zero (Nat.le_zero.mp h)]; rfl⟩
  | succ fuel ih =>
    cases bs with
    | nil => exact ⟨0, by decide, rfl⟩
    | cons b bs =>
      rw [packBytesAux.eq_3 _ _ (by simp), toBytes_cons]
      have hpos : 0 < (b :: bs).length := Nat.succ_pos _
      generalize b :: bs = l at h hpos ⊢
      by_cases hle : l.length ≤ 8
      · refine ⟨8 - l.length, by omega, ?_⟩
        rw [List.drop_of_length_le hle, packBytesAux_nil, List.take_of_length_le hle, wordToBytes_bytesToNat hle]
        exact List.append_nil _
      · obtain ⟨n, hn, e⟩ := ih (l.drop 8) (by rw [List.length_drop]; omega)
        refine ⟨n, hn, ?_⟩
        rw [wordToBytes_bytesToNat8 (by rw [List.length_take]; omega), e, ← List.append_assoc,
          List.take_append_drop]

theorem toBytes_packBytes_pad (bs : List UInt8) : ∃ n, n < 8 ∧ toBytes (packBytes bs) = bs ++ List.replicate n 0 :=
  toBytes_packBytesAux_pad _ bs (Nat.le_refl _)

theorem length_packBytes (bs : List UInt8) : (packBytes bs).length = (bs.length + 7) / 8 := by
  obtain ⟨n, hn, e⟩ := toBytes_packBytes_pad bs
  have h := congrArg List.length e
  rw [length_toBytes, List.length_append, List.length_replicate] at h
  omega

/-- the fact the byte-vector loader relies on: the content is the first `n` bytes of the packed elements -/
theorem toBytes_packBytes_take (bs : List UInt8) : (toBytes (packBytes bs)).take bs.length = bs := by
  obtain ⟨n, _, e⟩ := toBytes_packBytes_pad bs
  rw [e, List.take_left]

theorem bytesC_loads {P} (hP : P (.err .eof)) {bs : List UInt8} (h : bs.length < 2 ^ 64) :
    Loads P bytesC.load (bytesC.ser bs) bs := by
  refine Loads.cast (s := [BitVec.ofNat 64 bs.length] ++ (packBytes bs ++ [])) ?_ (by simp [bytesC]) rfl
  refine Loads.bind (Loads.readElem hP _) ?_
  refine Loads.bind (Loads.readN hP ?_) ?_
  · rw [toNat_ofNat64 h, length_packBytes]
  · refine Loads.ret' ?_
    rw [toNat_ofNat64 h]; exact toBytes_packBytes_take bs

theorem stringC_loads {P} (hP : P (.err .eof)) (valid : List UInt8 → Bool) {bs : List UInt8}
    (h : bs.length < 2 ^ 64) (hv : valid bs = true) :
    Loads P (stringC valid).load ((stringC valid).ser bs) bs := by
  refine Loads.cast (s := bytesC.ser bs ++ []) ?_ (by simp [stringC]) rfl
  refine Loads.bind (bytesC_loads hP h) ?_
  exact Loads.ite_pos hv (Loads.ret _)

theorem bytesC_lawfulEof : LawfulP IsEof bytesC (fun bs => bs.length < 2 ^ 64) :=
  ⟨fun _ h => bytesC_loads isEof_eof h⟩
theorem stringC_lawfulEof (valid : List UInt8 → Bool) :
    LawfulP IsEof (stringC valid) (fun bs => bs.length < 2 ^ 64 ∧ valid bs = true) :=
  ⟨fun _ h => stringC_loads isEof_eof valid h.1 h.2⟩
theorem bytesC_lawful : Lawful bytesC (fun bs => bs.length < 2 ^ 64) := bytesC_lawfulEof.lawful
theorem stringC_lawful (valid : List UInt8 → Bool) :
    Lawful (stringC valid) (fun bs => bs.length < 2 ^ 64 ∧ valid bs = true) := (stringC_lawfulEof valid).lawful

/-! ### corollaries: concatenation and the byte view -/

/-- two values written back to back: the first loads and leaves exactly the second's serialization -/
theorem load_concat {α β} {c1 : Codec α} {W1 : α → Prop} (h1 : Lawful c1 W1) (c2 : Codec β)
    (x : α) (y : β) (r : Elems) (hx : W1 x) :
    c1.load (c1.ser x ++ c2.ser y ++ r) = ok (x, c2.ser y ++ r) := by
  rw [List.append_assoc]; exact h1.roundtrip x _ hx

/-- ... and loading both in sequence returns both values and the rest -/
theorem load_concat_seq {α β} {c1 : Codec α} {c2 : Codec β} {W1 : α → Prop} {W2 : β → Prop}
    (h1 : Lawful c1 W1) (h2 : Lawful c2 W2) (x : α) (y : β) (r : Elems) (hx : W1 x) (hy : W2 y) :
    (do let (a, r1) ← c1.load (c1.ser x ++ c2.ser y ++ r)
        let (b, r2) ← c2.load r1
        pure ((a, b), r2)) = ok ((x, y), r) := by
  rw [load_concat h1 c2 x y r hx, bind_ok]
  show (c2.load (c2.ser y ++ r) >>= _) = _
  rw [h2.roundtrip y r hy]; rfl

/-- the byte-level roundtrip: loading the bytes of a serialization followed by the bytes of anything -/
theorem roundtrip_bytes {α} {c : Codec α} {W : α → Prop} (h : Lawful c W) (x : α) (hx : W x) (r : Elems) :
    c.load (ofBytes (toBytes (c.ser x ++ r))) = ok (x, r) := by
  rw [ofBytes_toBytes]; exact h.roundtrip x r hx

/-- the byte-level prefix law: every strict byte prefix of a serialization is refused -/
theorem pfx_bytes {α} {c : Codec α} {W : α → Prop} (h : Lawful c W) (x : α) (hx : W x) (k : Nat)
    (hk : k < 8 * (c.ser x).length) (y : α) (r : Elems) :
    c.load (ofBytes ((toBytes (c.ser x)).take k)) ≠ ok (y, r) := by
  rw [ofBytes_take]
  exact h.pfx x (k / 8) hx (by omega) y r

theorem pfx_bytes_eof {α} {c : Codec α} {W : α → Prop} (h : LawfulP IsEof c W) (x : α) (hx : W x) (k : Nat)
    (hk : k < 8 * (c.ser x).length) :
    c.load (ofBytes ((toBytes (c.ser x)).take k)) = fault (.err .eof) := by
  rw [ofBytes_take]
  exact h.pfx_eof x (k / 8) hx (by omega)

end Sds
