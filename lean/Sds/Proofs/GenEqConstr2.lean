/-
Proofs/GenEqConstr2: `IntVector::pack` and `SelectSupport::new`, as TRANSLATED statement by statement from the source
(Generated/FnsConstr2.lean), are equal to the hand-written model definitions `IntVec.pack` and `SelSup.build`.

* `int_pack_eq : gen_IntVector_pack m v = ok v.pack` under `v.WF` and `v.len * v.width + 63 < U64` (the bit length of
  the existing buffer, rounded up to words, is a `usize`: true of every vector in memory).  `int_pack_eq_of` is the
  general form: `v.len * v.width < U64` (what `get` needs: `index * width`) and
  `v.len * bit_len(max) + 63 < U64` for the NEW width (`len * new_width` for the capacity; `words_to_bits(data.len())`
  and `len + width` in every `push_int`); the new width is never larger than the old one (`pack_width_le`).
  `iter().max()` is `maxByGet` (`max_by_get_eq`: `None` only on the empty vector, else the word whose value is the
  model's `foldl max 0`; which of several equal maxima is returned is irrelevant, they are equal words).
  Sharpness of `WF`: `int_pack_ne_wf`.
* `select_support_new_eq_of : gen_SelectSupport_new m len pos.size (enumerate pos) = ok (SelSup.build len pos)` where
  `enumerate pos` are the items `(i, pos[i])` of `one_iter`, under
  `hmono` (positions weakly ascending), `hle` (positions `≤ len`), `hB : pos.size * 64 + 127 < U64`
  (the three vectors are filled at width 64; `samples` gets `2 * ⌈ones/4096⌉ ≤ ones + 1` items, `long`, `short` at most
  `ones`; this also covers `ones + 4096`, `superblocks * 2` and the three `pack`s).  No hypothesis on `len` itself.
  Corollaries: `select_support_new_eq` (strictly ascending list `< len`, `len * 64 + 127 < U64`),
  `select_support_new_eq_small` (`len < 2^57`), `select_support_new_positions` (the positions of the set / unset bits
  of any `RawVec`).  Sharpness: `select_support_new_ne_mono`, `select_support_new_ne_le`; evaluation of both sides:
  `select_support_new_examples`.
  Why the two sides agree: `limit.1 - start.1` and
  `value.unwrap().1 - start.1` never underflow for ascending positions `≤ len`; `limit.0 - start.0` is the model's
  `min 4096 (ones - 4096 k)`; `sample_iter.nth(4095)` is item `4096 (k + 1)`, the model's `pos[4096 * (k + 1)]`;
  `value.unwrap()` never sees `None` inside the inner loops; in a short superblock the `blocks` calls of
  `iter.nth(63)` leave `value` at item `4096 k + 64 * blocks`: this is item `4096 (k + 1)` for a full superblock
  (`blocks = 64`), and when `cnt` is not a multiple of 64 the superblock is the last one, the iterator has run off the
  end (`value = None`, as after the `cnt` calls of `next()` in the long branch) and the outer loop stops because
  `next_sample = None` — so `value` is never read again (`enumerate_congr`).

Method: neither function faults under its hypotheses, so every loop is walked by a rule of GenSupport with an invariant
that names the model's value: `for_sat` for the loop of `pack`; for `SelectSupport::new` `while_sat` with
"`result` is `(sbLists len pos.toList k).toSup`" (the model's loop on lists, `buildLoop_eq` of Proofs/Select.lean) and
inside it `for_sat` for the loop of a long or a short superblock.  The three vectors are `IntVec.ofList 64` of the
model's lists throughout, so what `push` and `pack` need of them (`push_ofList_eq`, `pack_ofList_eq`) is their length
(`sbLists_room`).
-/
import Sds.Generated.FnsConstr2
import Sds.Proofs.GenFns
import Sds.Proofs.GenEqBits
import Sds.Proofs.GenEqIdx
import Sds.Proofs.GenEqVec
import Sds.Proofs.GenEqLoop4
import Sds.Proofs.GenEqConstr
import Sds.Proofs.IntVec
import Sds.Proofs.RawVec
import Sds.Proofs.Select

namespace Sds.GenEq
open Sds Outcome Generated

/-! ### `IntVector::pack` -/

/-- `self.iter().max()`: the items are read with `get` (no fault below `len`); the result is `None` only on the empty
vector and otherwise the word whose value is the model's `foldl max 0` -/
theorem max_by_get_eq (m : Mode) (v : IntVec) (hwf : v.WF) (hb : v.len * v.width < U64) :
    ∃ acc, maxByGet v.len (fun i => gen_IntVector_get m v i) = ok acc ∧
      (v.len = 0 → acc = none) ∧ (v.len ≠ 0 → ∃ w : Word, acc = some w ∧ w.toNat = v.items.foldl max 0) := by
  obtain ⟨acc, e, h0, h1⟩ := foldl_max_none ((List.range v.len).map v.getRaw)
  refine ⟨acc, ?_, fun h => h0 (by rw [h]; rfl), fun h => ?_⟩
  · unfold maxByGet
    rw [← e, List.foldl_map]
    refine foldlM_range_ok _ (fun l => (List.range l).foldl _ none) v.len fun l hl => ?_
    dsimp only
    rw [int_get_eq m v l hwf hb, IntVec.get_ok v l hl, bind_ok, foldl_range_succ]
    rfl
  · obtain ⟨w, e, hw⟩ := h1 (by simpa using h)
    exact ⟨w, e, by rw [hw, List.map_map]; rfl⟩

/-- `IntVector::pack`, general form: `hg` is the hypothesis of `get` (`index * width` for `index < len`), `hp` says
that the bit length of the NEW buffer rounded up to whole words is a `usize` (`len * new_width` is computed for the
capacity, and every `push_int` computes `words_to_bits(data.len())` and `len + width`) -/
theorem int_pack_eq_of (m : Mode) (v : IntVec) (hwf : v.WF) (hg : v.len * v.width < U64)
    (hp : v.len * bitLen (BitVec.ofNat 64 v.maxItem) + 63 < U64) : gen_IntVector_pack m v = ok v.pack := by
  unfold gen_IntVector_pack IntVec.pack
  by_cases h0 : v.len = 0
  · simp only [decide_eq_true h0, if_true, if_pos h0]; rfl
  · obtain ⟨acc, e, _, hacc⟩ := max_by_get_eq m v hwf hg
    obtain ⟨w, rfl, hw⟩ := hacc h0
    have hw' : BitVec.ofNat 64 v.maxItem = w := by
      unfold IntVec.maxItem; rw [← hw]; simp only [BitVec.ofNat_toNat, BitVec.setWidth_eq]
    rw [hw'] at hp
    simp only [decide_eq_false h0, if_neg h0, Bool.false_eq_true, if_false, e, bind_ok, unwrapM, bit_len_eq, hw']
    by_cases hs : bitLen w = v.width
    · simp only [hs, decide_true, if_true]; rfl
    · obtain ⟨b1, b2, _, _⟩ := bitLen_spec_int w
      simp only [hs, decide_false, Bool.false_eq_true, if_false, mulM_ok (show v.len * bitLen w < U64 by omega),
        bind_ok]
      -- the new buffer holds the first `i` items at the new width
      refine sat_eq.1 (for_sat (fun i (d : RawVec) =>
          d = (List.range i).foldl (fun d j => d.pushInt (v.getRaw j) (bitLen w)) RawVec.empty ∧ d.WF ∧
            d.len = i * bitLen w) (Nat.zero_le _) _ _
        (fun i d _ hi ⟨hd, dwf, dl⟩ => ?_) (fun d _ => ?_) ⟨rfl, RawVec.empty_WF, (Nat.zero_mul _).symm⟩
        (fun d ⟨hd, _, _⟩ => ?_))
      · have hmul : (i + 1) * bitLen w ≤ v.len * bitLen w := Nat.mul_le_mul_right _ hi
        rw [Nat.succ_mul] at hmul
        have hsz := dwf.1
        simp only [hi, decide_true, if_true, int_get_eq m v i hwf hg, IntVec.get_ok v i hi, bind_ok,
          raw_push_int_eq m d _ _ b2 (by omega) (by omega) (by omega), pure_eq]
        exact sat_next ⟨rfl, by rw [foldl_range_succ, ← hd], RawVec.pushInt_WF dwf _ _ b1 b2,
          by rw [RawVec.len_pushInt, dl, Nat.succ_mul]⟩
      · simp only [Nat.lt_irrefl, decide_false, Bool.false_eq_true, if_false]; rfl
      · refine sat_ok ?_
        rw [hd, IntVec.items, List.foldl_map]
        simp only [BitVec.ofNat_toNat, BitVec.setWidth_eq]

/-- the new width is at most the old one -/
theorem pack_width_le {v : IntVec} (hwf : v.WF) : bitLen (BitVec.ofNat 64 v.maxItem) ≤ v.width := by
  apply bitLen_le_of_lt _ _ hwf.1
  rw [BitVec.toNat_ofNat, Nat.mod_eq_of_lt (IntVec.maxItem_lt hwf)]
  exact foldl_max_lt _ _ _ (Nat.two_pow_pos _) (IntVec.items_lt hwf)

/-- `IntVector::pack` for every well-formed vector whose (old) buffer has a representable bit length rounded up to
words — a fact about every vector that exists in memory -/
theorem int_pack_eq (m : Mode) (v : IntVec) (hwf : v.WF) (hb : v.len * v.width + 63 < U64) :
    gen_IntVector_pack m v = ok v.pack := by
  have := Nat.mul_le_mul_left v.len (pack_width_le hwf)
  exact int_pack_eq_of m v hwf (by omega) (by omega)

/-! ### `SelectSupport::new` -/

/-- the iterator `T::one_iter(parent)` as the list of its items: (rank, position) with consecutive ranks -/
def enumerate (pos : Array Nat) : List (Nat × Nat) := (List.range pos.size).map fun i => (i, pos[i]?.getD 0)

theorem enumerate_length (pos : Array Nat) : (enumerate pos).length = pos.size := by simp [enumerate]

theorem enumerate_lt (pos : Array Nat) {i : Nat} (h : i < pos.size) :
    (enumerate pos)[i]? = some (i, pos[i]?.getD 0) := by simp [enumerate, h]

theorem enumerate_ge (pos : Array Nat) {i : Nat} (h : pos.size ≤ i) : (enumerate pos)[i]? = none := by
  simp [enumerate, h]

/-- two positions of the iterator are indistinguishable when they are equal or both past the end -/
theorem enumerate_congr (pos : Array Nat) {x y : Nat} (h : x = y ∨ (pos.size ≤ x ∧ pos.size ≤ y)) :
    (enumerate pos).drop (x + 1) = (enumerate pos).drop (y + 1) ∧ (enumerate pos)[x]? = (enumerate pos)[y]? := by
  rcases h with rfl | ⟨hx, hy⟩
  · exact ⟨rfl, rfl⟩
  · rw [enumerate_ge pos hx, enumerate_ge pos hy, List.drop_eq_nil_of_le (by rw [enumerate_length]; omega),
      List.drop_eq_nil_of_le (by rw [enumerate_length]; omega)]
    exact ⟨rfl, rfl⟩

/-! ### the model's loop on lists, read through the array -/

/-- the lengths of the model's lists after `k` superblocks (`sbLists_shape`, without `min`: for `omega`) -/
theorem sbLists_room (len : Nat) (pos : Array Nat) (k : Nat) (hk : 4096 * k < pos.size + 4096) :
    (sbLists len pos.toList k).S.length = 2 * k ∧
    (sbLists len pos.toList k).L.length ≤ 4096 * k ∧ (sbLists len pos.toList k).L.length ≤ pos.size ∧
    (sbLists len pos.toList k).H.length ≤ 64 * k ∧ (sbLists len pos.toList k).H.length ≤ pos.size := by
  obtain ⟨hS, -, hL, hH⟩ := sbLists_shape len pos.toList k (by rw [Array.length_toList]; exact hk)
  rw [Array.length_toList] at hL hH
  exact ⟨hS, Nat.le_trans hL (Nat.min_le_left _ _), Nat.le_trans hL (Nat.min_le_right _ _),
    Nat.le_trans hH (Nat.min_le_left _ _), Nat.le_trans hH (Nat.min_le_right _ _)⟩

theorem sbStep_long (len : Nat) (pos : Array Nat) (X : SbLists) (k : Nat)
    (hc : sbBound len pos.toList (k + 1) - pos[4096 * k]?.getD 0 ≥ log4 len) :
    sbStep len pos.toList X k = ⟨X.S ++ [pos[4096 * k]?.getD 0] ++ [2 * X.L.length],
      X.L ++ (List.range (min 4096 (pos.size - 4096 * k))).map
        (fun j => pos[4096 * k + j]?.getD 0 - pos[4096 * k]?.getD 0), X.H⟩ := by
  unfold sbStep
  simp only [Array.getElem?_toList, Array.length_toList]
  rw [if_pos hc]

theorem sbStep_short (len : Nat) (pos : Array Nat) (X : SbLists) (k : Nat)
    (hc : ¬ sbBound len pos.toList (k + 1) - pos[4096 * k]?.getD 0 ≥ log4 len) :
    sbStep len pos.toList X k = ⟨X.S ++ [pos[4096 * k]?.getD 0] ++ [2 * X.H.length + 1], X.L,
      X.H ++ (List.range ((min 4096 (pos.size - 4096 * k) + 63) / 64)).map
        (fun b => pos[4096 * k + 64 * b]?.getD 0 - pos[4096 * k]?.getD 0)⟩ := by
  unfold sbStep
  simp only [Array.getElem?_toList, Array.length_toList]
  rw [if_neg hc]

theorem map_range_succ {α : Type} (g : Nat → α) (n : Nat) :
    (List.range (n + 1)).map g = (List.range n).map g ++ [g n] := by
  rw [List.range_succ, List.map_append]; rfl

/-- `push` and `pack` on a vector of width 64 given by its items: the three vectors of the support while they are
filled (well-formedness, width and length are those of `ofList`) -/
theorem push_ofList_eq (m : Mode) (xs : List Nat) (x : Nat) (hb : (xs.length + 1) * 64 + 63 < U64) :
    gen_IntVector_push m (IntVec.ofList 64 xs) (BitVec.ofNat 64 x) = ok (IntVec.ofList 64 (xs ++ [x])) := by
  rw [int_push_eq m _ _ (IntVec.ofList_spec 64 xs (by decide) (by decide)).1
    (by rw [IntVec.ofList_len, IntVec.ofList_width]; exact hb), IntVec.ofList_push]

theorem pack_ofList_eq (m : Mode) (xs : List Nat) (hb : xs.length * 64 + 63 < U64) :
    gen_IntVector_pack m (IntVec.ofList 64 xs) = ok (IntVec.ofList 64 xs).pack :=
  int_pack_eq m _ (IntVec.ofList_spec 64 xs (by decide) (by decide)).1
    (by rw [IntVec.ofList_len, IntVec.ofList_width]; exact hb)

/-! ### one iteration of the outer loop -/

/-- `limit`: the next sample if there is one, `(ones, len)` otherwise.  Its rank `lim1` is where the iterator stands
after the superblock (fifth conjunct: or past the end, which the iterator does not distinguish) -/
theorem ss_limit (len : Nat) (pos : Array Nat)
    (hmono : ∀ i j, i ≤ j → j < pos.size → pos[i]?.getD 0 ≤ pos[j]?.getD 0)
    (hle : ∀ i, i < pos.size → pos[i]?.getD 0 ≤ len) (k : Nat) (hk : 4096 * k < pos.size) :
    ∃ lim1, ((enumerate pos)[4096 * (k + 1)]?).getD (pos.size, len) = (lim1, sbBound len pos.toList (k + 1)) ∧
      lim1 - 4096 * k = min 4096 (pos.size - 4096 * k) ∧ 4096 * k ≤ lim1 ∧ lim1 ≤ pos.size ∧
      (lim1 = 4096 * (k + 1) ∨ (pos.size ≤ lim1 ∧ pos.size ≤ 4096 * (k + 1))) ∧
      pos[4096 * k]?.getD 0 ≤ sbBound len pos.toList (k + 1) := by
  unfold sbBound
  rw [Array.length_toList, Array.getElem?_toList (xs := pos)]
  by_cases hlast : 4096 * (k + 1) < pos.size
  · rw [if_pos hlast]
    exact ⟨4096 * (k + 1), by rw [enumerate_lt pos hlast]; rfl, by omega, by omega, by omega, Or.inl rfl,
      hmono _ _ (by omega) hlast⟩
  · rw [if_neg hlast]
    exact ⟨pos.size, by rw [enumerate_ge pos (by omega)]; rfl, by omega, by omega, by omega,
      Or.inr ⟨by omega, by omega⟩, hle _ hk⟩

/-- the blocks of a short superblock end where the superblock ends, or past the end -/
theorem ss_short_end {k n lim : Nat} (h1 : 4096 * k ≤ lim)
    (hc : lim = 4096 * (k + 1) ∨ (n ≤ lim ∧ n ≤ 4096 * (k + 1))) :
    4096 * k + 64 * ((lim - 4096 * k + 63) / 64) = 4096 * (k + 1) ∨
      (n ≤ 4096 * k + 64 * ((lim - 4096 * k + 63) / 64) ∧ n ≤ 4096 * (k + 1)) := by
  rcases hc with hc | ⟨hc1, hc2⟩
  · left; omega
  · right; omega

/-- `SelectSupport::new`, general form.  `pos` are the positions of the set bits (of the transformed vector), the
iterator yields them with their ranks.  `hmono`: ascending (weakly is enough); `hle`: inside the vector (`≤ len` is
enough); `hB`: `(ones + 1) * 64 + 63 < 2^64`, i.e. the three sample vectors, filled at width 64, have representable
bit lengths (`samples` holds `2 * ⌈ones / 4096⌉ ≤ ones + 1` items, `long` and `short` at most `ones` items) -/
theorem select_support_new_eq_of (m : Mode) (len : Nat) (pos : Array Nat)
    (hmono : ∀ i j, i ≤ j → j < pos.size → pos[i]?.getD 0 ≤ pos[j]?.getD 0)
    (hle : ∀ i, i < pos.size → pos[i]?.getD 0 ≤ len) (hB : pos.size * 64 + 127 < U64) :
    gen_SelectSupport_new m len pos.size (enumerate pos) = ok (SelSup.build len pos) := by
  have hU := U64_eq
  have hl1 := (bitLen_spec_int (BitVec.ofNat 64 len)).1
  have hl2 := (bitLen_spec_int (BitVec.ofNat 64 len)).2.1
  have hq := Nat.mul_le_mul hl2 hl2
  have hq2 := Nat.mul_le_mul hq hq
  have e1 : addM m pos.size 4096 = ok (pos.size + 4096) := addM_ok (by omega)
  have e2 : subM m (pos.size + 4096) 1 = ok (pos.size + 4095) := subM_ok (by omega)
  have e3 : gDiv (pos.size + 4095) 4096 = ok ((pos.size + 4095) / 4096) := gDiv_ok _ (by decide)
  have e5 : mulM m (bitLen (BitVec.ofNat 64 len)) (bitLen (BitVec.ofNat 64 len)) =
      ok (bitLen (BitVec.ofNat 64 len) * bitLen (BitVec.ofNat 64 len)) := mulM_ok (by omega)
  have e6 : mulM m (bitLen (BitVec.ofNat 64 len) * bitLen (BitVec.ofNat 64 len))
      (bitLen (BitVec.ofNat 64 len) * bitLen (BitVec.ofNat 64 len)) = ok (log4 len) :=
    mulM_ok (by omega)
  have e7 : mulM m ((pos.size + 4095) / 4096) 2 = ok ((pos.size + 4095) / 4096 * 2) := mulM_ok (by omega)
  refine sat_eq.1 ?_
  unfold gen_SelectSupport_new
  simp only [e1, e2, e3, bit_len_eq, e5, e6, e7, bind_ok]
  clear hl1 hl2 hq hq2 e1 e2 e3 e5 e6 e7
  -- after `k` superblocks: both iterators stand on item `4096 k`, `result` holds the model's lists after `k` steps
  refine while_sat (fun k (s : List (Nat × Nat) × SelSup × Option (Nat × Nat) × List (Nat × Nat) × Option (Nat × Nat)) =>
      s.1 = (enumerate pos).drop (4096 * k + 1) ∧ s.2.2.1 = (enumerate pos)[4096 * k]? ∧
      s.2.2.2.1 = (enumerate pos).drop (4096 * k + 1) ∧ s.2.2.2.2 = (enumerate pos)[4096 * k]? ∧
      s.2.1 = (sbLists len pos.toList k).toSup)
    ((pos.size + 4095) / 4096) _ _ (by rw [enumerate_length]; omega)
    (fun k s hk hI => ?_) (fun s hI => ?_)
    ⟨by rw [List.drop_one], by rw [List.head?_eq_getElem?], by rw [List.drop_one], by rw [List.head?_eq_getElem?],
      rfl⟩
    (fun s hI => ?_)
  · obtain ⟨iter, R, sample, sample_iter, value⟩ := s
    obtain ⟨rfl, rfl, rfl, rfl, rfl⟩ := hI
    have hk' : 4096 * k < pos.size := by omega
    obtain ⟨hS, hL1, hL2, hH1, hH2⟩ := sbLists_room len pos k (by omega)
    rw [sbLists_succ]
    generalize sbLists len pos.toList k = X at hS hL1 hL2 hH1 hH2 ⊢
    have hs := enumerate_lt pos hk'
    have hns : (((enumerate pos).drop (4096 * k + 1)).drop 4095).head? = (enumerate pos)[4096 * (k + 1)]? := by
      rw [List.head?_drop, List.getElem?_drop, show 4096 * k + 1 + 4095 = 4096 * (k + 1) by omega]
    have hsi : ((enumerate pos).drop (4096 * k + 1)).drop (4095 + 1) = (enumerate pos).drop (4096 * (k + 1) + 1) := by
      rw [List.drop_drop, show 4096 * k + 1 + (4095 + 1) = 4096 * (k + 1) + 1 by omega]
    have hmono' : ∀ j, 4096 * k + j < pos.size → pos[4096 * k]?.getD 0 ≤ pos[4096 * k + j]?.getD 0 :=
      fun j hj => hmono _ _ (Nat.le_add_right _ _) hj
    obtain ⟨lim1, hlim, h1, h1', h1'', hc, h2'⟩ := ss_limit len pos hmono hle k hk'
    have cl := enumerate_congr pos hc
    have cs := enumerate_congr pos (ss_short_end h1' hc)
    have stepL := sbStep_long len pos X k
    have stepS := sbStep_short len pos X k
    rw [← h1] at stepL stepS
    clear hc hk h1
    simp only [SbLists.toSup, hs, Option.isSome_some, if_true, unwrapM, bind_ok, hns, hsi,
      push_ofList_eq m X.S _ (by omega)]
    refine sat_bind (sat_eq.2 (?_ : _ = ok (lim1, sbBound len pos.toList (k + 1)))) (fun t12 ht => ?_)
    · generalize (enumerate pos)[4096 * (k + 1)]? = o at hlim
      cases o <;> exact congrArg ok hlim
    subst ht
    simp only [subM_ok h2', bind_ok]
    by_cases hlong : sbBound len pos.toList (k + 1) - pos[4096 * k]?.getD 0 ≥ log4 len
    · simp only [hlong, decide_true, if_true, IntVec.ofList_len,
        mulM_ok (m := m) (show 2 * X.L.length < U64 by omega), bind_ok,
        push_ofList_eq m (X.S ++ [pos[4096 * k]?.getD 0]) _ (by rw [List.length_append, List.length_singleton]; omega),
        subM_ok h1', bind_assoc]
      -- a long superblock: item `4096 k + j` is next, `long` has the model's first `j` new items
      refine for_sat (fun j (t : List (Nat × Nat) × SelSup × Option (Nat × Nat)) =>
          t.1 = (enumerate pos).drop (4096 * k + j + 1) ∧ t.2.2 = (enumerate pos)[4096 * k + j]? ∧
          t.2.1 = ⟨IntVec.ofList 64 (X.S ++ [pos[4096 * k]?.getD 0] ++ [2 * X.L.length]),
            IntVec.ofList 64 (X.L ++ (List.range j).map fun j =>
              pos[4096 * k + j]?.getD 0 - pos[4096 * k]?.getD 0), IntVec.ofList 64 X.H⟩) (Nat.zero_le _) _ _
        (fun j t _ hj hJ => ?_) (fun t _ => ?_)
        (by exact ⟨rfl, hs.symm, by rw [List.range_zero, List.map_nil, List.append_nil]⟩)
        (fun t hJ => ?_)
      · obtain ⟨it, r, v⟩ := t
        obtain ⟨rfl, rfl, rfl⟩ := hJ
        have hlt : 4096 * k + j < pos.size := by omega
        simp only [hj, decide_true, if_true, enumerate_lt pos hlt, bind_ok, subM_ok (hmono' j hlt),
          push_ofList_eq m (X.L ++ (List.range j).map fun j => pos[4096 * k + j]?.getD 0 - pos[4096 * k]?.getD 0) _
            (by rw [List.length_append, List.length_map, List.length_range]; omega), pure_eq]
        exact sat_next ⟨rfl, List.tail_drop, by rw [List.head?_drop]; rfl,
          by rw [map_range_succ, ← List.append_assoc]⟩
      · simp only [Nat.lt_irrefl, decide_false, Bool.false_eq_true, if_false]; rfl
      · obtain ⟨it, r, v⟩ := t
        obtain ⟨rfl, rfl, rfl⟩ := hJ
        rw [Nat.add_sub_cancel' h1']
        simp only [bind_ok, pure_eq, cl.1, cl.2]
        exact sat_next ⟨rfl, rfl, rfl, rfl, by rw [stepL hlong]⟩
    · simp only [hlong, decide_false, Bool.false_eq_true, if_false, IntVec.ofList_len,
        mulM_ok (m := m) (show 2 * X.H.length < U64 by omega),
        addM_ok (m := m) (show 2 * X.H.length + 1 < U64 by omega), bind_ok,
        push_ofList_eq m (X.S ++ [pos[4096 * k]?.getD 0]) _ (by rw [List.length_append, List.length_singleton]; omega),
        subM_ok h1',
        addM_ok (m := m) (show lim1 - 4096 * k + 64 < U64 by omega),
        subM_ok (m := m) (show 1 ≤ lim1 - 4096 * k + 64 by omega), gDiv_ok _ (show 64 ≠ 0 by decide),
        show lim1 - 4096 * k + 64 - 1 = lim1 - 4096 * k + 63 by omega, bind_assoc]
      -- a short superblock: item `4096 k + 64 b` is next, `short` has the model's first `b` new items
      refine for_sat (fun b (t : List (Nat × Nat) × SelSup × Option (Nat × Nat)) =>
          t.1 = (enumerate pos).drop (4096 * k + 64 * b + 1) ∧ t.2.2 = (enumerate pos)[4096 * k + 64 * b]? ∧
          t.2.1 = ⟨IntVec.ofList 64 (X.S ++ [pos[4096 * k]?.getD 0] ++ [2 * X.H.length + 1]), IntVec.ofList 64 X.L,
            IntVec.ofList 64 (X.H ++ (List.range b).map fun b =>
              pos[4096 * k + 64 * b]?.getD 0 - pos[4096 * k]?.getD 0)⟩) (Nat.zero_le _) _ _
        (fun b t _ hb hJ => ?_) (fun t _ => ?_)
        (by exact ⟨rfl, hs.symm, by rw [List.range_zero, List.map_nil, List.append_nil]⟩)
        (fun t hJ => ?_)
      · obtain ⟨it, r, v⟩ := t
        obtain ⟨rfl, rfl, rfl⟩ := hJ
        have hlt : 4096 * k + 64 * b < pos.size := by omega
        simp only [hb, decide_true, if_true, enumerate_lt pos hlt, bind_ok, subM_ok (hmono' (64 * b) hlt),
          push_ofList_eq m (X.H ++ (List.range b).map fun b => pos[4096 * k + 64 * b]?.getD 0 - pos[4096 * k]?.getD 0) _
            (by rw [List.length_append, List.length_map, List.length_range]; omega), pure_eq]
        refine sat_next ⟨rfl, ?_, ?_, by rw [map_range_succ, ← List.append_assoc]⟩
        · rw [List.drop_drop, show 4096 * k + 64 * b + 1 + (63 + 1) = 4096 * k + 64 * (b + 1) + 1 by omega]
        · rw [List.head?_drop, List.getElem?_drop,
            show 4096 * k + 64 * b + 1 + 63 = 4096 * k + 64 * (b + 1) by omega]
      · simp only [Nat.lt_irrefl, decide_false, Bool.false_eq_true, if_false]; rfl
      · obtain ⟨it, r, v⟩ := t
        obtain ⟨rfl, rfl, rfl⟩ := hJ
        simp only [bind_ok, pure_eq, cs.1, cs.2]
        exact sat_next ⟨rfl, rfl, rfl, rfl, by rw [stepS hlong]⟩
  · obtain ⟨iter, R, sample, sample_iter, value⟩ := s
    obtain ⟨_, hsample, _⟩ := hI
    simp only at hsample
    rw [enumerate_ge pos (show pos.size ≤ 4096 * ((pos.size + 4095) / 4096) by omega)] at hsample
    subst hsample
    rfl
  · obtain ⟨iter, R, sample, sample_iter, value⟩ := s
    obtain ⟨_, _, _, _, rfl⟩ := hI
    obtain ⟨hS, -, hL2, -, hH2⟩ := sbLists_room len pos ((pos.size + 4095) / 4096) (by omega)
    rw [SelSup.build_eq_lists]
    generalize sbLists len pos.toList ((pos.size + 4095) / 4096) = X at hS hL2 hH2 ⊢
    simp only [SbLists.toSup, pack_ofList_eq m X.S (by omega), pack_ofList_eq m X.L (by omega),
      pack_ofList_eq m X.H (by omega), bind_ok, pure_eq]
    exact sat_ok rfl

/-- positions given as a strictly ascending array below `len` (the hypotheses of `build_selValid`); then
`ones ≤ len`, and one bound on `len` is enough -/
theorem select_support_new_eq (m : Mode) (len : Nat) (pos : Array Nat) (hs : pos.toList.Pairwise (· < ·))
    (hlt : ∀ x, x ∈ pos.toList → x < len) (hlen : len * 64 + 127 < U64) :
    gen_SelectSupport_new m len pos.size (enumerate pos) = ok (SelSup.build len pos) := by
  have key : ∀ i, i < pos.size → pos.toList[i]? = some (pos[i]?.getD 0) := by
    intro i hi; simp [hi]
  have hsz := sorted_length_le hs len hlt
  rw [Array.length_toList] at hsz
  apply select_support_new_eq_of m len pos
  · intro i j hij hj
    exact sorted_get_le hs (key i (by omega)) (key j hj) hij
  · intro i hi
    exact Nat.le_of_lt (hlt _ (List.mem_of_getElem? (key i hi)))
  · omega

/-- every bitvector of fewer than 2^57 bits -/
theorem select_support_new_eq_small (m : Mode) (len : Nat) (pos : Array Nat) (hs : pos.toList.Pairwise (· < ·))
    (hlt : ∀ x, x ∈ pos.toList → x < len) (hlen : len < 2 ^ 57) :
    gen_SelectSupport_new m len pos.size (enumerate pos) = ok (SelSup.build len pos) :=
  select_support_new_eq m len pos hs hlt (by rw [U64_eq]; omega)

/-- the positions of the set bits (`tr = ident`, `select`) or of the unset bits (`tr = compl`, `select_zero`) of a
vector: the hypotheses on the positions hold -/
theorem select_support_new_positions (m : Mode) (tr : Tr) (v : RawVec) (hlen : v.len * 64 + 127 < U64) :
    gen_SelectSupport_new m v.len (positionsT tr v).size (enumerate (positionsT tr v)) =
      ok (SelSup.build v.len (positionsT tr v)) := by
  apply select_support_new_eq m v.len _ _ _ hlen
  · rw [positionsT_toList]; exact onesPos_sorted tr v
  · rw [positionsT_toList]; exact onesPos_mem_lt tr v

/-! ### the hypotheses are needed; the theorems are not vacuous -/

/-- `hwf` of `int_pack_eq`: on a vector whose buffer is shorter than `len * width` the code's `get` panics (index),
the model's total reader yields zeros -/
theorem int_pack_ne_wf :
    gen_IntVector_pack .checked ⟨1, 8, ⟨0, #[]⟩⟩ = fault (.panic .index) ∧
    (IntVec.pack ⟨1, 8, ⟨0, #[]⟩⟩).width = 1 := by decide

/-- `hmono`: a position below the start of its (long) superblock: `value.unwrap().1 - start.1` underflows (a panic
with overflow checks on, a wrapped 64-bit value without), the model subtracts in `Nat`.  Not an output of `one_iter`. -/
theorem select_support_new_ne_mono :
    gen_SelectSupport_new .checked 131072 2 (enumerate #[1, 0]) = fault (.panic .overflow) ∧
    (SelSup.build 131072 #[1, 0]).long.items = [0, 0] ∧
    (gen_SelectSupport_new .wrapping 131072 2 (enumerate #[1, 0])).toOption.map (·.long.items) =
      some [0, 2 ^ 64 - 1] :=
  ⟨by decide +kernel, by decide +kernel, by decide +kernel⟩

/-- `hle`: a position beyond `len`: `limit.1 - start.1` underflows -/
theorem select_support_new_ne_le :
    gen_SelectSupport_new .checked 3 1 (enumerate #[5]) = fault (.panic .overflow) ∧
    (SelSup.build 3 #[5]).short.items = [0] := by decide +kernel

/-- evaluation of both sides: the example of the documentation (one short superblock whose 5 items are not a multiple
of 64: after its only block `iter.nth(63)` runs off the end, `value = None`, and the outer loop ends because
`next_sample = None`), and a long superblock -/
theorem select_support_new_examples :
    gen_SelectSupport_new .checked 11 5 (enumerate #[1, 2, 4, 6, 7]) = ok (SelSup.build 11 #[1, 2, 4, 6, 7]) ∧
    (SelSup.build 11 #[1, 2, 4, 6, 7]).samples.items = [1, 1] ∧
    (SelSup.build 11 #[1, 2, 4, 6, 7]).short.items = [0] ∧
    gen_SelectSupport_new .checked 131072 3 (enumerate #[7, 9, 100000]) = ok (SelSup.build 131072 #[7, 9, 100000]) ∧
    (SelSup.build 131072 #[7, 9, 100000]).samples.items = [7, 0] ∧
    (SelSup.build 131072 #[7, 9, 100000]).long.items = [0, 2, 99993] :=
  ⟨by decide +kernel, by decide +kernel, by decide +kernel, by decide +kernel, by decide +kernel, by decide +kernel⟩

end Sds.GenEq
