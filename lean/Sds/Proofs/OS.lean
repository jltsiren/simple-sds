/-
Proofs/OS: the address-space effect of `MemoryMap::new` followed by `drop`.
With the length passed to `munmap` in BYTES (multiplier 8) every mapping is released, for every file
size and any number of cycles; with the length in ELEMENTS (multiplier 1, the code as first written)
pages are leaked exactly when the file is larger than one page.
-/
import Sds.Model.Mapper

namespace Sds
open Outcome

/-- existing mappings lie below the next page the kernel hands out -/
def AddrSpace.WF (s : AddrSpace) : Prop := ∀ pk ∈ s.mapped, pk.1 + pk.2 ≤ s.nextPage

theorem AddrSpace.WF_of_nil {s : AddrSpace} (h : s.mapped = []) : s.WF := by
  intro pk hpk; rw [h] at hpk; cases hpk

/-- what `munmap(page, n pages)` does to one mapping -/
def cut (page n : Nat) (pk : Nat × Nat) : List (Nat × Nat) :=
  let lo := max pk.1 page
  let hi := min (pk.1 + pk.2) (page + n)
  if lo ≥ hi then [pk] else
    (if pk.1 < lo then [(pk.1, lo - pk.1)] else []) ++
      (if hi < pk.1 + pk.2 then [(hi, pk.1 + pk.2 - hi)] else [])

theorem sysMunmap_eq (s : AddrSpace) (page lenBytes : Nat) (h : lenBytes ≠ 0) :
    sysMunmap s page lenBytes =
      { s with mapped := s.mapped.flatMap (cut page ((lenBytes + PAGE - 1) / PAGE)) } := by
  simp only [sysMunmap, h, if_false]
  rfl

theorem cut_below (page n : Nat) (pk : Nat × Nat) (h : pk.1 + pk.2 ≤ page) : cut page n pk = [pk] := by
  unfold cut
  have : max pk.1 page ≥ min (pk.1 + pk.2) (page + n) := by omega
  simp only [this, if_true]

theorem flatMap_cut_below (page n : Nat) (l : List (Nat × Nat)) (h : ∀ pk ∈ l, pk.1 + pk.2 ≤ page) :
    l.flatMap (cut page n) = l := by
  induction l with
  | nil => rfl
  | cons a l ih =>
    rw [List.flatMap_cons, cut_below page n a (h a (List.mem_cons_self ..)),
      ih (fun pk hpk => h pk (List.mem_cons_of_mem _ hpk))]
    rfl

/-- unmapping `n` pages from the start of a mapping of `k` pages leaves the last `k - n` of them -/
theorem cut_start (page n k : Nat) (hn : 0 < n) (hk : 0 < k) :
    cut page n (page, k) = if k ≤ n then [] else [(page + n, k - n)] := by
  unfold cut
  simp only []
  rw [Nat.max_self, Nat.add_min_add_left, if_neg (by omega), if_neg (Nat.lt_irrefl _), List.nil_append]
  by_cases h : k ≤ n
  · rw [Nat.min_eq_left h, if_neg (Nat.lt_irrefl _), if_pos h]
  · rw [Nat.min_eq_right (by omega), if_pos (by omega), if_neg h, Nat.add_sub_add_left]

/-! ### `new` -/

theorem mmapNewSpec_zero (s : AddrSpace) : mmapNewSpec s 0 = (s, fault (.err .other)) := by
  simp [mmapNewSpec, sysMmap]

theorem mmapNewImpl_zero (s : AddrSpace) : mmapNewImpl s 0 = (s, ok ⟨.failed, 0⟩) := by
  simp [mmapNewImpl, sysMmap]

/-- the as-coded constructor accepts the empty file with the MAP_FAILED sentinel as its pointer -/
theorem mmapNewImpl_zero_ptr (s : AddrSpace) :
    ∃ mm, (mmapNewImpl s 0).2 = ok mm ∧ mm.ptr = .failed ∧ mm.lenElems = 0 :=
  ⟨⟨.failed, 0⟩, by rw [mmapNewImpl_zero], rfl, rfl⟩

theorem mmapNew_zero_default :
    mmapNewSpec {} 0 = ({}, fault (.err .other)) ∧ mmapNewImpl {} 0 = ({}, ok ⟨.failed, 0⟩) := by
  decide

theorem mmapNewSpec_unaligned (s : AddrSpace) (fileBytes : Nat) (h : fileBytes % 8 ≠ 0) :
    mmapNewSpec s fileBytes = (s, fault (.err .other)) := by
  simp [mmapNewSpec, h]

theorem mmapNewImpl_unaligned (s : AddrSpace) (fileBytes : Nat) (h : fileBytes % 8 ≠ 0) :
    mmapNewImpl s fileBytes = (s, fault (.err .other)) := by
  simp [mmapNewImpl, h]

/-- the address space after a successful `mmap` of `fileBytes` bytes -/
def afterMap (s : AddrSpace) (fileBytes : Nat) : AddrSpace :=
  { mapped := (s.nextPage, (fileBytes + PAGE - 1) / PAGE) :: s.mapped
    nextPage := s.nextPage + (fileBytes + PAGE - 1) / PAGE + 1 }

theorem mmapNewSpec_ok (s : AddrSpace) (fileBytes : Nat) (h8 : fileBytes % 8 = 0) (hpos : 0 < fileBytes) :
    mmapNewSpec s fileBytes = (afterMap s fileBytes, ok ⟨.addr s.nextPage, fileBytes / 8⟩) := by
  have h0 : fileBytes ≠ 0 := by omega
  simp [mmapNewSpec, sysMmap, h8, h0, afterMap]

theorem mmapNewImpl_ok (s : AddrSpace) (fileBytes : Nat) (h8 : fileBytes % 8 = 0) (hpos : 0 < fileBytes) :
    mmapNewImpl s fileBytes = (afterMap s fileBytes, ok ⟨.addr s.nextPage, fileBytes / 8⟩) := by
  have h0 : fileBytes ≠ 0 := by omega
  simp [mmapNewImpl, sysMmap, h8, h0, afterMap]

/-- on non-empty files of whole elements the as-coded and the specified constructor agree -/
theorem mmapNewImpl_eq_spec (s : AddrSpace) (fileBytes : Nat) (h : fileBytes ≠ 0) :
    mmapNewImpl s fileBytes = mmapNewSpec s fileBytes := by
  by_cases h8 : fileBytes % 8 = 0
  · rw [mmapNewImpl_ok s _ h8 (by omega), mmapNewSpec_ok s _ h8 (by omega)]
  · rw [mmapNewImpl_unaligned s _ h8, mmapNewSpec_unaligned s _ h8]

theorem mmapNewSpec_ok_lenElems (s : AddrSpace) (fileBytes : Nat) (h8 : fileBytes % 8 = 0)
    (hpos : 0 < fileBytes) :
    ∃ mm, (mmapNewSpec s fileBytes).2 = ok mm ∧ (mmapNewImpl s fileBytes).2 = ok mm ∧
      mm.lenElems = fileBytes / 8 ∧ mm.ptr = .addr s.nextPage :=
  ⟨_, by rw [mmapNewSpec_ok s _ h8 hpos], by rw [mmapNewImpl_ok s _ h8 hpos], rfl, rfl⟩

/-- inversion: a successful specified `new` -/
theorem mmapNewSpec_inv {s s' : AddrSpace} {fileBytes : Nat} {mm : MMap}
    (h : mmapNewSpec s fileBytes = (s', ok mm)) :
    fileBytes % 8 = 0 ∧ 0 < fileBytes ∧ s' = afterMap s fileBytes ∧
      mm = ⟨.addr s.nextPage, fileBytes / 8⟩ := by
  by_cases h8 : fileBytes % 8 = 0
  · by_cases h0 : fileBytes = 0
    · subst h0; rw [mmapNewSpec_zero] at h; simp at h
    · rw [mmapNewSpec_ok s _ h8 (by omega)] at h
      simp only [Prod.mk.injEq, ok.injEq] at h
      exact ⟨h8, by omega, h.1.symm, h.2.symm⟩
  · rw [mmapNewSpec_unaligned s _ h8] at h; simp at h

/-! ### map, then drop -/

/-- **map, then drop with any multiplier**: the mapping of `k = ⌈fileBytes / PAGE⌉` pages loses its first
`n = ⌈elements · bytesPerElem / PAGE⌉` pages; the other mappings are untouched -/
theorem drop_afterMap (b : Nat) (s : AddrSpace) (fileBytes : Nat) (hb : 0 < b) (h8 : 8 ≤ fileBytes)
    (hwf : s.WF) :
    mmapDrop b (afterMap s fileBytes) ⟨.addr s.nextPage, fileBytes / 8⟩ =
      { mapped :=
          (if (fileBytes + PAGE - 1) / PAGE ≤ (fileBytes / 8 * b + PAGE - 1) / PAGE then []
            else [(s.nextPage + (fileBytes / 8 * b + PAGE - 1) / PAGE,
              (fileBytes + PAGE - 1) / PAGE - (fileBytes / 8 * b + PAGE - 1) / PAGE)]) ++ s.mapped
        nextPage := s.nextPage + (fileBytes + PAGE - 1) / PAGE + 1 } := by
  have he : 0 < fileBytes / 8 * b := Nat.mul_pos (Nat.div_pos h8 (by decide)) hb
  have hn : 0 < (fileBytes / 8 * b + PAGE - 1) / PAGE := Nat.div_pos (by unfold PAGE; omega) (by decide)
  have hk : 0 < (fileBytes + PAGE - 1) / PAGE := Nat.div_pos (by unfold PAGE; omega) (by decide)
  simp only [mmapDrop]
  rw [sysMunmap_eq _ _ _ (by omega)]
  simp only [afterMap, List.flatMap_cons, cut_start _ _ _ hn hk, flatMap_cut_below _ _ _ hwf]

/-- the pages still mapped after the drop: the `k - n` that were not reached -/
theorem pagesMapped_drop (b : Nat) (s : AddrSpace) (fileBytes : Nat) (hb : 0 < b) (h8 : 8 ≤ fileBytes)
    (hwf : s.WF) :
    pagesMapped (mmapDrop b (afterMap s fileBytes) ⟨.addr s.nextPage, fileBytes / 8⟩) =
      (fileBytes + PAGE - 1) / PAGE - (fileBytes / 8 * b + PAGE - 1) / PAGE + pagesMapped s := by
  rw [drop_afterMap b s fileBytes hb h8 hwf]
  -- as variables, so that no step below makes the kernel evaluate a division
  generalize (fileBytes + PAGE - 1) / PAGE = k
  generalize (fileBytes / 8 * b + PAGE - 1) / PAGE = n
  by_cases h : k ≤ n
  · rw [if_pos h, Nat.sub_eq_zero_of_le h, Nat.zero_add]; rfl
  · rw [if_neg h]; rfl

theorem pages_up (x : Nat) : (x + PAGE - 1) / PAGE = (x + 4095) / 4096 := by
  unfold PAGE; rw [Nat.add_sub_assoc (by decide : 1 ≤ 4096)]

/-! ### the length in bytes -/

theorem drop8_afterMap (s : AddrSpace) (fileBytes : Nat) (h8 : fileBytes % 8 = 0) (hpos : 0 < fileBytes)
    (hwf : s.WF) :
    mmapDrop 8 (afterMap s fileBytes) ⟨.addr s.nextPage, fileBytes / 8⟩ =
      { mapped := s.mapped, nextPage := s.nextPage + (fileBytes + PAGE - 1) / PAGE + 1 } := by
  rw [drop_afterMap 8 s fileBytes (by decide) (by omega) hwf, show fileBytes / 8 * 8 = fileBytes by omega,
    if_pos (Nat.le_refl _)]
  rfl

/-- general form: map-then-drop restores `mapped` exactly and keeps well-formedness -/
theorem drop_restores (s s' : AddrSpace) (fileBytes : Nat) (mm : MMap) (hwf : s.WF)
    (hnew : mmapNewSpec s fileBytes = (s', ok mm)) :
    (mmapDrop 8 s' mm).mapped = s.mapped ∧ (mmapDrop 8 s' mm).WF ∧
      s.nextPage ≤ (mmapDrop 8 s' mm).nextPage := by
  obtain ⟨h8, hpos, rfl, rfl⟩ := mmapNewSpec_inv hnew
  rw [drop8_afterMap s _ h8 hpos hwf]
  refine ⟨rfl, ?_, by simp only [PAGE]; omega⟩
  intro pk hpk
  have := hwf pk hpk
  simp only [PAGE] at hpk ⊢
  omega

theorem drop_restores_pages (s s' : AddrSpace) (fileBytes : Nat) (mm : MMap) (hwf : s.WF)
    (hnew : mmapNewSpec s fileBytes = (s', ok mm)) :
    pagesMapped (mmapDrop 8 s' mm) = pagesMapped s := by
  unfold pagesMapped; rw [(drop_restores s s' fileBytes mm hwf hnew).1]

/-- from an address space with nothing mapped, `new` then `drop` leaves nothing mapped,
for every file size -/
theorem drop_releases_all (s : AddrSpace) (fileBytes : Nat) (_h8 : fileBytes % 8 = 0) (hs : s.mapped = [])
    (s' : AddrSpace) (mm : MMap) (hnew : mmapNewSpec s fileBytes = (s', ok mm)) :
    pagesMapped (mmapDrop 8 s' mm) = 0 := by
  rw [drop_restores_pages s s' fileBytes mm (AddrSpace.WF_of_nil hs) hnew]
  simp [pagesMapped, hs]

/-- while the map is alive, exactly ⌈fileBytes / 4096⌉ more pages are mapped -/
theorem new_maps_pages (s s' : AddrSpace) (fileBytes : Nat) (mm : MMap)
    (hnew : mmapNewSpec s fileBytes = (s', ok mm)) :
    pagesMapped s' = (fileBytes + 4095) / 4096 + pagesMapped s := by
  obtain ⟨_, _, rfl, rfl⟩ := mmapNewSpec_inv hnew
  rw [← pages_up]
  rfl

/-! ### any number of cycles -/

/-- one `new; drop` cycle (a refused `new` leaves the address space as the kernel left it) -/
def mapCycle (bytesPerElem : Nat) (s : AddrSpace) (fileBytes : Nat) : AddrSpace :=
  match mmapNewSpec s fileBytes with
  | (s', ok mm) => mmapDrop bytesPerElem s' mm
  | (s', fault _) => s'

theorem mapCycle8_restores (s : AddrSpace) (fileBytes : Nat) (hwf : s.WF) :
    (mapCycle 8 s fileBytes).mapped = s.mapped ∧ (mapCycle 8 s fileBytes).WF := by
  unfold mapCycle
  by_cases h8 : fileBytes % 8 = 0
  · by_cases h0 : fileBytes = 0
    · subst h0; rw [mmapNewSpec_zero]; exact ⟨rfl, hwf⟩
    · have hnew := mmapNewSpec_ok s _ h8 (by omega)
      rw [hnew]
      have := drop_restores s _ fileBytes _ hwf hnew
      exact ⟨this.1, this.2.1⟩
  · rw [mmapNewSpec_unaligned s _ h8]; exact ⟨rfl, hwf⟩

/-- cycles over an arbitrary sequence of file sizes -/
theorem cycles_restore (sizes : List Nat) (s : AddrSpace) (hwf : s.WF) :
    (sizes.foldl (mapCycle 8) s).mapped = s.mapped ∧ (sizes.foldl (mapCycle 8) s).WF := by
  induction sizes generalizing s with
  | nil => exact ⟨rfl, hwf⟩
  | cons f fs ih =>
    have h1 := mapCycle8_restores s f hwf
    have h2 := ih (mapCycle 8 s f) h1.2
    rw [List.foldl_cons]
    exact ⟨h2.1.trans h1.1, h2.2⟩

theorem cycles_release_all (sizes : List Nat) :
    pagesMapped (sizes.foldl (mapCycle 8) {}) = 0 := by
  have := (cycles_restore sizes {} (AddrSpace.WF_of_nil rfl)).1
  unfold pagesMapped; rw [this]; rfl

/-- `n` cycles with the same file -/
def iterCycle (bytesPerElem fileBytes : Nat) : Nat → AddrSpace → AddrSpace
  | 0, s => s
  | n + 1, s => iterCycle bytesPerElem fileBytes n (mapCycle bytesPerElem s fileBytes)

theorem iterCycle_eq_foldl (b f n : Nat) (s : AddrSpace) :
    iterCycle b f n s = (List.replicate n f).foldl (mapCycle b) s := by
  induction n generalizing s with
  | zero => rfl
  | succ n ih => rw [iterCycle, ih, List.replicate_succ, List.foldl_cons]

/-- `n` cycles from the empty address space leave nothing mapped -/
theorem iter_cycles_release_all (fileBytes n : Nat) :
    pagesMapped (iterCycle 8 fileBytes n {}) = 0 := by
  rw [iterCycle_eq_foldl]; exact cycles_release_all _

/-! ### drop with the length in elements -/

/-- the elements of a file of more than one page fill fewer pages than its bytes -/
theorem pages_elems_lt (fileBytes : Nat) (hbig : 4096 < fileBytes) :
    (fileBytes / 8 + 4095) / 4096 < (fileBytes + 4095) / 4096 := by omega

/-- exactly: with the length in elements, this many pages of a file stay mapped -/
theorem drop_elements_pages (fileBytes : Nat) (hpos : 0 < fileBytes)
    (s' : AddrSpace) (mm : MMap) (hnew : mmapNewSpec {} fileBytes = (s', ok mm)) :
    pagesMapped (mmapDrop 1 s' mm) = (fileBytes + 4095) / 4096 - (fileBytes / 8 + 4095) / 4096 := by
  obtain ⟨h8, _, rfl, rfl⟩ := mmapNewSpec_inv hnew
  rw [pagesMapped_drop 1 {} fileBytes (by decide) (by omega) (AddrSpace.WF_of_nil rfl), Nat.mul_one,
    pages_up, pages_up]
  exact Nat.add_zero _

/-- with the length in elements, pages of every file larger than one page stay mapped … -/
theorem drop_elements_leaks (fileBytes : Nat) (h8 : fileBytes % 8 = 0) (hbig : 4096 < fileBytes)
    (s' : AddrSpace) (mm : MMap) (hnew : mmapNewSpec {} fileBytes = (s', ok mm)) :
    pagesMapped (mmapDrop 1 s' mm) > 0 := by
  rw [drop_elements_pages fileBytes (by omega) s' mm hnew]
  exact Nat.sub_pos_of_lt (pages_elems_lt fileBytes hbig)

/-- … exactly this many -/
theorem drop_elements_leak_count (fileBytes : Nat) (h8 : fileBytes % 8 = 0) (hbig : 4096 < fileBytes)
    (s' : AddrSpace) (mm : MMap) (hnew : mmapNewSpec {} fileBytes = (s', ok mm)) :
    pagesMapped (mmapDrop 1 s' mm) = (fileBytes + 4095) / 4096 - (fileBytes / 8 + 4095) / 4096 :=
  drop_elements_pages fileBytes (by omega) s' mm hnew

/-- … and nothing leaks for files of at most one page -/
theorem drop_elements_small_ok (fileBytes : Nat) (h8 : fileBytes % 8 = 0) (hpos : 0 < fileBytes)
    (hsmall : fileBytes ≤ 4096)
    (s' : AddrSpace) (mm : MMap) (hnew : mmapNewSpec {} fileBytes = (s', ok mm)) :
    pagesMapped (mmapDrop 1 s' mm) = 0 := by
  rw [drop_elements_pages fileBytes hpos s' mm hnew]
  have hk : (fileBytes + 4095) / 4096 < 2 := Nat.div_lt_of_lt_mul (by omega)
  have hn : 0 < (fileBytes / 8 + 4095) / 4096 := Nat.div_pos (by omega) (by decide)
  exact Nat.sub_eq_zero_of_le (Nat.le_trans (Nat.le_of_lt_succ hk) hn)

/-- the leak is the same with the as-coded constructor (it agrees with the spec on non-empty files) -/
theorem drop_elements_leaks_impl (fileBytes : Nat) (h8 : fileBytes % 8 = 0) (hbig : 4096 < fileBytes)
    (s' : AddrSpace) (mm : MMap) (hnew : mmapNewImpl {} fileBytes = (s', ok mm)) :
    pagesMapped (mmapDrop 1 s' mm) > 0 := by
  rw [mmapNewImpl_eq_spec _ _ (by omega)] at hnew
  exact drop_elements_leaks fileBytes h8 hbig s' mm hnew

/-- repeated cycles with the length in elements accumulate leaked pages -/
theorem iter_cycles_elements_leak_8192 :
    pagesMapped (iterCycle 1 8192 3 {}) = 3 := by decide

/-- concrete instance: a two-page file, one page is never released -/
theorem drop_elements_leaks_8192 :
    (match mmapNewSpec {} 8192 with
      | (s', ok mm) => pagesMapped (mmapDrop 1 s' mm)
      | (_, fault _) => 0) = 1 := by decide

theorem drop_bytes_ok_8192 :
    (match mmapNewSpec {} 8192 with
      | (s', ok mm) => pagesMapped (mmapDrop 8 s' mm)
      | (_, fault _) => 1) = 0 := by decide

theorem mapCycle_8192 : pagesMapped (mapCycle 1 {} 8192) = 1 ∧ pagesMapped (mapCycle 8 {} 8192) = 0 := by
  decide

/-- dropping the as-coded result for the empty file does nothing (`munmap` is never reached with a
valid address) -/
theorem drop_failed (b : Nat) (s : AddrSpace) (n : Nat) : mmapDrop b s ⟨.failed, n⟩ = s := rfl

end Sds
