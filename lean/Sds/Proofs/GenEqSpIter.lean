/-
Proofs/GenEqSpIter: the translated iterator over the set bits of the Elias–Fano vector (`Generated/FnsSpIter.lean`,
from `sparse_vector.rs`: `OneIter::next`, `size_hint`, `next_back`, `SparseVector::one_iter`, `select_iter`) computes
the hand-written model (`SpOneIter.nextQ`, `remaining`, `nextBackQ`, `SpOneIter.full`, `Sparse.selectIter`).

Where the two differ, and what is assumed:

* forward skip loop `while !high.get(next.high) { next.high += 1 }`: the code adds with the mode's arithmetic (`addM`),
  the model's `skipFwd` in `Nat`.  The addition is performed only after a *successful* read `high.get h`, and
  `BitVector.get` panics unless `h / 64 < data.size`; hence `h + 1 ≤ 64 * size`, and `64 * size < 2^64`
  (`hH`) makes the two agree.  The same bound covers the final `next.high + 1`.
* the final `next.low + 1`: performed after a successful `combine`, which reads `low.get next.low` and therefore
  asserts `next.low < low.len`; also `next.low < limit.low` on that path.  Either `low.len < 2^64` or
  `limit.low < 2^64` (both are `usize` fields in the code) is enough.
* `next_back`: the model subtracts with the mode's arithmetic as well — no hypothesis.
* `size_hint`: `limit.low - next.low` with `subM`; needs `next.low ≤ limit.low` (the iterator invariant).

Independently of the allocation of `high`: `sp_iter_next_eq_of_ok` (the model succeeds with a `usize` position ⇒ the
code returns the same) and `sp_iter_next_eq_enc_at` (`s.Encodes n w P`, iterator in a reachable state `IterAt`).

The hypotheses are necessary: `sp_iter_next_ne_low` (concrete, by `decide`), `sp_iter_size_hint_ne` (concrete),
`sp_iter_next_ne_high` (conditional: a counterexample needs `2^58` words and cannot be written down).
-/
import Sds.Generated.FnsSpIter
import Sds.Proofs.GenEqIdx
import Sds.Proofs.Sparse
set_option linter.unusedSimpArgs false
set_option linter.unusedVariables false

namespace Sds.GenEq
open Sds Outcome Generated


theorem sp_one_iter_eq (m : Mode) (s : Sparse) : gen_SparseVector_one_iter m s = ok (SpOneIter.full s) := rfl

/-- `SparseVector::select_iter`: no hypothesis -/
theorem sp_select_iter_eq (m : Mode) (s : Sparse) (r : Nat) :
    gen_SparseVector_select_iter m s r = s.selectIter m r := by
  unfold gen_SparseVector_select_iter Sparse.selectIter
  by_cases h : r ≥ s.countOnes
  · simp only [h, decide_true, if_true]; rfl
  · simp only [h, decide_false, Bool.false_eq_true, if_false, pos_eq]


/-- a successful read of `high` is inside the allocated words -/
theorem high_get_ok_lt {s : Sparse} {h : Nat} {b : Bool} (hg : s.high.get h = ok b) :
    h < s.high.data.data.size * 64 := by
  unfold BitVector.get RawVec.bitM at hg
  by_cases hlt : h / 64 < s.high.data.data.size
  · have := (Nat.div_lt_iff_lt_mul (by decide : 0 < 64)).mp hlt
    exact this
  · rw [if_neg hlt] at hg; cases hg

/-- a successful `combine` has read `low` inside its length -/
theorem combine_ok_lt {m : Mode} {s : Sparse} {p : Pos} {r : Nat × Nat} (h : s.combine m p = ok r) :
    p.low < s.low.len := by
  unfold Sparse.combine at h
  by_cases hlt : p.low < s.low.len
  · exact hlt
  · exfalso
    have hg : s.low.get p.low = fault (.panic .assert) := by unfold IntVec.get; rw [if_neg hlt]
    rw [hg] at h
    cases hh : (if s.width < 64 then do let d ← subM m p.high p.low; pure ((d <<< s.width) % U64) else pure 0 :
      Outcome Nat) with
    | fault f => rw [hh] at h; cases h
    | ok v => rw [hh] at h; cases h

/-! ### `next` -/

/-- `OneIter::next`, weakest form.  `hH`: the allocated words of `high` hold fewer than `2^64` bits;
`hL`: the increment of `next.low` — performed only when `next.low < limit.low` and after `combine` has asserted
`next.low < low.len` — does not overflow. -/
theorem sp_iter_next_eq' (m : Mode) (s : Sparse) (it : SpOneIter)
    (hH : s.high.data.data.size * 64 < U64)
    (hL : it.next.low < it.limit.low → it.next.low < s.low.len → it.next.low + 1 < U64) :
    gen_SparseOneIter_next m s it = SpOneIter.nextQ m s it := by
  unfold gen_SparseOneIter_next SpOneIter.nextQ
  by_cases h : it.next.low ≥ it.limit.low
  · simp only [h, decide_true, if_true]; rfl
  · simp only [h, decide_false, Bool.false_eq_true, if_false]
    refine loopM_ind _ _ (fun n (p : Pos) => SpOneIter.skipFwd s n p.high >>= _) (fun p => p.low = it.next.low)
      (fun _ => rfl) (fun n p hp R hR => ?_) _ _ rfl
    rw [SpOneIter.skipFwd]
    cases hb : s.high.get p.high with
    | fault f => rfl
    | ok b =>
      have hlt := high_get_ok_lt hb
      have ha : addM m p.high 1 = ok (p.high + 1) := addM_ok (by omega)
      cases b with
      | false => simp only [bind_ok, ha, Bool.not_false, if_true, Bool.false_eq_true, if_false]; exact hR _ hp
      | true =>
        simp only [bind_ok, pure_eq, Bool.not_true, Bool.false_eq_true, if_false, if_true, combine_eq]
        rw [← hp] at hL ⊢
        refine bind_congr_ok (x := s.combine m p) fun r hc => ?_
        rw [bind_of_ok _ ha, bind_of_ok _ (addM_ok (hL (hp ▸ Nat.lt_of_not_le h) (combine_ok_lt hc)))]

/-- `OneIter::next`, hypotheses on the vector only: the allocated words of `high` hold fewer than `2^64` bits and the
length of `low` is a `usize`. -/
theorem sp_iter_next_eq (m : Mode) (s : Sparse) (it : SpOneIter)
    (hH : s.high.data.data.size * 64 < U64) (hL : s.low.len < U64) :
    gen_SparseOneIter_next m s it = SpOneIter.nextQ m s it :=
  sp_iter_next_eq' m s it hH (fun _ h => Nat.lt_of_le_of_lt h hL)

/-- the same with the bound on the iterator's limit instead of the length of `low` -/
theorem sp_iter_next_eq_of_limit (m : Mode) (s : Sparse) (it : SpOneIter)
    (hH : s.high.data.data.size * 64 < U64) (hL : it.limit.low < U64) :
    gen_SparseOneIter_next m s it = SpOneIter.nextQ m s it :=
  sp_iter_next_eq' m s it hH (fun h _ => Nat.lt_of_le_of_lt h hL)

/-- for a well-formed `high` (exact word count) the bound on the words is a bound on its length -/
theorem high_size_of_wf {s : Sparse} (hwf : s.high.data.WF) (hlen : s.high.len + 63 < U64) :
    s.high.data.data.size * 64 < U64 := by
  have h1 := hwf.1
  have h2 : s.high.len = s.high.data.len := rfl
  rw [h1]; omega

theorem sp_iter_next_eq_wf (m : Mode) (s : Sparse) (it : SpOneIter)
    (hwf : s.high.data.WF) (hlen : s.high.len + 63 < U64) (hL : s.low.len < U64) :
    gen_SparseOneIter_next m s it = SpOneIter.nextQ m s it :=
  sp_iter_next_eq m s it (high_size_of_wf hwf hlen) hL

/-- for an encoding of `P`: `low.len = P.length < 2^63`; the bound on `high` is about the allocation, which
`Encodes` (an interface to `high` through `len` / `get` below `len` / `select`) does not speak about -/
theorem sp_iter_next_eq_enc (m : Mode) {s : Sparse} {n w : Nat} {P : List Nat} (hs : s.Encodes n w P)
    (it : SpOneIter) (hH : s.high.data.data.size * 64 < U64) :
    gen_SparseOneIter_next m s it = SpOneIter.nextQ m s it :=
  sp_iter_next_eq m s it hH (by have := hs.low_len; have := hs.m_lt; rw [U64_eq]; omega)

theorem sp_iter_next_eq_enc_wf (m : Mode) {s : Sparse} {n w : Nat} {P : List Nat} (hs : s.Encodes n w P)
    (it : SpOneIter) (hwf : s.high.data.WF) (hlen : s.high.len + 63 < U64) :
    gen_SparseOneIter_next m s it = SpOneIter.nextQ m s it :=
  sp_iter_next_eq_enc m hs it (high_size_of_wf hwf hlen)

/-! ### `next` whenever the model's result is representable

No assumption on the allocation of `high`: if the model returns an item and the new `next` fits in `usize`, the code
returns the same (the positions visited by the skip loop are below the one found). -/

theorem skipFwd_ge (s : Sparse) :
    ∀ (fuel h h' : Nat), SpOneIter.skipFwd s fuel h = ok h' → h ≤ h' := by
  intro fuel
  induction fuel with
  | zero => intro h h' e; cases e
  | succ n ih =>
    intro h h' e
    rw [SpOneIter.skipFwd] at e
    cases hb : s.high.get h with
    | fault f => rw [hb] at e; cases e
    | ok b =>
      rw [hb] at e
      cases b with
      | true => simp only [bind_ok, if_true, pure_eq] at e; cases e; exact Nat.le_refl _
      | false =>
        simp only [bind_ok, Bool.false_eq_true, if_false] at e
        have := ih _ _ e
        omega

theorem sp_iter_next_eq_of_ok (m : Mode) (s : Sparse) (it it' : SpOneIter) (o : Option (Nat × Nat))
    (hq : SpOneIter.nextQ m s it = ok (o, it'))
    (hh : o ≠ none → it'.next.high < U64) (hl : o ≠ none → it'.next.low < U64) :
    gen_SparseOneIter_next m s it = ok (o, it') := by
  rw [← hq]
  unfold gen_SparseOneIter_next
  unfold SpOneIter.nextQ at hq ⊢
  by_cases h : it.next.low ≥ it.limit.low
  · simp only [h, decide_true, if_true]; rfl
  · rw [if_neg h] at hq
    simp only [h, decide_false, Bool.false_eq_true, if_false]
    obtain ⟨h', hk, hq⟩ := Outcome.bind_eq_ok hq
    obtain ⟨r, hc, hq⟩ := Outcome.bind_eq_ok hq
    cases hq
    have hh' : h' + 1 < U64 := hh nofun
    have hl' : it.next.low + 1 < U64 := hl nofun
    -- the skip loop only visits positions up to the one found
    refine loopM_ind_fuel _ _ (fun n (p : Pos) => SpOneIter.skipFwd s n p.high >>= _)
      (fun n p => p.low = it.next.low ∧ SpOneIter.skipFwd s n p.high = ok h') (fun _ => rfl)
      (fun n p ⟨hp, hk⟩ R hR => ?_) _ _ ⟨rfl, hk⟩
    rw [SpOneIter.skipFwd] at hk ⊢
    cases hb : s.high.get p.high with
    | fault f => rfl
    | ok b =>
      rw [hb, bind_ok] at hk
      cases b with
      | false =>
        have ha : addM m p.high 1 = ok (p.high + 1) :=
          addM_ok (Nat.lt_of_le_of_lt (skipFwd_ge s _ _ _ hk) (Nat.lt_of_succ_lt hh'))
        simp only [bind_ok, ha, Bool.not_false, if_true, Bool.false_eq_true, if_false]
        exact hR _ ⟨hp, hk⟩
      | true =>
        cases hk
        simp only [bind_ok, pure_eq, Bool.not_true, Bool.false_eq_true, if_false, if_true, combine_eq]
        rw [← hp] at hl' ⊢
        refine bind_congr (x := s.combine m p) fun r => ?_
        rw [bind_of_ok _ (addM_ok hh'), bind_of_ok _ (addM_ok hl')]

/-- for an encoding of `P` and an iterator in a reachable state (`IterAt`: standing between the ones of ranks `r - 1`
and `r`), `next` of the code is `next` of the model — nothing is assumed about the allocation of `high`, the skip loop
stops at the one of rank `r`, below `high.len < 2^64` -/
theorem sp_iter_next_eq_enc_at (m : Mode) {s : Sparse} {n w : Nat} {P : List Nat} (hs : s.Encodes n w P)
    (r : Nat) (it : SpOneIter) (hit : IterAt s w P r it) :
    gen_SparseOneIter_next m s it = SpOneIter.nextQ m s it := by
  by_cases hr : r < P.length
  · have hq := (nextQ_ok hs m r it hit hr).1
    rw [hq]
    have h1 := hs.pos_lt r hr
    have h2 := hs.high_lt
    have h3 := hs.m_lt
    have hU := U64_eq
    exact sp_iter_next_eq_of_ok m s it _ _ hq (fun _ => by simp only; omega) (fun _ => by simp only; omega)
  · have e : r = P.length := by have := hit.r_le; omega
    subst e
    have hq := nextQ_none hs m it hit
    rw [hq]
    exact sp_iter_next_eq_of_ok m s it _ _ hq (fun h => absurd rfl h) (fun h => absurd rfl h)

/-! ### `next_back` -/

theorem sp_iter_next_back_eq (m : Mode) (s : Sparse) (it : SpOneIter) :
    gen_SparseOneIter_next_back m s it = SpOneIter.nextBackQ m s it := by
  unfold gen_SparseOneIter_next_back SpOneIter.nextBackQ
  by_cases h : it.next.low ≥ it.limit.low
  · simp only [h, decide_true, if_true]; rfl
  · simp only [h, decide_false, Bool.false_eq_true, if_false]
    refine bind_congr fun h0 => bind_congr fun l0 => ?_
    refine loopM_ind _ _ (fun n (p : Pos) => SpOneIter.skipBwd m s n p.high >>= _) (fun p => p.low = l0)
      (fun _ => rfl) (fun n p hp R hR => ?_) _ ⟨h0, l0⟩ rfl
    rw [SpOneIter.skipBwd]
    cases s.high.get p.high with
    | fault f => rfl
    | ok b =>
      cases b with
      | false =>
        simp only [bind_ok, Bool.not_false, if_true, Bool.false_eq_true, if_false, bind_assoc]
        exact bind_congr fun h' => hR _ hp
      | true =>
        simp only [bind_ok, pure_eq, Bool.not_true, Bool.false_eq_true, if_false, if_true, combine_eq]
        rw [← hp]

/-! ### `size_hint` -/

/-- `OneIter::size_hint` under the iterator invariant `next.low ≤ limit.low` -/
theorem sp_iter_size_hint_eq (m : Mode) (s : Sparse) (it : SpOneIter) (h : it.next.low ≤ it.limit.low) :
    gen_SparseOneIter_size_hint m s it = ok (it.remaining, some it.remaining) := by
  unfold gen_SparseOneIter_size_hint SpOneIter.remaining
  rw [subM_ok h]; rfl

/-! ### the hypotheses are necessary -/

/-- a vector whose `low` claims `2^64` elements (not a `usize`; width 64, so that `combine` does not subtract), and
the iterator standing at its last element -/
def cexS : Sparse := ⟨1, ⟨1, ⟨1, #[1#64]⟩, none, none, none⟩, ⟨U64, 64, ⟨0, #[]⟩⟩⟩
def cexIt : SpOneIter := ⟨⟨0, U64 - 1⟩, ⟨1, U64⟩⟩

/-- without the bound on `low.len` / `limit.low` the statement is false: the code's `next.low + 1` overflows
(panics, or wraps to 0), the model's does not.  The state is not representable in the code (`low.len = 2^64`). -/
theorem sp_iter_next_ne_low :
    cexS.high.data.data.size * 64 < U64 ∧
    gen_SparseOneIter_next .checked cexS cexIt = fault (.panic .overflow) ∧
    SpOneIter.nextQ .checked cexS cexIt = ok (some (U64 - 1, 0), ⟨⟨1, U64⟩, ⟨1, U64⟩⟩) ∧
    gen_SparseOneIter_next .wrapping cexS cexIt = ok (some (U64 - 1, 0), ⟨⟨1, 0⟩, ⟨1, U64⟩⟩) ∧
    SpOneIter.nextQ .wrapping cexS cexIt = ok (some (U64 - 1, 0), ⟨⟨1, U64⟩, ⟨1, U64⟩⟩) := by
  decide +kernel

/-- without `next.low ≤ limit.low` the subtraction of `size_hint` panics (wraps) -/
theorem sp_iter_size_hint_ne :
    gen_SparseOneIter_size_hint .checked cexS ⟨⟨0, 1⟩, ⟨0, 0⟩⟩ = fault (.panic .overflow) ∧
    gen_SparseOneIter_size_hint .wrapping cexS ⟨⟨0, 1⟩, ⟨0, 0⟩⟩ = ok (U64 - 1, some (U64 - 1)) ∧
    (⟨⟨0, 1⟩, ⟨0, 0⟩⟩ : SpOneIter).remaining = 0 := by
  decide +kernel

/-- `skipFwd` faults only by an index panic of `high.get` or by exhausting the fuel -/
theorem skipFwd_fault (s : Sparse) :
    ∀ (fuel h : Nat) (f : Fault), SpOneIter.skipFwd s fuel h = fault f → f = .fuel ∨ f = .panic .index := by
  intro fuel
  induction fuel with
  | zero => intro h f e; cases e; exact Or.inl rfl
  | succ n ih =>
    intro h f e
    rw [SpOneIter.skipFwd] at e
    cases hb : s.high.get h with
    | fault g =>
      rw [hb] at e
      unfold BitVector.get RawVec.bitM at hb
      by_cases hlt : h / 64 < s.high.data.data.size
      · rw [if_pos hlt] at hb; cases hb
      · rw [if_neg hlt] at hb; cases hb; cases e; exact Or.inr rfl
    | ok b =>
      rw [hb] at e
      cases b with
      | true => simp only [bind_ok, if_true, pure_eq] at e; cases e
      | false =>
        simp only [bind_ok, Bool.false_eq_true, if_false] at e
        exact ih _ _ e

/-- the bound on the words of `high` is necessary as well (a counterexample has `2^58` words and cannot be written
down): if the words of `high` hold exactly `2^64` bits, the last one clear, and the iterator stands on it, the code's
`high + 1` overflows — a panic with overflow checks — while the model goes on to position `2^64` and stops with
the index panic of `high.get` (or out of fuel). -/
theorem sp_iter_next_ne_high (s : Sparse) (it : SpOneIter)
    (hsz : s.high.data.data.size * 64 = U64) (hn : it.next.high = U64 - 1) (hlt : it.next.low < it.limit.low)
    (hbit : s.high.data.bit (U64 - 1) = false) :
    gen_SparseOneIter_next .checked s it = fault (.panic .overflow) ∧
    ∃ f, SpOneIter.nextQ .checked s it = fault f ∧ f ≠ .panic .overflow := by
  have hU : U64 = 18446744073709551616 := rfl
  have hg : s.high.get it.next.high = ok false := by
    unfold BitVector.get RawVec.bitM
    rw [hn, if_pos (by omega), hbit]
  have hg' : s.high.get (it.next.high + 1) = fault (.panic .index) := by
    unfold BitVector.get RawVec.bitM
    rw [hn, if_neg (by omega)]
  have ha : addM .checked it.next.high 1 = fault (.panic .overflow) := by rw [hn]; decide
  have hnl : ¬ it.next.low ≥ it.limit.low := Nat.not_le_of_lt hlt
  refine ⟨?_, ?_⟩
  · unfold gen_SparseOneIter_next
    simp only [hnl, decide_false, Bool.false_eq_true, if_false]
    rw [loopM_succ, hg, bind_ok]
    simp only [Bool.not_false, if_true, ha]
    rfl
  · unfold SpOneIter.nextQ
    rw [if_neg hnl]
    cases hk : SpOneIter.skipFwd s (s.high.len + 1) it.next.high with
    | ok h' =>
      exfalso
      rw [SpOneIter.skipFwd, hg] at hk
      simp only [bind_ok, Bool.false_eq_true, if_false] at hk
      cases hl : s.high.len with
      | zero => rw [hl] at hk; cases hk
      | succ k =>
        rw [hl, SpOneIter.skipFwd, hg'] at hk
        cases hk
    | fault f =>
      refine ⟨f, rfl, ?_⟩
      rcases skipFwd_fault s _ _ _ hk with rfl | rfl <;> exact fun h => by cases h

end Sds.GenEq

