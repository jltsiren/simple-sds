/-
Proofs/GenEqConstr3: the remaining constructors, as TRANSLATED from the source (Generated/FnsConstr3.lean), are equal to
the hand-written model definitions.

* `raw_new_eq : gen_RawVector_new m = ok RawVec.empty`.
* `raw_with_len_eq : gen_RawVector_with_len m len value = ok (RawVec.withLen len value)` under `len + 63 < U64`
  (`bits_to_words`; sharp: `raw_with_len_ne_len`).
* `bv_from_raw_eq : gen_BitVector_from_raw m v = ok (BitVector.ofRaw v)` under `64 * v.data.size < U64` (the bit counter of
  `count_ones`; `bv_from_raw_eq_of_size` from the exact word count and `len + 63 < U64`).
* `spb_get_params_eq` with `spWidth fw univ ones = if 0 < ones ∧ ones ≤ univ then fw else 1`, under `fw ≤ 64`,
  `univ < U64`, `ones + buckets < U64` (sharp: `spb_get_params_ne_fw`, `spb_get_params_ne_sum`).
* `spb_new_eq`, `spb_multiset_eq`: `gen … = (SparseBuilder.new/multiset (spWidth fw univ ones) univ ones).bind (ok ∘ spbR)`
  where `spbR b` is the Rust-layout builder of `b` (`(spbR b).toModel = b`, `(spbR b).data.high =
  BitVector.ofRaw RawVec.empty`), under `1 ≤ fw ≤ 64`, `univ < U64`, `ones + buckets + 63 < U64` (length of `high`),
  `ones * width + 63 < U64` (bit length of `low`).  `ones > universe` is the same `Err` on both sides for `new`; an
  overfull multiset gets width 1 on both sides.  `1 ≤ fw` is needed: `with_len(ones, 0, 0).unwrap()` PANICS while the
  model's constructor returns the `Err` of `IntVec.withLen` (`spb_new_ne_width0`, `spb_multiset_ne_width0`); the form
  valid for every `fw ≤ 64` is `spb_new_eq_any` / `spb_multiset_eq_any` (the model's `withLen` under `unwrapRes`).  The
  real `fw` is `ideal_width.max(1.0).round() ≥ 1`, so this is a totality artefact of the model, not a divergence.
* `sparse_try_from_eq : gen_SparseVector_try_from m b = b.toModel.build` under `64 * b.high.data.size < U64` (only used
  for a full builder: `sparse_try_from_eq'`).  A builder that is not full is `Err` on both sides.
-/
import Sds.Generated.FnsConstr3
import Sds.Proofs.GenFns
import Sds.Proofs.GenEqBits
import Sds.Proofs.GenEqVec
import Sds.Proofs.GenEqVec2
import Sds.Proofs.GenEqView
import Sds.Proofs.GenEqIdx
import Sds.Proofs.GenEqBuild
import Sds.Proofs.GenEqEnable
import Sds.Proofs.IntVec

namespace Sds.GenEq
open Sds Outcome Generated

theorem raw_new_eq (m : Mode) : gen_RawVector_new m = ok RawVec.empty := rfl

theorem raw_with_len_eq (m : Mode) (len : Nat) (value : Bool) (hl : len + 63 < U64) :
    gen_RawVector_with_len m len value = ok (RawVec.withLen len value) := by
  unfold gen_RawVector_with_len RawVec.withLen
  simp only [filler_value_eq, vbits_to_words_ok m len hl, Bind.bind, Outcome.bind]
  rw [raw_set_unused_bits_eq m _ false (by simp)]
  rfl

theorem bv_from_raw_eq (m : Mode) (v : RawVec) (h : 64 * v.data.size < U64) :
    gen_BitVector_from_raw m v = ok (BitVector.ofRaw v) := by
  unfold gen_BitVector_from_raw
  simp only [raw_count_ones_eq m v h, Bind.bind, Outcome.bind]
  rfl

theorem bv_from_raw_eq_of_size (m : Mode) (v : RawVec) (hs : v.data.size = (v.len + 63) / 64)
    (hl : v.len + 63 < U64) : gen_BitVector_from_raw m v = ok (BitVector.ofRaw v) :=
  bv_from_raw_eq m v (by omega)

/-- the low width the code chooses: the value `fw` of the f64 rule for `0 < ones ≤ universe`, else 1 -/
def spWidth (fw univ ones : Nat) : Nat := if 0 < ones ∧ ones ≤ univ then fw else 1

theorem spb_get_params_eq (m : Mode) (fw univ ones : Nat) (hfw : fw ≤ 64) (hu : univ < U64)
    (hb : ones + Sparse.getBuckets univ (spWidth fw univ ones) < U64) :
    gen_SparseBuilder_get_params m fw univ ones =
      ok (spWidth fw univ ones, ones + Sparse.getBuckets univ (spWidth fw univ ones)) := by
  unfold gen_SparseBuilder_get_params
  unfold spWidth at hb ⊢
  by_cases h : 0 < ones ∧ ones ≤ univ
  · rw [if_pos h] at hb ⊢
    simp only [h.1, h.2, decide_true, Bool.and_self, if_true, Bind.bind, Outcome.bind, Pure.pure,
      get_buckets_eq m univ fw hfw hu, addM_ok hb]
  · rw [if_neg h] at hb ⊢
    have h' : (decide (ones > 0) && decide (ones ≤ univ)) = false := by
      simp only [gt_iff_lt, Bool.and_eq_false_imp, decide_eq_true_eq, decide_eq_false_iff_not]
      intro h1 h2; exact h ⟨h1, h2⟩
    simp only [h', Bool.false_eq_true, if_false, Bind.bind, Outcome.bind, Pure.pure,
      get_buckets_eq m univ 1 (by decide) hu, addM_ok hb]

theorem spWidth_le {fw univ ones : Nat} (h : fw ≤ 64) : spWidth fw univ ones ≤ 64 := by
  unfold spWidth; split <;> omega

theorem spWidth_pos {fw univ ones : Nat} (h : 1 ≤ fw) : 1 ≤ spWidth fw univ ones := by
  unfold spWidth; split <;> omega

/-- the Rust-layout builder of a model builder: `data.high` is the bitvector of an empty raw vector until `try_from` -/
def spbR (b : SparseBuilder) : SparseBuilderR :=
  ⟨⟨b.univ, BitVector.ofRaw RawVec.empty, b.low⟩, b.high, b.len, b.next, b.increment⟩

theorem spbR_toModel (b : SparseBuilder) : (spbR b).toModel = b := rfl
theorem spbR_high (b : SparseBuilder) : (spbR b).data.high = BitVector.ofRaw RawVec.empty := rfl

/-- a builder method lifted to the Rust layout, on the Rust layout of a model builder -/
theorem spbrLift_spbR (f : SparseBuilder → Outcome SparseBuilder) (b : SparseBuilder) :
    spbrLift f (spbR b) = (f b).bind (fun b' => ok (spbR b')) := by
  unfold spbrLift
  show (f b >>= _) = _
  cases f b <;> rfl

/-- the part shared by `new` and `multiset` (after the `ones > universe` test of `new`): the parameters, then
`with_len(..).unwrap()`, then the rest, which cannot fail -/
theorem spb_common_eq (m : Mode) (fw univ ones inc : Nat) (hfw2 : fw ≤ 64)
    (hu : univ < U64) (hh : ones + Sparse.getBuckets univ (spWidth fw univ ones) + 63 < U64) :
    (do
      let t1 ← gen_SparseBuilder_get_params m fw univ ones
      let (width, high_len) := t1
      let t2 ← unwrapRes (gen_IntVector_with_len m ones width (0 : Word))
      let low := t2
      let t3 ← gen_RawVector_new m
      let t4 ← gen_BitVector_from_raw m t3
      let data := (⟨univ, t4, low⟩ : Sparse)
      let t5 ← gen_RawVector_with_len m high_len false
      let high := t5
      return (⟨data, high, 0, 0, inc⟩ : SparseBuilderR)) =
    (unwrapRes (gen_IntVector_with_len m ones (spWidth fw univ ones) (0 : Word))).bind (fun low =>
      ok (spbR ⟨univ, low, RawVec.withLen (ones + Sparse.getBuckets univ (spWidth fw univ ones)) false, 0, 0, inc⟩)) := by
  simp only [spb_get_params_eq m fw univ ones hfw2 hu (by omega), raw_new_eq,
    bv_from_raw_eq m RawVec.empty (by decide), raw_with_len_eq m _ false hh, Bind.bind, Outcome.bind, Pure.pure]
  cases unwrapRes (gen_IntVector_with_len m ones (spWidth fw univ ones) (0 : Word)) <;> rfl

/-- `SparseBuilder::multiset`: the translated constructor is the model's (for the width the code chooses: `fw` for
`0 < ones ≤ universe`, 1 for an empty or overfull multiset), in the Rust layout.  `hfw1`, `hfw2`: the value of the f64
rule is a width (`max(1.0)`; `universe < 2^64`).  `hh`: the length of `high` (`ones + buckets` in `usize`, then
`bits_to_words`).  `hl`: the bit length of `low` (`with_capacity(len * width)`, `words_to_bits`). -/
theorem spb_multiset_eq (m : Mode) (fw univ ones : Nat) (hfw1 : 1 ≤ fw) (hfw2 : fw ≤ 64) (hu : univ < U64)
    (hh : ones + Sparse.getBuckets univ (spWidth fw univ ones) + 63 < U64)
    (hl : ones * spWidth fw univ ones + 63 < U64) :
    gen_SparseBuilder_multiset m fw univ ones =
      (SparseBuilder.multiset (spWidth fw univ ones) univ ones).bind (fun b => ok (spbR b)) := by
  unfold gen_SparseBuilder_multiset SparseBuilder.multiset
  rw [spb_common_eq m fw univ ones 0 hfw2 hu hh, int_with_len_eq' m _ _ _ hl,
    IntVec.withLen_eq _ _ _ (spWidth_pos hfw1) (spWidth_le hfw2)]
  rfl

/-- `SparseBuilder::new`: same, after the `ones > universe` test (the same error on both sides) -/
theorem spb_new_eq (m : Mode) (fw univ ones : Nat) (hfw1 : 1 ≤ fw) (hfw2 : fw ≤ 64) (hu : univ < U64)
    (hh : ones + Sparse.getBuckets univ (spWidth fw univ ones) + 63 < U64)
    (hl : ones * spWidth fw univ ones + 63 < U64) :
    gen_SparseBuilder_new m fw univ ones =
      (SparseBuilder.new (spWidth fw univ ones) univ ones).bind (fun b => ok (spbR b)) := by
  unfold gen_SparseBuilder_new SparseBuilder.new
  by_cases h : ones > univ
  · simp only [h, decide_true, if_true]; rfl
  · simp only [h, decide_false, Bool.false_eq_true, if_false]
    rw [spb_common_eq m fw univ ones 1 hfw2 hu hh, int_with_len_eq' m _ _ _ hl,
      IntVec.withLen_eq _ _ _ (spWidth_pos hfw1) (spWidth_le hfw2)]
    rfl

/-- `spb_new_eq` / `spb_multiset_eq` as existence statements -/
theorem spb_new_ok (m : Mode) (fw univ ones : Nat) (hfw1 : 1 ≤ fw) (hfw2 : fw ≤ 64) (hu : univ < U64)
    (hh : ones + Sparse.getBuckets univ (spWidth fw univ ones) + 63 < U64)
    (hl : ones * spWidth fw univ ones + 63 < U64) (mb : SparseBuilder)
    (hm : SparseBuilder.new (spWidth fw univ ones) univ ones = ok mb) :
    ∃ b, gen_SparseBuilder_new m fw univ ones = ok b ∧ b.toModel = mb ∧
      b.data.high = BitVector.ofRaw RawVec.empty :=
  ⟨spbR mb, by rw [spb_new_eq m fw univ ones hfw1 hfw2 hu hh hl, hm]; rfl, rfl, rfl⟩

theorem spb_new_fault (m : Mode) (fw univ ones : Nat) (hfw1 : 1 ≤ fw) (hfw2 : fw ≤ 64) (hu : univ < U64)
    (hh : ones + Sparse.getBuckets univ (spWidth fw univ ones) + 63 < U64)
    (hl : ones * spWidth fw univ ones + 63 < U64) (e : Fault)
    (hm : SparseBuilder.new (spWidth fw univ ones) univ ones = fault e) :
    gen_SparseBuilder_new m fw univ ones = fault e := by
  rw [spb_new_eq m fw univ ones hfw1 hfw2 hu hh hl, hm]; rfl

theorem spb_multiset_ok (m : Mode) (fw univ ones : Nat) (hfw1 : 1 ≤ fw) (hfw2 : fw ≤ 64) (hu : univ < U64)
    (hh : ones + Sparse.getBuckets univ (spWidth fw univ ones) + 63 < U64)
    (hl : ones * spWidth fw univ ones + 63 < U64) :
    ∃ b mb, gen_SparseBuilder_multiset m fw univ ones = ok b ∧
      SparseBuilder.multiset (spWidth fw univ ones) univ ones = ok mb ∧ b.toModel = mb ∧
      b.data.high = BitVector.ofRaw RawVec.empty := by
  have e : SparseBuilder.multiset (spWidth fw univ ones) univ ones =
      ok ⟨univ, (List.range ones).foldl (fun u _ => u.push 0) ⟨0, spWidth fw univ ones, RawVec.empty⟩,
        RawVec.withLen (ones + Sparse.getBuckets univ (spWidth fw univ ones)) false, 0, 0, 0⟩ := by
    unfold SparseBuilder.multiset
    rw [IntVec.withLen_eq _ _ _ (spWidth_pos hfw1) (spWidth_le hfw2)]
    rfl
  exact ⟨spbR _, _, by rw [spb_multiset_eq m fw univ ones hfw1 hfw2 hu hh hl, e]; rfl, e, rfl, rfl⟩

/-- `TryFrom<SparseBuilder> for SparseVector`: a builder that is not full is the same error on both sides; otherwise
`BitVector::from(high)` counts the ones of `high` with a bit counter in `usize` (`h`) -/
theorem sparse_try_from_eq' (m : Mode) (b : SparseBuilderR)
    (h : b.len = b.data.low.len → 64 * b.high.data.size < U64) :
    gen_SparseVector_try_from m b = b.toModel.build := by
  unfold gen_SparseVector_try_from SparseBuilder.build
  simp only [spb_is_full_eq, Bind.bind, Outcome.bind]
  by_cases hf : b.toModel.isFull = true
  · have hf' : b.len = b.data.low.len := by
      simpa [SparseBuilder.isFull, SparseBuilder.capacity, SparseBuilderR.toModel] using hf
    simp only [hf, Bool.not_true, Bool.false_eq_true, if_false, bv_from_raw_eq m b.high (h hf'),
      enable_select_eq, enable_select_zero_eq, Pure.pure]
    rfl
  · simp only [Bool.not_eq_true] at hf
    simp only [hf, Bool.not_false, if_true]

theorem sparse_try_from_eq (m : Mode) (b : SparseBuilderR) (h : 64 * b.high.data.size < U64) :
    gen_SparseVector_try_from m b = b.toModel.build :=
  sparse_try_from_eq' m b (fun _ => h)

/-! ### the width handed to `with_len(..).unwrap()`: fault kinds -/

/-- `multiset` for every `fw ≤ 64`, including the non-width `fw = 0`: the code is the model's `with_len` UNWRAPPED
(an `Err` of `with_len` is a panic of the code and an `Err` of the model's `multiset`) -/
theorem spb_multiset_eq_any (m : Mode) (fw univ ones : Nat) (hfw2 : fw ≤ 64) (hu : univ < U64)
    (hh : ones + Sparse.getBuckets univ (spWidth fw univ ones) + 63 < U64)
    (hl : ones * spWidth fw univ ones + 63 < U64) :
    gen_SparseBuilder_multiset m fw univ ones =
      (unwrapRes (IntVec.withLen ones (spWidth fw univ ones) 0)).bind (fun low =>
        ok (spbR ⟨univ, low, RawVec.withLen (ones + Sparse.getBuckets univ (spWidth fw univ ones)) false, 0, 0, 0⟩)) := by
  unfold gen_SparseBuilder_multiset
  rw [spb_common_eq m fw univ ones 0 hfw2 hu hh, int_with_len_eq' m _ _ _ hl]

theorem spb_new_eq_any (m : Mode) (fw univ ones : Nat) (hfw2 : fw ≤ 64) (hu : univ < U64)
    (hh : ones + Sparse.getBuckets univ (spWidth fw univ ones) + 63 < U64)
    (hl : ones * spWidth fw univ ones + 63 < U64) :
    gen_SparseBuilder_new m fw univ ones =
      if ones > univ then fault (.err .other) else
      (unwrapRes (IntVec.withLen ones (spWidth fw univ ones) 0)).bind (fun low =>
        ok (spbR ⟨univ, low, RawVec.withLen (ones + Sparse.getBuckets univ (spWidth fw univ ones)) false, 0, 0, 1⟩)) := by
  unfold gen_SparseBuilder_new
  by_cases h : ones > univ
  · simp only [h, decide_true, if_true]
  · simp only [h, decide_false, Bool.false_eq_true, if_false]
    rw [spb_common_eq m fw univ ones 1 hfw2 hu hh, int_with_len_eq' m _ _ _ hl]

/-- `hfw1` is needed for the equations with the model's `new` / `multiset`: with the non-width `fw = 0` (and
`0 < ones ≤ universe`, so that `fw` is used) the code PANICS (`with_len(ones, 0, 0).unwrap()`) while the model's
constructor, which propagates the error of `IntVec.withLen`, returns `Err`.  Not a divergence of the real code: its
`fw` is `ideal_width.max(1.0).round() as usize ≥ 1`; the model is simply total in a width the code never computes. -/
theorem spb_new_ne_width0 :
    gen_SparseBuilder_new .checked 0 4 2 = fault (.panic .unwrap) ∧
    SparseBuilder.new (spWidth 0 4 2) 4 2 = fault (.err .other) := by decide

theorem spb_multiset_ne_width0 :
    gen_SparseBuilder_multiset .checked 0 4 2 = fault (.panic .unwrap) ∧
    SparseBuilder.multiset (spWidth 0 4 2) 4 2 = fault (.err .other) := by decide

/-! ### sharpness of the other hypotheses, and examples -/

/-- `hl` of `raw_with_len_eq`: `bits_to_words(len)` is `(len + 63) / 64` in `usize` -/
theorem raw_with_len_ne_len :
    gen_RawVector_with_len .checked (U64 - 63) false = fault (.panic .overflow) := by decide

/-- `hb` of `spb_get_params_eq`: `ones + buckets` is a `usize` sum; it overflows only from `ones ≥ 2^63` on -/
theorem spb_get_params_ne_sum :
    gen_SparseBuilder_get_params .checked 1 (U64 - 1) (U64 - 1) = fault (.panic .overflow) := by decide

/-- `hfw` of `spb_get_params_eq`: a width above 64 indexes the `low_set` table out of range (never computed by the
code: `universe < 2^64`) -/
theorem spb_get_params_ne_fw :
    gen_SparseBuilder_get_params .checked 65 4 2 = fault (.panic .index) := by decide

/-- the theorems are not vacuous: a set builder, `ones > universe` for `new` (an `Err`, not a panic, on both sides),
an overfull and an empty multiset (width 1), `try_from` of a builder that is not full (`Err` on both sides) and of a
full one -/
theorem spb_examples :
    gen_SparseBuilder_new .checked 2 10 3 = (SparseBuilder.new (spWidth 2 10 3) 10 3).bind (fun b => ok (spbR b)) ∧
    (SparseBuilder.new (spWidth 2 10 3) 10 3).isOk = true ∧
    gen_SparseBuilder_new .checked 2 3 10 = fault (.err .other) ∧
    SparseBuilder.new (spWidth 2 3 10) 3 10 = fault (.err .other) ∧
    gen_SparseBuilder_multiset .checked 2 3 10 =
      (SparseBuilder.multiset 1 3 10).bind (fun b => ok (spbR b)) ∧
    (SparseBuilder.multiset 1 3 10).isOk = true ∧
    gen_SparseBuilder_multiset .checked 2 3 0 = (SparseBuilder.multiset 1 3 0).bind (fun b => ok (spbR b)) ∧
    (SparseBuilder.multiset 1 3 0).isOk = true ∧
    gen_SparseVector_try_from .checked (spbR ⟨10, ⟨3, 2, ⟨6, #[0]⟩⟩, ⟨6, #[5]⟩, 2, 0, 1⟩) = fault (.err .other) ∧
    SparseBuilder.build ⟨10, ⟨3, 2, ⟨6, #[0]⟩⟩, ⟨6, #[5]⟩, 2, 0, 1⟩ = fault (.err .other) ∧
    gen_SparseVector_try_from .checked (spbR ⟨10, ⟨3, 2, ⟨6, #[0]⟩⟩, ⟨6, #[5]⟩, 3, 0, 1⟩) =
      SparseBuilder.build ⟨10, ⟨3, 2, ⟨6, #[0]⟩⟩, ⟨6, #[5]⟩, 3, 0, 1⟩ ∧
    (SparseBuilder.build ⟨10, ⟨3, 2, ⟨6, #[0]⟩⟩, ⟨6, #[5]⟩, 3, 0, 1⟩).isOk = true :=
  ⟨by decide +kernel, by decide +kernel, by decide +kernel, by decide +kernel, by decide +kernel, by decide +kernel, by decide +kernel, by decide +kernel, by decide +kernel, by decide +kernel, by decide +kernel, by decide +kernel⟩

end Sds.GenEq
