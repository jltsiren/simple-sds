/-
Proofs/Codec2: the codecs of the composite structures (`sparseC`, `wmCoreC`, `wmC`, `rlC m`) are lawful —
loading a serialization followed by anything returns the value and exactly the rest, and every strict prefix
of a serialization is refused with `eof`.  As in Proofs/Codec the law is proved from what the loader checks
(`LoadWF.…Ld`), which the serialization invariants (`…WF`) imply.
-/
import Sds.Proofs.Codec
import Sds.Proofs.Supports
import Sds.Proofs.Glue2
import Sds.Proofs.RL

namespace Sds.Codec2
open Sds Outcome SupportProofs LoadWF

/-! ### 1. the sparse vector -/

/-- the serialization invariant of a sparse vector.  The first clause says that `high` already carries the
select and select_zero supports that `load` enables (re-enabling is the identity); it is *necessary* for a
round trip since every loaded value has this form. -/
def sparseWF (s : Sparse) : Prop :=
  s.high.enableSelect.enableSelectZero = s.high ∧ bitVectorWF s.high ∧ intVecWF s.low ∧
  s.low.len = s.high.countOnes ∧ s.high.len = s.low.len + Sparse.getBuckets s.len s.low.width ∧
  s.len < 2 ^ 64

theorem enableSelSelz_idem (h : BitVector) :
    h.enableSelect.enableSelectZero.enableSelect.enableSelectZero = h.enableSelect.enableSelectZero := by
  rcases h with ⟨o, d, r, s, z⟩; cases s <;> cases z <;> rfl

/-- the simpler sufficient form of the first clause -/
theorem sparseWF_of_enabled {s : Sparse} (h : BitVector) (hh : s.high = h.enableSelect.enableSelectZero)
    (h1 : bitVectorWF s.high) (h2 : intVecWF s.low) (h3 : s.low.len = s.high.countOnes)
    (h4 : s.high.len = s.low.len + Sparse.getBuckets s.len s.low.width) (h5 : s.len < 2 ^ 64) :
    sparseWF s :=
  ⟨by rw [hh]; exact enableSelSelz_idem h, h1, h2, h3, h4, h5⟩

end Sds.Codec2
namespace Sds.LoadWF
open Sds Outcome SupportProofs Codec2

/-- `SparseVector::load`: what the loaders of the parts check, the two consistency checks, and `high` carries
the two select supports (`load` enables them).  **Not** checked: everything `BitVector::load` / `IntVector::load`
do not check, `low.width` against `len`, that the positions encoded are below `len` or sorted. -/
def sparseLd (s : Sparse) : Prop :=
  s.high.enableSelect.enableSelectZero = s.high ∧ bitVectorLd s.high ∧ intVecLd s.low ∧
  s.low.len = s.high.countOnes ∧ s.high.len = s.low.len + Sparse.getBuckets s.len s.low.width ∧
  s.len < 2 ^ 64

theorem sparseLd_of_wf {s : Sparse} (h : sparseWF s) : sparseLd s :=
  ⟨h.1, bitVectorLd_of_wf h.2.1, intVecLd_of_wf h.2.2.1, h.2.2.2⟩

/-- `SparseVector::load` reads `len`, a bitvector and an integer vector that pass its two consistency checks, and
returns them with the two select supports enabled on the bitvector — whatever supports the file held.  The
serialization of a value is the case where enabling them changes nothing (`sparseC_loads_ld`). -/
theorem sparseC_loads_parts {P} (hP : P (.err .eof)) {len : Nat} {high : BitVector} {low : IntVec}
    (hlen : len < 2 ^ 64) (hh : bitVectorLd high) (hl : intVecLd low) (h1 : low.len = high.countOnes)
    (h2 : high.len = low.len + Sparse.getBuckets len low.width) :
    Loads P sparseC.load (BitVec.ofNat 64 len :: (bitVectorC.ser high ++ intVecC.ser low))
      ⟨len, high.enableSelect.enableSelectZero, low⟩ := by
  have e1 : high.enableSelect.enableSelectZero.countOnes = high.countOnes := by unfold BitVector.countOnes; simp
  have e2 : high.enableSelect.enableSelectZero.len = high.len := by simp
  refine Loads.cast (s := [BitVec.ofNat 64 len] ++ (bitVectorC.ser high ++ (intVecC.ser low ++ []))) ?_ (by simp) rfl
  refine Loads.bind (usizeC_loads hP hlen) ?_
  refine Loads.bind (bitVectorC_loads_ld hP hh) ?_
  refine Loads.bind (intVecC_loads_ld hP hl) ?_
  refine Loads.ite_neg (by rw [e1]; exact fun hne => hne h1) ?_
  refine Loads.ite_neg (by rw [e2]; exact fun hne => hne h2) ?_
  exact Loads.ret _

theorem sparseC_loads_ld {P} (hP : P (.err .eof)) {s : Sparse} (h : sparseLd s) :
    Loads P sparseC.load (sparseC.ser s) s := by
  obtain ⟨hen, hh, hl, h1, h2, hlen⟩ := h
  exact (sparseC_loads_parts hP hlen hh hl h1 h2).cast rfl (by rw [hen])

theorem sparseC_lawful_ld : LawfulP IsEof sparseC sparseLd := ⟨fun _ h => sparseC_loads_ld isEof_eof h⟩

end Sds.LoadWF
namespace Sds.Codec2
open Sds Outcome SupportProofs LoadWF

theorem sparseC_lawfulEof : LawfulP IsEof sparseC sparseWF := sparseC_lawful_ld.weaken fun _ => sparseLd_of_wf
theorem sparseC_lawful : Lawful sparseC sparseWF := sparseC_lawfulEof.lawful

/-- **what the builder returns is serializable** (set and multiset mode), under the size side conditions of
`sparse_load_any_supports`: the high part has fewer than 2^63 bits, the low part fewer than 2^64 -/
theorem ofValues_sparseWF (w n : Nat) (multi : Bool) (P : List Nat) (hw1 : 1 ≤ w) (hw : w ≤ 63)
    (hn : n < 2 ^ 64) (hm : P.length < 2 ^ 63)
    (hsorted : if multi then sortedLe P = true else sortedStrict P = true) (hbound : ∀ p ∈ P, p < n)
    (hhigh : P.length + Sparse.getBuckets n w < 2 ^ 63) (hlow : P.length * w < 2 ^ 64) :
    ∃ s, Sparse.ofValues w n multi P = ok s ∧ s.Encodes n w P ∧ sparseWF s := by
  obtain ⟨s, raw, h1, he, hwf, hrl, hones, hhi, hlwf⟩ := ofValues_shape w n multi P hw1 hw hn hm hsorted hbound
  refine ⟨s, h1, he, ?_⟩
  have hl63 : raw.len < 2 ^ 63 := by omega
  have hs0 := ofRaw_sound hwf hl63
  have hbwf : bitVectorWF s.high := by
    rw [hhi]; exact enableSome_wf false true true hs0 (ofRaw_wf hwf hl63)
  have hiwf : intVecWF s.low := by
    obtain ⟨a, b, c, d⟩ := hlwf
    refine ⟨⟨a, b, c, d⟩, ?_, ?_, ?_⟩
    · rw [he.low_len]; omega
    · omega
    · rw [c, he.low_len, he.width_eq]; exact hlow
  refine sparseWF_of_enabled _ hhi hbwf hiwf ?_ ?_ (by rw [he.len_eq]; exact hn)
  · rw [hhi, he.low_len]; exact hones.symm
  · rw [hhi, he.low_len, he.len_eq, he.width_eq]; exact hrl

theorem ofValues_set_sparseWF {w n : Nat} {P : List Nat} {s : Sparse} (hw1 : 1 ≤ w) (hw : w ≤ 63)
    (hn : n < 2 ^ 64) (hm : P.length < 2 ^ 63) (hsorted : sortedStrict P = true)
    (hbound : ∀ p ∈ P, p < n) (hhigh : P.length + Sparse.getBuckets n w < 2 ^ 63)
    (hlow : P.length * w < 2 ^ 64) (h : Sparse.ofValues w n false P = ok s) : sparseWF s := by
  obtain ⟨s', h1, _, hs⟩ := ofValues_sparseWF w n false P hw1 hw hn hm (by simpa using hsorted) hbound hhigh hlow
  rw [h] at h1; cases h1; exact hs

theorem ofValues_multi_sparseWF {w n : Nat} {P : List Nat} {s : Sparse} (hw1 : 1 ≤ w) (hw : w ≤ 63)
    (hn : n < 2 ^ 64) (hm : P.length < 2 ^ 63) (hsorted : sortedLe P = true)
    (hbound : ∀ p ∈ P, p < n) (hhigh : P.length + Sparse.getBuckets n w < 2 ^ 63)
    (hlow : P.length * w < 2 ^ 64) (h : Sparse.ofValues w n true P = ok s) : sparseWF s := by
  obtain ⟨s', h1, _, hs⟩ := ofValues_sparseWF w n true P hw1 hw hn hm (by simpa using hsorted) hbound hhigh hlow
  rw [h] at h1; cases h1; exact hs

/-! ### 2. the wavelet matrix -/

theorem Loads.congr {α} {P} {L L' : Elems → Outcome (α × Elems)} {s x} (h : ∀ r, L r = L' r)
    (h' : Loads P L' s x) : Loads P L s x := by
  have : L = L' := funext h
  rw [this]; exact h'

/-- a step that reads nothing: a computation that succeeds with `n` -/
theorem Loads.pure_bind {α β} {P} {o : Outcome β} {n : β} {g : β → Elems → Outcome (α × Elems)} {s x}
    (ho : o = ok n) (h : Loads P (g n) s x) : Loads P (fun r => o >>= fun n => g n r) s x := by
  subst ho; exact h

/-- one step of the level loop of `WMCore::load` -/
def lvlStep (acc : Array BitVector × Elems) (_ : Nat) : Outcome (Array BitVector × Elems) := do
  let (b, r) ← bitVectorC.load acc.2
  match acc.1[0]? with
  | some b0 => if b.len ≠ b0.len then fault (.err .invalid) else return (acc.1.push b, r)
  | none => return (acc.1.push b, r)

theorem push_head_len (acc : Array BitVector) (b : BitVector) (len0 : Nat) (hlen : b.len = len0)
    (hacc : ∀ b0, acc[0]? = some b0 → b0.len = len0) : ∀ b0, (acc.push b)[0]? = some b0 → b0.len = len0 := by
  intro b0 h0
  by_cases hs : acc.size = 0
  · have : acc = #[] := by simpa using hs
    subst this
    simp at h0
    subst h0; exact hlen
  · have : (acc.push b)[0]? = acc[0]? := by
      rw [Array.getElem?_push_lt (by omega), Array.getElem?_eq_getElem (by omega)]
    rw [this] at h0
    exact hacc b0 h0

/-- the serialization invariant of the core of a wavelet matrix: between 1 and 64 levels, each a serializable
bitvector that already carries all three supports (so that `init_support` on load is the identity), all of the
same length -/
def wmCoreWF (c : WMCore) : Prop :=
  1 ≤ c.width ∧ c.width ≤ 64 ∧ (∀ b, b ∈ c.levels.toList → bitVectorWF b ∧ b.enableAll = b) ∧
  (∀ b b', b ∈ c.levels.toList → b' ∈ c.levels.toList → b.len = b'.len)

theorem wmCoreC_load_eq (es : Elems) : wmCoreC.load es = (do
    let (width, r) ← usizeC.load es
    if width = 0 ∨ width > 64 then fault (.err .invalid) else do
    let (levels, r) ← (List.range width).foldlM lvlStep (#[], r)
    return (WMCore.initSupport ⟨levels⟩, r)) := rfl

end Sds.Codec2
namespace Sds.LoadWF
open Sds Outcome SupportProofs Codec2

/-- `WMCore::load`: 1..64 levels, each passing the checks of `BitVector::load` and carrying all three supports
(`load` enables them), all of the length of the first.  **Not** checked: everything `BitVector::load` does not
check; that the levels are consistent with each other as a wavelet matrix. -/
def wmCoreLd (c : WMCore) : Prop :=
  1 ≤ c.width ∧ c.width ≤ 64 ∧ (∀ b, b ∈ c.levels.toList → bitVectorLd b ∧ b.enableAll = b) ∧
  (∀ b b', b ∈ c.levels.toList → b' ∈ c.levels.toList → b.len = b'.len)

theorem wmCoreLd_of_wf {c : WMCore} (h : wmCoreWF c) : wmCoreLd c :=
  ⟨h.1, h.2.1, fun b hb => ⟨bitVectorLd_of_wf (h.2.2.1 b hb).1, (h.2.2.1 b hb).2⟩, h.2.2.2⟩

theorem wmCoreLd_len {c : WMCore} (h : wmCoreLd c) : ∃ n, c.len = ok n ∧ ∀ b, b ∈ c.levels.toList → b.len = n := by
  obtain ⟨h1, _, _, heq⟩ := h
  rcases c with ⟨lv⟩
  rcases lv with ⟨l⟩
  cases l with
  | nil => simp [WMCore.width] at h1
  | cons b0 l =>
    refine ⟨b0.len, by simp [WMCore.len], fun b hb => heq b b0 hb (by simp)⟩

/-- the level loop reads a concatenation of serialized bitvectors of equal length -/
theorem lvlStep_loads_ld {P} (hP : P (.err .eof)) (acc : Array BitVector) (b : BitVector) (i : Nat) (len0 : Nat)
    (hb : bitVectorLd b) (hlen : b.len = len0) (hacc : ∀ b0, acc[0]? = some b0 → b0.len = len0) :
    Loads P (fun r => lvlStep (acc, r) i) (bitVectorC.ser b) (acc.push b) := by
  refine Loads.cast (s := bitVectorC.ser b ++ []) ?_ (by simp) rfl
  refine Loads.congr (L' := fun r => bitVectorC.load r >>= fun p => match acc[0]? with
    | some b0 => if p.1.len ≠ b0.len then fault (.err .invalid) else pure (acc.push p.1, p.2)
    | none => pure (acc.push p.1, p.2)) (fun r => rfl) ?_
  refine Loads.bind (bitVectorC_loads_ld hP hb) ?_
  show Loads P (fun r => match acc[0]? with
    | some b0 => if b.len ≠ b0.len then fault (.err .invalid) else pure (acc.push b, r)
    | none => pure (acc.push b, r)) [] (acc.push b)
  cases h0 : acc[0]? with
  | none => exact Loads.ret _
  | some b0 =>
    have := hacc b0 h0
    exact Loads.ite_neg (by omega) (Loads.ret _)

theorem levels_loads_ld {P} (hP : P (.err .eof)) (len0 : Nat) :
    ∀ (L : List BitVector) (idx : List Nat) (acc : Array BitVector), idx.length = L.length →
    (∀ b, b ∈ L → bitVectorLd b ∧ b.len = len0) → (∀ b0, acc[0]? = some b0 → b0.len = len0) →
    Loads P (fun r => idx.foldlM lvlStep (acc, r)) (L.flatMap bitVectorC.ser) (acc ++ L.toArray) := by
  intro L
  induction L with
  | nil =>
    intro idx acc hl _ _
    have : idx = [] := List.eq_nil_of_length_eq_zero (by simpa using hl)
    subst this
    exact Loads.cast (Loads.ret acc) (by simp) (by simp)
  | cons b L ih =>
    intro idx acc hl hL hacc
    cases idx with
    | nil => simp at hl
    | cons i idx =>
      have hb := hL b (by simp)
      refine Loads.congr (fun r => List.foldlM_cons) ?_
      refine Loads.cast (s := bitVectorC.ser b ++ L.flatMap bitVectorC.ser) (x := acc.push b ++ L.toArray)
        ?_ (by simp) ?_
      · exact Loads.bind (lvlStep_loads_ld hP acc b i len0 hb.1 hb.2 hacc)
          (ih idx (acc.push b) (by simpa using hl) (fun b' hb' => hL b' (by simp [hb']))
            (push_head_len acc b len0 hb.2 hacc))
      · simp

/-- `WMCore::load` reads the width and that many bitvectors of one length, and returns them with all supports
enabled — whatever supports the file held.  The serialization of a core is the case where enabling them changes
nothing (`wmCoreC_loads_ld`). -/
theorem wmCoreC_loads_levels {P} (hP : P (.err .eof)) {L : List BitVector} {n : Nat} (h1 : 1 ≤ L.length)
    (h64 : L.length ≤ 64) (hL : ∀ b, b ∈ L → bitVectorLd b ∧ b.len = n) :
    Loads P wmCoreC.load (BitVec.ofNat 64 L.length :: L.flatMap bitVectorC.ser)
      (WMCore.initSupport ⟨L.toArray⟩) := by
  refine Loads.congr wmCoreC_load_eq ?_
  refine Loads.cast (s := [BitVec.ofNat 64 L.length] ++ (L.flatMap bitVectorC.ser ++ [])) ?_ (by simp) rfl
  refine Loads.bind (usizeC_loads hP (by omega)) ?_
  refine Loads.ite_neg (by omega) ?_
  refine Loads.bind (levels_loads_ld hP n L (List.range L.length) #[] (by simp) hL (by simp)) ?_
  exact Loads.ret' (by rw [Array.empty_append])

theorem wmCoreC_loads_ld {P} (hP : P (.err .eof)) {c : WMCore} (h : wmCoreLd c) :
    Loads P wmCoreC.load (wmCoreC.ser c) c := by
  obtain ⟨n, _, hn⟩ := wmCoreLd_len h
  obtain ⟨h1, h64, hlv, _⟩ := h
  rw [WMCore.width, ← Array.length_toList] at h1 h64
  refine (wmCoreC_loads_levels hP h1 h64 (fun b hb => ⟨(hlv b hb).1, hn b hb⟩)).cast
    (by simp [wmCoreC, WMCore.width]) ?_
  rcases c with ⟨lv⟩
  symm
  simp only [WMCore.initSupport, Array.toArray_toList]
  congr 1
  apply Array.ext'
  rw [Array.toList_map]
  calc lv.toList.map BitVector.enableAll = lv.toList.map id :=
        List.map_congr_left (fun b hb => (hlv b hb).2)
    _ = lv.toList := List.map_id _

theorem wmCoreC_lawful_ld : LawfulP IsEof wmCoreC wmCoreLd := ⟨fun _ h => wmCoreC_loads_ld isEof_eof h⟩

end Sds.LoadWF
namespace Sds.Codec2
open Sds Outcome SupportProofs LoadWF

theorem wmCoreWF_len {c : WMCore} (h : wmCoreWF c) : ∃ n, c.len = ok n ∧ ∀ b, b ∈ c.levels.toList → b.len = n :=
  wmCoreLd_len (wmCoreLd_of_wf h)

theorem wmCoreC_lawfulEof : LawfulP IsEof wmCoreC wmCoreWF := wmCoreC_lawful_ld.weaken fun _ => wmCoreLd_of_wf
theorem wmCoreC_lawful : Lawful wmCoreC wmCoreWF := wmCoreC_lawfulEof.lawful

/-- the serialization invariant of a wavelet matrix -/
def wmWF (w : WM) : Prop :=
  wmCoreWF w.data ∧ w.data.len = ok w.len ∧ w.len < 2 ^ 64 ∧ intVecWF w.first

end Sds.Codec2
namespace Sds.LoadWF
open Sds Outcome SupportProofs Codec2

/-- `WaveletMatrix::load`: the core, `len` = the length of the levels, the `first` array as an integer vector.
**Not** checked: the contents of `first` (it is trusted to hold the start offsets), its length against the width. -/
def wmLd (w : WM) : Prop :=
  wmCoreLd w.data ∧ w.data.len = ok w.len ∧ w.len < 2 ^ 64 ∧ intVecLd w.first

theorem wmLd_of_wf {w : WM} (h : wmWF w) : wmLd w :=
  ⟨wmCoreLd_of_wf h.1, h.2.1, h.2.2.1, intVecLd_of_wf h.2.2.2⟩

/-- `WaveletMatrix::load` reads `len`, a core of that length — from any stream `s` that `WMCore::load` reads to it —
and the `first` array -/
theorem wmC_loads_core {P} (hP : P (.err .eof)) {len : Nat} {s : Elems} {c : WMCore} {first : IntVec}
    (hlen : len < 2 ^ 64) (hc : Loads P wmCoreC.load s c) (hl : c.len = ok len) (hf : intVecLd first) :
    Loads P wmC.load (BitVec.ofNat 64 len :: (s ++ intVecC.ser first)) ⟨len, c, first⟩ := by
  refine Loads.cast (s := [BitVec.ofNat 64 len] ++ (s ++ (intVecC.ser first ++ []))) ?_ (by simp) rfl
  refine Loads.bind (usizeC_loads hP hlen) ?_
  refine Loads.bind hc ?_
  refine Loads.pure_bind hl ?_
  refine Loads.ite_neg (fun hne => hne rfl) ?_
  refine Loads.bind (intVecC_loads_ld hP hf) ?_
  exact Loads.ret _

theorem wmC_loads_ld {P} (hP : P (.err .eof)) {w : WM} (h : wmLd w) : Loads P wmC.load (wmC.ser w) w :=
  wmC_loads_core hP h.2.2.1 (wmCoreC_loads_ld hP h.1) h.2.1 h.2.2.2

theorem wmC_lawful_ld : LawfulP IsEof wmC wmLd := ⟨fun _ h => wmC_loads_ld isEof_eof h⟩

end Sds.LoadWF
namespace Sds.Codec2
open Sds Outcome SupportProofs LoadWF

theorem wmC_lawfulEof : LawfulP IsEof wmC wmWF := wmC_lawful_ld.weaken fun _ => wmLd_of_wf
theorem wmC_lawful : Lawful wmC wmWF := wmC_lawfulEof.lawful

/-- the levels of a built core -/
theorem ofValues_levels (V : List Nat) : (WMCore.ofValues V).levels.toList =
    (List.range (widthOf V)).map fun l =>
      enableSome true true true (BitVector.ofRaw (RawVec.ofBits (col (widthOf V) V l))) := by
  rw [ofValues_eq]; rfl

/-- **the core built by `WaveletMatrix::from` is serializable** -/
theorem ofValues_wmCoreWF (V : List Nat) (hlen : V.length < 2 ^ 63) : wmCoreWF (WMCore.ofValues V) := by
  have hw : (WMCore.ofValues V).width = widthOf V := by
    unfold WMCore.width; rw [← Array.length_toList, ofValues_levels]; simp
  have hl := wm_levels_wf V hlen (fun _ => (true, true, true))
  refine ⟨by rw [hw]; exact widthOf_pos V, by rw [hw]; exact widthOf_le V, ?_, ?_⟩
  · intro b hb
    rw [ofValues_levels] at hb
    refine ⟨(hl b hb).1, ?_⟩
    obtain ⟨l, _, rfl⟩ := List.mem_map.mp hb
    exact enableAll_idem (BitVector.ofRaw (RawVec.ofBits (col (widthOf V) V l)))
  · intro b b' hb hb'
    rw [ofValues_levels] at hb hb'
    rw [(hl b hb).2, (hl b' hb').2]

/-- **the wavelet matrix built by `WaveletMatrix::from` is serializable**, under the side conditions of
`wm_roundtrip` -/
theorem ofValues_wmWF (V : List Nat) (hV : ∀ v, v ∈ V → v < 2 ^ 64) (hlen : V.length < 2 ^ 63)
    (hfirst : (V.foldl max 0 + 1) * 64 < 2 ^ 64) : wmWF (WM.ofValues V) := by
  have hc := ofValues_wmCoreWF V hlen
  refine ⟨hc, ?_, ?_, wm_first_wf V hV hfirst⟩
  · exact len_ok (WM.ofValues_ok_full V hV hlen).core
  · show V.length < 2 ^ 64
    omega

end Sds.Codec2
namespace Sds
open Outcome SupportProofs LoadWF Codec2

/-! ### files whose embedded bitvectors carry any subset of their supports

`SparseVector::load` and `WMCore::load` enable the supports they need on what they read, so
(`sparseC_loads_parts`, `wmCoreC_loads_levels`) the file may hold any subset of them: the value loaded is the
built one.  With every support present the file is the serialization, and the statement is the round trip. -/

/-- **a sparse vector loads from a file in which the embedded bitvector `high` carries any subset of the
select / select_zero supports (in particular none), and the loaded value is exactly the built one** —
provided the serialized sizes fit a `usize` (`hhigh`, `hlow`) -/
theorem sparse_load_any_supports (w n : Nat) (multi : Bool) (P : List Nat) (hw1 : 1 ≤ w) (hw : w ≤ 63)
    (hn : n < 2 ^ 64) (hm : P.length < 2 ^ 63)
    (hsorted : if multi then sortedLe P = true else sortedStrict P = true) (hbound : ∀ p ∈ P, p < n)
    (hhigh : P.length + Sparse.getBuckets n w < 2 ^ 63) (hlow : P.length * w < 2 ^ 64) :
    ∃ s, Sparse.ofValues w n multi P = ok s ∧ s.Encodes n w P ∧
      ∀ (sel selz : Bool) (rest : Elems),
        sparseC.load (BitVec.ofNat 64 n ::
          (bitVectorC.ser (SupportProofs.enableSome false sel selz (BitVector.ofRaw s.high.data)) ++
            intVecC.ser s.low) ++ rest) = ok (s, rest) := by
  obtain ⟨s, raw, h1, he, hwf, hrl, _, hhi, _⟩ := ofValues_shape w n multi P hw1 hw hn hm hsorted hbound
  obtain ⟨s', h1', _, _, _, hiwf, hc1, hc2, _⟩ :=
    ofValues_sparseWF w n multi P hw1 hw hn hm hsorted hbound hhigh hlow
  rw [h1] at h1'; cases h1'
  refine ⟨s, h1, he, fun sel selz rest => ?_⟩
  have hdata : s.high.data = raw := by rw [hhi]; simp; rfl
  have hs0 := ofRaw_sound hwf (show raw.len < 2 ^ 63 by omega)
  rw [hdata, (sparseC_loads_parts isEof_eof hn
    (bitVectorLd_of_wf (enableSome_wf false sel selz hs0 (ofRaw_wf hwf (by omega)))) (intVecLd_of_wf hiwf)
    (by rw [hc1, hhi]; cases sel <;> cases selz <;> rfl)
    (by rw [← he.len_eq, ← hc2, hhi]; cases sel <;> cases selz <;> rfl)).1 rest]
  congr 2
  rcases s with ⟨sl, sh, slow⟩
  simp only at hhi ⊢
  have hl : sl = n := he.len_eq
  subst hl; subst hhi
  cases sel <;> cases selz <;> rfl

/-- the levels of a built core with any subset of supports, all supports enabled again: the built core -/
theorem initSupport_enableSome_cols (V : List Nat) (f : Nat → Bool × Bool × Bool) :
    WMCore.initSupport ⟨((List.range (widthOf V)).map fun l =>
      enableSome (f l).1 (f l).2.1 (f l).2.2 (BitVector.ofRaw (RawVec.ofBits (col (widthOf V) V l)))).toArray⟩ =
      WMCore.ofValues V := by
  rw [ofValues_eq]
  simp only [WMCore.initSupport, List.map_toArray, List.map_map]
  congr 2
  apply List.map_congr_left
  intro l _
  exact enableSome_enableAll _ _ _ _

theorem wmCore_loads_any_supports {P} (hP : P (.err .eof)) (V : List Nat) (hlen : V.length < 2 ^ 63)
    (f : Nat → Bool × Bool × Bool) :
    Loads P wmCoreC.load (BitVec.ofNat 64 (widthOf V) :: ((List.range (widthOf V)).map fun l =>
        enableSome (f l).1 (f l).2.1 (f l).2.2
          (BitVector.ofRaw (RawVec.ofBits (col (widthOf V) V l)))).flatMap bitVectorC.ser)
      (WMCore.ofValues V) := by
  have h := wmCoreC_loads_levels hP (n := V.length) (by simpa using widthOf_pos V) (by simpa using widthOf_le V)
    (fun b hb => ⟨bitVectorLd_of_wf (wm_levels_wf V hlen f b hb).1, (wm_levels_wf V hlen f b hb).2⟩)
  rw [initSupport_enableSome_cols] at h
  simpa only [List.length_map, List.length_range] using h

/-- the core of a wavelet matrix loads from a file in which every level carries any subset of supports -/
theorem wmCore_load_any_supports (V : List Nat) (hlen : V.length < 2 ^ 63)
    (f : Nat → Bool × Bool × Bool) (rest : Elems) :
    wmCoreC.load (BitVec.ofNat 64 (widthOf V) :: ((List.range (widthOf V)).map fun l =>
          enableSome (f l).1 (f l).2.1 (f l).2.2
            (BitVector.ofRaw (RawVec.ofBits (col (widthOf V) V l)))).flatMap bitVectorC.ser ++ rest) =
      ok (WMCore.ofValues V, rest) :=
  (wmCore_loads_any_supports isEof_eof V hlen f).1 rest

/-- **a wavelet matrix loads from a file in which every level carries any subset of supports (in particular
none), and the loaded value is exactly the built one** — `f l` selects the subset present at level `l` -/
theorem wm_load_any_supports (V : List Nat) (hV : ∀ v, v ∈ V → v < 2 ^ 64) (hlen : V.length < 2 ^ 63)
    (hfirst : (V.foldl max 0 + 1) * 64 < 2 ^ 64) (f : Nat → Bool × Bool × Bool) (rest : Elems) :
    wmC.load (BitVec.ofNat 64 V.length ::
      (BitVec.ofNat 64 (widthOf V) :: ((List.range (widthOf V)).map fun l =>
          enableSome (f l).1 (f l).2.1 (f l).2.2
            (BitVector.ofRaw (RawVec.ofBits (col (widthOf V) V l)))).flatMap bitVectorC.ser) ++
        intVecC.ser (WM.ofValues V).first ++ rest) = ok (WM.ofValues V, rest) :=
  (wmC_loads_core isEof_eof (by omega) (wmCore_loads_any_supports isEof_eof V hlen f)
    (len_ok (WM.ofValues_ok_full V hV hlen).core) (intVecLd_of_wf (wm_first_wf V hV hfirst))).1 rest

/-- **round trip of the wavelet-matrix core** -/
theorem wmCore_roundtrip (V : List Nat) (hlen : V.length < 2 ^ 63) (rest : Elems) :
    wmCoreC.load (wmCoreC.ser (WMCore.ofValues V) ++ rest) = ok (WMCore.ofValues V, rest) :=
  wmCoreC_lawful.roundtrip _ rest (ofValues_wmCoreWF V hlen)

/-- **round trip of the wavelet matrix** -/
theorem wm_roundtrip (V : List Nat) (hV : ∀ v, v ∈ V → v < 2 ^ 64) (hlen : V.length < 2 ^ 63)
    (hfirst : (V.foldl max 0 + 1) * 64 < 2 ^ 64) (rest : Elems) :
    wmC.load (wmC.ser (WM.ofValues V) ++ rest) = ok (WM.ofValues V, rest) :=
  wmC_lawful.roundtrip _ rest (ofValues_wmWF V hV hlen hfirst)

end Sds
namespace Sds.Codec2
open Sds Outcome SupportProofs LoadWF

/-! ### 3. the run-length encoded vector -/

instance : LawfulMonad Outcome := LawfulMonad.mk'
  (id_map := fun x => by cases x <;> rfl)
  (pure_bind := fun _ _ => rfl)
  (bind_assoc := fun x _ _ => by cases x <;> rfl)

/-- the three sample columns as `RLVector::load` reads them back from the stored `samples` vector
(`sb` = number of blocks): bits before the block, ones before the block, zeros before the block -/
def bitsColQ (s : IntVec) (sb : Nat) : Outcome (List Nat) :=
  (List.range sb).mapM (fun b => do let x ← s.get (2 * b + 1); return x.toNat)
def onesColQ (s : IntVec) (sb : Nat) : Outcome (List Nat) :=
  (List.range sb).mapM (fun b => do let x ← s.get (2 * b); return x.toNat)
def zerosColQ (m : Mode) (s : IntVec) (sb : Nat) : Outcome (List Nat) :=
  (List.range sb).mapM (fun b => do
    let a ← s.get (2 * b + 1); let c ← s.get (2 * b); subM m a.toNat c.toNat)

/-- the same columns as plain lists -/
def bitsCol (s : IntVec) : List Nat := (List.range (s.len / 2)).map fun b => (s.getRaw (2 * b + 1)).toNat
def onesCol (s : IntVec) : List Nat := (List.range (s.len / 2)).map fun b => (s.getRaw (2 * b)).toNat
def zerosCol (s : IntVec) : List Nat :=
  (List.range (s.len / 2)).map fun b => (s.getRaw (2 * b + 1)).toNat - (s.getRaw (2 * b)).toNat

/-- all reads of the columns are in range: `2 * b + 1 < 2 * (len / 2) ≤ len` -/
theorem bitsColQ_eq (s : IntVec) : bitsColQ s (s.len / 2) = ok (bitsCol s) := by
  refine mapM_ok _ _ _ (fun b hb => ?_)
  have hb' := List.mem_range.mp hb
  rw [IntVec.get_ok _ _ (by omega)]; rfl

theorem onesColQ_eq (s : IntVec) : onesColQ s (s.len / 2) = ok (onesCol s) := by
  refine mapM_ok _ _ _ (fun b hb => ?_)
  have hb' := List.mem_range.mp hb
  rw [IntVec.get_ok _ _ (by omega)]; rfl

theorem zerosColQ_eq (m : Mode) (s : IntVec)
    (hle : ∀ b, b < s.len / 2 → (s.getRaw (2 * b)).toNat ≤ (s.getRaw (2 * b + 1)).toNat) :
    zerosColQ m s (s.len / 2) = ok (zerosCol s) := by
  refine mapM_ok _ _ _ (fun b hb => ?_)
  have hb' := List.mem_range.mp hb
  rw [IntVec.get_ok _ _ (by omega), IntVec.get_ok _ _ (by omega)]
  exact subM_ok (hle b hb')

theorem rlC_load_eq (m : Mode) (es : Elems) : (rlC m).load es = (do
    let (len, r) ← usizeC.load es
    let (ones, r) ← usizeC.load r
    let (samples, r) ← intVecC.load r
    let (data, r) ← intVecC.load r
    if samples.len / 2 ≠ (data.len + 63) / 64 then fault (.err .invalid) else do
    let bitsCol ← bitsColQ samples (samples.len / 2)
    let onesCol ← onesColQ samples (samples.len / 2)
    let zerosCol ← zerosColQ m samples (samples.len / 2)
    let ri ← SampleIndex.new m bitsCol len
    let si ← SampleIndex.new m onesCol ones
    let z ← subM m len ones
    let zi ← SampleIndex.new m zerosCol z
    return (⟨len, ones, ri, si, zi, samples, data⟩, r)) := rfl

/-- the serialization invariant of a run-length encoded vector, general form.  The three sample indexes are not
stored: `load` rebuilds them from the stored samples, so a round trip needs the indexes of the value to be
exactly what `SampleIndex::new` returns on the three columns read back from `samples` (the zero column and the
zero count are computed with the mode's subtraction).  This form is necessary and sufficient for
`load (ser v ++ r) = ok (v, r)` given that the two integer vectors are serializable. -/
def rlWFg (m : Mode) (v : RL) : Prop :=
  intVecWF v.samples ∧ intVecWF v.data ∧ v.samples.len / 2 = (v.data.len + 63) / 64 ∧
  v.len < 2 ^ 64 ∧ v.ones < 2 ^ 64 ∧
  SampleIndex.new m (bitsCol v.samples) v.len = ok v.rankIndex ∧
  SampleIndex.new m (onesCol v.samples) v.ones = ok v.selectIndex ∧
  ∃ Z z, zerosColQ m v.samples (v.samples.len / 2) = ok Z ∧ subM m v.len v.ones = ok z ∧
    SampleIndex.new m Z z = ok v.selectZeroIndex

/-- the serialization invariant of a run-length encoded vector: no subtraction wraps (`ones ≤ len`, and at
every block start the ones so far are at most the bits so far), and the three indexes are what
`SampleIndex::new` builds from the stored samples -/
def rlWF (m : Mode) (v : RL) : Prop :=
  intVecWF v.samples ∧ intVecWF v.data ∧ v.samples.len / 2 = (v.data.len + 63) / 64 ∧
  v.len < 2 ^ 64 ∧ v.ones < 2 ^ 64 ∧ v.ones ≤ v.len ∧
  (∀ b, b < v.samples.len / 2 → (v.samples.getRaw (2 * b)).toNat ≤ (v.samples.getRaw (2 * b + 1)).toNat) ∧
  SampleIndex.new m (bitsCol v.samples) v.len = ok v.rankIndex ∧
  SampleIndex.new m (onesCol v.samples) v.ones = ok v.selectIndex ∧
  SampleIndex.new m (zerosCol v.samples) (v.len - v.ones) = ok v.selectZeroIndex

theorem rlWF.general {m : Mode} {v : RL} (h : rlWF m v) : rlWFg m v := by
  obtain ⟨h1, h2, h3, h4, h5, h6, h7, h8, h9, h10⟩ := h
  exact ⟨h1, h2, h3, h4, h5, h8, h9, _, _, zerosColQ_eq m _ h7, subM_ok h6, h10⟩

end Sds.Codec2
namespace Sds.LoadWF
open Sds Outcome SupportProofs Codec2

/-- `RLVector::load`: the checks of the two integer vectors, one sample pair per 64-unit block of `data`, and the
three sample indexes are what `SampleIndex::new` builds from the stored samples (they are not stored; a failing
construction — an assertion of `SampleIndex::new`, an overflowing subtraction in checked mode — makes `load` fail
or panic, so whatever is returned has them).  This is `Codec2.rlWFg` with the loader-level predicate for the two
integer vectors.  **Not** checked: `ones ≤ len`, that the samples are the block starts of `data`, that `data`
decodes to `ones` ones in `len` bits. -/
def rlLd (m : Mode) (v : RL) : Prop :=
  intVecLd v.samples ∧ intVecLd v.data ∧ v.samples.len / 2 = (v.data.len + 63) / 64 ∧
  v.len < 2 ^ 64 ∧ v.ones < 2 ^ 64 ∧
  SampleIndex.new m (bitsCol v.samples) v.len = ok v.rankIndex ∧
  SampleIndex.new m (onesCol v.samples) v.ones = ok v.selectIndex ∧
  ∃ Z z, zerosColQ m v.samples (v.samples.len / 2) = ok Z ∧ subM m v.len v.ones = ok z ∧
    SampleIndex.new m Z z = ok v.selectZeroIndex

theorem rlLd_of_wfg {m : Mode} {v : RL} (h : rlWFg m v) : rlLd m v :=
  ⟨intVecLd_of_wf h.1, intVecLd_of_wf h.2.1, h.2.2⟩

theorem rlC_loads_ld {P} (hP : P (.err .eof)) (m : Mode) {v : RL} (h : rlLd m v) :
    Loads P (rlC m).load ((rlC m).ser v) v := by
  obtain ⟨hs, hd, hsb, hlen, hones, hri, hsi, Z, z, hZ, hz, hzi⟩ := h
  refine Loads.congr (rlC_load_eq m) ?_
  refine Loads.cast (s := [BitVec.ofNat 64 v.len] ++ ([BitVec.ofNat 64 v.ones] ++
    (intVecC.ser v.samples ++ (intVecC.ser v.data ++ [])))) ?_ (by simp [rlC]) rfl
  refine Loads.bind (usizeC_loads hP hlen) ?_
  refine Loads.bind (usizeC_loads hP hones) ?_
  refine Loads.bind (intVecC_loads_ld hP hs) ?_
  refine Loads.bind (intVecC_loads_ld hP hd) ?_
  refine Loads.ite_neg (fun hne => hne hsb) ?_
  refine Loads.pure_bind (bitsColQ_eq v.samples) ?_
  refine Loads.pure_bind (onesColQ_eq v.samples) ?_
  refine Loads.pure_bind hZ ?_
  refine Loads.pure_bind hri ?_
  refine Loads.pure_bind hsi ?_
  refine Loads.pure_bind hz ?_
  refine Loads.pure_bind hzi ?_
  exact Loads.ret' rfl

theorem rlC_lawful_ld (m : Mode) : LawfulP IsEof (rlC m) (rlLd m) := ⟨fun _ h => rlC_loads_ld isEof_eof m h⟩

end Sds.LoadWF
namespace Sds.Codec2
open Sds Outcome SupportProofs LoadWF

theorem rlC_lawfulEof_g (m : Mode) : LawfulP IsEof (rlC m) (rlWFg m) :=
  (rlC_lawful_ld m).weaken fun _ => rlLd_of_wfg
theorem rlC_lawfulEof (m : Mode) : LawfulP IsEof (rlC m) (rlWF m) := (rlC_lawfulEof_g m).weaken fun _ h => h.general
theorem rlC_lawful_g (m : Mode) : Lawful (rlC m) (rlWFg m) := (rlC_lawfulEof_g m).lawful
theorem rlC_lawful (m : Mode) : Lawful (rlC m) (rlWF m) := (rlC_lawfulEof m).lawful

/-! ### 3b. what `From<RLBuilder>` produces is serializable -/

section FromBuilder
open RL RunIter RLBuilder

theorem range_map_eq {α β} (sl : List α) (f : Nat → β) (g : α → β)
    (h : ∀ j (hj : j < sl.length), f j = g sl[j]) : (List.range sl.length).map f = sl.map g := by
  apply List.ext_getElem
  · simp
  · intro i h1 h2
    simp only [List.getElem_map, List.getElem_range]
    exact h i (by simpa using h2)

/-- the samples vector written by `From<RLBuilder>` reads back the builder's sample columns, provided every
entry fits the chosen width -/
theorem samples_cols {sl : List (Nat × Nat)} {w : Nat} (h1 : 1 ≤ w) (h2 : w ≤ 64)
    (hfit : ∀ p, p ∈ sl → p.1 < 2 ^ w ∧ p.2 < 2 ^ w) :
    let s := sl.foldl (fun s p => (s.push (BitVec.ofNat 64 p.1)).push (BitVec.ofNat 64 p.2))
      (⟨0, w, RawVec.empty⟩ : IntVec)
    s.WF ∧ s.width = w ∧ s.len = 2 * sl.length ∧
    (∀ j (hj : j < sl.length),
      (s.getRaw (2 * j)).toNat = sl[j].1 ∧ (s.getRaw (2 * j + 1)).toNat = sl[j].2) ∧
    bitsCol s = sl.map (·.2) ∧ onesCol s = sl.map (·.1) ∧ zerosCol s = sl.map (fun p => p.2 - p.1) := by
  have h0 : (⟨0, w, RawVec.empty⟩ : IntVec).WF := ⟨h1, h2, by simp [RawVec.empty], RawVec.empty_WF⟩
  obtain ⟨a, b, -⟩ := IntVec.push2_spec sl h0
  intro s
  have c' : s.len = 2 * sl.length := (RL.samples_pairs (sl := sl) h1 h2).1
  have hp := (RL.samples_pairs (sl := sl) h1 h2).2
  have hrd : ∀ j (hj : j < sl.length),
      (s.getRaw (2 * j)).toNat = sl[j].1 ∧ (s.getRaw (2 * j + 1)).toNat = sl[j].2 := fun j hj =>
    have hf := hfit _ (List.getElem_mem hj)
    ⟨(hp j hj).1 hf.1, (hp j hj).2 hf.2⟩
  have hl2 : s.len / 2 = sl.length := by omega
  refine ⟨a, b, c', hrd, ?_, ?_, ?_⟩
  · unfold bitsCol; rw [hl2]; exact range_map_eq sl _ _ (fun j hj => (hrd j hj).2)
  · unfold onesCol; rw [hl2]; exact range_map_eq sl _ _ (fun j hj => (hrd j hj).1)
  · unfold zerosCol; rw [hl2]
    exact range_map_eq sl _ _ (fun j hj => by rw [(hrd j hj).1, (hrd j hj).2])

/-- the bits-sample of the last block (0 without blocks): `From<RLBuilder>` takes the sample width from it -/
def lastBits (b : RLBuilder) : Nat := (b.samples.toList.getLast?.map (·.2)).getD 0

/-- what serializability needs of the samples of a builder, without ghost state: ones ≤ bits ≤ the last bits-sample ≤
`tail`, and one sample per started block of 64 code units -/
structure SamplesOk (b : RLBuilder) : Prop where
  le : ∀ p ∈ b.samples.toList, p.1 ≤ p.2 ∧ p.2 ≤ lastBits b
  last_le : lastBits b ≤ b.tail
  size : b.samples.size = (b.data.len + 63) / 64

/-- the samples are cumulative `(ones, bits)` counts of whole blocks, the last of them before the pending run -/
theorem _root_.Sds.RLBuilder.DInv.samplesOk {b : RLBuilder} {done cur} (hd : DInv b done cur) : SamplesOk b := by
  have hsz := hd.size
  refine ⟨fun p hp => ?_, ?_, ?_⟩
  · obtain ⟨j, hj, rfl⟩ := List.getElem_of_mem hp
    rw [Array.length_toList] at hj
    unfold lastBits
    rw [List.getLast?_eq_getElem?, Array.length_toList, List.getElem?_eq_getElem (by rw [Array.length_toList]; omega),
      Array.getElem_toList, Array.getElem_toList, hd.samples j hj, hd.samples _ (by omega)]
    exact ⟨lens_le_span _, span_take_mono done j _ (by omega)⟩
  · unfold lastBits
    rw [List.getLast?_eq_getElem?, Array.length_toList]
    by_cases h0 : b.samples.size = 0
    · rw [List.getElem?_eq_none (by rw [Array.length_toList]; omega)]; exact Nat.zero_le _
    · rw [List.getElem?_eq_getElem (by rw [Array.length_toList]; omega), Array.getElem_toList,
        hd.samples _ (by omega), hd.tail]
      have := span_take_mono done (b.samples.size - 1) done.length (by split at hsz <;> omega)
      rw [List.take_length] at this
      exact Nat.le_trans this (Nat.le_add_right _ _)
  · rw [hsz, hd.data_len]
    by_cases hcur : cur = []
    · subst hcur; rw [if_pos rfl]; show _ = (64 * done.length + 0 + 63) / 64; omega
    · have := unitsOf_length_pos hcur hd.valid_cur.1
      have := hd.valid_cur.2
      rw [if_neg hcur]; omega

/-- `flush` keeps it, by arithmetic alone: a new sample is `(flushed ones, tail)`, and the run then written ends after
`tail` -/
theorem flush_samplesOk (m : Mode) {b b' : RLBuilder} (hi : b.Inv) (h : SamplesOk b) (e : b.flush m = ok b') :
    SamplesOk b' := by
  by_cases hr : b.run.2 = 0
  · rw [flush, if_pos hr] at e; cases e; exact h
  obtain ⟨b1, e1, _, _, _, l4, _, _, _, hcase⟩ := flush_run m hi hr
  rw [e] at e1; cases e1
  have htl := hi.tail_le
  have hU := runUnits_length_bounds (b.run.1 - b.tail) b.run.2
  have hsz := h.size
  rcases hcase with ⟨c1, c2, c3⟩ | ⟨c1, c2, c3⟩
  · have hl : lastBits b' = lastBits b := by unfold lastBits; rw [c2]
    have hdl : b'.data.len = b.data.len + (runUnits (b.run.1 - b.tail) b.run.2).length := by
      rw [← IntVec.items_length, c3, List.length_append, IntVec.items_length]
    exact ⟨by rw [hl, c2]; exact h.le, by rw [hl, l4]; exact Nat.le_trans h.last_le (by omega), by rw [c2, hdl]; omega⟩
  · have hl : lastBits b' = b.tail := by unfold lastBits; rw [c2]; simp
    have hdl : b'.data.len = b.samples.size * 64 + (runUnits (b.run.1 - b.tail) b.run.2).length := by
      have := hi.data_le
      rw [← IntVec.items_length, c3, List.length_append, List.length_append, List.length_replicate,
        IntVec.items_length]; omega
    refine ⟨fun p hp => ?_, by rw [hl, l4]; omega, by rw [c2, Array.size_push, hdl]; omega⟩
    rw [hl]
    rw [c2, Array.toList_push, List.mem_append, List.mem_singleton] at hp
    rcases hp with hp | rfl
    · exact ⟨(h.le p hp).1, Nat.le_trans (h.le p hp).2 h.last_le⟩
    · exact ⟨hi.flushed_le, Nat.le_refl _⟩

/-- `v` reads back the flushed builder `b'`: its `len`, `ones` and `data`; the packed samples are those of `b'` (every
entry fits the width taken from the last one); the three indexes are `SampleIndex::new` of the three columns of these
samples -/
structure Reads (m : Mode) (v : RL) (b' : RLBuilder) : Prop where
  len : v.len = b'.len
  ones : v.ones = b'.ones
  data : v.data = b'.data
  smp_wf : v.samples.WF
  smp_w : v.samples.width = bitLen (BitVec.ofNat 64 (lastBits b'))
  smp_len : v.samples.len = 2 * b'.samples.size
  smp : ∀ j (hj : j < b'.samples.size), (v.samples.getRaw (2 * j)).toNat = b'.samples[j].1 ∧
    (v.samples.getRaw (2 * j + 1)).toNat = b'.samples[j].2
  rank_idx : SampleIndex.new m (bitsCol v.samples) v.len = ok v.rankIndex
  sel_idx : SampleIndex.new m (onesCol v.samples) v.ones = ok v.selectIndex
  zero_idx : SampleIndex.new m (zerosCol v.samples) (v.len - v.ones) = ok v.selectZeroIndex

/-- **`From<RLBuilder>` reads back** the flushed builder whenever it succeeds: no entry is truncated, no subtraction
wraps -/
theorem ofBuilder_reads (m : Mode) {b : RLBuilder} {v : RL} (hi : b.Inv) (hs : SamplesOk b) (h : ofBuilder m b = ok v) :
    ∃ b', b.flush m = ok b' ∧ b'.Inv ∧ SamplesOk b' ∧ Reads m v b' := by
  obtain ⟨b', w, zs, zeros, e, f1, f2, f3, w1, w2, wdef, f4, hri, hsi, hz, hzs, hzi⟩ := ofBuilder_steps m h
  have hi1 := flush_inv m hi e
  have hs1 := flush_samplesOk m hi hs e
  -- every sample fits the width chosen from the last one
  have hlast : lastBits b' < 2 ^ w := by
    have := hs1.last_le; have := hi1.tail_le; have := hi1.run_end; have := hi1.len_lt
    rw [wdef]
    exact (bitLen_spec_rl _ (by rw [← U64_eq]; omega)).2.2.1
  have hfit : ∀ p, p ∈ b'.samples.toList → p.1 < 2 ^ w ∧ p.2 < 2 ^ w := fun p hp => by
    have := hs1.le p hp
    omega
  obtain ⟨s1, s2, s3, s4, s5, s6, s7⟩ := samples_cols (sl := b'.samples.toList) w1 w2 hfit
  rw [← f4] at s1 s2 s3 s4 s5 s6 s7
  rw [Array.length_toList] at s3
  rw [mapM_ok (fun p : Nat × Nat => subM m p.2 p.1) (fun p => p.2 - p.1) b'.samples.toList
    (fun p hp => subM_ok (hs1.le p hp).1)] at hzs
  rw [subM_ok hi1.ones_le] at hz
  cases hzs; cases hz
  exact ⟨b', e, hi1, hs1, f1, f2, f3, s1, s2.trans wdef, s3,
    fun j hj => by
      have := s4 j (by rw [Array.length_toList]; exact hj)
      rw [Array.getElem_toList] at this
      exact this,
    by rw [s5, f1]; exact hri, by rw [s6, f2]; exact hsi, by rw [s7, f1, f2]; exact hzi⟩

/-- **what `From<RLBuilder>` produces is serializable**: for a builder satisfying the representation invariant
`Inv` and the data-level invariant `DInv` (both hold after any accepted sequence of calls, see `RL.runBCalls_hist`),
whenever the conversion succeeds the vector satisfies `rlWF` — the stored samples read back the builder's
sample columns, so the three indexes are exactly what `load` rebuilds.  `hsize` says that the two integer
vectors fit a `usize`-addressed file (256 data bits and 2 samples of at most 64 bits per block). -/
theorem ofBuilder_rlWF (m : Mode) {b : RLBuilder} {v : RL} {done : List (List (Nat × Nat))}
    {cur : List (Nat × Nat)} (hi : b.Inv) (hd : DInv b done cur) (h : ofBuilder m b = ok v)
    (hsize : 128 * v.samples.len < 2 ^ 64) : rlWF m v := by
  obtain ⟨b1, _, hi1, hs1, r⟩ := ofBuilder_reads m hi hd.samplesOk h
  have hlt : b1.len < 2 ^ 64 := U64_eq ▸ hi1.len_lt
  have hol := hi1.ones_le
  have hdl := hi1.data_le
  have hsl := r.smp_len
  have hsw : v.samples.len * v.samples.width ≤ v.samples.len * 64 := Nat.mul_le_mul_left _ r.smp_wf.2.1
  refine ⟨intVecWF_of_bits_lt r.smp_wf (by omega), ?_, ?_, r.len ▸ hlt, r.ones ▸ Nat.lt_of_le_of_lt hol hlt,
    r.len ▸ r.ones ▸ hol, fun j hj => ?_, r.rank_idx, r.sel_idx, r.zero_idx⟩
  · rw [r.data]; exact intVecWF_of_bits_lt hi1.data_wf (by rw [hi1.data_w]; omega)
  · rw [r.data, ← hs1.size]; omega
  · obtain ⟨g1, g2⟩ := r.smp j (by omega)
    rw [g1, g2]
    exact (hs1.le _ (by simp)).1

theorem flush_samples_size (m : Mode) {b b' : RLBuilder} (h : b.flush m = ok b') :
    b'.samples.size ≤ b.samples.size + 1 := by
  unfold flush at h
  by_cases hr : b.run.2 = 0
  · rw [if_pos hr] at h; injection h with h; subst h; omega
  · rw [if_neg hr] at h
    obtain ⟨gap, _, h⟩ := Outcome.bind_eq_ok h
    injection h with h
    subst h
    dsimp only
    split
    · simp
    · omega

/-- the size side condition of `ofBuilder_rlWF`, stated on the builder: at most one block is added by the final
`flush`, and each block takes 256 data bits and two samples -/
theorem ofBuilder_size (m : Mode) {b : RLBuilder} {v : RL} (h : ofBuilder m b = ok v)
    (hsize : 256 * (b.samples.size + 1) < 2 ^ 64) : 128 * v.samples.len < 2 ^ 64 := by
  obtain ⟨b', w, _, _, e, _, _, _, w1, w2, _, f4, _⟩ := ofBuilder_steps m h
  have := flush_samples_size m e
  obtain ⟨sl1, _⟩ := samples_pairs (sl := b'.samples.toList) w1 w2
  rw [← f4] at sl1
  rw [sl1, Array.length_toList]
  omega

/-- `ofBuilder_rlWF` with the size condition stated on the builder -/
theorem ofBuilder_rlWF' (m : Mode) {b : RLBuilder} {v : RL} {done : List (List (Nat × Nat))}
    {cur : List (Nat × Nat)} (hi : b.Inv) (hd : DInv b done cur) (h : ofBuilder m b = ok v)
    (hsize : 256 * (b.samples.size + 1) < 2 ^ 64) : rlWF m v :=
  ofBuilder_rlWF m hi hd h (ofBuilder_size m h hsize)

/-- **every vector built by an accepted history of `try_set` / `set_len` / `set_bit` calls is serializable** -/
theorem build_rlWF (m : Mode) (calls : List BCall) (hc : ∀ c ∈ calls, callArgsOk c)
    (b : RLBuilder) (hb : runBCalls m calls {} = ok b) (v : RL) (hv : ofBuilder m b = ok v)
    (hsize : 128 * v.samples.len < 2 ^ 64) : rlWF m v :=
  let ⟨_, _, k⟩ := runBCalls_hist m calls hc b hb
  ofBuilder_rlWF m k.inv k.pinv.dinv hv hsize

/-- the test vector of the C06 / C14 examples: the accepted history `set_len(10); try_set(10, 5)`, converted — one
evaluation per mode serves every example about it -/
theorem rl_small_built (m : Mode) : ∃ b v, (∀ c ∈ [BCall.setLen 10, .set 10 5], callArgsOk c) ∧
    runBCalls m [.setLen 10, .set 10 5] {} = ok b ∧ ofBuilder m b = ok v ∧
    128 * v.samples.len < 2 ^ 64 ∧ rlWF m v ∧ (rlC m).size v = 12 := by
  have hc : ∀ c ∈ [BCall.setLen 10, .set 10 5], callArgsOk c := by
    intro c hc; simp at hc; rcases hc with rfl | rfl <;> simp [callArgsOk, U64]
  have h : (do let b ← runBCalls m [.setLen 10, .set 10 5] {}
               let v ← ofBuilder m b
               return ((rlC m).size v, decide (128 * v.samples.len < 2 ^ 64))) = ok (12, true) := by
    cases m <;> decide +kernel
  obtain ⟨b, hb, h⟩ := bind_eq_ok h
  obtain ⟨v, hv, h⟩ := bind_eq_ok h
  injection h with h
  injection h with hsize hs
  exact ⟨b, v, hc, hb, hv, of_decide_eq_true hs, build_rlWF m _ hc b hb v hv (of_decide_eq_true hs), hsize⟩

/-- ... hence it loads back from its serialization, followed by anything -/
theorem build_roundtrip (m : Mode) (calls : List BCall) (hc : ∀ c ∈ calls, callArgsOk c)
    (b : RLBuilder) (hb : runBCalls m calls {} = ok b) (v : RL) (hv : ofBuilder m b = ok v)
    (hsize : 128 * v.samples.len < 2 ^ 64) (rest : Elems) :
    (rlC m).load ((rlC m).ser v ++ rest) = ok (v, rest) :=
  (rlC_lawful m).roundtrip v rest (build_rlWF m calls hc b hb v hv hsize)

end FromBuilder

/-! ### 4. corollaries: sizes, concatenation, the byte view -/

theorem sparseC_size (s : Sparse) :
    (sparseC.ser s).length = 1 + (bitVectorC.ser s.high).length + (intVecC.ser s.low).length := by
  simp [sparseC]; omega

theorem wmCoreC_size (c : WMCore) :
    (wmCoreC.ser c).length = 1 + (c.levels.toList.map fun b => (bitVectorC.ser b).length).sum := by
  simp [wmCoreC, List.length_flatMap]; omega

theorem wmC_size (w : WM) :
    (wmC.ser w).length = 1 + (wmCoreC.ser w.data).length + (intVecC.ser w.first).length := by
  simp [wmC]; omega

theorem rlC_size (m : Mode) (v : RL) :
    ((rlC m).ser v).length = 2 + (intVecC.ser v.samples).length + (intVecC.ser v.data).length := by
  simp [rlC]; omega

/-- in elements: two counters, two integer-vector headers of 4 elements, and the words of both -/
theorem rlC_size_words (m : Mode) (v : RL) :
    ((rlC m).ser v).length = 10 + v.samples.data.data.size + v.data.data.data.size := by
  rw [rlC_size, intVecC_ser_length, intVecC_ser_length]; omega

/-- exactly `8 * size` bytes are written -/
theorem bytes_written {α} (c : Codec α) (x : α) : (toBytes (c.ser x)).length = 8 * c.size x :=
  length_toBytes _

/-- ... and exactly these are consumed: what is left after loading is the rest, byte for byte -/
theorem bytes_consumed {α} {c : Codec α} {W : α → Prop} (h : Lawful c W) (x : α) (hx : W x) (r : Elems) :
    ∃ y rest, c.load (ofBytes (toBytes (c.ser x) ++ toBytes r)) = ok (y, rest) ∧ y = x ∧
      toBytes rest = (toBytes (c.ser x) ++ toBytes r).drop (8 * c.size x) := by
  have e : toBytes (c.ser x) ++ toBytes r = toBytes (c.ser x ++ r) := by simp [toBytes]
  refine ⟨x, r, by rw [e]; exact roundtrip_bytes h x hx r, rfl, ?_⟩
  rw [← bytes_written, List.drop_left]

/-- a sparse vector, a run-length vector and a wavelet matrix written back to back: the first loads and leaves
exactly the serializations of the other two -/
theorem composite_load_concat (m : Mode) (s : Sparse) (v : RL) (w : WM) (r : Elems) (hs : sparseWF s) :
    sparseC.load (sparseC.ser s ++ (rlC m).ser v ++ wmC.ser w ++ r) = ok (s, (rlC m).ser v ++ wmC.ser w ++ r) := by
  rw [List.append_assoc, List.append_assoc, ← List.append_assoc ((rlC m).ser v)]
  exact sparseC_lawful.roundtrip s _ hs

/-- ... and loading the three in sequence returns the three values and the rest -/
theorem composite_load_seq (m : Mode) (s : Sparse) (v : RL) (w : WM) (r : Elems)
    (hs : sparseWF s) (hv : rlWF m v) (hw : wmWF w) :
    (do let (a, r1) ← sparseC.load (sparseC.ser s ++ (rlC m).ser v ++ wmC.ser w ++ r)
        let (b, r2) ← (rlC m).load r1
        let (c, r3) ← wmC.load r2
        pure ((a, b, c), r3)) = ok ((s, v, w), r) := by
  rw [composite_load_concat m s v w r hs, bind_ok]
  show ((rlC m).load ((rlC m).ser v ++ wmC.ser w ++ r) >>= _) = _
  rw [List.append_assoc, (rlC_lawful m).roundtrip v _ hv, bind_ok]
  show (wmC.load (wmC.ser w ++ r) >>= _) = _
  rw [wmC_lawful.roundtrip w r hw]; rfl

/-- the three structures as one record: lawful, with the strong prefix law — every strict prefix of the
concatenation is refused with `eof` by the sequential loader -/
theorem composite_lawfulEof (m : Mode) :
    LawfulP IsEof (seqC sparseC (seqC (rlC m) wmC)) (fun p => sparseWF p.1 ∧ rlWF m p.2.1 ∧ wmWF p.2.2) :=
  seqC_lawfulP sparseC_lawfulEof (seqC_lawfulP (rlC_lawfulEof m) wmC_lawfulEof)

theorem composite_lawful (m : Mode) :
    Lawful (seqC sparseC (seqC (rlC m) wmC)) (fun p => sparseWF p.1 ∧ rlWF m p.2.1 ∧ wmWF p.2.2) :=
  (composite_lawfulEof m).lawful

/-! byte-level instances -/

theorem sparse_roundtrip_bytes (s : Sparse) (hs : sparseWF s) (r : Elems) :
    sparseC.load (ofBytes (toBytes (sparseC.ser s ++ r))) = ok (s, r) := roundtrip_bytes sparseC_lawful s hs r

theorem sparse_pfx_bytes_eof (s : Sparse) (hs : sparseWF s) (k : Nat) (hk : k < 8 * (sparseC.ser s).length) :
    sparseC.load (ofBytes ((toBytes (sparseC.ser s)).take k)) = fault (.err .eof) :=
  pfx_bytes_eof sparseC_lawfulEof s hs k hk

theorem wmCore_roundtrip_bytes (c : WMCore) (hc : wmCoreWF c) (r : Elems) :
    wmCoreC.load (ofBytes (toBytes (wmCoreC.ser c ++ r))) = ok (c, r) := roundtrip_bytes wmCoreC_lawful c hc r

theorem wmCore_pfx_bytes_eof (c : WMCore) (hc : wmCoreWF c) (k : Nat) (hk : k < 8 * (wmCoreC.ser c).length) :
    wmCoreC.load (ofBytes ((toBytes (wmCoreC.ser c)).take k)) = fault (.err .eof) :=
  pfx_bytes_eof wmCoreC_lawfulEof c hc k hk

theorem wm_roundtrip_bytes (w : WM) (hw : wmWF w) (r : Elems) :
    wmC.load (ofBytes (toBytes (wmC.ser w ++ r))) = ok (w, r) := roundtrip_bytes wmC_lawful w hw r

theorem wm_pfx_bytes_eof (w : WM) (hw : wmWF w) (k : Nat) (hk : k < 8 * (wmC.ser w).length) :
    wmC.load (ofBytes ((toBytes (wmC.ser w)).take k)) = fault (.err .eof) :=
  pfx_bytes_eof wmC_lawfulEof w hw k hk

theorem rl_roundtrip_bytes (m : Mode) (v : RL) (hv : rlWF m v) (r : Elems) :
    (rlC m).load (ofBytes (toBytes ((rlC m).ser v ++ r))) = ok (v, r) := roundtrip_bytes (rlC_lawful m) v hv r

theorem rl_pfx_bytes_eof (m : Mode) (v : RL) (hv : rlWF m v) (k : Nat) (hk : k < 8 * ((rlC m).ser v).length) :
    (rlC m).load (ofBytes ((toBytes ((rlC m).ser v)).take k)) = fault (.err .eof) :=
  pfx_bytes_eof (rlC_lawfulEof m) v hv k hk

/-- the strong prefix law of the three structures written back to back, at the byte level -/
theorem composite_pfx_bytes_eof (m : Mode) (s : Sparse) (v : RL) (w : WM)
    (hs : sparseWF s) (hv : rlWF m v) (hw : wmWF w) (k : Nat)
    (hk : k < 8 * (sparseC.ser s ++ ((rlC m).ser v ++ wmC.ser w)).length) :
    (seqC sparseC (seqC (rlC m) wmC)).load
      (ofBytes ((toBytes (sparseC.ser s ++ ((rlC m).ser v ++ wmC.ser w))).take k)) = fault (.err .eof) :=
  pfx_bytes_eof (composite_lawfulEof m) (s, v, w) ⟨hs, hv, hw⟩ k hk

/-! built values, end to end -/

/-- **a built sparse vector (set or multiset mode) round-trips**, and every strict prefix of its file is
refused with `eof` -/
theorem sparse_ofValues_lawful (w n : Nat) (multi : Bool) (P : List Nat) (hw1 : 1 ≤ w) (hw : w ≤ 63)
    (hn : n < 2 ^ 64) (hm : P.length < 2 ^ 63)
    (hsorted : if multi then sortedLe P = true else sortedStrict P = true) (hbound : ∀ p ∈ P, p < n)
    (hhigh : P.length + Sparse.getBuckets n w < 2 ^ 63) (hlow : P.length * w < 2 ^ 64) :
    ∃ s, Sparse.ofValues w n multi P = ok s ∧ s.Encodes n w P ∧
      (∀ rest, sparseC.load (sparseC.ser s ++ rest) = ok (s, rest)) ∧
      (∀ k, k < (sparseC.ser s).length → sparseC.load ((sparseC.ser s).take k) = fault (.err .eof)) := by
  obtain ⟨s, h1, he, hwf⟩ := ofValues_sparseWF w n multi P hw1 hw hn hm hsorted hbound hhigh hlow
  exact ⟨s, h1, he, fun rest => sparseC_lawful.roundtrip s rest hwf,
    fun k hk => sparseC_lawfulEof.pfx_eof s k hwf hk⟩

/-- **a built wavelet matrix round-trips**, and every strict prefix of its file is refused with `eof` -/
theorem wm_ofValues_lawful (V : List Nat) (hV : ∀ v, v ∈ V → v < 2 ^ 64) (hlen : V.length < 2 ^ 63)
    (hfirst : (V.foldl max 0 + 1) * 64 < 2 ^ 64) :
    (∀ rest, wmC.load (wmC.ser (WM.ofValues V) ++ rest) = ok (WM.ofValues V, rest)) ∧
    (∀ k, k < (wmC.ser (WM.ofValues V)).length →
      wmC.load ((wmC.ser (WM.ofValues V)).take k) = fault (.err .eof)) :=
  ⟨fun rest => wmC_lawful.roundtrip _ rest (ofValues_wmWF V hV hlen hfirst),
   fun k hk => wmC_lawfulEof.pfx_eof _ k (ofValues_wmWF V hV hlen hfirst) hk⟩

end Sds.Codec2
