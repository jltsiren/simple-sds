/-
Proofs/GenEqRL2: the second part of Generated/FnsRL.lean (`rl_vector.rs`, translated statement by statement) is equal to
the hand-written model of Model/RL.lean.  Hypothesis bundles of part 1 (GenEqRL1): `RLBounds m v`, `RangeOK`.
All twelve functions call the run iterator through `next()` only (closure `|_| true`), so `run_next_eq` applies and no
`AdvAgree` hypothesis is needed.

* `select`, `select_iter` (`rl_select_eq`, `rl_select_iter_eq`): `RLBounds`, `ones < 2^64`, `RangeOK selectIndex rank`
  (the hypotheses of `iter_for_one`); the loop `while rank() <= rank { next() }` is `RL.advanceTo` (`adv_loop`).
* `zero_iter` (`rl_zero_iter_eq`): `RLBounds`.
* `select_zero`, `select_zero_iter` (`rl_select_zero_eq`, `rl_select_zero_iter_eq`): `RLBounds`, `len < 2^64`,
  `ones ≤ len` (`count_zeros`; needed: `rl_select_zero_ne`), `RangeOK selectZeroIndex rank`; the loop is
  `RL.selectZeroLoop` (`sz_loop`).
* `successor` (`rl_successor_eq`): `RLBounds`, `len < 2^64`, `RangeOK rankIndex value`; the loop is `RL.succLoop`.
* `OneIter::next` (`rl_one_next_eq'`): `RLBounds` and "when a value is returned, `rank + 1 < 2^64`" (the code adds in
  `usize`, the model in `Nat`; needed: `rl_one_next_ne`, an unreachable state).  `rl_one_next_eq`: `rank + 1 < 2^64`.
* `OneIter::size_hint` (`rl_one_size_hint_eq`): `rank ≤ ones` (needed: `rl_one_size_hint_ne`).
* `ZeroIter::next` (`rl_zero_next_eq'`): `RLBounds`, `len < 2^64`, `ones ≤ len`, "when a position is returned it is
  `< 2^64 - 1`", and `hgn`: with overflow checks on, an exhausted iterator has `rank ≤ index` in its run iterator: the
  model evaluates `rank_zero()` before `got_none`, the code short-circuits (`rl_zero_next_ne`: a model artefact on an
  unreachable state).
* `ZeroIter::size_hint` (`rl_zero_size_hint_eq`): `ones ≤ len`, `pos.0 ≤ count_zeros`.
* `Iter::next` (`rl_iter_next_eq'`): `RLBounds`, the end `start + len` of the current run is `< 2^64` (`hrun`), and "when
  a bit is returned, `pos + 1 < 2^64`".  `hrun` is needed, and `rl_iter_next_ne` is a DIVERGENCE between the code and
  the model reachable through `iter()` and `next()` in release builds on crafted data (a run ending at `2^64`): the code
  reports bit 1 of `rlBig` unset, the model reports it set.
* `Iter::size_hint` (`rl_iter_size_hint_eq`): `pos ≤ len`.
* `…_good`: on a well-formed vector (`RLQ.GoodB`).
-/
import Sds.Proofs.GenEqRL1

namespace Sds.GenEq
open Sds Outcome Generated

/-- the body of the loops of `select` (`c = rank() <= rank`) and `select_iter` (`c = rank() < rank`) -/
def stepWhile (ρ : Type) (m : Mode) (v : RL) (c : RunIter → Bool) : RunIter → Outcome (Ctl RunIter ρ) := fun iter => do
  if c iter then do
    let t2 ← gen_RunIter_next m v iter
    let iter := t2.2
    let _ := t2.1
    pure (Ctl.next iter)
  else do
    pure (Ctl.brk iter)

theorem adv_loop {ρ : Type} {m : Mode} {v : RL} (hb : RLBounds m v) (rank : Nat) (strict : Bool) (c : RunIter → Bool)
    (hc : ∀ it, c it = true ↔ (if strict then it.rank < rank else it.rank ≤ rank)) (fin : Ctl RunIter ρ → Outcome ρ)
    (k : RunIter → Outcome ρ) (hk : ∀ it, fin (.brk it) = k it) :
    ∀ fuel it, (loopM fuel (stepWhile ρ m v c) it >>= fin) = (RL.advanceTo m v rank strict fuel it >>= k) :=
  fun fuel it => loopM_ind _ fin (fun n it => RL.advanceTo m v rank strict n it >>= k) (fun _ => True) (fun _ => rfl)
    (fun n it _ R hR => by
      rw [RL.advanceTo]
      unfold stepWhile
      by_cases h : c it = true
      · rw [if_pos h, if_pos ((hc it).1 h), run_next_eq hb]
        simp only [bind_assoc]
        exact bind_congr fun r => hR _ trivial
      · rw [if_neg h, if_neg (fun h' => h ((hc it).2 h'))]
        exact hk it) fuel it trivial

theorem rl_select_eq {m : Mode} {v : RL} (hb : RLBounds m v) (rank : Nat) (hones : v.ones < U64)
    (hr : rank < v.ones → RangeOK v.selectIndex rank) :
    gen_RLVector_select m v rank = v.select m rank := by
  unfold gen_RLVector_select RL.select
  by_cases h : rank ≥ v.ones
  · rw [if_pos (decide_eq_true h), if_pos h]; rfl
  · rw [if_neg (mt of_decide_eq_true h), if_neg h, rl_iter_for_one_eq m v rank hones hr]
    refine bind_congr fun it => ?_
    exact adv_loop hb rank false (fun it => decide (it.pos.1 ≤ rank)) (fun it => by simp [RunIter.rank]) _ _
      (fun it => by
        show (gen_RunIter_offset_for m v it rank >>= _) = _
        rw [run_offset_for_eq]) _ it

theorem rl_select_iter_eq {m : Mode} {v : RL} (hb : RLBounds m v) (rank : Nat) (hones : v.ones < U64)
    (hr : rank < v.ones → RangeOK v.selectIndex rank) :
    gen_RLVector_select_iter m v rank = v.selectIter m rank := by
  unfold gen_RLVector_select_iter RL.selectIter
  by_cases h : rank ≥ v.ones
  · rw [if_pos (decide_eq_true h), if_pos h]; rfl
  · rw [if_neg (mt of_decide_eq_true h), if_neg h, rl_iter_for_one_eq m v rank hones hr]
    refine bind_congr fun it => ?_
    exact adv_loop hb rank true (fun it => decide (it.pos.1 < rank)) (fun it => by simp [RunIter.rank]) _ _
      (fun it => rfl) _ it

/-! ### `zero_iter` -/

theorem rl_zero_iter_eq {m : Mode} {v : RL} (hb : RLBounds m v) : gen_RLVector_zero_iter m v = v.zeroIter m := by
  unfold gen_RLVector_zero_iter RL.zeroIter
  rw [rl_run_iter_eq]
  cases v.runIter with
  | fault e => rfl
  | ok r =>
    simp only [bind_ok, run_next_eq hb]

/-! ### `select_zero`, `select_zero_iter` -/

/-- the body of the loop of `select_zero` (`mk _ _ r = some r`) and `select_zero_iter` (`mk it gn r = ⟨it, gn, (rank, r)⟩`) -/
def stepSZ (ρ : Type) (m : Mode) (v : RL) (rank : Nat) (mk : RunIter → Bool → Nat → ρ) :
    RunIter × Nat → Outcome (Ctl (RunIter × Nat) ρ) := fun (iter, ones) => do
  if true then do
    let t3 ← gen_RunIter_next m v iter
    let iter := t3.2
    match t3.1 with
    | some _ => do
        let t4 ← gen_RunIter_rank_zero m v iter
        if (decide (t4 > rank)) then do
          let t5 ← addM m rank ones
          pure (Ctl.ret (mk iter false t5))
        else do
          let ones := (iter.pos.1)
          pure (Ctl.next (iter, ones))
    | none => do
        let t6 ← addM m rank ones
        pure (Ctl.ret (mk iter true t6))
  else do
    pure (Ctl.brk (iter, ones))

theorem sz_loop {ρ : Type} {m : Mode} {v : RL} (hb : RLBounds m v) (rank : Nat) (mk : RunIter → Bool → Nat → ρ)
    (fin : Ctl (RunIter × Nat) ρ → Outcome ρ) (hfin : ∀ r, fin (.ret r) = ok r) :
    ∀ fuel it ones, (loopM fuel (stepSZ ρ m v rank mk) (it, ones) >>= fin) =
      (RL.selectZeroLoop m v rank fuel it ones >>= fun r => ok (mk r.2.1 r.2.2 r.1)) := fun fuel it ones =>
  loopM_bind_eq (stepSZ ρ m v rank mk) fin
    (fun fuel p => RL.selectZeroLoop m v rank fuel p.1 p.2 >>= fun r => ok (mk r.2.1 r.2.2 r.1)) (fun _ => True)
    (fun _ => rfl)
    (fun n p _ => by
      obtain ⟨it, ones⟩ := p
      dsimp only
      rw [RL.selectZeroLoop]
      unfold stepSZ
      simp only [if_true, bind_assoc]
      rw [run_next_eq hb]
      refine bind_congr fun ⟨o, it'⟩ => ?_
      cases o with
      | none =>
        dsimp only [bind_ok]
        cases addM m rank ones with
        | fault e => rfl
        | ok r => exact (hfin _).symm
      | some r =>
        simp only [run_rank_zero_eq]
        cases it'.rankZero m with
        | fault e => rfl
        | ok rz =>
          dsimp only [bind_ok]
          by_cases h : rz > rank
          · rw [if_pos h, if_pos (decide_eq_true h)]
            cases addM m rank ones with
            | fault e => rfl
            | ok r => exact (hfin _).symm
          · rw [if_neg h, if_neg (mt of_decide_eq_true h)]; rfl)
    (fun _ _ _ _ => trivial) fuel (it, ones) trivial

theorem rl_select_zero_eq {m : Mode} {v : RL} (hb : RLBounds m v) (rank : Nat) (hlen : v.len < U64)
    (hol : v.ones ≤ v.len) (hr : rank < v.countZeros → RangeOK v.selectZeroIndex rank) :
    gen_RLVector_select_zero m v rank = v.selectZero m rank := by
  unfold gen_RLVector_select_zero RL.selectZero
  rw [rl_count_zeros_eq_ok m v hol, bind_ok]
  by_cases h : rank ≥ v.countZeros
  · rw [if_pos (decide_eq_true h), if_pos h]; rfl
  · rw [if_neg (mt of_decide_eq_true h), if_neg h, rl_iter_for_zero_eq m v rank hlen hol hr]
    refine bind_congr fun it => ?_
    exact sz_loop hb rank (fun _ _ r => some r) _ (fun _ => rfl) _ it it.rank

theorem rl_select_zero_iter_eq {m : Mode} {v : RL} (hb : RLBounds m v) (rank : Nat) (hlen : v.len < U64)
    (hol : v.ones ≤ v.len) (hr : rank < v.countZeros → RangeOK v.selectZeroIndex rank) :
    gen_RLVector_select_zero_iter m v rank = v.selectZeroIter m rank := by
  unfold gen_RLVector_select_zero_iter RL.selectZeroIter
  rw [rl_count_zeros_eq_ok m v hol, bind_ok]
  by_cases h : rank ≥ v.countZeros
  · rw [if_pos (decide_eq_true h), if_pos h]; rfl
  · rw [if_neg (mt of_decide_eq_true h), if_neg h, rl_iter_for_zero_eq m v rank hlen hol hr]
    refine bind_congr fun it => ?_
    exact sz_loop hb rank (fun it gn r => (⟨it, gn, (rank, r)⟩ : RLZeroIter)) _ (fun _ => rfl) _ it it.rank

/-! ### `successor` -/

/-- what `successor` makes of the result of the loop -/
def succK (v : RL) : Option (RunIter × Nat) → Outcome RLOneIter
  | none => return RLOneIter.emptyIter v
  | some (it', r) => return ⟨it', false, r⟩

/-- `RLVector::successor`: its loop is `RL.succLoop` (which does not carry the rank the code threads through) -/
theorem rl_successor_eq {m : Mode} {v : RL} (hb : RLBounds m v) (value : Nat) (hlen : v.len < U64)
    (hr : value < v.len → RangeOK v.rankIndex value) :
    gen_RLVector_successor m v value = v.successor m value := by
  unfold gen_RLVector_successor RL.successor
  by_cases h : value ≥ v.len
  · rw [if_pos (decide_eq_true h), if_pos h]; rfl
  rw [if_neg (mt of_decide_eq_true h), if_neg h, rl_iter_for_bit_eq m v value hlen hr]
  refine bind_congr fun it => ?_
  refine loopM_bind_eq _ _ (fun fuel p => RL.succLoop m v value fuel p.1 >>= succK v) (fun _ => True) (fun _ => rfl)
    (fun n p _ => ?_) (fun _ _ _ _ => trivial) _ (it, 0) trivial
  obtain ⟨it, rk⟩ := p
  dsimp only
  rw [RL.succLoop]
  simp only [if_true, bind_assoc]
  rw [run_next_eq hb]
  refine bind_congr fun ⟨o, it'⟩ => ?_
  cases o with
  | none => rfl
  | some r =>
    obtain ⟨start, len⟩ := r
    simp only [bind_ok, Option.isNone_some, Bool.false_eq_true, if_false, unwrapM]
    by_cases h1 : start > value
    · rw [if_pos h1, if_pos (decide_eq_true h1)]
      show (subM m it'.pos.1 len >>= _) >>= _ = _
      cases subM m it'.pos.1 len <;> rfl
    · rw [if_neg h1, if_neg (mt of_decide_eq_true h1)]
      by_cases h2 : it'.pos.2 > value
      · rw [if_pos (show it'.offsetBits > value from h2), if_pos (decide_eq_true h2), run_rank_at_eq]
        cases it'.rankAt m value <;> rfl
      · rw [if_neg (show ¬ it'.offsetBits > value from h2), if_neg (mt of_decide_eq_true h2)]; rfl

/-! ### `OneIter::next`, `size_hint` -/

/-- first half of the model's `next`: fetch the next run when the current one is used up -/
def oneAdv (m : Mode) (v : RL) (it : RLOneIter) : Outcome RLOneIter :=
  if !it.gotNone && it.rank ≥ it.iter.rank then do
    let (o, ri) ← it.iter.nextQ m v
    return { it with iter := ri, gotNone := o.isNone }
  else return it

/-- second half of the model's `next` -/
def oneTail (m : Mode) (it : RLOneIter) : Outcome (Option (Nat × Nat) × RLOneIter) :=
  if it.gotNone then return (none, it) else do
    let p ← it.iter.offsetFor m it.rank
    return (some (it.rank, p), { it with rank := it.rank + 1 })

theorem one_nextQ_eq (m : Mode) (v : RL) (it : RLOneIter) : it.nextQ m v = oneAdv m v it >>= oneTail m := rfl

theorem oneAdv_rank {m : Mode} {v : RL} {it it1 : RLOneIter} (h : oneAdv m v it = ok it1) : it1.rank = it.rank := by
  unfold oneAdv at h
  split at h
  · obtain ⟨r, _, h⟩ := Outcome.bind_eq_ok h
    injection h with h; rw [← h]
  · injection h with h; rw [← h]

/-- `OneIter::next`.  The code adds `rank + 1` in `usize`, the model in `Nat`: equal provided the rank returned is
not `2^64 - 1` (`h`; see `rl_one_next_eq` for the usual form, `rl_one_next_ne` for the need). -/
theorem rl_one_next_eq' {m : Mode} {v : RL} (hb : RLBounds m v) (it : RLOneIter)
    (h : ∀ p it', it.nextQ m v = ok (some p, it') → it.rank + 1 < U64) :
    gen_RLOneIter_next m v it = it.nextQ m v := by
  rw [one_nextQ_eq] at h ⊢
  unfold gen_RLOneIter_next
  refine bind_eq_bind (fun it1 => (it1.gotNone, it1.iter)) ?_ (fun it1 hadv => ?_)
  · unfold oneAdv
    show (if (!it.gotNone && decide (it.rank ≥ it.iter.rank)) = true then _ else _) = _
    cases (!it.gotNone && decide (it.rank ≥ it.iter.rank)) with
    | false => rfl
    | true =>
      simp only [if_true, run_next_eq hb]
      cases it.iter.nextQ m v <;> rfl
  · rw [hadv, bind_ok] at h
    rw [← oneAdv_rank hadv] at h ⊢
    unfold oneTail at *
    obtain ⟨iter, gn, rank⟩ := it1
    cases gn with
    | true => rfl
    | false =>
      simp only [Bool.false_eq_true, if_false, run_offset_for_eq] at h ⊢
      cases hp : iter.offsetFor m rank with
      | fault e => rfl
      | ok p =>
        rw [hp] at h
        simp only [bind_ok] at h ⊢
        rw [addM_ok (h _ _ rfl)]
        rfl

theorem rl_one_next_eq {m : Mode} {v : RL} (hb : RLBounds m v) (it : RLOneIter) (h : it.rank + 1 < U64) :
    gen_RLOneIter_next m v it = it.nextQ m v :=
  rl_one_next_eq' hb it (fun _ _ _ => h)

/-- `OneIter::size_hint`: the `usize` subtraction is exact under the invariant `rank ≤ ones` -/
theorem rl_one_size_hint_eq (m : Mode) (v : RL) (it : RLOneIter) (h : it.rank ≤ v.ones) :
    gen_RLOneIter_size_hint m v it = ok (it.remaining v, some (it.remaining v)) := by
  unfold gen_RLOneIter_size_hint RLOneIter.remaining
  rw [subM_ok h]; rfl

/-! ### `ZeroIter::next`, `size_hint` -/

/-- first half of the model's `next`: fetch the next run when the zeros before it are used up -/
def zeroAdv (m : Mode) (v : RL) (z : RLZeroIter) : Outcome RLZeroIter := do
  let rz ← z.iter.rankZero m
  (if !z.gotNone && z.pos.1 ≥ rz then do
      let (o, ri) ← z.iter.nextQ m v
      return { z with pos := (z.pos.1, z.iter.offsetBits), iter := ri, gotNone := o.isNone }
    else return z : Outcome RLZeroIter)

/-- second half of the model's `next` -/
def zeroTail (v : RL) (z : RLZeroIter) : Outcome (Option (Nat × Nat) × RLZeroIter) :=
  if z.pos.1 ≥ v.countZeros then return (none, z)
  else return (some z.pos, { z with pos := (z.pos.1 + 1, z.pos.2 + 1) })

theorem zero_nextQ_eq (m : Mode) (v : RL) (z : RLZeroIter) : z.nextQ m v = zeroAdv m v z >>= zeroTail v := by
  unfold RLZeroIter.nextQ zeroAdv
  cases z.iter.rankZero m <;> rfl

/-- `ZeroIter::next`.  `ones ≤ len` (`count_zeros` is a `usize` subtraction), the position returned is not
`2^64 - 1` (`h`: the code adds `pos.1 + 1` in `usize`), and `hgn`: with overflow checks on, an exhausted iterator
(`got_none`) has `rank ≤ index` in its run iterator (the model evaluates `rank_zero()` unconditionally, the code only
when `got_none` is not set, `&&` short-circuits: `rl_zero_next_ne`). -/
theorem rl_zero_next_eq' {m : Mode} {v : RL} (hb : RLBounds m v) (z : RLZeroIter) (hlen : v.len < U64)
    (hol : v.ones ≤ v.len) (hgn : z.gotNone = true → m = .checked → z.iter.rank ≤ z.iter.offsetBits)
    (h : ∀ p z', z.nextQ m v = ok (some p, z') → p.2 + 1 < U64) :
    gen_RLZeroIter_next m v z = z.nextQ m v := by
  rw [zero_nextQ_eq] at h ⊢
  unfold gen_RLZeroIter_next
  dsimp only
  rw [← bind_assoc]
  refine bind_eq_bind (fun z1 => (z1.gotNone, z1.iter, z1.pos)) ?_ (fun z1 hadv => ?_)
  · clear h
    obtain ⟨iter, gn, pos⟩ := z
    unfold zeroAdv
    cases gn with
    | true =>
      have hrz : ∃ rz, iter.rankZero m = ok rz := by
        cases m with
        | checked => exact ⟨_, subM_ok (hgn rfl rfl)⟩
        | wrapping => exact subM_wrapping_ok _ _
      obtain ⟨rz, hrz⟩ := hrz
      rw [hrz]
      rfl
    | false =>
      simp only [Bool.not_false, if_true, run_rank_zero_eq, Bool.true_and]
      cases iter.rankZero m with
      | fault e => rfl
      | ok rz =>
        simp only [bind_ok, pure_eq]
        cases decide (pos.1 ≥ rz) with
        | false => rfl
        | true =>
          simp only [if_true, run_next_eq hb]
          cases iter.nextQ m v <;> rfl
  · rw [hadv, bind_ok] at h
    unfold zeroTail at *
    obtain ⟨iter, gn, pos⟩ := z1
    simp only [rl_count_zeros_eq_ok m v hol, bind_ok] at h ⊢
    by_cases hc : pos.1 ≥ v.countZeros
    · simp only [hc, decide_true, if_true]
    · simp only [hc, decide_false, Bool.false_eq_true, if_false] at h ⊢
      have h1 : pos.1 + 1 < U64 := by
        have : v.countZeros ≤ v.len := Nat.sub_le _ _
        omega
      rw [addM_ok h1, bind_ok, addM_ok (h _ _ rfl)]
      rfl

/-- the position of a zero after the step is one of the two positions in the state -/
theorem zeroAdv_pos {m : Mode} {v : RL} {z z1 : RLZeroIter} (h : zeroAdv m v z = ok z1) :
    z1.pos.2 = z.pos.2 ∨ z1.pos.2 = z.iter.offsetBits := by
  unfold zeroAdv at h
  obtain ⟨rz, _, h⟩ := Outcome.bind_eq_ok h
  split at h
  · obtain ⟨r, _, h⟩ := Outcome.bind_eq_ok h
    injection h with h; rw [← h]; exact Or.inr rfl
  · injection h with h; rw [← h]; exact Or.inl rfl

/-- `ZeroIter::next`, usual form: both candidate positions are below `2^64 - 1` -/
theorem rl_zero_next_eq {m : Mode} {v : RL} (hb : RLBounds m v) (z : RLZeroIter) (hlen : v.len < U64)
    (hol : v.ones ≤ v.len) (hgn : z.gotNone = true → m = .checked → z.iter.rank ≤ z.iter.offsetBits)
    (hp : z.pos.2 + 1 < U64) (hi : z.iter.offsetBits + 1 < U64) :
    gen_RLZeroIter_next m v z = z.nextQ m v := by
  refine rl_zero_next_eq' hb z hlen hol hgn (fun p z' h => ?_)
  rw [zero_nextQ_eq] at h
  cases hadv : zeroAdv m v z with
  | fault e => rw [hadv] at h; cases h
  | ok z1 =>
    rw [hadv] at h
    simp only [bind_ok] at h
    have hpos := zeroAdv_pos hadv
    unfold zeroTail at h
    by_cases hc : z1.pos.1 ≥ v.countZeros
    · rw [if_pos hc] at h; cases h
    · rw [if_neg hc] at h
      injection h with h; injection h with h1 h2; injection h1 with h1
      rw [← h1]
      cases hpos with
      | inl e => rw [e]; exact hp
      | inr e => rw [e]; exact hi

/-- `ZeroIter::size_hint`: the two `usize` subtractions are exact under `ones ≤ len` and the invariant
`pos.0 ≤ count_zeros` -/
theorem rl_zero_size_hint_eq (m : Mode) (v : RL) (z : RLZeroIter) (hol : v.ones ≤ v.len)
    (h : z.pos.1 ≤ v.countZeros) :
    gen_RLZeroIter_size_hint m v z = ok (z.remaining v, some (z.remaining v)) := by
  unfold gen_RLZeroIter_size_hint RLZeroIter.remaining
  rw [rl_count_zeros_eq_ok m v hol, bind_ok, subM_ok h]; rfl

/-! ### `Iter::next`, `size_hint` -/

/-- first half of the model's `next`: fetch the next run when the position has passed the current one -/
def iterAdv (m : Mode) (v : RL) (it : RLIter) : Outcome RLIter :=
  match it.run with
  | some (start, len) =>
    if it.pos ≥ start + len then do
      let (o, ri) ← it.iter.nextQ m v
      return { it with iter := ri, run := o }
    else return it
  | none => return it

/-- second half of the model's `next` -/
def iterTail (v : RL) (it : RLIter) : Outcome (Option Bool × RLIter) :=
  match it.run with
  | some (start, _) => return (some (decide (it.pos + 1 > start)), { it with pos := it.pos + 1 })
  | none => if it.pos ≥ v.len then return (none, it) else return (some false, { it with pos := it.pos + 1 })

theorem iter_nextQ_eq (m : Mode) (v : RL) (it : RLIter) : it.nextQ m v = iterAdv m v it >>= iterTail v := rfl

theorem iterAdv_pos {m : Mode} {v : RL} {it it1 : RLIter} (h : iterAdv m v it = ok it1) : it1.pos = it.pos := by
  unfold iterAdv at h
  split at h
  · split at h
    · obtain ⟨r, _, h⟩ := Outcome.bind_eq_ok h
      injection h with h; rw [← h]
    · injection h with h; rw [← h]
  · injection h with h; rw [← h]

/-- `Iter::next`.  The end `start + len` of the current run is representable (`hrun`: the code adds in `usize`, the
model in `Nat`; in release builds a crafted run ending at `2^64` makes them DIFFER: `rl_iter_next_ne`), and the
position is not `2^64 - 1` when a bit is returned (`h`). -/
theorem rl_iter_next_eq' {m : Mode} {v : RL} (hb : RLBounds m v) (it : RLIter)
    (hrun : ∀ s l, it.run = some (s, l) → s + l < U64)
    (h : ∀ b it', it.nextQ m v = ok (some b, it') → it.pos + 1 < U64) :
    gen_RLIter_next m v it = it.nextQ m v := by
  rw [iter_nextQ_eq] at h ⊢
  unfold gen_RLIter_next
  refine bind_eq_bind (fun it1 => (it1.iter, it1.run)) ?_ (fun it1 hadv => ?_)
  · clear h
    obtain ⟨iter, run, pos⟩ := it
    unfold iterAdv
    cases run with
    | none => rfl
    | some r =>
      obtain ⟨s, l⟩ := r
      simp only [addM_ok (hrun s l rfl), bind_ok]
      by_cases hc : pos ≥ s + l
      · simp only [hc, decide_true, if_true, run_next_eq hb]
        cases iter.nextQ m v <;> rfl
      · simp only [hc, decide_false, Bool.false_eq_true, if_false]
        rfl
  · rw [hadv, bind_ok] at h
    rw [← iterAdv_pos hadv] at h ⊢
    unfold iterTail at *
    obtain ⟨iter, run, pos⟩ := it1
    cases run with
    | some r =>
      obtain ⟨s, l⟩ := r
      simp only at h ⊢
      rw [addM_ok (h _ _ rfl)]
      rfl
    | none =>
      simp only at h ⊢
      by_cases hc : pos ≥ v.len
      · simp only [hc, decide_true, if_true]
      · simp only [hc, decide_false, Bool.false_eq_true, if_false] at h ⊢
        rw [addM_ok (h _ _ rfl)]
        rfl

theorem rl_iter_next_eq {m : Mode} {v : RL} (hb : RLBounds m v) (it : RLIter)
    (hrun : ∀ s l, it.run = some (s, l) → s + l < U64) (hp : it.pos + 1 < U64) :
    gen_RLIter_next m v it = it.nextQ m v :=
  rl_iter_next_eq' hb it hrun (fun _ _ _ => hp)

/-- `Iter::size_hint`: the `usize` subtraction is exact under the invariant `pos ≤ len` -/
theorem rl_iter_size_hint_eq (m : Mode) (v : RL) (it : RLIter) (h : it.pos ≤ v.len) :
    gen_RLIter_size_hint m v it = ok (it.remaining v, some (it.remaining v)) := by
  unfold gen_RLIter_size_hint RLIter.remaining
  rw [subM_ok h]; rfl

/-! ### corollaries for well-formed vectors (`RLQ.GoodB`: what `From<RLBuilder>` produces) -/

section Good
open RLQ

theorem good_ones_lt {v : RL} {bl : Blocks} (g : GoodB v bl) : v.ones < U64 := by
  have := g.len_lt; have := good_ones_le g; omega

theorem rl_select_eq_good {m : Mode} {v : RL} {bl : Blocks} (g : GoodB v bl) (hd : v.data.len + 63 < U64)
    (hdec : m = .wrapping → ∀ o, ¬ units23 v o) (rank : Nat) : gen_RLVector_select m v rank = v.select m rank :=
  rl_select_eq (good_bounds g hd hdec) rank (good_ones_lt g) (good_select_range g hd rank)

theorem rl_select_iter_eq_good {m : Mode} {v : RL} {bl : Blocks} (g : GoodB v bl) (hd : v.data.len + 63 < U64)
    (hdec : m = .wrapping → ∀ o, ¬ units23 v o) (rank : Nat) :
    gen_RLVector_select_iter m v rank = v.selectIter m rank :=
  rl_select_iter_eq (good_bounds g hd hdec) rank (good_ones_lt g) (good_select_range g hd rank)

theorem rl_zero_iter_eq_good {m : Mode} {v : RL} {bl : Blocks} (g : GoodB v bl) (hd : v.data.len + 63 < U64)
    (hdec : m = .wrapping → ∀ o, ¬ units23 v o) : gen_RLVector_zero_iter m v = v.zeroIter m :=
  rl_zero_iter_eq (good_bounds g hd hdec)

theorem rl_select_zero_eq_good {m : Mode} {v : RL} {bl : Blocks} (g : GoodB v bl) (hd : v.data.len + 63 < U64)
    (hdec : m = .wrapping → ∀ o, ¬ units23 v o) (rank : Nat) :
    gen_RLVector_select_zero m v rank = v.selectZero m rank :=
  rl_select_zero_eq (good_bounds g hd hdec) rank g.len_lt (good_ones_le g) (good_zero_range g hd rank)

theorem rl_select_zero_iter_eq_good {m : Mode} {v : RL} {bl : Blocks} (g : GoodB v bl) (hd : v.data.len + 63 < U64)
    (hdec : m = .wrapping → ∀ o, ¬ units23 v o) (rank : Nat) :
    gen_RLVector_select_zero_iter m v rank = v.selectZeroIter m rank :=
  rl_select_zero_iter_eq (good_bounds g hd hdec) rank g.len_lt (good_ones_le g) (good_zero_range g hd rank)

theorem rl_successor_eq_good {m : Mode} {v : RL} {bl : Blocks} (g : GoodB v bl) (hd : v.data.len + 63 < U64)
    (hdec : m = .wrapping → ∀ o, ¬ units23 v o) (value : Nat) :
    gen_RLVector_successor m v value = v.successor m value :=
  rl_successor_eq (good_bounds g hd hdec) value g.len_lt (good_rank_range g hd value)

theorem rl_one_next_eq_good {m : Mode} {v : RL} {bl : Blocks} (g : GoodB v bl) (hd : v.data.len + 63 < U64)
    (hdec : m = .wrapping → ∀ o, ¬ units23 v o) (it : RLOneIter) (h : it.rank < v.ones) :
    gen_RLOneIter_next m v it = it.nextQ m v :=
  rl_one_next_eq (good_bounds g hd hdec) it (by have := good_ones_lt g; omega)

theorem rl_zero_next_eq_good {m : Mode} {v : RL} {bl : Blocks} (g : GoodB v bl) (hd : v.data.len + 63 < U64)
    (hdec : m = .wrapping → ∀ o, ¬ units23 v o) (z : RLZeroIter)
    (hgn : z.gotNone = true → m = .checked → z.iter.rank ≤ z.iter.offsetBits)
    (hp : z.pos.2 < v.len) (hi : z.iter.offsetBits < v.len) :
    gen_RLZeroIter_next m v z = z.nextQ m v := by
  have := g.len_lt
  exact rl_zero_next_eq (good_bounds g hd hdec) z g.len_lt (good_ones_le g) hgn (by omega) (by omega)

theorem rl_iter_next_eq_good {m : Mode} {v : RL} {bl : Blocks} (g : GoodB v bl) (hd : v.data.len + 63 < U64)
    (hdec : m = .wrapping → ∀ o, ¬ units23 v o) (it : RLIter)
    (hrun : ∀ s l, it.run = some (s, l) → s + l ≤ v.len) (hp : it.pos < v.len) :
    gen_RLIter_next m v it = it.nextQ m v := by
  have := g.len_lt
  exact rl_iter_next_eq (good_bounds g hd hdec) it (fun s l h => by have := hrun s l h; omega) (by omega)

theorem rl_zero_size_hint_eq_good (m : Mode) {v : RL} {bl : Blocks} (g : GoodB v bl) (z : RLZeroIter)
    (h : z.pos.1 ≤ v.countZeros) :
    gen_RLZeroIter_size_hint m v z = ok (z.remaining v, some (z.remaining v)) :=
  rl_zero_size_hint_eq m v z (good_ones_le g) h

end Good

/-! ### the hypotheses are needed: concrete witnesses -/

/-- one run `(0, 2^64 - 1)` (code units `0`, then the 22 units of `2^64 - 2`) -/
def rlOnes : RL :=
  { (default : RL) with len := 100, ones := 5, data := IntVec.ofList 4 (0 :: RLBuilder.encodeUnits 23 (U64 - 2)) }

/-- one run `(0, 1)` -/
def rlShort : RL := { (default : RL) with len := 100, ones := 1, data := IntVec.ofList 4 [0, 0] }

/-- `OneIter::next`, `h` is needed: an iterator whose rank is `2^64 - 1` (NOT reachable: `select_iter`, `successor`,
`predecessor`, `one_iter` produce `rank ≤ ones ≤ len < 2^64`, and `next` returns `None` at `rank = ones`): the code
panics on `rank + 1` (wraps to 0 in release builds), the model counts on in `Nat`.  Not a divergence of real behaviour. -/
theorem rl_one_next_ne :
    let it : RLOneIter := ⟨⟨0, (0, 0), 5⟩, false, U64 - 1⟩
    let ri : RunIter := ⟨23, (U64 - 1, U64 - 1), 5⟩
    gen_RLOneIter_next .checked rlOnes it = fault (.panic .overflow) ∧
    gen_RLOneIter_next .wrapping rlOnes it = ok (some (U64 - 1, U64 - 1), ⟨ri, false, 0⟩) ∧
    it.nextQ .checked rlOnes = ok (some (U64 - 1, U64 - 1), ⟨ri, false, U64⟩) ∧
    it.nextQ .wrapping rlOnes = ok (some (U64 - 1, U64 - 1), ⟨ri, false, U64⟩) := by
  decide +kernel

/-- `OneIter::size_hint`: `rank ≤ ones` is needed (`usize` subtraction vs truncated subtraction) -/
theorem rl_one_size_hint_ne :
    let v : RL := { (default : RL) with ones := 3 }
    let it : RLOneIter := ⟨default, true, 5⟩
    gen_RLOneIter_size_hint .checked v it = fault (.panic .overflow) ∧
    gen_RLOneIter_size_hint .wrapping v it = ok (U64 - 2, some (U64 - 2)) ∧
    it.remaining v = 0 := by
  decide +kernel

/-- `ZeroIter::next`, `hgn` is needed: MODEL ARTEFACT: `RLZeroIter.nextQ` evaluates `iter.rank_zero()` before looking
at `got_none`; the code short-circuits (`!self.got_none && …`).  On an exhausted iterator whose run iterator has
`rank > index` (not reachable: every `RunIter` has `rank ≤ index`; the empty iterator has `(ones, len)`, so this needs
`ones > len`) the model panics with overflow checks on and the code returns `None`. -/
theorem rl_zero_next_ne :
    let z : RLZeroIter := ⟨⟨0, (1, 0), 0⟩, true, (0, 0)⟩
    gen_RLZeroIter_next .checked (default : RL) z = ok (none, z) ∧
    z.nextQ .checked (default : RL) = fault (.panic .overflow) ∧
    gen_RLZeroIter_next .wrapping (default : RL) z = ok (none, z) ∧
    z.nextQ .wrapping (default : RL) = ok (none, z) := by
  decide +kernel

/-- `ZeroIter::next`, `h` is needed: position `2^64 - 1` (not reachable: positions are `< len < 2^64`) -/
theorem rl_zero_next_ne_pos :
    let v : RL := { (default : RL) with len := 3 }
    let z : RLZeroIter := ⟨⟨0, (0, 0), 0⟩, true, (0, U64 - 1)⟩
    gen_RLZeroIter_next .checked v z = fault (.panic .overflow) ∧
    gen_RLZeroIter_next .wrapping v z = ok (some (0, U64 - 1), ⟨⟨0, (0, 0), 0⟩, true, (1, 0)⟩) ∧
    z.nextQ .checked v = ok (some (0, U64 - 1), ⟨⟨0, (0, 0), 0⟩, true, (1, U64)⟩) := by
  decide +kernel

/-- `ZeroIter::next`, `size_hint`: `ones ≤ len` is needed (`count_zeros`, see `rl_count_zeros_ne`: never built; `load`
rejects such a file with overflow checks on and accepts it without) -/
theorem rl_zero_next_ne_ones :
    let v : RL := { (default : RL) with len := 3, ones := 5 }
    let z : RLZeroIter := ⟨⟨0, (0, 0), 0⟩, true, (0, 0)⟩
    gen_RLZeroIter_next .checked v z = fault (.panic .overflow) ∧
    gen_RLZeroIter_next .wrapping v z = ok (some (0, 0), ⟨⟨0, (0, 0), 0⟩, true, (1, 1)⟩) ∧
    z.nextQ .wrapping v = ok (none, z) ∧
    gen_RLZeroIter_size_hint .checked v z = fault (.panic .overflow) ∧
    gen_RLZeroIter_size_hint .wrapping v z = ok (U64 - 2, some (U64 - 2)) ∧
    z.remaining v = 0 := by
  decide +kernel

/-- `select_zero`, `select_zero_iter`: `ones ≤ len` is needed (as for `iter_for_zero`) -/
theorem rl_select_zero_ne :
    let v : RL := { (default : RL) with len := 3, ones := 5 }
    gen_RLVector_select_zero .checked v 0 = fault (.panic .overflow) ∧
    gen_RLVector_select_zero .wrapping v 0 = fault (.panic .other) ∧
    v.selectZero .checked 0 = ok none ∧
    gen_RLVector_select_zero_iter .checked v 0 = fault (.panic .overflow) ∧
    v.selectZeroIter .checked 0 = ok ⟨RunIter.emptyIter v, true, (0, 3)⟩ := by
  decide +kernel

/-- `Iter::next`, `hrun` is needed, and in release builds this is a DIVERGENCE between the code and the model that is
reached through the public API on crafted data: on `rlBig` (part 1: one run `(1, 2^64 - 1)`, ending at `2^64`), `iter()`
followed by one `next()` gives the state `it1` in the code and in the model alike; the second `next()` compares the
position with the end of the run, `1 + (2^64 - 1)`, which the code computes in `usize` (`= 0`: the run is taken to be
over, the next run is fetched, bit 1 is reported UNSET) and the model in `Nat` (`= 2^64`: bit 1 is reported SET).
With overflow checks on, both panic already in the first `next()` (the run iterator adds `start + len`). -/
theorem rl_iter_next_ne :
    let it1 : RLIter := ⟨⟨23, (U64 - 1, 0), 5⟩, some (1, U64 - 1), 1⟩
    (gen_RLVector_iter .wrapping rlBig >>= gen_RLIter_next .wrapping rlBig) = ok (some false, it1) ∧
    (rlBig.iter >>= RLIter.nextQ .wrapping rlBig) = ok (some false, it1) ∧
    gen_RLIter_next .wrapping rlBig it1 = ok (some false, ⟨⟨23, (U64 - 1, 0), 5⟩, none, 2⟩) ∧
    it1.nextQ .wrapping rlBig = ok (some true, ⟨⟨23, (U64 - 1, 0), 5⟩, some (1, U64 - 1), 2⟩) ∧
    (gen_RLVector_iter .checked rlBig >>= gen_RLIter_next .checked rlBig) = fault (.panic .overflow) ∧
    (rlBig.iter >>= RLIter.nextQ .checked rlBig) = fault (.panic .overflow) := by
  decide +kernel

/-- `Iter::next`, with overflow checks on `hrun` is needed too (a state whose run ends at `2^64`; not reachable with
overflow checks on: the run iterator has panicked before, see above) -/
theorem rl_iter_next_ne_run :
    let it : RLIter := ⟨⟨0, (0, 0), 0⟩, some (U64 - 1, 1), 0⟩
    gen_RLIter_next .checked (default : RL) it = fault (.panic .overflow) ∧
    it.nextQ .checked (default : RL) = ok (some false, ⟨⟨0, (0, 0), 0⟩, some (U64 - 1, 1), 1⟩) := by
  decide +kernel

/-- `Iter::next`, `h` is needed: position `2^64 - 1` (not reachable: positions are `≤ len < 2^64`, and at `pos = len`
no run is left) -/
theorem rl_iter_next_ne_pos :
    let it : RLIter := ⟨⟨0, (0, 0), 1⟩, some (0, 0), U64 - 1⟩
    gen_RLIter_next .checked rlShort it = fault (.panic .overflow) ∧
    gen_RLIter_next .wrapping rlShort it = ok (some false, ⟨⟨2, (1, 1), 1⟩, some (0, 1), 0⟩) ∧
    it.nextQ .checked rlShort = ok (some true, ⟨⟨2, (1, 1), 1⟩, some (0, 1), U64⟩) := by
  decide +kernel

/-- `Iter::size_hint`: `pos ≤ len` is needed -/
theorem rl_iter_size_hint_ne :
    let v : RL := { (default : RL) with len := 3 }
    let it : RLIter := ⟨default, none, 5⟩
    gen_RLIter_size_hint .checked v it = fault (.panic .overflow) ∧
    gen_RLIter_size_hint .wrapping v it = ok (U64 - 2, some (U64 - 2)) ∧
    it.remaining v = 0 := by
  decide +kernel

end Sds.GenEq
