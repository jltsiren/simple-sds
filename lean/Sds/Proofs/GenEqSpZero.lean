/-
Proofs/GenEqSpZero: the translated `find_zero_run`, `select_zero`, `zero_iter`, `select_zero_iter` and `ZeroIter`
(`Generated/FnsSpZero.lean`, from `sparse_vector.rs`) compute the hand-written model (`Sparse.findZeroRun`, `selectZero`,
`zeroIter`, `selectZeroIter`, `SpZeroIter.nextRun`, `nextQ`, `remaining`).

Order of effects, compared side by side (a fault of the inner `OneIter::next` propagates at the same place on both sides):

* `find_zero_run`, binary search: code `high - low` (twice), `/ 2`, `low + …`, `select_iter`, `next`, `unwrap`,
  `mid_pos - mid`, then `mid + 1` (twice); model the same, with `high - low`, `low + (high - low) / 2`, `mid + 1` in `Nat`.
  Invariant `low ≤ high ≤ count_ones` and `count_ones = low.len < 2^64` (`hL`) make them agree.
* `find_zero_run`, scan: `next`, `mid_pos - mid` (mode arithmetic on both sides), `mid + 1` — `mid` is a rank returned by
  `next`, hence `< low.len` (`combine` asserted it), so `hL` is enough.
* `select_zero`, `select_zero_iter`: `run_rank + rank` with the mode's arithmetic on both sides; `count_zeros` never faults.
* `next_run`: `one_pos + 1` (mode arithmetic on both sides) *before* the call of `next`, on both sides.
* `ZeroIter::next`: the two final increments are in `Nat` in the model: `h1`, `h2`, `h3` of `sp_zero_next_eq'`.

All statements hold under `hH`, `hL` (the hypotheses of `sp_iter_next_eq`) plus, for `ZeroIter::next`, "the fields of
the iterator are `usize`"; no divergence between the code and the model.  The extra hypotheses are necessary
(`sp_zero_next_ne_rank`, `sp_zero_next_ne_pos`, `sp_zero_next_ne_limit`, `sp_zero_size_hint_ne`, all by `decide`); the
`next` witnesses have a field `= 2^64`, which the code cannot represent.
-/
import Sds.Generated.FnsSpZero
import Sds.Proofs.GenEqSpIter
import Sds.Proofs.GenEqLoop
set_option linter.unusedSimpArgs false
set_option linter.unusedVariables false

namespace Sds.GenEq
open Sds Outcome Generated

/-! ### facts about the model's `next` of the one-iterator -/

/-- a successful `combine` returns the rank it was given and a position that is a `usize` -/
theorem combine_ok_fst {m : Mode} {s : Sparse} {p : Pos} {r : Nat × Nat} (h : s.combine m p = ok r) :
    r.1 = p.low ∧ r.2 < U64 := by
  unfold Sparse.combine at h
  cases hh : (if s.width < 64 then do let d ← subM m p.high p.low; pure ((d <<< s.width) % U64) else pure 0 :
      Outcome Nat) with
  | fault f => rw [hh] at h; cases h
  | ok v =>
    rw [hh] at h
    cases hg : s.low.get p.low with
    | fault f => rw [hg] at h; cases h
    | ok l =>
      rw [hg] at h
      simp only [bind_ok] at h
      cases ha : addM m v l.toNat with
      | fault f => rw [ha] at h; cases h
      | ok w =>
        rw [ha] at h
        simp only [bind_ok, pure_eq] at h
        cases h
        exact ⟨rfl, addM_lt ha⟩

/-- an item returned by the model's `next`: its rank is below `low.len`, its position is a `usize` -/
theorem nextQ_some_lt {m : Mode} {s : Sparse} {it it' : SpOneIter} {a b : Nat}
    (h : SpOneIter.nextQ m s it = ok (some (a, b), it')) : a < s.low.len ∧ b < U64 := by
  unfold SpOneIter.nextQ at h
  by_cases hc : it.next.low ≥ it.limit.low
  · rw [if_pos hc] at h; cases h
  · rw [if_neg hc] at h
    cases hk : SpOneIter.skipFwd s (s.high.len + 1) it.next.high with
    | fault f => rw [hk] at h; cases h
    | ok h' =>
      rw [hk] at h
      simp only [bind_ok] at h
      cases hcb : s.combine m ⟨h', it.next.low⟩ with
      | fault f => rw [hcb] at h; cases h
      | ok r =>
        rw [hcb] at h
        simp only [bind_ok, pure_eq] at h
        have h1 := combine_ok_fst hcb
        have h2 := combine_ok_lt hcb
        cases h
        simp only at h1 h2
        exact ⟨h1.1 ▸ h2, h1.2⟩

/-! ### `find_zero_run` -/

theorem sp_find_zero_run_eq (m : Mode) (s : Sparse) (rank : Nat)
    (hH : s.high.data.data.size * 64 < U64) (hL : s.low.len < U64) :
    gen_SparseVector_find_zero_run m s rank = s.findZeroRun m rank := by
  unfold gen_SparseVector_find_zero_run Sparse.findZeroRun
  rw [sp_one_iter_eq, bind_ok]
  -- the binary search, with what follows it left as it stands …
  refine (loopM_ind _ ?fin (fun n (st : Nat × Nat × (Nat × SpOneIter)) =>
      s.fzrSearch m rank n st.2.1 st.1 st.2.2 >>= fun r => ?fin (Ctl.brk (0, 0, r)))
    (fun st => st.2.1 ≤ st.1 ∧ st.1 < U64) (fun _ => rfl) (fun n st hst R hR => ?_) 70
    (s.countOnes, 0, (0, SpOneIter.full s)) ⟨Nat.zero_le _, hL⟩).trans ?_
  · obtain ⟨high, low, result⟩ := st
    obtain ⟨hlo, hhi⟩ := hst
    rw [Sparse.fzrSearch]
    dsimp only
    rw [subM_bind hlo]
    by_cases hc : high - low > 16
    · -- the midpoint lies strictly below `high`: no sum overflows and both halves are proper intervals
      have hmid : low + (high - low) / 2 < high :=
        Nat.lt_of_lt_of_eq
          (Nat.add_lt_add_left (Nat.div_lt_self (Nat.lt_trans (by decide) hc) (by decide)) low)
          (Nat.add_sub_cancel' hlo)
      rw [if_pos (decide_eq_true hc), if_pos hc, subM_bind hlo, gDiv_bind _ (by decide),
        addM_bind (Nat.lt_trans hmid hhi), sp_select_iter_eq]
      simp only [bind_assoc]
      refine bind_congr fun it0 => ?_
      rw [sp_iter_next_eq m s _ hH hL]
      refine bind_congr fun ⟨o, it'⟩ => bind_congr fun ⟨_, b⟩ => bind_congr fun d => ?_
      have e4 : low + (high - low) / 2 + 1 < U64 := Nat.lt_of_le_of_lt hmid hhi
      by_cases hr : d ≤ rank
      · rw [if_pos (decide_eq_true hr), if_pos hr, addM_bind e4, addM_bind e4]
        exact hR _ ⟨hmid, hhi⟩
      · rw [if_neg (mt of_decide_eq_true hr), if_neg hr]
        exact hR _ ⟨Nat.le_add_right _ _, Nat.lt_trans hmid hhi⟩
    · rw [if_neg (mt of_decide_eq_true hc), if_neg hc]; rfl
  -- … then the scan
  · refine bind_congr fun r => ?_
    refine loopM_ind _ _ (fun n (st : SpOneIter × (Nat × SpOneIter)) => s.fzrScan m rank n st.1 st.2) (fun _ => True)
      (fun _ => rfl) (fun n st _ R hR => ?_) _ (r.2, r) trivial
    obtain ⟨it, result⟩ := st
    rw [Sparse.fzrScan]
    dsimp only
    rw [sp_iter_next_eq m s _ hH hL]
    rw [bind_assoc]
    refine bind_congr_ok fun ⟨o, it'⟩ hq => ?_
    cases o with
    | none => rfl
    | some ab =>
      obtain ⟨a, b⟩ := ab
      dsimp only
      rw [bind_assoc]
      refine bind_congr fun d => ?_
      by_cases hr : d ≤ rank
      · rw [if_neg (by simp only [hr, decide_true, Bool.not_true, Bool.false_eq_true, not_false_eq_true]), if_pos hr,
          addM_bind (Nat.lt_of_le_of_lt (nextQ_some_lt hq).1 hL)]
        exact hR _ trivial
      · rw [if_pos (by simp only [hr, decide_false, Bool.not_false]), if_neg hr]; rfl

/-! ### `select_zero`, `zero_iter`, `select_zero_iter` -/

theorem sp_select_zero_eq (m : Mode) (s : Sparse) (rank : Nat)
    (hH : s.high.data.data.size * 64 < U64) (hL : s.low.len < U64) :
    gen_SparseVector_select_zero m s rank = s.selectZero m rank := by
  unfold gen_SparseVector_select_zero Sparse.selectZero
  rw [sparse_count_zeros_eq, sp_find_zero_run_eq m s rank hH hL]
  simp only [bind_ok]
  by_cases h : rank ≥ s.countZeros
  · simp only [h, decide_true, if_true]; rfl
  · simp only [h, decide_false, Bool.false_eq_true, if_false]

theorem sp_zero_iter_eq (m : Mode) (s : Sparse)
    (hH : s.high.data.data.size * 64 < U64) (hL : s.low.len < U64) :
    gen_SparseVector_zero_iter m s = s.zeroIter m := by
  unfold gen_SparseVector_zero_iter Sparse.zeroIter
  rw [sp_one_iter_eq]
  simp only [bind_ok, sp_iter_next_eq m s _ hH hL, sparse_count_zeros_eq]
  cases SpOneIter.nextQ m s (SpOneIter.full s) with
  | fault f => rfl
  | ok r =>
    obtain ⟨o, it⟩ := r
    cases o with
    | none => rfl
    | some ab => obtain ⟨a, b⟩ := ab; rfl

theorem sp_select_zero_iter_eq (m : Mode) (s : Sparse) (rank : Nat)
    (hH : s.high.data.data.size * 64 < U64) (hL : s.low.len < U64) :
    gen_SparseVector_select_zero_iter m s rank = s.selectZeroIter m rank := by
  unfold gen_SparseVector_select_zero_iter Sparse.selectZeroIter
  rw [sp_find_zero_run_eq m s rank hH hL]
  simp only [bind_ok, sp_iter_next_eq m s _ hH hL, sparse_count_zeros_eq]
  by_cases h : rank ≥ s.countZeros
  · simp only [h, decide_true, if_true]; rfl
  · simp only [h, decide_false, Bool.false_eq_true, if_false]
    cases s.findZeroRun m rank with
    | fault f => rfl
    | ok r =>
      obtain ⟨rr, it⟩ := r
      simp only [bind_ok]
      cases SpOneIter.nextQ m s it with
      | fault f => rfl
      | ok r =>
        obtain ⟨o, it'⟩ := r
        cases o with
        | none =>
          simp only [bind_ok, pure_eq]
        | some ab =>
          obtain ⟨a, b⟩ := ab
          simp only [bind_ok, pure_eq]

/-! ### `ZeroIter::next_run` -/

/-- `ZeroIter::next_run` (the model with the fuel of the code) -/
theorem sp_zero_next_run_eq (m : Mode) (s : Sparse) (z : SpZeroIter)
    (hH : s.high.data.data.size * 64 < U64) (hL : s.low.len < U64) :
    gen_SparseZeroIter_next_run m s z = SpZeroIter.nextRun m s (s.countOnes + 2) z := by
  unfold gen_SparseZeroIter_next_run
  refine loopM_bind_eq _ _ (fun n st => SpZeroIter.nextRun m s n ⟨st.1, st.2.2, st.2.1, z.limit⟩) (fun _ => True)
    (fun _ => rfl) (fun n st _ => ?_) (fun _ _ _ _ => trivial) _ (z.iter, z.next, z.onePos) trivial
  obtain ⟨it, next, onePos⟩ := st
  rw [SpZeroIter.nextRun]
  by_cases hc : next.2 ≥ onePos
  · simp only [hc, decide_true, if_true, sp_iter_next_eq m s _ hH hL]
    cases addM m onePos 1 with
    | fault f => rfl
    | ok n1 =>
      simp only [bind_ok]
      cases SpOneIter.nextQ m s it with
      | fault f => rfl
      | ok r =>
        obtain ⟨o, it'⟩ := r
        cases o with
        | none => rfl
        | some ab => rfl
  · simp only [hc, decide_false, Bool.false_eq_true, if_false, bind_ok, pure_eq]

/-! ### `ZeroIter::next` -/

/-- after `next_run`: the rank is unchanged, and the position stands strictly below the next one (`onePos`), which is
a position returned by the one-iterator (a `usize`), `limit.2`, or the initial `onePos` -/
theorem nextRun_ok_bounds (m : Mode) (s : Sparse) :
    ∀ (fuel : Nat) (z z' : SpZeroIter), z.limit.2 < U64 → (z.next.2 < z.onePos → z.next.2 + 1 < U64) →
      SpZeroIter.nextRun m s fuel z = ok z' → z'.next.1 = z.next.1 ∧ z'.limit = z.limit ∧ z'.next.2 + 1 < U64 := by
  intro fuel
  induction fuel with
  | zero => intro z z' _ _ e; cases e
  | succ n ih =>
    intro z z' h3 h2 e
    rw [SpZeroIter.nextRun] at e
    by_cases hc : z.next.2 ≥ z.onePos
    · rw [if_pos hc] at e
      cases ha : addM m z.onePos 1 with
      | fault f => rw [ha] at e; cases e
      | ok n1 =>
        rw [ha] at e
        simp only [bind_ok] at e
        cases hq : SpOneIter.nextQ m s z.iter with
        | fault f => rw [hq] at e; cases e
        | ok r =>
          obtain ⟨o, it'⟩ := r
          rw [hq] at e
          cases o with
          | none =>
            simp only [bind_ok] at e
            exact ih { z with next := (z.next.1, n1), onePos := z.limit.2, iter := it' } z' h3
              (fun hlt => Nat.lt_of_le_of_lt hlt h3) e
          | some ab =>
            obtain ⟨a, b⟩ := ab
            simp only [bind_ok] at e
            have hb := (nextQ_some_lt hq).2
            exact ih { z with next := (z.next.1, n1), onePos := b, iter := it' } z' h3
              (fun hlt => Nat.lt_of_le_of_lt hlt hb) e
    · rw [if_neg hc] at e
      cases e
      exact ⟨rfl, rfl, h2 (Nat.lt_of_not_le hc)⟩

/-- `ZeroIter::next`, weakest form: the two increments of the model are in `Nat`, those of the code on `usize`.
`h1`: the rank; `h2`, `h3`: the position — after `next_run` it is strictly below `onePos`, which is the initial one
(`h2`), a position returned by the one-iterator (always a `usize`) or `limit.2` (`h3`). -/
theorem sp_zero_next_eq' (m : Mode) (s : Sparse) (z : SpZeroIter)
    (hH : s.high.data.data.size * 64 < U64) (hL : s.low.len < U64)
    (h1 : z.next.1 < z.limit.1 → z.next.1 + 1 < U64)
    (h2 : z.next.2 < z.onePos → z.next.2 + 1 < U64)
    (h3 : z.limit.2 < U64) :
    gen_SparseZeroIter_next m s z = SpZeroIter.nextQ m s z := by
  unfold gen_SparseZeroIter_next SpZeroIter.nextQ
  by_cases h : z.next.1 ≥ z.limit.1
  · simp only [h, decide_true, if_true]; rfl
  · simp only [h, decide_false, Bool.false_eq_true, if_false]
    have hz : (⟨z.iter, z.onePos, z.next, z.limit⟩ : SpZeroIter) = z := rfl
    rw [hz, sp_zero_next_run_eq m s z hH hL]
    cases hr : SpZeroIter.nextRun m s (s.countOnes + 2) z with
    | fault f => rfl
    | ok z' =>
      obtain ⟨b1, b2, b3⟩ := nextRun_ok_bounds m s _ z z' h3 h2 hr
      have e1 : addM m z'.next.1 1 = ok (z'.next.1 + 1) := addM_ok (by rw [b1]; exact h1 (Nat.lt_of_not_le h))
      have e2 : addM m z'.next.2 1 = ok (z'.next.2 + 1) := addM_ok b3
      simp only [bind_ok, pure_eq, e1, e2]

/-- `ZeroIter::next` with the fields of the iterator in `usize` -/
theorem sp_zero_next_eq (m : Mode) (s : Sparse) (z : SpZeroIter)
    (hH : s.high.data.data.size * 64 < U64) (hL : s.low.len < U64)
    (h1 : z.limit.1 < U64) (h2 : z.onePos < U64) (h3 : z.limit.2 < U64) :
    gen_SparseZeroIter_next m s z = SpZeroIter.nextQ m s z :=
  sp_zero_next_eq' m s z hH hL (fun h => Nat.lt_of_le_of_lt h h1) (fun h => Nat.lt_of_le_of_lt h h2) h3

/-- `ZeroIter::next` for an iterator made by `zero_iter` / `select_zero_iter` (`limit = (count_zeros, len)`,
`onePos ≤ len`) on a vector whose length is a `usize` -/
theorem sp_zero_next_eq_of_len (m : Mode) (s : Sparse) (z : SpZeroIter)
    (hH : s.high.data.data.size * 64 < U64) (hL : s.low.len < U64) (hlen : s.len < U64)
    (hlim : z.limit = (s.countZeros, s.len)) (hpos : z.onePos ≤ s.len) :
    gen_SparseZeroIter_next m s z = SpZeroIter.nextQ m s z := by
  have hcz : s.countZeros ≤ s.len := by
    unfold Sparse.countZeros
    split
    · exact Nat.zero_le _
    · exact Nat.sub_le _ _
  refine sp_zero_next_eq m s z hH hL ?_ (Nat.lt_of_le_of_lt hpos hlen) ?_ <;> rw [hlim]
  · exact Nat.lt_of_le_of_lt hcz hlen
  · exact hlen

/-- `ZeroIter::size_hint` under the invariant `next.0 ≤ limit.0` -/
theorem sp_zero_size_hint_eq (m : Mode) (s : Sparse) (z : SpZeroIter) (h : z.next.1 ≤ z.limit.1) :
    gen_SparseZeroIter_size_hint m s z = ok (z.remaining, some z.remaining) := by
  unfold gen_SparseZeroIter_size_hint SpZeroIter.remaining
  rw [subM_ok h]; rfl

/-! ### the extra hypotheses of `next` / `size_hint` are necessary

The `next` witnesses have a field `= 2^64`, the `size_hint` one `next.0 > limit.0`: no such state arises in the code,
so none of them is a divergence between the code and the model. -/

/-- the empty vector (`hH`, `hL` hold) -/
def cexZ : Sparse := ⟨0, ⟨0, ⟨0, #[]⟩, none, none, none⟩, ⟨0, 1, ⟨0, #[]⟩⟩⟩

/-- `h1`: rank `2^64 - 1` below a limit `2^64` — the code's `next.0 + 1` overflows, the model's does not -/
theorem sp_zero_next_ne_rank :
    cexZ.high.data.data.size * 64 < U64 ∧ cexZ.low.len < U64 ∧
    gen_SparseZeroIter_next .checked cexZ ⟨SpOneIter.emptyIter cexZ, 5, (U64 - 1, 0), (U64, 10)⟩
      = fault (.panic .overflow) ∧
    gen_SparseZeroIter_next .wrapping cexZ ⟨SpOneIter.emptyIter cexZ, 5, (U64 - 1, 0), (U64, 10)⟩
      = ok (some (U64 - 1, 0), ⟨SpOneIter.emptyIter cexZ, 5, (0, 1), (U64, 10)⟩) ∧
    SpZeroIter.nextQ .checked cexZ ⟨SpOneIter.emptyIter cexZ, 5, (U64 - 1, 0), (U64, 10)⟩
      = ok (some (U64 - 1, 0), ⟨SpOneIter.emptyIter cexZ, 5, (U64, 1), (U64, 10)⟩) := by
  decide +kernel

/-- `h2`: position `2^64 - 1` below `onePos = 2^64` -/
theorem sp_zero_next_ne_pos :
    gen_SparseZeroIter_next .checked cexZ ⟨SpOneIter.emptyIter cexZ, U64, (0, U64 - 1), (1, 10)⟩
      = fault (.panic .overflow) ∧
    SpZeroIter.nextQ .checked cexZ ⟨SpOneIter.emptyIter cexZ, U64, (0, U64 - 1), (1, 10)⟩
      = ok (some (0, U64 - 1), ⟨SpOneIter.emptyIter cexZ, U64, (1, U64), (1, 10)⟩) := by
  decide +kernel

/-- `h3`: `limit.2 = 2^64`; `next_run` moves past the one at `2^64 - 2`, the one-iterator is exhausted, `onePos`
becomes `limit.2` and the position `2^64 - 1` is returned -/
theorem sp_zero_next_ne_limit :
    gen_SparseZeroIter_next .checked cexZ ⟨SpOneIter.emptyIter cexZ, U64 - 2, (0, U64 - 2), (1, U64)⟩
      = fault (.panic .overflow) ∧
    SpZeroIter.nextQ .checked cexZ ⟨SpOneIter.emptyIter cexZ, U64 - 2, (0, U64 - 2), (1, U64)⟩
      = ok (some (0, U64 - 1), ⟨SpOneIter.emptyIter cexZ, U64, (1, U64), (1, U64)⟩) := by
  decide +kernel

/-- without `next.0 ≤ limit.0` the subtraction of `size_hint` panics (wraps) -/
theorem sp_zero_size_hint_ne :
    gen_SparseZeroIter_size_hint .checked cexZ ⟨SpOneIter.emptyIter cexZ, 0, (1, 0), (0, 0)⟩
      = fault (.panic .overflow) ∧
    gen_SparseZeroIter_size_hint .wrapping cexZ ⟨SpOneIter.emptyIter cexZ, 0, (1, 0), (0, 0)⟩
      = ok (U64 - 1, some (U64 - 1)) ∧
    (⟨SpOneIter.emptyIter cexZ, 0, (1, 0), (0, 0)⟩ : SpZeroIter).remaining = 0 := by
  decide +kernel

end Sds.GenEq
