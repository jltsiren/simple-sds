/-
Proofs/Sparse: the Elias–Fano vector (`Sparse`) answers select / rank / get / rank_zero / predecessor / successor
correctly, and one `next` / `next_back` of its one-iterator delivers the item at its cursor (`Sparse2.IterBetween`: a
two-ended state; `IterAt`: the forward-only state `select_iter` returns, a two-ended state with the limit at the end),
for every sparse vector that encodes a sorted list `P` of values (`Sparse.Encodes`), in both arithmetic modes.  The
concrete bitvector `high` enters only through an abstract interface (len / get / select / select_zero agree with the
bit list `highBits`).
-/
import Sds.Model.Sparse
import Sds.Spec.Bits
import Sds.Proofs.BitsMore
set_option linter.unusedSimpArgs false
set_option linter.unusedVariables false

namespace Sds
open Outcome

/-! ### sorted lists -/

theorem sortedLe_iff : ∀ (P : List Nat), sortedLe P = true ↔ P.Pairwise (· ≤ ·)
  | [] => by simp [sortedLe]
  | [a] => by simp [sortedLe]
  | a :: b :: t => by
    rw [sortedLe, Bool.and_eq_true, decide_eq_true_eq, sortedLe_iff (b :: t), List.pairwise_cons (a := a)]
    refine ⟨fun ⟨h1, h2⟩ => ⟨fun q hq => ?_, h2⟩, fun ⟨h1, h2⟩ => ⟨h1 b (by simp), h2⟩⟩
    rcases List.mem_cons.mp hq with rfl | hq
    · exact h1
    · exact Nat.le_trans h1 ((List.pairwise_cons.mp h2).1 q hq)

theorem sortedStrict_iff : ∀ (P : List Nat), sortedStrict P = true ↔ P.Pairwise (· < ·)
  | [] => by simp [sortedStrict]
  | [a] => by simp [sortedStrict]
  | a :: b :: t => by
    rw [sortedStrict, Bool.and_eq_true, decide_eq_true_eq, sortedStrict_iff (b :: t), List.pairwise_cons (a := a)]
    refine ⟨fun ⟨h1, h2⟩ => ⟨fun q hq => ?_, h2⟩, fun ⟨h1, h2⟩ => ⟨h1 b (by simp), h2⟩⟩
    rcases List.mem_cons.mp hq with rfl | hq
    · exact h1
    · exact Nat.lt_trans h1 ((List.pairwise_cons.mp h2).1 q hq)

theorem sortedLe_pairwise (P : List Nat) (h : sortedLe P = true) : P.Pairwise (· ≤ ·) := (sortedLe_iff P).mp h

theorem sortedStrict_pairwise (P : List Nat) (h : sortedStrict P = true) : P.Pairwise (· < ·) :=
  (sortedStrict_iff P).mp h

theorem pairwise_le_getElem {P : List Nat} (h : P.Pairwise (· ≤ ·)) (i j : Nat) (hij : i ≤ j)
    (hj : j < P.length) : P[i]'(by omega) ≤ P[j] := by
  by_cases e : i = j
  · subst e; exact Nat.le_refl _
  · exact (List.pairwise_iff_getElem.mp h) i j (by omega) hj (by omega)

theorem pairwise_lt_getElem {P : List Nat} (h : P.Pairwise (· < ·)) (i j : Nat) (hij : i < j)
    (hj : j < P.length) : P[i]'(by omega) < P[j] :=
  (List.pairwise_iff_getElem.mp h) i j (by omega) hj hij

/-- in a strictly increasing list `P[i] - i` (the number of zeros before `P[i]`) is non-decreasing -/
theorem strict_gap_mono {P : List Nat} (h : P.Pairwise (· < ·)) (i j : Nat) (hij : i ≤ j) (hj : j < P.length) :
    P[i]'(by omega) + (j - i) ≤ P[j] := by
  induction j with
  | zero =>
    have : i = 0 := by omega
    subst this; simp
  | succ j ih =>
    by_cases e : i = j + 1
    · subst e; simp
    · have h1 := ih (by omega) (by omega)
      have h2 := pairwise_lt_getElem h j (j + 1) (by omega) hj
      omega

theorem strict_getElem_ge {P : List Nat} (h : P.Pairwise (· < ·)) (j : Nat) (hj : j < P.length) :
    j ≤ P[j] := by
  have := strict_gap_mono h 0 j (Nat.zero_le _) hj
  omega

/-- a downward closed predicate that fails at the head of a sorted list fails on all of it -/
theorem not_of_head_false {p : Nat} {ps : List Nat} (hP : (p :: ps).Pairwise (· ≤ ·)) {f : Nat → Bool}
    (hf : ∀ a b, a ≤ b → f b = true → f a = true) (hfp : f p = false) : ∀ q ∈ p :: ps, ¬ (f q = true) := by
  intro q hq hfq
  have : f p = true := by
    rcases List.mem_cons.mp hq with rfl | hq
    · exact hfq
    · exact hf p q ((List.pairwise_cons.mp hP).1 q hq) hfq
  rw [hfp] at this; cases this

theorem lt_filter_length_iff {P : List Nat} (hP : P.Pairwise (· ≤ ·)) (f : Nat → Bool)
    (hf : ∀ a b, a ≤ b → f b = true → f a = true) (j : Nat) (hj : j < P.length) :
    j < (P.filter f).length ↔ f P[j] = true := by
  induction P generalizing j with
  | nil => simp at hj
  | cons p ps ih =>
    have hP' := List.pairwise_cons.mp hP
    cases hfp : f p with
    | true =>
      rw [List.filter_cons_of_pos hfp]
      cases j with
      | zero => simp [hfp]
      | succ j =>
        have := ih hP'.2 j (by simpa using hj)
        simp only [List.length_cons, List.getElem_cons_succ] at hj ⊢
        rw [← this]; omega
    | false =>
      have hall := not_of_head_false hP hf hfp
      rw [List.filter_eq_nil_iff.mpr hall]
      have : ¬ (f (p :: ps)[j] = true) := hall _ (List.getElem_mem hj)
      simp [this]

theorem filter_length_le (f : Nat → Bool) (P : List Nat) : (P.filter f).length ≤ P.length :=
  List.length_filter_le f P

theorem filter_length_mono {P : List Nat} {f g : Nat → Bool} (h : ∀ a ∈ P, f a = true → g a = true) :
    (P.filter f).length ≤ (P.filter g).length := by
  rw [← List.countP_eq_length_filter, ← List.countP_eq_length_filter]
  exact List.countP_mono_left h

theorem lt_rankSet_iff {P : List Nat} (hP : P.Pairwise (· ≤ ·)) (x j : Nat) (hj : j < P.length) :
    j < rankSet P x ↔ P[j] < x := by
  have := lt_filter_length_iff hP (fun p => decide (p < x)) (by intro a b hab hb; simp at hb ⊢; omega) j hj
  simpa [rankSet] using this

/-- `rankSet` of a sorted list from the two entries around the cut -/
theorem rankSet_eq {P : List Nat} (hP : P.Pairwise (· ≤ ·)) (i k : Nat) (hk : k ≤ P.length)
    (h1 : ∀ (h : 0 < k), P[k - 1]'(by omega) < i) (h2 : ∀ (h : k < P.length), i ≤ P[k]) :
    rankSet P i = k := by
  have hle : rankSet P i ≤ P.length := filter_length_le _ P
  apply Nat.le_antisymm
  · apply Nat.le_of_not_lt
    intro h
    have := (lt_rankSet_iff hP i k (by omega)).mp h
    have := h2 (by omega)
    omega
  · by_cases h0 : 0 < k
    · have := (lt_rankSet_iff hP i (k - 1) (by omega)).mpr (h1 h0)
      omega
    · omega

/-! ### `selectBits` -/

theorem selectBits_true (B : List Bool) (r y : Nat) (h : selectBits B r = some y) : B[y]? = some true :=
  ((selectBits_spec B r y).1 h).2.1

theorem selectBits_of_true (B : List Bool) (q : Nat) (h : B[q]? = some true) : ∃ r, selectBits B r = some q :=
  ⟨_, (selectBits_spec B _ q).2 ⟨(List.getElem?_eq_some_iff.mp h).1, h, rfl⟩⟩

theorem selectBits_lt_count (B : List Bool) (r y : Nat) (h : selectBits B r = some y) : r < B.count true := by
  have := selectBits_isSome B r
  rw [h] at this
  simpa using this.symm

/-! ### the unary bucket sequence -/

/-- `k` buckets starting with bucket number `h`: a one for every value of the current bucket, then a zero -/
def highBitsFrom (w : Nat) : Nat → Nat → List Nat → List Bool
  | 0, _, _ => []
  | k + 1, h, [] => false :: highBitsFrom w k (h + 1) []
  | k + 1, h, p :: ps =>
    if p >>> w ≤ h then true :: highBitsFrom w (k + 1) h ps
    else false :: highBitsFrom w k (h + 1) (p :: ps)
termination_by k _ P => k + P.length

def highBits (w buckets : Nat) (P : List Nat) : List Bool := highBitsFrom w buckets 0 P

theorem shr_mono (w : Nat) {a b : Nat} (h : a ≤ b) : a >>> w ≤ b >>> w := by
  rw [Nat.shiftRight_eq_div_pow, Nat.shiftRight_eq_div_pow]
  exact Nat.div_le_div_right h

/-- the hypotheses under which `highBitsFrom w k h P` is the encoding of `P` -/
structure HBInv (w k h : Nat) (P : List Nat) : Prop where
  sorted : P.Pairwise (· ≤ ·)
  lower : ∀ p ∈ P, h ≤ p >>> w
  upper : ∀ p ∈ P, p >>> w < h + k

theorem HBInv.tail {w k h p ps} (hi : HBInv w k h (p :: ps)) : HBInv w k h ps :=
  ⟨(List.pairwise_cons.mp hi.sorted).2, fun q hq => hi.lower q (List.mem_cons_of_mem _ hq),
   fun q hq => hi.upper q (List.mem_cons_of_mem _ hq)⟩

theorem HBInv.next {w k h p ps} (hi : HBInv w (k + 1) h (p :: ps)) (hp : ¬ p >>> w ≤ h) :
    HBInv w k (h + 1) (p :: ps) := by
  refine ⟨hi.sorted, ?_, ?_⟩
  · intro q hq
    rcases List.mem_cons.mp hq with rfl | hq'
    · omega
    · have := shr_mono w ((List.pairwise_cons.mp hi.sorted).1 q hq')
      omega
  · intro q hq
    have := hi.upper q hq
    omega

theorem HBInv.nil_next {w k h} : HBInv w k (h + 1) [] :=
  ⟨List.Pairwise.nil, by simp, by simp⟩

theorem highBitsFrom_count (w k h : Nat) (P : List Nat) (hi : HBInv w k h P) :
    (highBitsFrom w k h P).count true = P.length ∧ (highBitsFrom w k h P).count false = k := by
  induction k, h, P using highBitsFrom.induct w with
  | case1 h P =>
    cases P with
    | nil => simp [highBitsFrom]
    | cons p ps =>
      have h1 := hi.lower p (by simp)
      have h2 := hi.upper p (by simp)
      omega
  | case2 k h ih =>
    have := ih HBInv.nil_next
    rw [highBitsFrom]; simp [List.count_cons]; simpa using this
  | case3 k h p ps hp ih =>
    have := ih hi.tail
    rw [highBitsFrom, if_pos hp]; simp [List.count_cons]; simpa using this
  | case4 k h p ps hp ih =>
    have := ih (hi.next hp)
    rw [highBitsFrom, if_neg hp]; simp [List.count_cons]; simpa using this

theorem highBitsFrom_length (w k h : Nat) (P : List Nat) (hi : HBInv w k h P) :
    (highBitsFrom w k h P).length = P.length + k := by
  rw [length_eq_count_true_add_false, (highBitsFrom_count w k h P hi).1, (highBitsFrom_count w k h P hi).2]

theorem highBitsFrom_select (w k h : Nat) (P : List Nat) (hi : HBInv w k h P) (i : Nat) (hlt : i < P.length) :
    selectBits (highBitsFrom w k h P) i = some (P[i] >>> w - h + i) := by
  induction k, h, P using highBitsFrom.induct w generalizing i with
  | case1 h P =>
    have h1 := hi.lower P[i] (List.getElem_mem hlt)
    have h2 := hi.upper P[i] (List.getElem_mem hlt)
    omega
  | case2 k h ih => simp at hlt
  | case3 k h p ps hp ih =>
    rw [highBitsFrom, if_pos hp]
    cases i with
    | zero =>
      have := hi.lower p (by simp)
      simp [selectBits]; omega
    | succ i =>
      have hlt' : i < ps.length := by simpa using hlt
      simp only [selectBits, ih hi.tail i hlt', List.getElem_cons_succ, Option.map_some]
      congr 1
  | case4 k h p ps hp ih =>
    rw [highBitsFrom, if_neg hp]
    have h1 := (hi.next hp).lower (p :: ps)[i] (List.getElem_mem hlt)
    simp only [selectBits, ih (hi.next hp) i hlt, Option.map_some]
    congr 1; omega

theorem highBitsFrom_selectZero (w k h : Nat) (P : List Nat) (hi : HBInv w k h P) (j : Nat) (hlt : j < k) :
    selectBits ((highBitsFrom w k h P).map not) j =
      some (j + (P.filter (fun p => p >>> w ≤ h + j)).length) := by
  induction k, h, P using highBitsFrom.induct w generalizing j with
  | case1 h P => omega
  | case2 k h ih =>
    rw [highBitsFrom]
    cases j with
    | zero => simp [selectBits]
    | succ j =>
      simp only [List.map_cons, Bool.not_false, selectBits, ih HBInv.nil_next j (by omega), Option.map_some]
      simp
  | case3 k h p ps hp ih =>
    rw [highBitsFrom, if_pos hp]
    have hp' : p >>> w ≤ h + j := by omega
    simp only [List.map_cons, Bool.not_true, selectBits, ih hi.tail j hlt, Option.map_some]
    rw [List.filter_cons_of_pos (by simpa using hp')]
    simp; omega
  | case4 k h p ps hp ih =>
    rw [highBitsFrom, if_neg hp]
    cases j with
    | zero =>
      have hall : ∀ q ∈ p :: ps, ¬ ((fun p => decide (p >>> w ≤ h + 0)) q = true) := by
        intro q hq
        have := (hi.next hp).lower q hq
        simp; omega
      rw [List.filter_eq_nil_iff.mpr hall]
      simp [selectBits]
    | succ j =>
      simp only [List.map_cons, Bool.not_false, selectBits, ih (hi.next hp) j (by omega), Option.map_some]
      have e : h + 1 + j = h + (j + 1) := by omega
      rw [e]; congr 1; omega

/-! ### top-level facts about `highBits` -/

theorem hbinv_top {w buckets : Nat} {P : List Nat} (hP : P.Pairwise (· ≤ ·))
    (hb : ∀ p ∈ P, p >>> w < buckets) : HBInv w buckets 0 P :=
  ⟨hP, fun _ _ => Nat.zero_le _, fun p hp => by have := hb p hp; omega⟩

theorem highBits_length {w buckets : Nat} {P : List Nat} (hP : P.Pairwise (· ≤ ·))
    (hb : ∀ p ∈ P, p >>> w < buckets) : (highBits w buckets P).length = P.length + buckets :=
  highBitsFrom_length w buckets 0 P (hbinv_top hP hb)

theorem highBits_count_true {w buckets : Nat} {P : List Nat} (hP : P.Pairwise (· ≤ ·))
    (hb : ∀ p ∈ P, p >>> w < buckets) : (highBits w buckets P).count true = P.length :=
  (highBitsFrom_count w buckets 0 P (hbinv_top hP hb)).1

theorem highBits_count_false {w buckets : Nat} {P : List Nat} (hP : P.Pairwise (· ≤ ·))
    (hb : ∀ p ∈ P, p >>> w < buckets) : (highBits w buckets P).count false = buckets :=
  (highBitsFrom_count w buckets 0 P (hbinv_top hP hb)).2

theorem highBits_select {w buckets : Nat} {P : List Nat} (hP : P.Pairwise (· ≤ ·))
    (hb : ∀ p ∈ P, p >>> w < buckets) (i : Nat) (hi : i < P.length) :
    selectSpec (highBits w buckets P) i = some (P[i] >>> w + i) := by
  have := highBitsFrom_select w buckets 0 P (hbinv_top hP hb) i hi
  simpa [selectSpec, highBits] using this

/-- the zero closing bucket `h` is at `h + |{p : p >>> w ≤ h}|` -/
theorem highBits_selectZero {w buckets : Nat} {P : List Nat} (hP : P.Pairwise (· ≤ ·))
    (hb : ∀ p ∈ P, p >>> w < buckets) (h : Nat) (hh : h < buckets) :
    selectZeroSpec (highBits w buckets P) h = some (h + (P.filter (fun p => p >>> w ≤ h)).length) := by
  have := highBitsFrom_selectZero w buckets 0 P (hbinv_top hP hb) h hh
  simpa [selectZeroSpec, highBits] using this

theorem highBits_select_none {w buckets : Nat} {P : List Nat} (hP : P.Pairwise (· ≤ ·))
    (hb : ∀ p ∈ P, p >>> w < buckets) (i : Nat) (hi : P.length ≤ i) :
    selectSpec (highBits w buckets P) i = none := by
  cases h : selectSpec (highBits w buckets P) i with
  | none => rfl
  | some y =>
    have := selectBits_lt_count _ _ _ h
    rw [highBits_count_true hP hb] at this
    omega

theorem highBits_true_iff {w buckets : Nat} {P : List Nat} (hP : P.Pairwise (· ≤ ·))
    (hb : ∀ p ∈ P, p >>> w < buckets) (q : Nat) :
    (highBits w buckets P)[q]? = some true ↔ ∃ i, ∃ (hi : i < P.length), q = P[i] >>> w + i := by
  constructor
  · intro h
    obtain ⟨r, hr⟩ := selectBits_of_true _ _ h
    have hlt : r < P.length := by
      have := selectBits_lt_count _ _ _ hr
      rwa [highBits_count_true hP hb] at this
    have := highBits_select hP hb r hlt
    unfold selectSpec at this
    rw [hr] at this
    exact ⟨r, hlt, Option.some.inj this⟩
  · rintro ⟨i, hi, rfl⟩
    exact selectBits_true _ _ _ (highBits_select hP hb i hi)

theorem highBits_zero_pos {w buckets : Nat} {P : List Nat} (hP : P.Pairwise (· ≤ ·))
    (hb : ∀ p ∈ P, p >>> w < buckets) (h : Nat) (hh : h < buckets) :
    (highBits w buckets P)[h + (P.filter (fun p => p >>> w ≤ h)).length]? = some false := by
  have := selectBits_true _ _ _ (highBits_selectZero hP hb h hh)
  simpa using this

/-- The bucket sequence is determined by its length and the positions of its ones (the form in which the
builder produces it: it sets bit `(p >>> w) + i` for the `i`-th value). -/
theorem highBits_unique {w buckets : Nat} {P : List Nat} (hP : P.Pairwise (· ≤ ·))
    (hb : ∀ p ∈ P, p >>> w < buckets) (B : List Bool) (hlen : B.length = P.length + buckets)
    (h : ∀ q, B[q]? = some true ↔ ∃ i, ∃ (hi : i < P.length), q = P[i] >>> w + i) :
    B = highBits w buckets P := by
  apply List.ext_getElem?
  intro q
  have hl := highBits_length hP hb
  have ht := highBits_true_iff hP hb q
  have hB := h q
  by_cases hq : q < B.length
  · have hq' : q < (highBits w buckets P).length := by omega
    rw [List.getElem?_eq_getElem hq] at hB ⊢
    rw [List.getElem?_eq_getElem hq'] at ht ⊢
    rw [← ht] at hB
    cases h1 : B[q] <;> cases h2 : (highBits w buckets P)[q] <;> simp [h1, h2] at hB ⊢
  · rw [List.getElem?_eq_none (by omega), List.getElem?_eq_none (by omega)]

/-! ### arithmetic of the split -/

theorem split_eq (w p : Nat) : (p >>> w) * 2 ^ w + p % 2 ^ w = p := by
  rw [Nat.shiftRight_eq_div_pow]; exact Nat.div_add_mod' p (2 ^ w)

theorem lt_of_shr_lt {w a b : Nat} (h : a >>> w < b >>> w) : a < b := by
  rw [Nat.shiftRight_eq_div_pow, Nat.shiftRight_eq_div_pow] at h
  exact Nat.lt_of_div_lt_div h

theorem lt_iff_of_shr_eq {w a b : Nat} (h : a >>> w = b >>> w) : a < b ↔ a % 2 ^ w < b % 2 ^ w := by
  have ha := split_eq w a
  have hb := split_eq w b
  rw [h] at ha
  generalize (b >>> w) * 2 ^ w = t at ha hb
  omega

theorem eq_iff_of_shr_eq {w a b : Nat} (h : a >>> w = b >>> w) : a = b ↔ a % 2 ^ w = b % 2 ^ w := by
  have ha := split_eq w a
  have hb := split_eq w b
  rw [h] at ha
  generalize (b >>> w) * 2 ^ w = t at ha hb
  omega

theorem shr_lt_getBuckets {n w p : Nat} (hw : w ≤ 63) (hp : p < n) : p >>> w < Sparse.getBuckets n w := by
  unfold Sparse.getBuckets
  have hw' : w < 64 := by omega
  simp only [if_pos hw', Nat.shiftRight_eq_div_pow]
  have hd : 0 < 2 ^ w := Nat.two_pow_pos w
  by_cases hm : n % 2 ^ w = 0
  · simp only [hm, ne_eq, not_true_eq_false, if_false]
    rw [Nat.div_lt_iff_lt_mul hd]
    have := Nat.div_add_mod' n (2 ^ w)
    omega
  · simp only [hm, ne_eq, not_false_eq_true, if_true]
    have := Nat.div_le_div_right (c := 2 ^ w) (Nat.le_of_lt hp)
    omega

theorem getBuckets_le {n w : Nat} (hw1 : 1 ≤ w) (hn : n < 2 ^ 64) : Sparse.getBuckets n w ≤ 2 ^ 63 := by
  unfold Sparse.getBuckets
  have h2 : 2 ^ 1 ≤ 2 ^ w := Nat.pow_le_pow_right (by decide) hw1
  have h1 : n >>> w ≤ n / 2 := by
    rw [Nat.shiftRight_eq_div_pow]
    exact Nat.div_le_div_left h2 (by decide)
  have h3 : (if w < 64 then n >>> w else 0) ≤ n / 2 := by split <;> omega
  show (if n % 2 ^ w ≠ 0 then (if w < 64 then n >>> w else 0) + 1 else (if w < 64 then n >>> w else 0)) ≤ 2 ^ 63
  split <;> omega

/-! ### the encoding relation -/

/-- number of values whose high part is below `h`: bucket `h` holds the values number `cntLt h ≤ j < cntLt (h + 1)` -/
def cntLt (w : Nat) (P : List Nat) (h : Nat) : Nat := (P.filter (fun p => p >>> w < h)).length

/-- `s` is the Elias–Fano encoding of the sorted list `P` (universe `n`, low width `w`).  The concrete
bitvector `high` enters only through the last four fields: its `len`, `get`, `select` and `select_zero`
agree with the bit list `highBits w (getBuckets n w) P`. -/
structure Sparse.Encodes (s : Sparse) (n w : Nat) (P : List Nat) : Prop where
  len_eq : s.len = n
  w_pos : 1 ≤ w
  w_lt : w ≤ 63
  n_lt : n < 2 ^ 64
  width_eq : s.low.width = w
  low_len : s.low.len = P.length
  low_val : ∀ i (h : i < P.length), (s.low.getRaw i).toNat = P[i] % 2 ^ w
  sorted : sortedLe P = true
  bound : ∀ p ∈ P, p < n
  m_lt : P.length < 2 ^ 63
  high_len : s.high.len = P.length + Sparse.getBuckets n w
  high_get : ∀ i, i < s.high.len →
    s.high.get i = .ok ((highBits w (Sparse.getBuckets n w) P)[i]?.getD false)
  high_sel : ∀ m r, s.high.selectQ m r = .ok (selectSpec (highBits w (Sparse.getBuckets n w) P) r)
  high_selz : ∀ m r, s.high.selectZeroQ m r = .ok (selectZeroSpec (highBits w (Sparse.getBuckets n w) P) r)

theorem cntLt_le (w : Nat) (P : List Nat) (h : Nat) : cntLt w P h ≤ P.length := List.length_filter_le _ _

theorem cntLt_succ (w : Nat) (P : List Nat) (h : Nat) :
    cntLt w P (h + 1) = (P.filter (fun p => p >>> w ≤ h)).length := by
  unfold cntLt
  congr 2
  funext p
  simp [Nat.lt_succ_iff]

theorem cntLt_zero (w : Nat) (P : List Nat) : cntLt w P 0 = 0 := by
  unfold cntLt; simp

theorem lt_cntLt_iff {w : Nat} {P : List Nat} (hP : P.Pairwise (· ≤ ·)) (h j : Nat) (hj : j < P.length) :
    j < cntLt w P h ↔ P[j] >>> w < h := by
  have := lt_filter_length_iff hP (fun p => decide (p >>> w < h))
    (by intro a b hab hb; have := shr_mono w hab; simp at hb ⊢; omega) j hj
  simpa [cntLt] using this

/-- below width 64 `combine` subtracts, shifts and adds (at width ≥ 64 the code skips the subtraction and the high
part is 0) -/
theorem Sparse.combine_of_lt {m : Mode} {s : Sparse} {p : Pos} (h : s.width < 64) :
    s.combine m p = (do
      let d ← subM m p.high p.low
      let l ← s.low.get p.low
      let v ← addM m ((d <<< s.width) % U64) l.toNat
      return (p.low, v)) := by
  unfold Sparse.combine
  rw [if_pos h]
  cases subM m p.high p.low <;> rfl

/-- at width ≥ 64 `combine` does not look at `p.high` -/
theorem Sparse.combine_of_ge {m : Mode} {s : Sparse} {p : Pos} (h : ¬ s.width < 64) :
    s.combine m p = (do
      let l ← s.low.get p.low
      let v ← addM m 0 l.toNat
      return (p.low, v)) := by
  unfold Sparse.combine
  rw [if_neg h]
  rfl

namespace Sparse.Encodes
variable {s : Sparse} {n w : Nat} {P : List Nat}

theorem pw (hs : s.Encodes n w P) : P.Pairwise (· ≤ ·) := sortedLe_pairwise P hs.sorted

theorem countOnes_eq (hs : s.Encodes n w P) : s.countOnes = P.length := hs.low_len

theorem countZeros_eq (hs : s.Encodes n w P) : s.countZeros = n - P.length := by
  unfold Sparse.countZeros
  rw [hs.countOnes_eq, hs.len_eq]
  split <;> omega

theorem split_val (hs : s.Encodes n w P) (i : Nat) : s.split i = (i >>> w, i % 2 ^ w) := by
  unfold Sparse.split Sparse.width
  rw [hs.width_eq]

theorem hb (hs : s.Encodes n w P) : ∀ p ∈ P, p >>> w < Sparse.getBuckets n w :=
  fun p hp => shr_lt_getBuckets hs.w_lt (hs.bound p hp)

theorem mono (hs : s.Encodes n w P) (i j : Nat) (hij : i ≤ j) (hj : j < P.length) :
    P[i]'(by omega) ≤ P[j] := pairwise_le_getElem hs.pw i j hij hj

theorem H_len (hs : s.Encodes n w P) :
    (highBits w (Sparse.getBuckets n w) P).length = P.length + Sparse.getBuckets n w :=
  highBits_length hs.pw hs.hb

theorem high_lt (hs : s.Encodes n w P) : s.high.len < U64 := by
  have := getBuckets_le hs.w_pos hs.n_lt
  have := hs.m_lt
  rw [hs.high_len, U64_eq]; omega

theorem pos_lt (hs : s.Encodes n w P) (i : Nat) (hi : i < P.length) : P[i] >>> w + i < s.high.len := by
  have := hs.hb P[i] (List.getElem_mem hi)
  rw [hs.high_len]; omega

theorem zpos_lt (hs : s.Encodes n w P) (h : Nat) (hh : h < Sparse.getBuckets n w) :
    h + cntLt w P (h + 1) < s.high.len := by
  have := cntLt_le w P (h + 1)
  rw [hs.high_len]; omega

theorem get_one (hs : s.Encodes n w P) (i : Nat) (hi : i < P.length) :
    s.high.get (P[i] >>> w + i) = ok true := by
  rw [hs.high_get _ (hs.pos_lt i hi), (highBits_true_iff hs.pw hs.hb _).mpr ⟨i, hi, rfl⟩]; rfl

theorem get_zero (hs : s.Encodes n w P) (h : Nat) (hh : h < Sparse.getBuckets n w) :
    s.high.get (h + cntLt w P (h + 1)) = ok false := by
  rw [hs.high_get _ (hs.zpos_lt h hh)]
  have := highBits_zero_pos hs.pw hs.hb h hh
  rw [cntLt_succ, this]; rfl

theorem get_not_one (hs : s.Encodes n w P) (q : Nat) (hq : q < s.high.len)
    (hne : ∀ i (hi : i < P.length), q ≠ P[i] >>> w + i) : s.high.get q = ok false := by
  rw [hs.high_get _ hq]
  congr 1
  cases hb : (highBits w (Sparse.getBuckets n w) P)[q]? with
  | none => rfl
  | some b =>
    cases b with
    | false => rfl
    | true =>
      obtain ⟨i, hi, e⟩ := (highBits_true_iff hs.pw hs.hb q).mp hb
      exact absurd e (hne i hi)

/-- no one of `high` lies strictly between the ones of items `r - 1` and `r` -/
theorem get_gap (hs : s.Encodes n w P) (r q : Nat) (hr : r ≤ P.length) (hq : q < s.high.len)
    (hlo : ∀ (h0 : 0 < r), P[r - 1]'(by omega) >>> w + (r - 1) < q)
    (hhi : ∀ (h : r < P.length), q < P[r] >>> w + r) : s.high.get q = ok false := by
  apply hs.get_not_one q hq
  intro i hi e
  by_cases hir : i < r
  · have := hlo (by omega)
    have := shr_mono w (hs.mono i (r - 1) (by omega) (by omega))
    omega
  · have := hhi (by omega)
    have := shr_mono w (hs.mono r i (by omega) hi)
    omega

theorem low_get (hs : s.Encodes n w P) (i : Nat) (hi : i < P.length) : s.low.get i = ok (s.low.getRaw i) := by
  unfold IntVec.get; rw [hs.low_len, if_pos hi]

theorem pos_strict (hs : s.Encodes n w P) (i j : Nat) (hij : i < j) (hj : j < P.length) :
    P[i]'(by omega) >>> w + i < P[j] >>> w + j := by
  have := shr_mono w (hs.mono i j (by omega) hj)
  omega

/-- `combine` at the position of the `i`-th one reassembles `P[i]`, without overflow in either mode -/
theorem combine_ok (hs : s.Encodes n w P) (m : Mode) (i : Nat) (hi : i < P.length) :
    s.combine m ⟨P[i] >>> w + i, i⟩ = ok (i, P[i]) := by
  rw [Sparse.combine_of_lt (by have := hs.width_eq; have := hs.w_lt; unfold Sparse.width; omega)]
  unfold Sparse.width
  have hsub : subM m (P[i] >>> w + i) i = ok (P[i] >>> w) := by
    rw [subM_ok (Nat.le_add_left _ _), Nat.add_sub_cancel]
  have hsp := split_eq w P[i]
  have hlt : P[i] < U64 := by
    have := hs.bound P[i] (List.getElem_mem hi)
    have := hs.n_lt
    rw [U64_eq]; omega
  have hshl : (P[i] >>> w) <<< w = (P[i] >>> w) * 2 ^ w := Nat.shiftLeft_eq _ _
  have hmod : ((P[i] >>> w) <<< w) % U64 = (P[i] >>> w) * 2 ^ w := by
    rw [hshl]; apply Nat.mod_eq_of_lt; omega
  simp only [hsub, bind_ok, hs.low_get i hi, hs.width_eq, hmod, hs.low_val i hi]
  rw [addM_ok (by omega), hsp]; rfl

end Sparse.Encodes

/-! ### select -/

theorem pos_ok {s : Sparse} {n w : Nat} {P : List Nat} (hs : s.Encodes n w P) (m : Mode) (r : Nat)
    (hr : r < P.length) : s.pos m r = ok ⟨P[r] >>> w + r, r⟩ := by
  unfold Sparse.pos
  rw [hs.high_sel, highBits_select hs.pw hs.hb r hr]; rfl

/-- `select` returns `P[r]?` for every `r`, in both modes -/
theorem select_ok {s : Sparse} {n w : Nat} {P : List Nat} (hs : s.Encodes n w P) (m : Mode) (r : Nat) :
    s.select m r = .ok (selectSet P r) := by
  unfold Sparse.select selectSet
  rw [hs.countOnes_eq]
  by_cases hr : r ≥ P.length
  · rw [if_pos hr, List.getElem?_eq_none hr]
  · have hr' : r < P.length := by omega
    rw [if_neg hr, pos_ok hs m r hr']
    simp only [bind_ok, hs.combine_ok m r hr', pure_eq, List.getElem?_eq_getElem hr']

/-! ### bucket bounds -/

theorem selz_cntLt {s : Sparse} {n w : Nat} {P : List Nat} (hs : s.Encodes n w P) (h : Nat)
    (hh : h < Sparse.getBuckets n w) :
    selectZeroSpec (highBits w (Sparse.getBuckets n w) P) h = some (h + cntLt w P (h + 1)) := by
  rw [cntLt_succ]; exact highBits_selectZero hs.pw hs.hb h hh

theorem upperBound_ok {s : Sparse} {n w : Nat} {P : List Nat} (hs : s.Encodes n w P) (m : Mode) (hp : Nat)
    (hhp : hp < Sparse.getBuckets n w) :
    s.upperBound m hp = ok ⟨hp + cntLt w P (hp + 1), cntLt w P (hp + 1)⟩ := by
  unfold Sparse.upperBound
  rw [hs.high_selz, selz_cntLt hs hp hhp]
  simp only [bind_ok, unwrapM]
  rw [subM_ok (Nat.le_add_right _ _), Nat.add_sub_cancel_left]
  rfl

theorem lowerBound_ok {s : Sparse} {n w : Nat} {P : List Nat} (hs : s.Encodes n w P) (m : Mode) (hp : Nat)
    (hhp : hp < Sparse.getBuckets n w) :
    s.lowerBound m hp = ok ⟨hp + cntLt w P hp, cntLt w P hp⟩ := by
  unfold Sparse.lowerBound
  cases hp with
  | zero => simp [cntLt_zero]
  | succ h =>
    have hh : h < Sparse.getBuckets n w := by omega
    have hz := hs.zpos_lt h hh
    have hl := hs.high_lt
    rw [if_neg (by omega), Nat.add_sub_cancel, hs.high_selz, selz_cntLt hs h hh]
    simp only [bind_ok, unwrapM]
    rw [addM_ok (by omega)]
    simp only [bind_ok]
    rw [subM_ok (by omega)]
    simp only [bind_ok, pure_eq]
    congr 2 <;> omega

/-! ### cuts of the sorted list inside a bucket -/

theorem hi_eq_of_mem_bucket {s : Sparse} {n w : Nat} {P : List Nat} (hs : s.Encodes n w P) (hp j : Nat)
    (hj : j < P.length) (h1 : cntLt w P hp ≤ j) (h2 : j < cntLt w P (hp + 1)) : P[j] >>> w = hp := by
  have a1 := (lt_cntLt_iff hs.pw (hp + 1) j hj).mp h2
  have a2 : ¬ (P[j] >>> w < hp) := fun h => by
    have := (lt_cntLt_iff (w := w) hs.pw hp j hj).mpr h; omega
  omega

theorem hi_gt_of_ge_cntLt {s : Sparse} {n w : Nat} {P : List Nat} (hs : s.Encodes n w P) (hp j : Nat)
    (hj : j < P.length) (h1 : cntLt w P (hp + 1) ≤ j) : hp < P[j] >>> w := by
  apply Nat.lt_of_not_le
  intro h
  have := (lt_cntLt_iff hs.pw (hp + 1) j hj).mpr (Nat.lt_succ_of_le h)
  omega

/-- The first `c` values of `P` are the ones `rank`, `get`, `predecessor` or `successor` looks for, the cut
lies inside (or at an end of) bucket `hp`, and inside the bucket a value is before the cut iff its low part
satisfies `below`.  Every bucket scan of the queries stops at such a cut. -/
structure BucketCut (w : Nat) (P : List Nat) (hp c : Nat) (below : Nat → Prop) : Prop where
  lo : cntLt w P hp ≤ c
  hi : c ≤ cntLt w P (hp + 1)
  iff : ∀ j (hj : j < P.length), cntLt w P hp ≤ j → j < cntLt w P (hp + 1) → (below (P[j] % 2 ^ w) ↔ j < c)

/-- the values below `x` -/
theorem rank_cut {s : Sparse} {n w : Nat} {P : List Nat} (hs : s.Encodes n w P) (x : Nat) :
    BucketCut w P (x >>> w) (rankSet P x) (· < x % 2 ^ w) := by
  refine ⟨filter_length_mono fun a _ ha => ?_, filter_length_mono fun a _ ha => ?_, fun j hj h1 h2 => ?_⟩
  · simp at ha ⊢; exact lt_of_shr_lt ha
  · simp at ha ⊢; exact Nat.lt_succ_of_le (shr_mono w (Nat.le_of_lt ha))
  · have hh := hi_eq_of_mem_bucket hs (x >>> w) j hj h1 h2
    rw [← lt_iff_of_shr_eq hh]
    exact (lt_rankSet_iff hs.pw x j hj).symm

/-- the values up to `y` -/
theorem pred_cut {s : Sparse} {n w : Nat} {P : List Nat} (hs : s.Encodes n w P) (y : Nat) :
    BucketCut w P (y >>> w) (P.filter (· ≤ y)).length (· ≤ y % 2 ^ w) := by
  refine ⟨filter_length_mono fun a _ ha => ?_, filter_length_mono fun a _ ha => ?_, fun j hj h1 h2 => ?_⟩
  · simp at ha ⊢; exact Nat.le_of_lt (lt_of_shr_lt ha)
  · simp at ha ⊢; exact Nat.lt_succ_of_le (shr_mono w ha)
  · have hh := hi_eq_of_mem_bucket hs (y >>> w) j hj h1 h2
    have := lt_filter_length_iff hs.pw (fun p => decide (p ≤ y))
      (by intro a b hab hb; simp at hb ⊢; omega) j hj
    have hlow := lt_iff_of_shr_eq hh.symm
    simp at this
    show P[j] % 2 ^ w ≤ y % 2 ^ w ↔ _
    omega

/-! ### the backward bucket scan -/

/-- the skip test of `backLoop` -/
def backT (strict : Bool) (L l : Nat) : Prop := if strict = true then l > L else l ≥ L

instance (strict : Bool) (L l : Nat) : Decidable (backT strict L l) := by unfold backT; exact inferInstance

theorem backLoop_one {s : Sparse} {n w : Nat} {P : List Nat} (hs : s.Encodes n w P) (L : Nat) (strict : Bool)
    (fuel j : Nat) (hj : j < P.length) :
    Sparse.backLoop s L strict (fuel + 1) ⟨P[j] >>> w + j, j⟩ =
      if backT strict L (P[j] % 2 ^ w) then
        (if j = 0 then ok none else Sparse.backLoop s L strict fuel ⟨P[j] >>> w + j - 1, j - 1⟩)
      else ok (some ⟨P[j] >>> w + j, j⟩) := by
  rw [Sparse.backLoop]
  simp only [hs.get_one j hj, bind_ok, hs.low_get j hj, hs.low_val j hj, if_true]
  cases strict <;> simp [backT]

theorem backLoop_zero {s : Sparse} (L : Nat) (strict : Bool) (fuel q j : Nat)
    (h : s.high.get q = ok false) : Sparse.backLoop s L strict (fuel + 1) ⟨q, j⟩ = ok (some ⟨q, j⟩) := by
  rw [Sparse.backLoop]
  simp only [h, bind_ok]
  rfl

/-- The backward scan started in bucket `hp` at an index `j` at or after the last value before the cut (the
skip test being the negation of `below`) stops at that value, index `c - 1`: either it fails the skip test, or it
lies below the bucket and the scan meets the zero closing bucket `hp - 1`.  With `c = 0` the scan runs off the
front. -/
theorem backLoop_cut {s : Sparse} {n w : Nat} {P : List Nat} (hs : s.Encodes n w P) {hp c L : Nat}
    {strict : Bool} {below : Nat → Prop} (hhp : hp < Sparse.getBuckets n w) (hc : BucketCut w P hp c below)
    (hT : ∀ l, backT strict L l ↔ ¬ below l) :
    ∀ (fuel j : Nat), j < cntLt w P (hp + 1) → c ≤ j + 1 → j + 2 ≤ fuel + c →
      Sparse.backLoop s L strict fuel ⟨hp + j, j⟩ =
        ok (if c = 0 then none else some ⟨hp + (c - 1), c - 1⟩) := by
  have hcP := cntLt_le w P (hp + 1)
  have hlo := hc.lo
  intro fuel
  induction fuel with
  | zero => intro j h1 h2 h3; omega
  | succ fuel ih =>
    intro j h1 h2 h3
    have hjP : j < P.length := by omega
    by_cases ha : cntLt w P hp ≤ j
    · have hstep := backLoop_one hs L strict fuel j hjP
      rw [hi_eq_of_mem_bucket hs hp j hjP ha h1] at hstep
      rw [hstep]
      have hcut := hc.iff j hjP ha h1
      by_cases hjc : j < c
      · rw [if_neg (fun h => (hT _).mp h (hcut.mpr hjc)), if_neg (by omega)]
        have e : c - 1 = j := by omega
        rw [e]
      · rw [if_pos ((hT _).mpr (fun h => hjc (hcut.mp h)))]
        by_cases hj0 : j = 0
        · rw [if_pos hj0, if_pos (by omega)]
        · rw [if_neg hj0, show hp + j - 1 = hp + (j - 1) by omega]
          exact ih (j - 1) (by omega) (by omega) (by omega)
    · cases hp with
      | zero => rw [cntLt_zero] at ha; omega
      | succ h' =>
        have hz := hs.get_zero h' (by omega)
        rw [show h' + cntLt w P (h' + 1) = h' + 1 + j by omega] at hz
        rw [backLoop_zero L strict fuel _ j hz, if_neg (by omega)]
        have e : c - 1 = j := by omega
        rw [e]

/-! ### rank -/

theorem rankSet_of_ge {s : Sparse} {n w : Nat} {P : List Nat} (hs : s.Encodes n w P) (i : Nat) (hi : n ≤ i) :
    rankSet P i = P.length := by
  apply rankSet_eq hs.pw i P.length (Nat.le_refl _)
  · intro h
    have := hs.bound _ (List.getElem_mem (show P.length - 1 < P.length by omega))
    omega
  · intro h; omega

/-- `rank` returns the number of values below `i` for every `i` (set or multiset), in both modes -/
theorem rank_ok {s : Sparse} {n w : Nat} {P : List Nat} (hs : s.Encodes n w P) (m : Mode) (i : Nat) :
    s.rank m i = .ok (rankSet P i) := by
  unfold Sparse.rank
  rw [hs.len_eq, hs.countOnes_eq, hs.split_val]
  by_cases hi : i ≥ n
  · rw [if_pos hi, rankSet_of_ge hs i hi]
  · rw [if_neg hi]
    have hhp : i >>> w < Sparse.getBuckets n w := shr_lt_getBuckets hs.w_lt (by omega)
    have hc := rank_cut hs i
    have hcP := cntLt_le w P (i >>> w + 1)
    have hhi := hc.hi
    simp only [upperBound_ok hs m _ hhp, bind_ok]
    by_cases h0 : cntLt w P (i >>> w + 1) = 0
    · rw [if_pos h0]
      simp only [pure_eq]
      congr 1; omega
    · rw [if_neg h0, Nat.add_sub_assoc (show 1 ≤ cntLt w P (i >>> w + 1) by omega),
        backLoop_cut hs hhp hc (fun l => by simp [backT]) (s.high.len + 1) _ (by omega) (by omega)
          (by rw [hs.high_len]; omega)]
      by_cases hc0 : rankSet P i = 0
      · rw [if_pos hc0, hc0]; rfl
      · rw [if_neg hc0]
        simp only [bind_ok, pure_eq]
        congr 1; omega

/-! ### the forward bucket scan -/

/-- The forward scan started in bucket `hp` at an index `j` not after the cut (it skips the values whose low
part is below `L`) stops at the cut, and reports whether the cut is still inside the bucket. -/
theorem succLoop1_cut {s : Sparse} {n w : Nat} {P : List Nat} (hs : s.Encodes n w P) {hp c L : Nat}
    (hhp : hp < Sparse.getBuckets n w) (hc : BucketCut w P hp c (· < L)) :
    ∀ (fuel j : Nat), cntLt w P hp ≤ j → j ≤ c → c + 1 ≤ fuel + j →
      Sparse.succLoop1 s L fuel ⟨hp + j, j⟩ = ok (decide (c < cntLt w P (hp + 1)), ⟨hp + c, c⟩) := by
  have hcP := cntLt_le w P (hp + 1)
  have hhi := hc.hi
  intro fuel
  induction fuel with
  | zero => intro j h1 h2 h3; omega
  | succ fuel ih =>
    intro j h1 h2 h3
    rw [Sparse.succLoop1]
    by_cases hjc : j = cntLt w P (hp + 1)
    · -- the zero closing the bucket
      have hcc : c = cntLt w P (hp + 1) := by omega
      subst hjc
      rw [if_pos (hs.zpos_lt _ hhp), hcc]
      simp only [hs.get_zero _ hhp, bind_ok, pure_eq, Nat.lt_irrefl, decide_false]
      rfl
    · have hjP : j < P.length := by omega
      have hh := hi_eq_of_mem_bucket hs hp j hjP h1 (by omega)
      have hpl := hs.pos_lt j hjP
      have hg := hs.get_one j hjP
      rw [hh] at hpl hg
      have hcut : P[j] % 2 ^ w < L ↔ j < c := hc.iff j hjP h1 (by omega)
      rw [if_pos hpl]
      simp only [hg, bind_ok, if_true, hs.low_get j hjP, hs.low_val j hjP]
      by_cases hge : P[j] % 2 ^ w ≥ L
      · have e : c = j := by omega
        subst e
        rw [if_pos hge, decide_eq_true (by omega)]
        rfl
      · rw [if_neg hge]
        exact ih (j + 1) (by omega) (by omega) (by omega)

/-- `get` scans like `successor` and then compares -/
theorem getLoop_eq_succLoop1 (s : Sparse) (L : Nat) : ∀ (fuel : Nat) (p : Pos),
    Sparse.getLoop s L fuel p = (do
      let r ← Sparse.succLoop1 s L fuel p
      if r.1 then do
        let l ← s.low.get r.2.low
        return (l.toNat == L)
      else return false) := by
  intro fuel
  induction fuel with
  | zero => intro p; rfl
  | succ fuel ih =>
    intro p
    rw [Sparse.getLoop, Sparse.succLoop1]
    split
    · cases hb : s.high.get p.high with
      | fault f => rfl
      | ok b =>
        cases b with
        | false => rfl
        | true =>
          simp only [bind_ok, if_true]
          cases hl : s.low.get p.low with
          | fault f => rfl
          | ok l =>
            simp only [bind_ok]
            split
            · simp only [pure_eq, bind_ok, if_true, hl]
            · exact ih _
    · rfl

/-! ### get -/

theorem contains_false_of_split (P : List Nat) (i k : Nat)
    (h1 : ∀ j' (hj' : j' < P.length), j' < k → P[j'] < i)
    (h2 : ∀ j' (hj' : j' < P.length), k ≤ j' → i < P[j']) : P.contains i = false := by
  cases h : P.contains i with
  | false => rfl
  | true =>
    have hm : i ∈ P := by simpa using h
    obtain ⟨j, hj, e⟩ := List.mem_iff_getElem.mp hm
    by_cases hjk : j < k
    · have := h1 j hj hjk; omega
    · have := h2 j hj (by omega); omega

theorem contains_true_of_getElem (P : List Nat) (i j : Nat) (hj : j < P.length) (e : P[j] = i) :
    P.contains i = true := by
  have : i ∈ P := e ▸ List.getElem_mem hj
  simpa using this

/-- membership in a sorted list is decided by the entry at the cut -/
theorem contains_eq_cut {P : List Nat} (hP : P.Pairwise (· ≤ ·)) (x : Nat) :
    P.contains x = decide (P[rankSet P x]? = some x) := by
  by_cases h : P[rankSet P x]? = some x
  · obtain ⟨hc, e⟩ := List.getElem?_eq_some_iff.mp h
    rw [contains_true_of_getElem P x _ hc e, decide_eq_true h]
  · rw [decide_eq_false h]
    apply contains_false_of_split P x (rankSet P x)
    · intro j hj hjc
      exact (lt_rankSet_iff hP x j hj).mp hjc
    · intro j hj hcj
      -- `P[c] ≤ P[j]`, neither is below `x`, and `P[c] ≠ x`
      have hc : rankSet P x < P.length := by omega
      have h1 := mt (lt_rankSet_iff hP x j hj).mpr (by omega)
      have h2 := mt (lt_rankSet_iff hP x _ hc).mpr (by omega)
      have h3 := pairwise_le_getElem hP _ j hcj hj
      rw [List.getElem?_eq_getElem hc] at h
      have h4 : P[rankSet P x] ≠ x := fun e => h (by rw [e])
      omega

/-- `get` is membership, for every index below the universe size, in both modes -/
theorem get_ok {s : Sparse} {n w : Nat} {P : List Nat} (hs : s.Encodes n w P) (m : Mode) (i : Nat)
    (hi : i < n) : s.get m i = .ok (getSet P i) := by
  unfold Sparse.get getSet
  rw [hs.split_val]
  have hhp : i >>> w < Sparse.getBuckets n w := shr_lt_getBuckets hs.w_lt hi
  have hc := rank_cut hs i
  have hcP := cntLt_le w P (i >>> w + 1)
  have hhi := hc.hi
  simp only [lowerBound_ok hs m _ hhp, bind_ok, getLoop_eq_succLoop1,
    succLoop1_cut hs hhp hc (s.high.len + 1) _ (Nat.le_refl _) hc.lo (by rw [hs.high_len]; omega)]
  rw [contains_eq_cut hs.pw]
  by_cases hf : rankSet P i < cntLt w P (i >>> w + 1)
  · have hk : rankSet P i < P.length := by omega
    have hh := hi_eq_of_mem_bucket hs (i >>> w) _ hk hc.lo hf
    simp only [decide_eq_true hf, if_true, hs.low_get _ hk, bind_ok, pure_eq, hs.low_val _ hk,
      List.getElem?_eq_getElem hk, Option.some.injEq, eq_iff_of_shr_eq hh]
    by_cases e : P[rankSet P i] % 2 ^ w = i % 2 ^ w <;> simp [e]
  · simp only [decide_eq_false hf, Bool.false_eq_true, if_false, pure_eq]
    congr 1
    symm
    apply decide_eq_false
    intro h
    obtain ⟨hk, e⟩ := List.getElem?_eq_some_iff.mp h
    have := hi_gt_of_ge_cntLt hs (i >>> w) _ hk (by omega)
    rw [e] at this
    omega

/-! ### rank_zero -/

/-- in every mode and for every list (set or multiset) `rank_zero` is the mode's subtraction `i - rank i` -/
theorem rankZero_eq {s : Sparse} {n w : Nat} {P : List Nat} (hs : s.Encodes n w P) (m : Mode) (i : Nat) :
    s.rankZero m i = subM m i (rankSet P i) := by
  unfold Sparse.rankZero
  rw [rank_ok hs m i]; rfl

/-- a strictly increasing list has at most `i` values below `i` -/
theorem rankSet_le_of_strict {P : List Nat} (hP : sortedStrict P = true) (i : Nat) : rankSet P i ≤ i := by
  have hst := sortedStrict_pairwise P hP
  have hle : P.Pairwise (· ≤ ·) := hst.imp (fun h => Nat.le_of_lt h)
  apply Nat.le_of_not_lt
  intro hlt
  have hk : rankSet P i ≤ P.length := filter_length_le _ P
  have hj : rankSet P i - 1 < P.length := by omega
  have h1 := (lt_rankSet_iff hle i _ hj).mp (by omega)
  have h2 := strict_getElem_ge hst _ hj
  omega

/-- set mode: `rank_zero` never underflows, for every index -/
theorem rankZero_ok {s : Sparse} {n w : Nat} {P : List Nat} (hs : s.Encodes n w P)
    (hstrict : sortedStrict P = true) (m : Mode) (i : Nat) :
    s.rankZero m i = .ok (i - rankSet P i) := by
  rw [rankZero_eq hs m i, subM_ok (rankSet_le_of_strict hstrict i)]

/-- multiset mode: when more than `i` values lie below `i`, `rank_zero` panics in checked builds … -/
theorem rankZero_multiset_checked {s : Sparse} {n w : Nat} {P : List Nat} (hs : s.Encodes n w P) (i : Nat)
    (h : i < rankSet P i) : s.rankZero .checked i = .fault (.panic .overflow) := by
  rw [rankZero_eq hs .checked i]
  unfold subM
  rw [if_neg (by omega)]

/-- … and wraps around in release builds -/
theorem rankZero_multiset_wrapping {s : Sparse} {n w : Nat} {P : List Nat} (hs : s.Encodes n w P) (i : Nat)
    (h : i < rankSet P i) : s.rankZero .wrapping i = .ok ((i + U64 - rankSet P i) % U64) := by
  rw [rankZero_eq hs .wrapping i]
  unfold subM
  rw [if_neg (by omega)]

/-! ### the iterator over the values -/

/-- the iterator state produced by `select_iter r` (the empty iterator for `r ≥ |P|`) -/
def Sparse.iterAt (s : Sparse) (w : Nat) (P : List Nat) (r : Nat) : SpOneIter :=
  if h : r < P.length then ⟨⟨P[r] >>> w + r, r⟩, ⟨s.high.len, s.low.len⟩⟩ else SpOneIter.emptyIter s

/-- `it` is an iterator state whose next item is number `r`: the `high` cursor is past the one of item `r - 1`
and not past the one of item `r` -/
structure IterAt (s : Sparse) (w : Nat) (P : List Nat) (r : Nat) (it : SpOneIter) : Prop where
  limit_eq : it.limit = ⟨s.high.len, s.low.len⟩
  low_eq : it.next.low = r
  r_le : r ≤ P.length
  high_le : ∀ (hr : r < P.length), it.next.high ≤ P[r] >>> w + r
  high_gt : ∀ (h0 : 0 < r), P[r - 1]'(by omega) >>> w + (r - 1) < it.next.high

theorem selectIter_ok {s : Sparse} {n w : Nat} {P : List Nat} (hs : s.Encodes n w P) (m : Mode) (r : Nat) :
    s.selectIter m r = ok (s.iterAt w P r) := by
  unfold Sparse.selectIter Sparse.iterAt
  rw [hs.countOnes_eq]
  by_cases hr : r < P.length
  · rw [if_neg (by omega), dif_pos hr, pos_ok hs m r hr]; rfl
  · rw [if_pos (by omega), dif_neg hr]

theorem iterAt_IterAt {s : Sparse} {n w : Nat} {P : List Nat} (hs : s.Encodes n w P) (r : Nat) :
    IterAt s w P (min r P.length) (s.iterAt w P r) := by
  unfold Sparse.iterAt
  by_cases hr : r < P.length
  · rw [dif_pos hr]
    have e : min r P.length = r := by omega
    simp only [e]
    refine ⟨rfl, rfl, by omega, fun _ => Nat.le_refl _, ?_⟩
    intro h0
    exact hs.pos_strict (r - 1) r (by omega) hr
  · rw [dif_neg hr]
    have e : min r P.length = P.length := by omega
    simp only [e]
    refine ⟨rfl, hs.low_len, Nat.le_refl _, fun h => absurd h (by omega), ?_⟩
    intro h0
    exact hs.pos_lt (P.length - 1) (by omega)

theorem full_IterAt {s : Sparse} {n w : Nat} {P : List Nat} (hs : s.Encodes n w P) :
    IterAt s w P 0 (SpOneIter.full s) :=
  ⟨rfl, rfl, Nat.zero_le _, fun _ => Nat.zero_le _, fun h => absurd h (by omega)⟩

theorem empty_IterAt {s : Sparse} {n w : Nat} {P : List Nat} (hs : s.Encodes n w P) :
    IterAt s w P P.length (SpOneIter.emptyIter s) := by
  refine ⟨rfl, hs.low_len, Nat.le_refl _, fun h => absurd h (by omega), ?_⟩
  intro h0
  exact hs.pos_lt (P.length - 1) (by omega)

/-- forward skip over the zeros in front of the one of item `r`, from a cursor past the one of item `r - 1` -/
theorem skipFwd_spec {s : Sparse} {n w : Nat} {P : List Nat} (hs : s.Encodes n w P) (r : Nat)
    (hr : r < P.length) :
    ∀ (fuel h : Nat), h ≤ P[r] >>> w + r → (∀ (h0 : 0 < r), P[r - 1]'(by omega) >>> w + (r - 1) < h) →
      P[r] >>> w + r + 1 ≤ fuel + h → SpOneIter.skipFwd s fuel h = ok (P[r] >>> w + r) := by
  have hlt := hs.pos_lt r hr
  intro fuel
  induction fuel with
  | zero => intro h h1 h2 h3; omega
  | succ fuel ih =>
    intro h h1 h2 h3
    rw [SpOneIter.skipFwd]
    by_cases e : h = P[r] >>> w + r
    · subst e
      simp only [hs.get_one r hr, bind_ok, if_true, pure_eq]
    · simp only [hs.get_gap r h (Nat.le_of_lt hr) (by omega) h2 (fun _ => by omega), bind_ok]
      exact ih (h + 1) (by omega) (fun h0 => by have := h2 h0; omega) (by omega)

/-- backward skip over the zeros behind the one of item `r`, from a cursor in front of the one of item `r + 1` -/
theorem skipBwd_spec {s : Sparse} {n w : Nat} {P : List Nat} (hs : s.Encodes n w P) (m : Mode) (r : Nat)
    (hr : r < P.length) :
    ∀ (fuel h : Nat), P[r] >>> w + r ≤ h → h < s.high.len →
      (∀ r' (hr' : r' < P.length), r' = r + 1 → h < P[r'] >>> w + r') →
      h + 1 ≤ fuel + (P[r] >>> w + r) → SpOneIter.skipBwd m s fuel h = ok (P[r] >>> w + r) := by
  have hnn := Nat.zero_le (P[r] >>> w)
  intro fuel
  induction fuel with
  | zero => intro h h1 h2 h3 h4; omega
  | succ fuel ih =>
    intro h h1 hlen h2 h3
    rw [SpOneIter.skipBwd]
    by_cases e : h = P[r] >>> w + r
    · subst e
      simp only [hs.get_one r hr, bind_ok, if_true, pure_eq]
    · have hg := hs.get_gap (r + 1) h hr hlen (fun _ => (show P[r] >>> w + r < h by omega))
        (fun hr1 => h2 _ hr1 rfl)
      simp only [hg, bind_ok]
      rw [subM_ok (by omega)]
      simp only [bind_ok]
      exact ih (h - 1) (by omega) (by omega) (fun r' hr' e' => by have := h2 r' hr' e'; omega) (by omega)

namespace Sparse2

/-- `it` is a two-ended iterator state whose next item from the front is number `r` and whose next item from the
back is number `R - 1`: the `next` cursor lies between the ones of items `r - 1` and `r`, the `limit` cursor is
past the one of item `R - 1` and not past the one of item `R` -/
structure IterBetween (s : Sparse) (w : Nat) (P : List Nat) (r R : Nat) (it : SpOneIter) : Prop where
  low_eq : it.next.low = r
  lim_low : it.limit.low = R
  r_le : r ≤ R
  R_le : R ≤ P.length
  high_le : ∀ (hr : r < P.length), it.next.high ≤ P[r] >>> w + r
  high_gt : ∀ (h0 : 0 < r), P[r - 1]'(by omega) >>> w + (r - 1) < it.next.high
  lim_len : it.limit.high ≤ s.high.len
  lim_le : ∀ (hR : R < P.length), it.limit.high ≤ P[R] >>> w + R
  lim_gt : ∀ (h0 : 0 < R), P[R - 1]'(by omega) >>> w + (R - 1) < it.limit.high

theorem between_of_IterAt {s : Sparse} {n w : Nat} {P : List Nat} (hs : s.Encodes n w P) {r : Nat} {it : SpOneIter}
    (hit : IterAt s w P r it) : IterBetween s w P r P.length it := by
  refine ⟨hit.low_eq, by rw [hit.limit_eq]; exact hs.low_len, hit.r_le, Nat.le_refl _, hit.high_le, hit.high_gt,
    by rw [hit.limit_eq]; exact Nat.le_refl _, fun h => absurd h (by omega), ?_⟩
  intro h0
  rw [hit.limit_eq]
  exact hs.pos_lt (P.length - 1) (by omega)

theorem full_between {s : Sparse} {n w : Nat} {P : List Nat} (hs : s.Encodes n w P) :
    IterBetween s w P 0 P.length (SpOneIter.full s) := between_of_IterAt hs (full_IterAt hs)

/-- forward step of a two-ended state: item `r` is `(r, P[r])`, the cursor moves past its one -/
theorem nextQ_between {s : Sparse} {n w : Nat} {P : List Nat} (hs : s.Encodes n w P) (m : Mode) (r R : Nat)
    (it : SpOneIter) (hit : IterBetween s w P r R it) (hr : r < R) :
    SpOneIter.nextQ m s it =
        ok (some (r, P[r]'(Nat.lt_of_lt_of_le hr hit.R_le)),
          { it with next := ⟨P[r]'(Nat.lt_of_lt_of_le hr hit.R_le) >>> w + r + 1, r + 1⟩ }) ∧
    IterBetween s w P (r + 1) R { it with next := ⟨P[r]'(Nat.lt_of_lt_of_le hr hit.R_le) >>> w + r + 1, r + 1⟩ } := by
  have hrP : r < P.length := Nat.lt_of_lt_of_le hr hit.R_le
  constructor
  · unfold SpOneIter.nextQ
    rw [hit.low_eq, hit.lim_low, if_neg (by omega)]
    have hsk := skipFwd_spec hs r hrP (s.high.len + 1) it.next.high (hit.high_le hrP) hit.high_gt
      (by have := hs.pos_lt r hrP; omega)
    simp only [hsk, bind_ok, hs.combine_ok m r hrP, pure_eq]
  · refine ⟨rfl, hit.lim_low, by omega, hit.R_le, ?_, ?_, hit.lim_len, hit.lim_le, hit.lim_gt⟩
    · intro hr1
      have := hs.pos_strict r (r + 1) (by omega) hr1
      show P[r] >>> w + r + 1 ≤ _
      omega
    · intro _
      show P[r] >>> w + r < P[r] >>> w + r + 1
      omega

/-- backward step of a two-ended state: item `R - 1` is `(R - 1, P[R - 1])`, the limit moves onto its one -/
theorem nextBackQ_between {s : Sparse} {n w : Nat} {P : List Nat} (hs : s.Encodes n w P) (m : Mode) (r R : Nat)
    (it : SpOneIter) (hit : IterBetween s w P r R it) (hr : r < R) :
    SpOneIter.nextBackQ m s it =
        ok (some (R - 1, P[R - 1]'(by have := hit.R_le; omega)),
          { it with limit := ⟨P[R - 1]'(by have := hit.R_le; omega) >>> w + (R - 1), R - 1⟩ }) ∧
    IterBetween s w P r (R - 1) { it with limit := ⟨P[R - 1]'(by have := hit.R_le; omega) >>> w + (R - 1), R - 1⟩ } := by
  have hRl := hit.R_le
  have hR1 : R - 1 < P.length := by omega
  have hgt := hit.lim_gt (by omega)
  have hnn := Nat.zero_le (P[R - 1] >>> w)
  constructor
  · unfold SpOneIter.nextBackQ
    rw [hit.lim_low, hit.low_eq, if_neg (by omega)]
    rw [subM_ok (show 1 ≤ it.limit.high by omega), subM_ok (show 1 ≤ R by omega)]
    simp only [bind_ok]
    have hsk := skipBwd_spec hs m (R - 1) hR1 (s.high.len + 1) (it.limit.high - 1) (by omega)
      (by have := hit.lim_len; omega)
      (fun r' hr' e => by
        obtain rfl : r' = R := by omega
        have := hit.lim_le hr'
        omega) (by have := hit.lim_len; omega)
    simp only [hsk, bind_ok, hs.combine_ok m (R - 1) hR1, pure_eq]
  · refine ⟨hit.low_eq, rfl, by omega, by omega, hit.high_le, hit.high_gt, ?_, ?_, ?_⟩
    · exact Nat.le_of_lt (hs.pos_lt (R - 1) hR1)
    · intro _; exact Nat.le_refl _
    · intro h0
      exact hs.pos_strict (R - 1 - 1) (R - 1) (by omega) hR1

/-- an exhausted two-ended state answers `None` from both ends and does not move -/
theorem nextQ_between_none {s : Sparse} {w : Nat} {P : List Nat} (m : Mode) (r R : Nat)
    (it : SpOneIter) (hit : IterBetween s w P r R it) (h : R ≤ r) : SpOneIter.nextQ m s it = ok (none, it) := by
  unfold SpOneIter.nextQ
  rw [hit.lim_low, hit.low_eq, if_pos h]

theorem nextBackQ_between_none {s : Sparse} {w : Nat} {P : List Nat} (m : Mode) (r R : Nat)
    (it : SpOneIter) (hit : IterBetween s w P r R it) (h : R ≤ r) :
    SpOneIter.nextBackQ m s it = ok (none, it) := by
  unfold SpOneIter.nextBackQ
  rw [hit.lim_low, hit.low_eq, if_pos h]

theorem remaining_between {s : Sparse} {w : Nat} {P : List Nat} (r R : Nat)
    (it : SpOneIter) (hit : IterBetween s w P r R it) : it.remaining = R - r := by
  unfold SpOneIter.remaining
  rw [hit.lim_low, hit.low_eq]

end Sparse2

/-- one step of the forward-only state: item `r` is `(r, P[r])`, and the state advances to item `r + 1` -/
theorem nextQ_ok {s : Sparse} {n w : Nat} {P : List Nat} (hs : s.Encodes n w P) (m : Mode) (r : Nat)
    (it : SpOneIter) (hit : IterAt s w P r it) (hr : r < P.length) :
    SpOneIter.nextQ m s it = ok (some (r, P[r]), { it with next := ⟨P[r] >>> w + r + 1, r + 1⟩ }) ∧
    IterAt s w P (r + 1) { it with next := ⟨P[r] >>> w + r + 1, r + 1⟩ } :=
  have h := Sparse2.nextQ_between hs m r P.length it (Sparse2.between_of_IterAt hs hit) hr
  ⟨h.1, hit.limit_eq, rfl, hr, h.2.high_le, h.2.high_gt⟩

theorem nextQ_none {s : Sparse} {n w : Nat} {P : List Nat} (hs : s.Encodes n w P) (m : Mode)
    (it : SpOneIter) (hit : IterAt s w P P.length it) : SpOneIter.nextQ m s it = ok (none, it) :=
  Sparse2.nextQ_between_none m _ _ it (Sparse2.between_of_IterAt hs hit) (Nat.le_refl _)

/-- one call on the state `select_iter r` produces: item `r` if there is one, and the state moves on -/
theorem nextQ_min {s : Sparse} {n w : Nat} {P : List Nat} (hs : s.Encodes n w P) (m : Mode) (r : Nat)
    (it : SpOneIter) (hit : IterAt s w P (min r P.length) it) :
    ∃ it', SpOneIter.nextQ m s it = ok (if h : r < P.length then some (r, P[r]) else none, it') ∧
      IterAt s w P (min (r + 1) P.length) it' := by
  by_cases hr : r < P.length
  · rw [show min r P.length = r by omega] at hit
    rw [dif_pos hr, show min (r + 1) P.length = r + 1 by omega]
    exact ⟨_, nextQ_ok hs m r it hit hr⟩
  · rw [show min r P.length = P.length by omega] at hit
    rw [dif_neg hr, show min (r + 1) P.length = P.length by omega]
    exact ⟨it, nextQ_none hs m it hit, hit⟩

theorem remaining_eq {s : Sparse} {n w : Nat} {P : List Nat} (hs : s.Encodes n w P) (r : Nat)
    (it : SpOneIter) (hit : IterAt s w P r it) : it.remaining = P.length - r :=
  Sparse2.remaining_between r P.length it (Sparse2.between_of_IterAt hs hit)

theorem nextQ_iterAt {s : Sparse} {n w : Nat} {P : List Nat} (hs : s.Encodes n w P) (m : Mode) (r : Nat)
    (hr : r < P.length) :
    SpOneIter.nextQ m s (s.iterAt w P r) =
      ok (some (r, P[r]), { s.iterAt w P r with next := ⟨P[r] >>> w + r + 1, r + 1⟩ }) := by
  have h := iterAt_IterAt hs r
  have e : min r P.length = r := by omega
  rw [e] at h
  exact (nextQ_ok hs m r _ h hr).1

/-! ### predecessor -/

theorem filter_eq_take {P : List Nat} (hP : P.Pairwise (· ≤ ·)) (f : Nat → Bool)
    (hf : ∀ a b, a ≤ b → f b = true → f a = true) : P.filter f = P.take (P.filter f).length := by
  induction P with
  | nil => rfl
  | cons p ps ih =>
    have hP' := List.pairwise_cons.mp hP
    cases hfp : f p with
    | true =>
      rw [List.filter_cons_of_pos hfp, List.length_cons, List.take_succ_cons, ← ih hP'.2]
    | false =>
      have hall := not_of_head_false hP hf hfp
      rw [List.filter_eq_nil_iff.mpr hall]; rfl

theorem predSet_none {P : List Nat} (x : Nat) (h : (P.filter (· ≤ x)).length = 0) : predSet P x = none := by
  have e : P.filter (· ≤ x) = [] := List.eq_nil_of_length_eq_zero h
  unfold predSet
  simp only [e, List.getLast?_nil]

theorem predSet_some {P : List Nat} (hP : P.Pairwise (· ≤ ·)) (x k : Nat) (hk : k < P.length)
    (h : (P.filter (· ≤ x)).length = k + 1) : predSet P x = some (k, P[k]) := by
  have e := filter_eq_take hP (· ≤ x) (by intro a b hab hb; simp at hb ⊢; omega)
  rw [h] at e
  have hl : (P.filter (· ≤ x)).getLast? = some P[k] := by
    rw [e, List.getLast?_take]
    simp [List.getElem?_eq_getElem hk]
  unfold predSet
  simp only [hl, h, Nat.add_sub_cancel]

/-- values above the universe are treated like `n - 1` -/
theorem predSet_clamp {s : Sparse} {n w : Nat} {P : List Nat} (hs : s.Encodes n w P) (x : Nat) :
    predSet P (min x (n - 1)) = predSet P x := by
  have e : P.filter (· ≤ min x (n - 1)) = P.filter (· ≤ x) := by
    apply List.filter_congr
    intro p hp
    have := hs.bound p hp
    simp; omega
  unfold predSet
  rw [e]

/-- `predecessor` returns the `select_iter` state of the last occurrence of the largest value `≤ x`
(for every `x`; values `≥ n` behave like `n - 1`), or the empty iterator if there is none -/
theorem pred_ok {s : Sparse} {n w : Nat} {P : List Nat} (hs : s.Encodes n w P) (m : Mode) (x : Nat) :
    s.predecessor m x = ok (match predSet P x with
      | none => SpOneIter.emptyIter s
      | some kv => s.iterAt w P kv.1) := by
  unfold Sparse.predecessor
  rw [hs.len_eq]
  by_cases hn : n = 0
  · rw [if_pos hn]
    have hP : P = [] := by
      cases P with
      | nil => rfl
      | cons p ps => have := hs.bound p (by simp); omega
    subst hP
    rfl
  · rw [if_neg hn, ← predSet_clamp hs x]
    have hy : min x (n - 1) < n := by omega
    generalize min x (n - 1) = y at *
    rw [hs.split_val]
    have hhp : y >>> w < Sparse.getBuckets n w := shr_lt_getBuckets hs.w_lt hy
    have hc := pred_cut hs y
    have hcP := cntLt_le w P (y >>> w + 1)
    have hhi := hc.hi
    have hlo := hc.lo
    simp only [upperBound_ok hs m _ hhp, bind_ok]
    by_cases h0 : cntLt w P (y >>> w + 1) = 0
    · rw [if_pos h0, predSet_none y (by omega)]
      rfl
    · rw [if_neg h0, Nat.add_sub_assoc (show 1 ≤ cntLt w P (y >>> w + 1) by omega),
        backLoop_cut hs hhp hc (fun l => by simp [backT]) (s.high.len + 1) _ (by omega) (by omega)
          (by rw [hs.high_len]; omega)]
      by_cases hc0 : (P.filter (· ≤ y)).length = 0
      · rw [if_pos hc0, predSet_none y hc0]
        rfl
      · -- the scan stopped at item `k`, the last one `≤ y`; its one in `high` is at or before the cursor
        obtain ⟨k, hk⟩ : ∃ k, (P.filter (· ≤ y)).length = k + 1 := ⟨_, (Nat.succ_pred_eq_of_ne_zero hc0).symm⟩
        rw [hk] at hhi hlo
        have hkP : k < P.length := by omega
        have hle := (lt_cntLt_iff (w := w) hs.pw (y >>> w + 1) k hkP).mp (by omega)
        have hhl := hs.high_len
        have hnn := Nat.zero_le (P[k] >>> w)
        rw [if_neg hc0, predSet_some hs.pw y k hkP hk, hk]
        simp only [bind_ok, Nat.add_sub_cancel]
        rw [skipBwd_spec hs m k hkP (s.high.len + 1) (y >>> w + k) (by omega) (by omega)
          (fun r' hr' e => by
            have : ¬ P[r'] >>> w < y >>> w := fun h => by
              have := (lt_cntLt_iff (w := w) hs.pw (y >>> w) r' hr').mpr h; omega
            omega) (by omega)]
        simp only [bind_ok, pure_eq, Sparse.iterAt, dif_pos hkP]

/-! ### successor -/

theorem succSet_eq {P : List Nat} (x k : Nat) (h : rankSet P x = k) :
    succSet P x = match P[k]? with | none => none | some p => some (k, p) := by
  unfold succSet
  unfold rankSet at h
  simp only [h]
  rfl

/-- the second loop of `successor`, when there is a next value: it stops at the one of item `r` -/
theorem succLoop2_some {s : Sparse} {n w : Nat} {P : List Nat} (hs : s.Encodes n w P) (r : Nat)
    (hr : r < P.length) :
    ∀ (fuel h : Nat), h ≤ P[r] >>> w + r → (∀ (h0 : 0 < r), P[r - 1]'(by omega) >>> w + (r - 1) < h) →
      P[r] >>> w + r + 1 ≤ fuel + h →
      Sparse.succLoop2 s fuel ⟨h, r⟩ = ok (some ⟨P[r] >>> w + r, r⟩) := by
  have hlt := hs.pos_lt r hr
  intro fuel
  induction fuel with
  | zero => intro h h1 h2 h3; omega
  | succ fuel ih =>
    intro h h1 h2 h3
    rw [Sparse.succLoop2, if_pos (show h < s.high.len by omega)]
    by_cases e : h = P[r] >>> w + r
    · subst e
      simp only [hs.get_one r hr, bind_ok, if_true, pure_eq]
    · simp only [hs.get_gap r h (Nat.le_of_lt hr) (by omega) h2 (fun _ => by omega), bind_ok]
      exact ih (h + 1) (by omega) (fun h0 => by have := h2 h0; omega) (by omega)

/-- the second loop of `successor`, when all ones are behind the cursor: it runs to the end -/
theorem succLoop2_none {s : Sparse} {n w : Nat} {P : List Nat} (hs : s.Encodes n w P) :
    ∀ (fuel h l : Nat), (∀ (h0 : 0 < P.length), P[P.length - 1] >>> w + (P.length - 1) < h) →
      h ≤ s.high.len → s.high.len + 1 ≤ fuel + h → Sparse.succLoop2 s fuel ⟨h, l⟩ = ok none := by
  intro fuel
  induction fuel with
  | zero => intro h l h1 h2 h3; omega
  | succ fuel ih =>
    intro h l h1 hle h2
    rw [Sparse.succLoop2]
    by_cases hlen : h < s.high.len
    · rw [if_pos hlen]
      simp only [hs.get_gap P.length h (Nat.le_refl _) hlen h1 (fun h => absurd h (Nat.lt_irrefl _)), bind_ok]
      exact ih (h + 1) l (fun h0 => by have := h1 h0; omega) (by omega) (by omega)
    · rw [if_neg hlen]; rfl

/-- `successor` returns the `select_iter` state of the first occurrence of the smallest value `≥ x`,
or the empty iterator if there is none (in particular for every `x ≥ n`) -/
theorem succ_ok {s : Sparse} {n w : Nat} {P : List Nat} (hs : s.Encodes n w P) (m : Mode) (x : Nat) :
    s.successor m x = ok (match succSet P x with
      | none => SpOneIter.emptyIter s
      | some kv => s.iterAt w P kv.1) := by
  unfold Sparse.successor
  rw [hs.len_eq, hs.split_val]
  by_cases hx : x ≥ n
  · rw [if_pos hx, succSet_eq x P.length (rankSet_of_ge hs x hx)]
    simp
  · rw [if_neg hx]
    have hhp : x >>> w < Sparse.getBuckets n w := shr_lt_getBuckets hs.w_lt (by omega)
    have hc := rank_cut hs x
    have hcP := cntLt_le w P (x >>> w + 1)
    have hhi := hc.hi
    have hhl := hs.high_len
    have hnn := Nat.zero_le (x >>> w)
    rw [succSet_eq x _ rfl]
    simp only [lowerBound_ok hs m _ hhp, bind_ok,
      succLoop1_cut hs hhp hc (s.high.len + 1) _ (Nat.le_refl _) hc.lo (by rw [hs.high_len]; omega)]
    generalize rankSet P x = c at *
    -- the one of item `c - 1` lies before the cursor `x >>> w + c`
    have hprev : ∀ (h0 : 0 < c), P[c - 1]'(by omega) >>> w + (c - 1) < x >>> w + c := fun h0 => by
      have := (lt_cntLt_iff (w := w) hs.pw (x >>> w + 1) (c - 1) (by omega)).mp (by omega)
      omega
    by_cases hf : c < cntLt w P (x >>> w + 1)
    · -- found in the bucket
      have hk : c < P.length := by omega
      have hh := hi_eq_of_mem_bucket hs (x >>> w) c hk hc.lo hf
      simp only [decide_eq_true hf, if_true, pure_eq, List.getElem?_eq_getElem hk, Sparse.iterAt, dif_pos hk, hh]
    · -- not found: the next one of `high`, if any
      simp only [decide_eq_false hf, Bool.false_eq_true, if_false]
      by_cases hk : c < P.length
      · have hgt := hi_gt_of_ge_cntLt hs (x >>> w) c hk (by omega)
        rw [succLoop2_some hs c hk (s.high.len + 1) (x >>> w + c) (by omega) hprev
          (by have := hs.pos_lt c hk; omega), List.getElem?_eq_getElem hk]
        simp only [bind_ok, pure_eq, Sparse.iterAt, dif_pos hk]
      · have e : c = P.length := by omega
        subst e
        rw [succLoop2_none hs (s.high.len + 1) _ _ hprev (by omega) (by omega),
          List.getElem?_eq_none (Nat.le_refl _)]
        simp only [bind_ok, pure_eq]

/-! ### the pair `predSet` / `succSet` names -/

theorem predSet_spec {P : List Nat} (hP : P.Pairwise (· ≤ ·)) (x : Nat) (kv : Nat × Nat)
    (h : predSet P x = some kv) : ∃ (hk : kv.1 < P.length), kv.2 = P[kv.1] := by
  have hle := filter_length_le (fun p => decide (p ≤ x)) P
  cases hc : (P.filter (· ≤ x)).length with
  | zero => rw [predSet_none x hc] at h; exact absurd h (by simp)
  | succ k =>
    have hk : k < P.length := by
      have : (P.filter (· ≤ x)).length ≤ P.length := hle
      omega
    rw [predSet_some hP x k hk hc] at h
    have := Option.some.inj h
    subst this
    exact ⟨hk, rfl⟩

theorem succSet_spec {P : List Nat} (x : Nat) (kv : Nat × Nat) (h : succSet P x = some kv) :
    ∃ (hk : kv.1 < P.length), kv.1 = rankSet P x ∧ kv.2 = P[kv.1] := by
  rw [succSet_eq x _ rfl] at h
  by_cases hk : rankSet P x < P.length
  · rw [List.getElem?_eq_getElem hk] at h
    have := Option.some.inj h
    subst this
    exact ⟨hk, rfl, rfl⟩
  · rw [List.getElem?_eq_none (by omega)] at h
    exact absurd h (by simp)

theorem succSet_none_of_ge {s : Sparse} {n w : Nat} {P : List Nat} (hs : s.Encodes n w P) (x : Nat)
    (hx : n ≤ x) : succSet P x = none := by
  rw [succSet_eq x P.length (rankSet_of_ge hs x hx)]
  simp

end Sds
