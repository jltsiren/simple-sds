/-
Proofs/GenEqWMNew: `WaveletMatrix::start_offsets` and `WaveletMatrix::from(Vec<u64>)` (the body of
`macro_rules! wavelet_matrix_from` at `u64`) of wavelet_matrix.rs, as TRANSLATED statement by statement from the source
(Generated/FnsWMNew.lean), are equal to the hand-written model definitions `WM.startOffsets`, `WM.ofValues`.

* `wm_start_offsets_eq : gen_WaveletMatrix_start_offsets m cap iter len maxv =
      ok (WM.startOffsets (iter.map (·.toNat)) len maxv.toNat)`, for every `cap`, `len`, under
  - `hle : ∀ x ∈ iter, x ≤ maxv` (`counts[value as usize]` is a checked index; sharp: `wm_start_offsets_ne_item`),
  - `hn : (maxv.toNat + 1) * 64 + 63 < U64` (`max_value + 1` in `u64` — sharp with overflow checks on:
    `wm_start_offsets_ne_max` —, and the collected `IntVector` has `max_value + 1` items of 64 bits:
    `with_capacity` / `pack` round its bit length up to words),
  - `hlen : iter.length < U64` (the counters and the prefix sums are `usize`; they never exceed the number of items).
  NO hypothesis on `len`: `len as u64` and the model's `IntVec.ofList 64` reduce modulo 2^64 alike (`wn_collect`).
* `wm_from_eq : gen_WaveletMatrix_from_u64 m cap source = ok (WM.ofValues (source.toList.map (·.toNat)))` under
  `source.size + 63 < U64` (`wm_core_from_eq`) and `hn` at the maximum of `source`; `hle` holds for the maximum
  (`c5_arr_max`, `le_foldl_max`).

Method: the function cannot fault under its hypotheses; its three counter loops are walked by `for_sat` /
`for_each_sat` (GenSupport), each with an invariant that names the model's value.
1–2. the pushed alphabet is `wn_pairs i (fun _ => 0)`; the counting loop keeps "`counts` is `wn_pairs n` of the
   model's counters (`wnCounts`) of the items read" (`Array.modify` against `setIfInBounds`: `wn_pairs_set`); a
   counter is at most the number of items read (`wn_cnt_count`), so `+= 1` does not overflow.
3. sorting the pairs by `rev64 value` is the image of the model's `order` (`List.map_mergeSort`).
4. the `iter_mut()` loop writes the list function `wn_scan` (invariant: the part written so far, followed by the
   scan of the rest from `cumulative`, is the scan of the whole); the sums are bounded by the number of items
   (`wn_sum_counts`, through `counts_fold` and `List.Perm.sum_nat`).  The model's fold writes the same numbers into
   the array indexed by value (`wn_offs_scan`, for any duplicate-free visiting order).
5. sorting back by `value`: the keys are pairwise distinct, so the sorted list is the unique strictly sorted
   permutation (`wn_sorted_unique`, from `List.Perm.eq_of_pairwise`) — the result does not depend on the stability
   of the sort, which is what makes `sort_unstable_by_key` in the source harmless.  Injectivity of `rev64` is NOT
   needed: step 3 commutes with `map` for any key.
6–7. `collect()` is `int_from_iter_eq`, `pack()` is `int_pack_eq`.
-/
import Sds.Generated.FnsWMNew
import Sds.Proofs.GenFns
import Sds.Proofs.GenEqFromExt
import Sds.Proofs.GenEqConstr2
import Sds.Proofs.GenEqConstr5
import Sds.Proofs.GenEqLoop4
import Sds.Proofs.WM
import Sds.Proofs.IntVec


namespace Sds.GenEq
open Sds Outcome Generated


/-- the alphabet of the code: the pairs `(value, f value)` for `value < n`, in the order of the values -/
def wn_pairs (n : Nat) (f : Nat → Nat) : List (Word × Nat) :=
  (List.range n).map fun i => (BitVec.ofNat 64 i, f i)

theorem wn_pairs_length (n : Nat) (f : Nat → Nat) : (wn_pairs n f).length = n := by
  simp [wn_pairs]

/-! ### steps 1–2: the two counting loops -/

theorem wn_pairs_getElem? (n : Nat) (f : Nat → Nat) (k : Nat) :
    (wn_pairs n f)[k]? = if k < n then some (BitVec.ofNat 64 k, f k) else none := by
  unfold wn_pairs
  by_cases hk : k < n
  · rw [List.getElem?_map, List.getElem?_range hk, if_pos hk]; rfl
  · rw [if_neg hk, List.getElem?_eq_none (by simpa using hk)]

/-- one increment: the pairs of the modified counter array -/
theorem wn_pairs_set (n : Nat) (a : Array Nat) (v : Nat) (hva : v < a.size) :
    (wn_pairs n (fun i => a[i]?.getD 0)).toArray.setIfInBounds v (BitVec.ofNat 64 v, a[v]?.getD 0 + 1) =
      (wn_pairs n (fun i => (a.modify v (· + 1))[i]?.getD 0)).toArray := by
  apply Array.ext_getElem?
  intro k
  rw [Array.getElem?_setIfInBounds]
  simp only [List.size_toArray, wn_pairs_length, List.getElem?_toArray, wn_pairs_getElem?, Array.getElem?_modify]
  by_cases hk : k < n
  · by_cases hv : v = k
    · subst hv
      simp only [hk, if_true, Array.getElem?_eq_getElem hva]
      rfl
    · simp only [hv, hk, if_true, if_false]
  · by_cases hv : v = k
    · subst hv; simp only [hk, if_true, if_false]
    · simp only [hv, hk, if_false]

/-! ### step 4: the prefix sums along the sorted order -/

/-- the `iter_mut()` loop as a function on the list of pairs: an absent value gets `len`, a present one the number
of items before it -/
def wn_scan (len : Nat) : List (Word × Nat) → Nat → List (Word × Nat)
  | [], _ => []
  | p :: t, cum =>
    if p.2 = 0 then (p.1, len) :: wn_scan len t cum else (p.1, cum) :: wn_scan len t (cum + p.2)

/-- item `pre.length` of `pre ++ p :: t`, read by `getD` — in the form `simp` leaves it in (reducing a `match` on
`a.getD i d` unfolds the reducible `Array.getD`) -/
theorem wn_getD_mid {α : Type} (pre : List α) (p : α) (t : List α) (d : α) :
    (if h : pre.length < (pre ++ p :: t).toArray.size then (pre ++ p :: t).toArray.getInternal pre.length h else d) =
      p := by
  show (pre ++ p :: t).toArray.getD pre.length d = p
  simp [Array.getD]

theorem wn_set_mid {α : Type} (pre : List α) (p q : α) (t : List α) :
    (pre ++ p :: t).toArray.setIfInBounds pre.length q = ((pre ++ [q]) ++ t).toArray := by
  simp [Array.setIfInBounds]

/-- the model's fold writes the numbers of `wn_scan` into an array indexed by VALUE, along any duplicate-free
visiting order: read back along the order, the array holds the scan -/
theorem wn_offs_scan (cnt : Nat → Nat) (len : Nat) (w : Nat → Word) :
    ∀ (O : List Nat) (arr : Array Nat) (run : Nat), O.Nodup → (∀ u, u ∈ O → u < arr.size) →
      (O.foldl (offsStep cnt len) (arr, run)).1.size = arr.size ∧
      (∀ v, v ∉ O → (O.foldl (offsStep cnt len) (arr, run)).1[v]? = arr[v]?) ∧
      wn_scan len (O.map fun v => (w v, cnt v)) run =
        O.map (fun v => (w v, (O.foldl (offsStep cnt len) (arr, run)).1[v]?.getD 0)) := by
  intro O
  induction O with
  | nil => intro arr run _ _; exact ⟨rfl, fun _ _ => rfl, rfl⟩
  | cons u t ih =>
    intro arr run hnd hlt
    have hu : u < arr.size := hlt u List.mem_cons_self
    have hnd' := List.nodup_cons.mp hnd
    by_cases hc : cnt u = 0
    · have hr : (u :: t).foldl (offsStep cnt len) (arr, run) =
          t.foldl (offsStep cnt len) (arr.setIfInBounds u len, run) := by
        simp only [List.foldl_cons, offsStep, hc, if_true]
      obtain ⟨h1, h2, h3⟩ := ih (arr.setIfInBounds u len) run hnd'.2
        (fun x hx => by rw [Array.size_setIfInBounds]; exact hlt x (List.mem_cons_of_mem _ hx))
      rw [hr]
      rw [Array.size_setIfInBounds] at h1
      refine ⟨h1, fun v hv => ?_, ?_⟩
      · have hvu : u ≠ v := fun h => hv (h ▸ List.mem_cons_self)
        rw [h2 v (fun h => hv (List.mem_cons_of_mem _ h)), Array.getElem?_setIfInBounds, if_neg hvu]
      · rw [List.map_cons, List.map_cons, wn_scan]
        simp only [hc, if_true]
        rw [h3, h2 u hnd'.1, Array.getElem?_setIfInBounds, if_pos rfl, if_pos hu]
        rfl
    · have hr : (u :: t).foldl (offsStep cnt len) (arr, run) =
          t.foldl (offsStep cnt len) (arr.setIfInBounds u run, run + cnt u) := by
        simp only [List.foldl_cons, offsStep, hc, if_false]
      obtain ⟨h1, h2, h3⟩ := ih (arr.setIfInBounds u run) (run + cnt u) hnd'.2
        (fun x hx => by rw [Array.size_setIfInBounds]; exact hlt x (List.mem_cons_of_mem _ hx))
      rw [hr]
      rw [Array.size_setIfInBounds] at h1
      refine ⟨h1, fun v hv => ?_, ?_⟩
      · have hvu : u ≠ v := fun h => hv (h ▸ List.mem_cons_self)
        rw [h2 v (fun h => hv (List.mem_cons_of_mem _ h)), Array.getElem?_setIfInBounds, if_neg hvu]
      · rw [List.map_cons, List.map_cons, wn_scan]
        simp only [hc, if_false]
        rw [h3, h2 u hnd'.1, Array.getElem?_setIfInBounds, if_pos rfl, if_pos hu]
        rfl

/-! ### steps 3 and 5: the two sorts -/

/-- **a list sorted by a key is determined by its items when the keys are pairwise distinct**: sorting any
permutation of a strictly sorted list gives that list (so the result does not depend on the stability of the sort) -/
theorem wn_sorted_unique {α : Type} (key : α → Nat) (l s : List α) (hp : l.Perm s)
    (hs : s.Pairwise (fun a b => key a < key b)) :
    l.mergeSort (fun x y => decide (key x ≤ key y)) = s := by
  have hinj : ∀ a, a ∈ s → ∀ b, b ∈ s → key a = key b → a = b := by
    apply List.Pairwise.forall_of_forall_of_flip (R := fun a b => key a = key b → a = b)
    · intro x _ _; rfl
    · exact hs.imp (fun h e => by omega)
    · exact hs.imp (fun h e => by omega)
  have hsorted : (l.mergeSort (fun x y => decide (key x ≤ key y))).Pairwise
      (fun x y => decide (key x ≤ key y) = true) :=
    List.pairwise_mergeSort (le := fun x y => decide (key x ≤ key y))
      (fun a b c h1 h2 => by simp only [decide_eq_true_eq] at *; omega)
      (fun a b => by simp only [Bool.or_eq_true, decide_eq_true_eq]; omega) l
  have hperm : (l.mergeSort (fun x y => decide (key x ≤ key y))).Perm s := (List.mergeSort_perm _ _).trans hp
  apply List.Perm.eq_of_pairwise (le := fun x y => decide (key x ≤ key y) = true) _ hsorted _ hperm
  · intro a b ha hb h1 h2
    simp only [decide_eq_true_eq] at h1 h2
    exact hinj a (hperm.mem_iff.mp ha) b hb (by omega)
  · exact hs.imp (fun h => by simp only [decide_eq_true_eq]; omega)

/-! ### `start_offsets` -/

theorem wn_toList_range {α : Type} (a : Array α) (n : Nat) (h : a.size = n) (d : α) :
    a.toList = (List.range n).map (fun v => a[v]?.getD d) := by
  apply List.ext_getElem
  · simp [h]
  · intro i h1 h2
    have hi : i < a.size := by simpa using h1
    simp only [List.getElem_map, List.getElem_range, Array.getElem_toList, Array.getElem?_eq_getElem hi]
    rfl

/-- the counters of the model over the whole alphabet add up to at most the number of items -/
theorem wn_sum_counts (V : List Nat) (n : Nat) :
    ((List.range n).map (fun u => V.count u)).sum ≤ V.length := by
  have := sum_count_filter_range (fun _ => true) V n
  rw [List.filter_eq_self.mpr (fun _ _ => rfl)] at this
  rw [this]
  exact List.countP_le_length

/-- the model's counters after the values `V` -/
abbrev wnCounts (n : Nat) (V : List Nat) : Array Nat :=
  V.foldl (fun a v => a.modify v (· + 1)) (Array.replicate n 0)

/-- the model's counter of `u` is the number of occurrences of `u` -/
theorem wn_cnt_count (V : List Nat) (n u : Nat) (hu : u < n) : (wnCounts n V)[u]?.getD 0 = V.count u := by
  rw [(counts_fold V (Array.replicate n 0) u (by simpa using hu)).2, Array.getElem?_replicate, if_pos hu]
  exact Nat.zero_add _

/-- step 3: sorting the pairs by the reversed value is the image of the model's visiting order -/
theorem wn_sort_rev (n : Nat) (cnt : Nat → Nat) :
    sortByKeyWU (wn_pairs n cnt).toArray (fun x_ => (BitVec.reverse x_.fst).toNat) =
      (((List.range n).mergeSort (fun a b => rev64 a ≤ rev64 b)).map
        (fun v => (BitVec.ofNat 64 v, cnt v))).toArray := by
  unfold sortByKeyWU wn_pairs
  congr 1
  symm
  apply List.map_mergeSort
  intro a _ b _
  rfl

/-- step 5: sorting back by value gives the alphabet in its own order, whatever was attached to the values -/
theorem wn_sort_value (n : Nat) (order : List Nat) (f : Nat → Nat) (hperm : order.Perm (List.range n))
    (hn : n ≤ 2 ^ 64) :
    sortByKeyWU (order.map (fun v => (BitVec.ofNat 64 v, f v))).toArray (fun x_ => BitVec.toNat x_.fst) =
      ((List.range n).map (fun v => (BitVec.ofNat 64 v, f v))).toArray := by
  unfold sortByKeyWU
  congr 1
  apply wn_sorted_unique (fun x_ : Word × Nat => BitVec.toNat x_.fst) _ _ (hperm.map _)
  rw [List.pairwise_map]
  apply List.pairwise_lt_range.imp_of_mem
  intro a b ha hb hab
  show (BitVec.ofNat 64 a).toNat < (BitVec.ofNat 64 b).toNat
  rw [BitVec.toNat_ofNat, BitVec.toNat_ofNat,
    Nat.mod_eq_of_lt (Nat.lt_of_lt_of_le (List.mem_range.mp ha) hn),
    Nat.mod_eq_of_lt (Nat.lt_of_lt_of_le (List.mem_range.mp hb) hn)]
  exact hab

/-- step 6: the collected items, taken as `u64` and read back, are the offsets array (both reduce modulo `2^64`) -/
theorem wn_collect (offs : Array Nat) (n : Nat) (hsz : offs.size = n) :
    IntVec.ofList 64
      (List.map (fun x => BitVec.toNat x)
        (List.map ((fun x_ : Word × Nat => BitVec.ofNat 64 x_.snd) ∘ fun v => (BitVec.ofNat 64 v, offs[v]?.getD 0))
          (List.range n))) = IntVec.ofList 64 offs.toList := by
  unfold IntVec.ofList
  rw [wn_toList_range offs _ hsz 0, List.map_map, List.map_map, List.map_map]
  congr 1
  apply List.map_congr_left
  intro v _
  simp only [Function.comp_apply, BitVec.ofNat_toNat, BitVec.setWidth_eq]

theorem wm_start_offsets_eq (m : Mode) (cap : Nat) (iter : List Word) (len : Nat) (maxv : Word)
    (hle : ∀ x, x ∈ iter → x ≤ maxv) (hn : (maxv.toNat + 1) * 64 + 63 < U64) (hlen : iter.length < U64) :
    gen_WaveletMatrix_start_offsets m cap iter len maxv =
      ok (WM.startOffsets (iter.map (·.toNat)) len maxv.toNat) := by
  have hU : U64 = 2 ^ 64 := U64_eq
  have h0 : ((0 : Word)).toNat = 0 := rfl
  have hadd : addW m maxv (1 : Word) = ok (BitVec.ofNat 64 (maxv.toNat + 1)) := by
    unfold addW
    rw [show ((1 : Word)).toNat = 1 from rfl, addM_ok (by omega)]
    rfl
  rw [startOffsets_eq]
  refine sat_eq.1 ?_
  unfold startOffsetsRaw gen_WaveletMatrix_start_offsets
  simp only [hadd, bind_ok, h0]
  generalize hN : maxv.toNat + 1 = n at hn ⊢
  -- step 1: the alphabet, all counters zero
  refine for_sat (fun i (c : Array (Word × Nat)) => c = (wn_pairs i (fun _ => 0)).toArray) (Nat.zero_le _) _ _
    (fun i c _ hi hc => ?_) (fun c _ => ?_) rfl (fun c hc => ?_)
  · subst hc
    simp only [hi, decide_true, if_true, pure_eq]
    exact sat_next ⟨rfl, by dsimp only [wn_pairs]; rw [map_range_succ, List.push_toArray]⟩
  · simp only [Nat.lt_irrefl, decide_false, Bool.false_eq_true, if_false]; rfl
  subst hc
  dsimp only
  -- step 2: `counts` are the pairs of the model's counters of the items read
  refine for_each_sat (fun pre (c : Array (Word × Nat)) =>
      c = (wn_pairs n (fun i => (wnCounts n (pre.map (·.toNat)))[i]?.getD 0)).toArray) iter _ _
    (fun pre x suf c hsp hc => ?_) (fun c _ => ?_)
    (by
      show _ = (wn_pairs n fun i => (Array.replicate n 0)[i]?.getD 0).toArray
      congr 1
      exact List.map_congr_left fun i hi => by
        show _ = (_, (Array.replicate n 0)[i]?.getD 0)
        rw [Array.getElem?_replicate, if_pos (List.mem_range.mp hi)]; rfl)
    (fun c hc => ?_)
  · subst hc
    have hpl : pre.length < iter.length := by rw [hsp, List.length_append, List.length_cons]; omega
    have hxn : x.toNat < n :=
      hN ▸ Nat.lt_succ_of_le (BitVec.le_def.mp (hle x (by rw [hsp]; exact List.mem_append_right _ List.mem_cons_self)))
    generalize hA : wnCounts n (pre.map (·.toNat)) = A
    have hAs : A.size = n := by
      rw [← hA, (counts_fold _ _ x.toNat (by rw [Array.size_replicate]; exact hxn)).1, Array.size_replicate]
    have hcnt : A[x.toNat]?.getD 0 ≤ pre.length := by
      rw [← hA, wn_cnt_count _ n _ hxn]
      exact Nat.le_trans List.count_le_length (Nat.le_of_eq (List.length_map _))
    have hget : getWU (wn_pairs n (fun i => A[i]?.getD 0)).toArray x.toNat =
        ok (BitVec.ofNat 64 x.toNat, A[x.toNat]?.getD 0) := by
      unfold getWU
      rw [dif_pos (by simpa [wn_pairs_length] using hxn)]
      congr 1
      have := wn_pairs_getElem? n (fun i => A[i]?.getD 0) x.toNat
      rw [if_pos hxn, List.getElem?_eq_getElem (by simpa [wn_pairs_length] using hxn)] at this
      simpa using this
    simp only [hpl, decide_true, if_true, getD_split hsp, hget, addM_ok (m := m) (show A[x.toNat]?.getD 0 + 1 < U64 by omega),
      bind_ok, pure_eq, wn_pairs_set n A _ (hAs ▸ hxn)]
    exact sat_next ⟨rfl, by dsimp only [wnCounts]; rw [← hA, List.map_append, List.foldl_append]; rfl⟩
  · simp only [Nat.lt_irrefl, decide_false, Bool.false_eq_true, if_false]; rfl
  subst hc
  dsimp only
  -- steps 3–4: along the sorted order the loop writes `wn_scan`; the sums stay below the number of items
  generalize hcnt : (fun i : Nat => (wnCounts n (iter.map (·.toNat)))[i]?.getD 0) = cnt
  have hcntv : ∀ u, u < n → cnt u = (iter.map (·.toNat)).count u := fun u hu => hcnt ▸ wn_cnt_count _ _ u hu
  rw [wn_sort_rev]
  generalize hord : (List.range n).mergeSort (fun a b => rev64 a ≤ rev64 b) = order
  have hperm : order.Perm (List.range n) := hord ▸ List.mergeSort_perm _ _
  generalize hL : order.map (fun v => (BitVec.ofNat 64 v, cnt v)) = L
  have hsum : (L.map (·.2)).sum < U64 := by
    rw [← hL, List.map_map]
    show (order.map cnt).sum < _
    rw [(hperm.map cnt).sum_nat,
      List.map_congr_left (g := fun u => (iter.map (·.toNat)).count u) (fun u hu => hcntv u (List.mem_range.mp hu))]
    exact Nat.lt_of_le_of_lt (wn_sum_counts _ n) (by rw [List.length_map]; exact hlen)
  simp only [List.size_toArray]
  refine for_each_sat (fun pre (s : Array (Word × Nat) × Nat) => ∃ done, done.length = pre.length ∧
      s.1 = (done ++ L.drop pre.length).toArray ∧ wn_scan len L 0 = done ++ wn_scan len (L.drop pre.length) s.2 ∧
      s.2 + ((L.drop pre.length).map (·.2)).sum = (L.map (·.2)).sum) L _ _
    (fun pre x suf s hsp hI => ?_) (fun s _ => ?_) ⟨[], rfl, rfl, rfl, Nat.zero_add _⟩ (fun s hI => ?_)
  · obtain ⟨c, cum⟩ := s
    obtain ⟨done, hdl, hc, hscan, hcum⟩ := hI
    have hpl : pre.length < L.length := by rw [hsp, List.length_append, List.length_cons]; omega
    have hdrop : L.drop pre.length = x :: suf := by rw [hsp, List.drop_left]
    have hdrop' : L.drop (pre ++ [x]).length = suf := by
      rw [hsp, show pre ++ x :: suf = (pre ++ [x]) ++ suf by rw [List.append_assoc]; rfl, List.drop_left]
    simp only at hc hscan hcum
    rw [hdrop] at hc hscan hcum
    rw [List.map_cons, List.sum_cons] at hcum
    subst hc
    rw [← hdl] at hpl ⊢
    dsimp only
    simp only [hpl, decide_true, if_true, wn_getD_mid, wn_set_mid]
    by_cases hz : x.2 = 0
    · simp only [hz, decide_true, if_true, bind_ok, pure_eq]
      refine sat_next ⟨by rw [hdl], done ++ [(x.1, len)], by simp [hdl], by rw [hdrop'], ?_, ?_⟩
      · rw [hdrop', hscan, wn_scan, if_pos hz, List.append_assoc]; rfl
      · rw [hdrop', ← hcum, hz, Nat.zero_add]
    · simp only [hz, decide_false, Bool.false_eq_true, if_false,
        addM_ok (m := m) (show cum + x.2 < U64 by omega), bind_ok, pure_eq]
      refine sat_next ⟨by rw [hdl], done ++ [(x.1, cum)], by simp [hdl], by rw [hdrop'], ?_, ?_⟩
      · rw [hdrop', hscan, wn_scan, if_neg hz, List.append_assoc]; rfl
      · rw [hdrop', ← hcum, Nat.add_assoc]
  · simp only [Nat.lt_irrefl, decide_false, Bool.false_eq_true, if_false]; rfl
  obtain ⟨c, cum⟩ := s
  obtain ⟨done, -, hc, hscan, -⟩ := hI
  simp only [List.drop_length, wn_scan, List.append_nil] at hc hscan
  subst hc hscan hL
  -- the model's fold; steps 5–7
  obtain ⟨hsz, _, hscan⟩ := wn_offs_scan cnt len (BitVec.ofNat 64) order (Array.replicate n 0) 0
    (hperm.nodup_iff.mpr List.nodup_range)
    (fun u hu => by rw [Array.size_replicate]; exact List.mem_range.mp (hperm.mem_iff.mp hu))
  rw [Array.size_replicate] at hsz
  generalize hoffs : (order.foldl (offsStep cnt len) (Array.replicate n 0, 0)).1 = offs at hsz hscan
  dsimp only
  rw [hscan, wn_sort_value _ order _ hperm (by omega), List.toList_toArray, List.map_map,
    int_from_iter_eq m cap _ (by rw [List.length_map, List.length_range]; exact hn), bind_ok, wn_collect offs _ hsz]
  obtain ⟨owf, owidth, oitems⟩ := IntVec.ofList_spec 64 offs.toList (by decide) (by decide)
  have olen : (IntVec.ofList 64 offs.toList).len = n := by
    rw [← IntVec.items_length, oitems, List.length_map, Array.length_toList, hsz]
  rw [int_pack_eq m _ owf (by rw [olen, owidth]; exact hn)]
  exact sat_ok rfl

/-! ### `WaveletMatrix::from(Vec<u64>)` -/

theorem wm_from_eq (m : Mode) (cap : Nat) (source : Array Word) (hb : source.size + 63 < U64)
    (hn : ((source.toList.map (·.toNat)).foldl max 0 + 1) * 64 + 63 < U64) :
    gen_WaveletMatrix_from_u64 m cap source = ok (WM.ofValues (source.toList.map (·.toNat))) := by
  have hU : U64 = 2 ^ 64 := U64_eq
  have hlt : (source.toList.map (·.toNat)).foldl max 0 < 2 ^ 64 :=
    foldl_max_lt _ 0 _ (Nat.two_pow_pos 64) (fun v hv => by
      obtain ⟨x, _, rfl⟩ := List.mem_map.mp hv
      exact x.isLt)
  have hmax : ((arrMaxW source).getD (0 : Word)).toNat = (source.toList.map (·.toNat)).foldl max 0 := by
    rw [c5_arr_max, BitVec.toNat_ofNat, Nat.mod_eq_of_lt hlt]
  unfold gen_WaveletMatrix_from_u64
  simp only [Bind.bind, List.map_id']
  rw [wm_start_offsets_eq m cap source.toList source.size _
      (fun x hx => by
        rw [BitVec.le_def, hmax]
        exact (le_foldl_max (source.toList.map (·.toNat)) 0).2 _ (List.mem_map_of_mem hx))
      (by rw [hmax]; exact hn) (by rw [Array.length_toList]; omega),
    obind_ok, wm_core_from_eq m source hb, obind_ok, hmax]
  unfold WM.ofValues
  rw [List.length_map, Array.length_toList]
  rfl

/-! ### the hypotheses are needed; the theorems are not vacuous -/

/-- `hle` is needed: an item above `max_value` indexes `counts` out of range (`counts[value as usize]`, index panic);
the model's `Array.modify` does nothing there.  Not reachable through `WaveletMatrix::from`, which passes the
maximum of the items. -/
theorem wm_start_offsets_ne_item :
    gen_WaveletMatrix_start_offsets .checked 0 [1] 1 0 = fault (.panic .index) ∧
    gen_WaveletMatrix_start_offsets .wrapping 0 [1] 1 0 = fault (.panic .index) ∧
    (WM.startOffsets [1] 1 0).items = [1] := by decide +kernel

/-- `max_value + 1` is computed in `u64` (`0..=max_value` materialised as `max_value + 1` pairs): with overflow checks
on, `max_value = u64::MAX` panics at once -/
theorem wm_start_offsets_ne_max :
    gen_WaveletMatrix_start_offsets .checked 0 [] 0 (BitVec.ofNat 64 (2 ^ 64 - 1)) = fault (.panic .overflow) := by
  decide +kernel

/-- evaluation of both sides on alphabets of one value (`List.mergeSort` is defined by well-founded recursion; the
kernel evaluates it on one item only) -/
theorem wm_from_examples :
    gen_WaveletMatrix_from_u64 .checked 0 #[] = ok (WM.ofValues []) ∧
    gen_WaveletMatrix_from_u64 .wrapping 3 #[0, 0] = ok (WM.ofValues [0, 0]) ∧
    (WM.ofValues [0, 0]).first.items = [0] ∧
    gen_WaveletMatrix_start_offsets .checked 5 [] 9 0 = ok (WM.startOffsets [] 9 0) ∧
    (WM.startOffsets [] 9 0).items = [9] := by decide +kernel

/-- the visiting order over the alphabet `0..=4`, by `wn_sorted_unique` -/
theorem wn_order5 :
    (List.range (4 + 1)).mergeSort (fun a b => decide (rev64 a ≤ rev64 b)) = [0, 4, 2, 1, 3] :=
  wn_sorted_unique rev64 _ _ (by decide) (by decide +kernel)

/-- the example of the documentation of `wavelet_matrix` (7 values of width 3): the hypotheses of `wm_from_eq` hold,
and `first` is the vector of start offsets in the bit-reversed order `0, 4, 2, 1, 3` -/
theorem wm_from_example_doc :
    gen_WaveletMatrix_from_u64 .checked 0 #[1, 0, 3, 1, 1, 2, 4] = ok (WM.ofValues [1, 0, 3, 1, 1, 2, 4]) ∧
    (WM.ofValues [1, 0, 3, 1, 1, 2, 4]).first.items = [0, 3, 2, 6, 1] := by
  refine ⟨wm_from_eq _ _ _ (by decide) (by decide +kernel), ?_⟩
  show (WM.startOffsets [1, 0, 3, 1, 1, 2, 4] 7 4).items = _
  rw [startOffsets_eq]
  unfold startOffsetsRaw
  rw [wn_order5]
  decide +kernel

end Sds.GenEq
