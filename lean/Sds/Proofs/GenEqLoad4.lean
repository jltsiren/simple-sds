/-
Proofs/GenEqLoad4: the generic `impl<V: Serialize> Serialize for Option<V> { fn load }` as TRANSLATED from the source at
its two instances (Generated/FnsLoad4.lean: `gen_Option_RankSupport_load`, `gen_Option_SelectSupport_load`) against the
model's `optionC`, and `gen_BitVector_load_full` — `BitVector::load` translated over those translated option loaders —
against `gen_BitVector_load` (the same source function translated over the MODEL's option codecs, GenEqLoad) and against
`bitVectorC.load`.  Same method and style as Proofs/GenEqLoad.

The length prefix: the Rust code reads it and looks only at `size == 0`; so does `optionC.load` (`n.toNat = 0`, the value
is not compared with the size of what follows).  No hypothesis comes from the prefix.  The hypotheses are those of the
value loaders:

* `Option<RankSupport>`: unconditional (`rank_load_eq` is).
* `Option<SelectSupport>`: `OptSelOk` — `SelOk` of the stream behind the length word when that word is non-zero.
  Without it `sel_load_ne_long` lifts: `opt_sel_load_ne`.
* `BitVector::load` over the translated option loaders: `BvOk` (GenEqLoad) says NOTHING about the contents of the select
  supports — in `gen_BitVector_load` they are read by the model's codec.  The additional hypothesis is `BvSelOk`:
  `OptSelOk` at the two places where the loader reads an optional select support (whenever the loader gets that far).
  `BvOk` alone does not suffice: `bv_load_full_ne_select` / `bv_load_full_ne_select_zero` are streams that ARE `BvOk`
  (`bv_full_cex_BvOk`), on which `gen_BitVector_load` agrees with the model, and on which `gen_BitVector_load_full`
  panics (checked) / accepts (wrapping) where the model refuses.  This is the divergence already recorded for
  `SelectSupport::load` (unchecked `len + 4096`, `len + 64`, `len * width`, `bits_to_words`), seen through `BitVector::load`;
  it is not a new one and not one of the option prefix.
  The function is walked once for this, against the other translation (`bv_load_full_eq_gen_of_run`, under `BvSelOkRun`:
  `OptSelOk` wherever the translated loader gets to); the equation with the model is `bv_load_eq` behind it.
* every word below `2^32`: all of it holds (`bv_load_full_eq_small`).
-/
import Sds.Generated.FnsLoad4
import Sds.Proofs.GenEqLoad

namespace Sds.GenEq
open Sds Outcome Generated

/-! ### Option<RankSupport>: unconditional -/

theorem opt_rank_load_eq (m : Mode) (es : Elems) :
    gen_Option_RankSupport_load m es = (optionC rankSupC).load es := by
  unfold gen_Option_RankSupport_load optionC usizeC
  dsimp only
  cases es with
  | nil => rfl
  | cons w r =>
    simp only [readElem, bind_ok, Pure.pure]
    rw [rank_load_eq]
    by_cases c : w.toNat = 0 <;> simp [c]

/-! ### Option<SelectSupport> -/

def OptSelOk (es : Elems) : Prop := ∀ n r, usizeC.load es = ok (n, r) → n ≠ 0 → SelOk r

theorem opt_sel_load_eq (m : Mode) (es : Elems) (h : OptSelOk es) :
    gen_Option_SelectSupport_load m es = (optionC selSupC).load es := by
  unfold gen_Option_SelectSupport_load optionC
  cases es with
  | nil => rfl
  | cons w r =>
    have h := h _ _ (usizeC_cons w r)
    unfold usizeC
    simp only [readElem, bind_ok, Pure.pure]
    by_cases c : w.toNat = 0
    · simp [c]
    · rw [sel_load_eq m r (h c)]
      simp [c]

theorem OptSelOk_of_small {es : Elems} (hs : Small es) : OptSelOk es :=
  fun _ _ h1 _ => SelOk_of_small (hs.suffix (usizeC_suffix h1))

theorem opt_rank_load_eq_small (m : Mode) (es : Elems) (_ : ∀ w ∈ es, w.toNat < 2 ^ 32) :
    gen_Option_RankSupport_load m es = (optionC rankSupC).load es := opt_rank_load_eq m es
theorem opt_sel_load_eq_small (m : Mode) (es : Elems) (h : ∀ w ∈ es, w.toNat < 2 ^ 32) :
    gen_Option_SelectSupport_load m es = (optionC selSupC).load es := opt_sel_load_eq m es (OptSelOk_of_small h)

/-- the stream of `sel_load_ne_long` -/
def l4_selLong : Elems :=
  [0#64, 0#64, 0#64, 0#64, 0xFFFFFFFFFFFFFFFF#64, 0#64, 0#64, 0#64, 0#64, 0#64, 0#64, 0#64]

/-- without the hypothesis: `sel_load_ne_long` behind a non-zero length word (its value, here 1 and not the 12 that
`serialize` would write, is looked at by neither side).  The checked build panics, the wrapping build ACCEPTS, the model
refuses; a zero length word in front of the same words: all three agree on `None`. -/
theorem opt_sel_load_ne :
    gen_Option_SelectSupport_load .checked (1#64 :: l4_selLong) = fault (.panic .overflow) ∧
    gen_Option_SelectSupport_load .wrapping (1#64 :: l4_selLong) =
      ok (some ⟨⟨0, 0, ⟨0, #[]⟩⟩, ⟨18446744073709551615, 0, ⟨0, #[]⟩⟩, ⟨0, 0, ⟨0, #[]⟩⟩⟩, []) ∧
    (optionC selSupC).load (1#64 :: l4_selLong) = fault (.err .invalid) ∧
    gen_Option_SelectSupport_load .checked (0#64 :: l4_selLong) = ok (none, l4_selLong) ∧
    gen_Option_SelectSupport_load .wrapping (0#64 :: l4_selLong) = ok (none, l4_selLong) ∧
    (optionC selSupC).load (0#64 :: l4_selLong) = ok (none, l4_selLong) := by
  decide +kernel

/-! ### BitVector over the translated option loaders -/

/-- `OptSelOk` at the two places where `BitVector::load` reads an optional select support, whenever the loader gets there -/
def BvSelOk (es : Elems) : Prop :=
  ∀ ones r, usizeC.load es = ok (ones, r) → ∀ data r1, rawVecC.load r = ok (data, r1) → ones ≤ data.len →
    ∀ rank r2, (optionC rankSupC).load r1 = ok (rank, r2) →
      (∀ s, rank = some s → s.samples.size = (data.len + 511) / 512) →
        OptSelOk r2 ∧ ∀ sel r3, (optionC selSupC).load r2 = ok (sel, r3) →
          (∀ s, sel = some s → s.superblocks = (ones + 4095) / 4096) → OptSelOk r3

/-- the same for the comparison of the two translations with each other: phrased with the translated raw-vector loader,
and without the two consistency tests (they are the same computation on both sides) -/
def BvSelOkGen (m : Mode) (es : Elems) : Prop :=
  ∀ ones r, usizeC.load es = ok (ones, r) → ∀ data r1, gen_RawVector_load m r = ok (data, r1) → ones ≤ data.len →
    ∀ rank r2, (optionC rankSupC).load r1 = ok (rank, r2) →
      OptSelOk r2 ∧ ∀ sel r3, (optionC selSupC).load r2 = ok (sel, r3) → OptSelOk r3

/-- `OptSelOk` where the translated loader reads an optional select support, whenever it gets there: the rank (resp.
select) support read before has passed its consistency test.  The weakest hypothesis of this kind; `BvSelOkGen` drops
the tests, `BvOk` turns them into the model's (`bv_load_full_eq_gen_of_BvOk`). -/
def BvSelOkRun (m : Mode) (es : Elems) : Prop :=
  ∀ ones r, usizeC.load es = ok (ones, r) → ∀ data r1, gen_RawVector_load m r = ok (data, r1) → ones ≤ data.len →
    ∀ rank r2, (optionC rankSupC).load r1 = ok (rank, r2) →
      (∀ s, rank = some s → gen_div_round_up m data.len 512 = ok s.samples.size) →
        OptSelOk r2 ∧ ∀ sel r3, (optionC selSupC).load r2 = ok (sel, r3) →
          (∀ s, sel = some s → gen_div_round_up m ones 4096 = ok s.superblocks) → OptSelOk r3

/-- a passed test `let t ← x; if a != t { return Err(InvalidData) }` says what `x` returned -/
theorem test_passed {x : Outcome Nat} {a t : Nat} (hx : x = ok t) (c : ¬ decide (a ≠ t) = true) : x = ok a := by
  rw [hx, Decidable.of_not_not fun h => c (decide_eq_true h)]

/-- the two translations of `BitVector::load` against each other: no arithmetic hypothesis at all, only `SelOk` where a
select support is read.  The two sides differ only in the rest of the function after each test, called from every branch
of the test; it is compared under the assumption that the test has passed. -/
theorem bv_load_full_eq_gen_of_run (m : Mode) (es : Elems) (hs : BvSelOkRun m es) :
    gen_BitVector_load_full m es = gen_BitVector_load m es := by
  unfold gen_BitVector_load_full gen_BitVector_load
  refine same_step hs fun ones r _ hs => ?_
  refine same_step hs fun data r1 _ hs => ?_
  dsimp -zeta only
  by_cases c0 : ones > data.len
  · rw [if_pos (decide_eq_true c0), if_pos (decide_eq_true c0)]
  rw [if_neg (by simpa using c0), if_neg (by simpa using c0), opt_rank_load_eq]
  refine same_step (hs (Nat.le_of_not_gt c0)) fun rank r2 _ hs => ?_
  dsimp -zeta only
  extract_lets _ rest _ rest' _
  have e : (∀ s, rank = some s → gen_div_round_up m data.len 512 = ok s.samples.size) → rest () = rest' () := by
    intro ht
    dsimp -zeta only [rest, rest']
    refine field_step (opt_sel_load_eq m) (hs ht) fun sel r3 _ hs => ?_
    dsimp -zeta only
    extract_lets _ rest2 _ rest2' _
    have e2 : (∀ s, sel = some s → gen_div_round_up m ones 4096 = ok s.superblocks) → rest2 () = rest2' () := by
      intro ht2
      dsimp -zeta only [rest2, rest2']
      rw [opt_sel_load_eq m r3 (hs ht2)]
      rfl
    cases sel with
    | none => exact e2 fun _ h => nomatch h
    | some v =>
      exact bind_congr_ok fun t6 h6 => bind_congr_ok fun t7 h7 => ite_congr rfl (fun _ => rfl) fun c =>
        e2 fun s hv => by
          cases hv
          cases (sel_superblocks_eq m v).symm.trans h6
          exact test_passed h7 c
  cases rank with
  | none => exact e fun _ h => nomatch h
  | some v =>
    exact bind_congr_ok fun t4 h4 => ite_congr rfl (fun _ => rfl) fun c => e fun s hv => by
      cases hv; exact test_passed h4 c

theorem bv_load_full_eq_gen (m : Mode) (es : Elems) (hs : BvSelOkGen m es) :
    gen_BitVector_load_full m es = gen_BitVector_load m es :=
  bv_load_full_eq_gen_of_run m es fun _ _ h1 _ _ h2 hle _ _ h3 _ =>
    ⟨(hs _ _ h1 _ _ h2 hle _ _ h3).1, fun _ _ h4 _ => (hs _ _ h1 _ _ h2 hle _ _ h3).2 _ _ h4⟩

theorem div_round_up_inj {m : Mode} {v n k a : Nat} (hn : n = k + 1) (h : v + n < U64)
    (e : gen_div_round_up m v n = ok a) : a = (v + k) / n :=
  (Outcome.ok.inj ((div_round_up_ok m v n k hn h).symm.trans e)).symm

/-- … under the hypotheses of the equation with the model: `BvOk` makes the translated tests the model's -/
theorem bv_load_full_eq_gen_of_BvOk (m : Mode) (es : Elems) (h : BvOk es) (hs : BvSelOk es) :
    gen_BitVector_load_full m es = gen_BitVector_load m es := by
  refine bv_load_full_eq_gen_of_run m es ?_
  intro ones r h1 data r1 h2 hle rank r2 h3 ht
  obtain ⟨hr, h⟩ := h _ _ h1
  rw [raw_load_eq m r hr] at h2
  obtain ⟨hk, h⟩ := h _ _ h2 hle _ _ h3
  have c1 : ∀ s, rank = some s → s.samples.size = (data.len + 511) / 512 := fun s e =>
    div_round_up_inj rfl (hk (e ▸ rfl)) (ht s e)
  obtain ⟨hs2, hs⟩ := hs _ _ h1 _ _ h2 hle _ _ h3 c1
  refine ⟨hs2, fun sel r3 h4 ht2 => hs _ _ h4 fun s e => ?_⟩
  exact div_round_up_inj rfl ((h c1 _ _ h4).1 (e ▸ rfl)) (ht2 s e)

theorem bv_load_full_eq (m : Mode) (es : Elems) (h : BvOk es) (hs : BvSelOk es) :
    gen_BitVector_load_full m es = bitVectorC.load es :=
  (bv_load_full_eq_gen_of_BvOk m es h hs).trans (bv_load_eq m es h)

/-! ### sufficient conditions: `SelOk` of every suffix; small words -/

theorem l4_optRank_suffix {es r : Elems} {o : Option RankSup} (h : (optionC rankSupC).load es = ok (o, r)) : r <:+ es :=
  optionC_suffix (fun _ _ _ => rankSupC_suffix) h

theorem l4_optSel_suffix {es r : Elems} {o : Option SelSup} (h : (optionC selSupC).load es = ok (o, r)) : r <:+ es :=
  optionC_suffix (fun _ _ _ => selSupC_suffix) h

theorem OptSelOk_of_suffix {es : Elems} (h : ∀ r, r <:+ es → SelOk r) : OptSelOk es :=
  fun _ _ h1 _ => h _ (usizeC_suffix h1)

theorem BvSelOk_of_suffix {es : Elems} (h : ∀ r, r <:+ es → SelOk r) : BvSelOk es := by
  intro ones r h1 data r1 h2 _ rank r2 h3 _
  have s2 : r2 <:+ es := ((l4_optRank_suffix h3).trans (rawVecC_suffix h2)).trans (usizeC_suffix h1)
  refine ⟨OptSelOk_of_suffix fun q hq => h q (hq.trans s2), fun sel r3 h4 _ => ?_⟩
  exact OptSelOk_of_suffix fun q hq => h q ((hq.trans (l4_optSel_suffix h4)).trans s2)

theorem BvSelOk_of_small {es : Elems} (hs : Small es) : BvSelOk es :=
  BvSelOk_of_suffix fun _ hr => SelOk_of_small (hs.suffix hr)

theorem bv_load_full_eq_small (m : Mode) (es : Elems) (h : ∀ w ∈ es, w.toNat < 2 ^ 32) :
    gen_BitVector_load_full m es = bitVectorC.load es :=
  bv_load_full_eq m es (BvOk_of_small h) (BvSelOk_of_small h)

theorem bv_load_full_eq_gen_small (m : Mode) (es : Elems) (h : ∀ w ∈ es, w.toNat < 2 ^ 32) :
    gen_BitVector_load_full m es = gen_BitVector_load m es :=
  bv_load_full_eq_gen_of_BvOk m es (BvOk_of_small h) (BvSelOk_of_small h)

/-! ### `BvOk` alone does not suffice

The empty bitvector (`ones = 0`, `len = 0`, no data word), no rank support, and `sel_load_ne_long` as the select
(resp. select_zero) support.  Both streams are `BvOk` — `BvOk` follows the MODEL's option loaders, which refuse the
support, so its later clauses are vacuous — and on both `gen_BitVector_load` (which calls the model's option loaders)
agrees with the model. -/

def l4_cexSel : Elems :=
  [0#64, 0#64, 0#64, 0#64, 1#64,
   0#64, 0#64, 0#64, 0#64, 0xFFFFFFFFFFFFFFFF#64, 0#64, 0#64, 0#64, 0#64, 0#64, 0#64, 0#64, 0#64]

def l4_cexSelZero : Elems :=
  [0#64, 0#64, 0#64, 0#64, 0#64, 1#64,
   0#64, 0#64, 0#64, 0#64, 0xFFFFFFFFFFFFFFFF#64, 0#64, 0#64, 0#64, 0#64, 0#64, 0#64, 0#64]

/-- `long.len + 4096` overflows inside the select support: the checked build panics, the wrapping build ACCEPTS a
bitvector whose select support has a long array of `2^64 − 1` elements over no data, the model and the translation over
the model's option loaders refuse -/
theorem bv_load_full_ne_select :
    gen_BitVector_load_full .checked l4_cexSel = fault (.panic .overflow) ∧
    gen_BitVector_load_full .wrapping l4_cexSel =
      ok ({ ones := 0, data := ⟨0, #[]⟩,
            select := some ⟨⟨0, 0, ⟨0, #[]⟩⟩, ⟨18446744073709551615, 0, ⟨0, #[]⟩⟩, ⟨0, 0, ⟨0, #[]⟩⟩⟩ }, []) ∧
    gen_BitVector_load .checked l4_cexSel = fault (.err .invalid) ∧
    gen_BitVector_load .wrapping l4_cexSel = fault (.err .invalid) ∧
    bitVectorC.load l4_cexSel = fault (.err .invalid) := by
  decide +kernel

theorem bv_load_full_ne_select_zero :
    gen_BitVector_load_full .checked l4_cexSelZero = fault (.panic .overflow) ∧
    gen_BitVector_load_full .wrapping l4_cexSelZero =
      ok ({ ones := 0, data := ⟨0, #[]⟩,
            selectZero := some ⟨⟨0, 0, ⟨0, #[]⟩⟩, ⟨18446744073709551615, 0, ⟨0, #[]⟩⟩, ⟨0, 0, ⟨0, #[]⟩⟩⟩ }, []) ∧
    gen_BitVector_load .checked l4_cexSelZero = fault (.err .invalid) ∧
    gen_BitVector_load .wrapping l4_cexSelZero = fault (.err .invalid) ∧
    bitVectorC.load l4_cexSelZero = fault (.err .invalid) := by
  decide +kernel

theorem l4_BvRawOk_zero (w : Word) (tl : Elems) : BvRawOk (w :: 0#64 :: tl) := by
  intro ones r h1
  obtain ⟨_, rfl⟩ := usizeC_cons_inv h1
  intro len r' data r'' h2 _
  rw [(usizeC_cons_inv h2).1, U64_eq]
  decide

theorem bv_full_cex_BvOk : BvOk l4_cexSel ∧ BvOk l4_cexSelZero :=
  ⟨BvOk_of_length (by decide) (l4_BvRawOk_zero _ _), BvOk_of_length (by decide) (l4_BvRawOk_zero _ _)⟩

theorem bv_load_full_ne_of_BvOk :
    ¬ (∀ m es, BvOk es → gen_BitVector_load_full m es = bitVectorC.load es) ∧
    ¬ (∀ m es, BvOk es → gen_BitVector_load_full m es = gen_BitVector_load m es) := by
  refine ⟨fun h => ?_, fun h => ?_⟩
  · have e := h .checked l4_cexSel bv_full_cex_BvOk.1
    rw [bv_load_full_ne_select.1, bv_load_full_ne_select.2.2.2.2] at e
    exact absurd e (by decide)
  · have e := h .checked l4_cexSel bv_full_cex_BvOk.1
    rw [bv_load_full_ne_select.1, bv_load_full_ne_select.2.2.1] at e
    exact absurd e (by decide)

end Sds.GenEq
