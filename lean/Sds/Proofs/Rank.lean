/-
Proofs/Rank: the rank9-style rank support (`RankSup`) answers `rank` correctly.
Word-level counting, the `Valid` predicate on samples, correctness of the query for every valid
support, validity of the built support, and the corollaries for the public wrapper.
-/
import Sds.Proofs.RawVec
import Sds.Model.BitVector
import Sds.Spec.Bits
set_option linter.unusedSimpArgs false
set_option linter.unusedVariables false

namespace Sds
open Outcome

/-! ### counting over `List.range` -/

/-- number of `i < n` with `f i = true` -/
def cnt (f : Nat → Bool) (n : Nat) : Nat := ((List.range n).map f).count true

theorem cnt_eq_cntF (f : Nat → Bool) (n : Nat) : cnt f n = cntF f n := rfl

theorem cnt_zero (f : Nat → Bool) : cnt f 0 = 0 := rfl

theorem cnt_add (f : Nat → Bool) (a b : Nat) : cnt f (a + b) = cnt f a + cnt (fun i => f (a + i)) b :=
  cntF_add f a b

theorem cnt_le (f : Nat → Bool) (n : Nat) : cnt f n ≤ n := cntF_le f n

theorem cnt_congr {f g : Nat → Bool} (n : Nat) (h : ∀ i, i < n → f i = g i) : cnt f n = cnt g n :=
  cntF_congr f g n h

theorem cnt_false (f : Nat → Bool) (n : Nat) (h : ∀ i, i < n → f i = false) : cnt f n = 0 :=
  cntF_false f n h

theorem count_take_map_range (f : Nat → Bool) (n i : Nat) (h : i ≤ n) :
    (((List.range n).map f).take i).count true = cnt f i := by
  unfold cnt
  rw [← List.map_take, List.take_range, Nat.min_eq_left h]

/-! ### word-level counting -/

theorem popcount_eq_cnt (w : Word) : popcount w = cnt (fun i => w.getLsbD i) 64 := rfl

theorem popcount_le_ran (w : Word) : popcount w ≤ 64 := popcount_le w

theorem popcount_zero : popcount (0 : Word) = 0 := by
  rw [popcount_eq_cnt]; apply cnt_false; intro i _; simp

theorem popcount_and_lowSet_cnt (w : Word) (o : Nat) (ho : o ≤ 64) :
    popcount (w &&& lowSet o) = cnt (fun i => w.getLsbD i) o := by
  rw [popcount_and_lowSet w o ho, take_bitsOfWord_count w o ho]; rfl

/-- ones of a word below bit `o` = ones of the first `o` entries of its bit list -/
theorem popcount_and_lowSet_ran (w : Word) (o : Nat) (ho : o ≤ 64) :
    popcount (w &&& lowSet o) = ((bitsOfWord w).take o).count true :=
  popcount_and_lowSet w o ho

/-! ### word-level counting, over arrays -/

/-- ones in the words `s, s+1, .., s+n-1` (words beyond the array read as 0) -/
def wordOnes (data : Array Word) (s : Nat) : Nat → Nat
  | 0 => 0
  | n + 1 => wordOnes data s n + popcount (rd data (s + n))

/-- ones in the first `k` words -/
def onesBefore (data : Array Word) (k : Nat) : Nat := wordOnes data 0 k

theorem wordOnes_add (data : Array Word) (s a b : Nat) :
    wordOnes data s (a + b) = wordOnes data s a + wordOnes data (s + a) b := by
  induction b with
  | zero => simp [wordOnes]
  | succ b ih => rw [← Nat.add_assoc, wordOnes, wordOnes, ih, Nat.add_assoc s a b]; omega

theorem onesBefore_add (data : Array Word) (s n : Nat) :
    onesBefore data (s + n) = onesBefore data s + wordOnes data s n := by
  unfold onesBefore; rw [wordOnes_add]; simp

theorem wordOnes_le (data : Array Word) (s n : Nat) : wordOnes data s n ≤ 64 * n := by
  induction n with
  | zero => simp [wordOnes]
  | succ n ih => have := popcount_le_ran (rd data (s + n)); simp only [wordOnes]; omega

theorem wordOnes_mono (data : Array Word) (s : Nat) {a b : Nat} (h : a ≤ b) :
    wordOnes data s a ≤ wordOnes data s b := by
  obtain ⟨c, rfl⟩ : ∃ c, b = a + c := ⟨b - a, by omega⟩
  rw [wordOnes_add]; omega

/-- words past the end of the array contribute nothing -/
theorem wordOnes_of_ge (data : Array Word) (s n : Nat) (h : data.size ≤ s) : wordOnes data s n = 0 := by
  induction n with
  | zero => rfl
  | succ n ih => rw [wordOnes, ih, rd_of_ge _ _ (by omega), popcount_zero]

theorem wordOnes_min (data : Array Word) (s n : Nat) :
    wordOnes data s (min n (data.size - s)) = wordOnes data s n := by
  by_cases h : n ≤ data.size - s
  · rw [Nat.min_eq_left h]
  · have h' : data.size - s ≤ n := by omega
    rw [Nat.min_eq_right h']
    obtain ⟨c, hc⟩ : ∃ c, n = (data.size - s) + c := ⟨n - (data.size - s), by omega⟩
    rw [hc, wordOnes_add, wordOnes_of_ge data (s + (data.size - s)) c (by omega)]; simp

theorem cnt_getBit_split (data : Array Word) (k o : Nat) (ho : o ≤ 64) :
    cnt (getBit data) (64 * k + o) = cnt (getBit data) (64 * k) + popcount (rd data k &&& lowSet o) := by
  rw [cnt_add, popcount_and_lowSet_cnt _ _ ho]
  congr 1
  apply cnt_congr
  intro i hi
  exact getBit_mk data k i (by omega)

theorem lowSet_64 : lowSet 64 = BitVec.allOnes 64 := by decide

theorem cnt_getBit_words (data : Array Word) (k : Nat) :
    cnt (getBit data) (64 * k) = onesBefore data k := by
  induction k with
  | zero => simp [cnt_zero, onesBefore, wordOnes]
  | succ k ih =>
    have e : 64 * (k + 1) = 64 * k + 64 := by omega
    rw [e, cnt_getBit_split data k 64 (Nat.le_refl _), ih, lowSet_64, BitVec.and_allOnes]
    simp [onesBefore, wordOnes]

theorem rankSpec_bits_eq_cnt (v : RawVec) (i : Nat) (hi : i ≤ v.len) :
    rankSpec v.bits i = cnt (getBit v.data) i := by
  unfold rankSpec RawVec.bits
  exact count_take_map_range _ _ _ hi

/-- The link between the words and the bit list: the rank at position `64*k + o` is the number of ones in
the first `k` words plus the ones of word `k` below bit `o`. -/
theorem rankSpec_words (v : RawVec) (k o : Nat) (ho : o ≤ 64) (h : 64 * k + o ≤ v.len) :
    rankSpec v.bits (64 * k + o) = onesBefore v.data k + popcount (rd v.data k &&& lowSet o) := by
  rw [rankSpec_bits_eq_cnt v _ h, cnt_getBit_split _ _ _ ho, cnt_getBit_words]

theorem rankSpec_words0 (v : RawVec) (k : Nat) (h : 64 * k ≤ v.len) :
    rankSpec v.bits (64 * k) = onesBefore v.data k := by
  rw [rankSpec_bits_eq_cnt v _ h, cnt_getBit_words]

theorem rankSpec_le (B : List Bool) (i : Nat) : rankSpec B i ≤ i := by
  unfold rankSpec
  have := List.count_le_length (a := true) (l := B.take i)
  have h2 := List.length_take_le i B
  omega

theorem rankSpec_le_length (B : List Bool) (i : Nat) : rankSpec B i ≤ B.length := by
  unfold rankSpec
  have := List.count_le_length (a := true) (l := B.take i)
  have h2 := List.length_take_le' i B
  omega

theorem rankSpec_of_ge (B : List Bool) (i : Nat) (h : B.length ≤ i) : rankSpec B i = B.count true := by
  unfold rankSpec; rw [List.take_of_length_le h]

/-! ### valid rank supports and the correctness of the query -/

/-- What the query needs from the samples (and what `build` produces).  For block `b`:
the first component is the rank at the block start; the 9-bit field `j ≤ 6` of the second component is the
number of ones in words `8b .. 8b+j` of the block, whenever word `8b+j` exists (fields of missing words in a
partial last block are unconstrained here; `build` leaves them 0, see `build_missing_field`); the 9-bit value
read at bit 63 (what the query reads for the first word of a block) is 0. -/
structure RankSup.Valid (s : RankSup) (v : RawVec) : Prop where
  size : s.samples.size = (v.len + 511) / 512
  abs : ∀ b (h : b < s.samples.size), (s.samples[b]).1.toNat = rankSpec v.bits (512 * b)
  rel : ∀ b (h : b < s.samples.size) j, j < 7 → 8 * b + j < v.data.size →
    ((s.samples[b]).2 >>> (9 * j)).toNat % 512 = wordOnes v.data (8 * b) (j + 1)
  top : ∀ b (h : b < s.samples.size), ((s.samples[b]).2 >>> 63).toNat % 512 = 0

/-- The query is correct for every valid support, and performs no out-of-bounds read. -/
theorem rankU_ok {s : RankSup} {v : RawVec} (hv : v.WF) (hs : s.Valid v) (i : Nat) (hi : i < v.len) :
    s.rankU v i = .ok (rankSpec v.bits i) := by
  -- `i = 64 * (8 * b + t) + o`: block `b`, word `t` of the block, bit `o` of the word
  have hw8 : i / 64 = 8 * (i / 512) + i / 64 % 8 := by omega
  have ht : i / 64 % 8 < 8 := Nat.mod_lt _ (by decide)
  have ho : i % 64 < 64 := Nat.mod_lt _ (by decide)
  have hsplit := (Nat.div_add_mod i 64).symm
  unfold RankSup.rankU
  generalize i / 512 = b at *
  generalize i / 64 % 8 = t at *
  generalize i % 64 = o at *
  generalize i / 64 = W at *
  subst hw8 hsplit
  have hblock : b < s.samples.size := by rw [hs.size]; omega
  have hword : 8 * b + t < v.data.size := by rw [hv.1]; omega
  have hb0 : rankSpec v.bits (512 * b) = onesBefore v.data (8 * b) := by
    rw [show 512 * b = 64 * (8 * b) by omega]; exact rankSpec_words0 v _ (by omega)
  simp only [dif_pos hblock, bind_ok, getW_ok hword, pure_eq]
  rw [rankSpec_words v _ o (by omega) (by omega), hs.abs b hblock, hb0, onesBefore_add]
  congr 3
  rw [show (8 * b + t) % 8 = t by omega]
  -- the field read for word `t` of the block holds the ones of the `t` words before it
  cases t with
  | zero => exact hs.top b hblock
  | succ t =>
    rw [show (t + 1 + 7) % 8 * 9 = 9 * t by omega]
    exact hs.rel b hblock t (by omega) (by omega)

/-! ### one block of the construction -/

/-- the loop of `blockSample` -/
def relFold (data : Array Word) (block : Nat) (n : Nat) : Nat × Word :=
  (List.range n).foldl (fun (acc : Nat × Word) word =>
      let ones := acc.1 + popcount (rd data (block * 8 + word))
      (ones, acc.2 ||| ((BitVec.ofNat 64 ones) <<< (word * 9)))) (0, 0)

theorem blockSample_eq (data : Array Word) (block bw : Nat) :
    RankSup.blockSample data block bw = ((relFold data block bw).1, (relFold data block bw).2 &&& lowSet 63) := rfl

theorem relFold_succ (data : Array Word) (block n : Nat) :
    relFold data block (n + 1) =
      ((relFold data block n).1 + popcount (rd data (block * 8 + n)),
       (relFold data block n).2 |||
        ((BitVec.ofNat 64 ((relFold data block n).1 + popcount (rd data (block * 8 + n)))) <<< (n * 9))) := by
  unfold relFold
  rw [List.range_succ, List.foldl_append]
  rfl

theorem relFold_fst (data : Array Word) (block n : Nat) :
    (relFold data block n).1 = wordOnes data (block * 8) n := by
  induction n with
  | zero => rfl
  | succ n ih => rw [relFold_succ, wordOnes, ih]

/-- bit `e` of field `f` of the accumulated word: the same bit of the cumulative count of words `0..f`,
if that field is already written -/
theorem relFold_snd_bit (data : Array Word) (block n : Nat) (hn : n ≤ 8) (f e : Nat) (he : e < 9)
    (hp : 9 * f + e < 64) :
    (relFold data block n).2.getLsbD (9 * f + e) =
      (decide (f < n) && (wordOnes data (block * 8) (f + 1)).testBit e) := by
  induction n with
  | zero => simp [relFold]
  | succ n ih =>
    rw [relFold_succ]
    simp only [BitVec.getLsbD_or, ih (by omega), BitVec.getLsbD_shiftLeft, BitVec.getLsbD_ofNat, relFold_fst]
    rw [show wordOnes data (block * 8) n + popcount (rd data (block * 8 + n)) =
      wordOnes data (block * 8) (n + 1) from rfl]
    rcases Nat.lt_trichotomy f n with h | h | h
    · simp [h, show 9 * f + e < n * 9 by omega, show f < n + 1 by omega]
    · subst h
      simp [show ¬ 9 * f + e < f * 9 by omega, show 9 * f + e - f * 9 = e by omega, hp,
        show e < 64 by omega]
    · -- a later field: the count has fewer than 9 bits, and the shift moves them past this position
      have h6 : wordOnes data (block * 8) (n + 1) < 2 ^ (9 * f + e - n * 9) := by
        have a := wordOnes_le data (block * 8) (n + 1)
        have b : 2 ^ 9 ≤ 2 ^ (9 * f + e - n * 9) := Nat.pow_le_pow_right (by decide) (by omega)
        omega
      simp [show ¬ f < n by omega, show ¬ 9 * f + e < n * 9 by omega, show ¬ f < n + 1 by omega,
        Nat.testBit_lt_two_pow h6]

/-- reading a 9-bit value bit by bit -/
theorem toNat_mod_512_of_bits (x : Word) (c : Nat) (hc : c < 512)
    (h : ∀ i, i < 9 → x.getLsbD i = c.testBit i) : x.toNat % 512 = c := by
  have e : x.setWidth 9 = BitVec.ofNat 9 c := by
    apply BitVec.eq_of_getLsbD_eq
    intro i hi
    rw [BitVec.getLsbD_setWidth, BitVec.getLsbD_ofNat, h i hi]
  have := congrArg BitVec.toNat e
  rw [BitVec.toNat_setWidth, BitVec.toNat_ofNat] at this
  have h2 : c % 2 ^ 9 = c := Nat.mod_eq_of_lt hc
  rw [h2] at this
  exact this

/-- field `j ≤ 6` of a block sample: the cumulative count of words `0..j` of the block, if written -/
theorem blockSample_field (data : Array Word) (block bw : Nat) (hbw : bw ≤ 8) (j : Nat) (hj : j < 7)
    (hjb : j < bw) :
    ((RankSup.blockSample data block bw).2 >>> (9 * j)).toNat % 512 = wordOnes data (block * 8) (j + 1) := by
  rw [blockSample_eq]
  apply toNat_mod_512_of_bits
  · have := wordOnes_le data (block * 8) (j + 1); omega
  · intro i hi
    have h1 : 9 * j + i < 64 := by omega
    simp only [BitVec.getLsbD_ushiftRight, BitVec.getLsbD_and, relFold_snd_bit data block bw hbw j i hi h1,
      lowSet_getLsbD _ _ h1]
    simp [hjb, show 9 * j + i < 63 by omega]

/-- fields of words that are not there stay 0 -/
theorem blockSample_field_missing (data : Array Word) (block bw : Nat) (hbw : bw ≤ 8) (j : Nat) (hj : j < 7)
    (hjb : bw ≤ j) :
    ((RankSup.blockSample data block bw).2 >>> (9 * j)).toNat % 512 = 0 := by
  rw [blockSample_eq]
  apply toNat_mod_512_of_bits _ 0 (by decide)
  intro i hi
  simp only [BitVec.getLsbD_ushiftRight, BitVec.getLsbD_and,
    relFold_snd_bit data block bw hbw j i hi (by omega)]
  simp [show ¬ (j < bw) by omega]

/-- the value the query reads for the first word of a block is 0 -/
theorem blockSample_top (data : Array Word) (block bw : Nat) :
    ((RankSup.blockSample data block bw).2 >>> 63).toNat % 512 = 0 := by
  rw [blockSample_eq]
  have : ((relFold data block bw).2 &&& lowSet 63) >>> 63 = 0 := by
    apply BitVec.eq_of_getLsbD_eq
    intro i hi
    simp only [BitVec.getLsbD_ushiftRight, BitVec.getLsbD_and]
    by_cases h0 : i = 0
    · subst h0; simp [lowSet_getLsbD 63 63 (by decide)]
    · rw [getLsbD_ge64 (lowSet 63) (63 + i) (by omega)]; simp
  rw [this]; rfl

theorem blockSample_fst (data : Array Word) (block bw : Nat) :
    (RankSup.blockSample data block bw).1 = wordOnes data (block * 8) bw := by
  rw [blockSample_eq]; exact relFold_fst data block bw

/-! ### the construction produces a valid support -/

/-- the loop of `build` -/
def buildFold (v : RawVec) (n : Nat) : Array (Word × Word) × Nat :=
  (List.range n).foldl (fun (acc : Array (Word × Word) × Nat) block =>
      let bw := min 8 (v.data.size - block * 8)
      let (bo, rel) := RankSup.blockSample v.data block bw
      (acc.1.push (BitVec.ofNat 64 acc.2, rel), acc.2 + bo)) (#[], 0)

theorem build_eq (v : RawVec) : RankSup.build v = ⟨(buildFold v ((v.len + 511) / 512)).1⟩ := rfl

theorem buildFold_succ (v : RawVec) (n : Nat) :
    buildFold v (n + 1) =
      ((buildFold v n).1.push (BitVec.ofNat 64 (buildFold v n).2,
          (RankSup.blockSample v.data n (min 8 (v.data.size - n * 8))).2),
       (buildFold v n).2 + (RankSup.blockSample v.data n (min 8 (v.data.size - n * 8))).1) := by
  unfold buildFold
  rw [List.range_succ, List.foldl_append]
  rfl

/-- sample `b` of the built support: the ones before the block, and the block's relative counts -/
def rankSample (v : RawVec) (b : Nat) : Word × Word :=
  (BitVec.ofNat 64 (onesBefore v.data (8 * b)), (RankSup.blockSample v.data b (min 8 (v.data.size - b * 8))).2)

theorem buildFold_eq (v : RawVec) : ∀ n,
    buildFold v n = (((List.range n).map (rankSample v)).toArray, onesBefore v.data (8 * n)) := by
  intro n
  induction n with
  | zero => rfl
  | succ n ih =>
    rw [buildFold_succ, ih, List.range_succ, List.map_append, blockSample_fst, wordOnes_min,
      show 8 * (n + 1) = 8 * n + 8 from rfl, onesBefore_add, Nat.mul_comm n 8]
    simp [rankSample, Nat.mul_comm]

/-- the samples of the built support, block by block -/
theorem build_samples (v : RawVec) :
    (RankSup.build v).samples = ((List.range ((v.len + 511) / 512)).map (rankSample v)).toArray := by
  rw [build_eq, buildFold_eq]

theorem build_size (v : RawVec) : (RankSup.build v).samples.size = (v.len + 511) / 512 := by
  rw [build_samples]; simp

theorem build_getElem (v : RawVec) (b : Nat) (h : b < (RankSup.build v).samples.size) :
    (RankSup.build v).samples[b] = rankSample v b := by
  simp [build_samples]

/-- The built support is valid. -/
theorem build_valid {v : RawVec} (hv : v.WF) (hlen : v.len < 2 ^ 64) : (RankSup.build v).Valid v := by
  refine ⟨build_size v, ?_, ?_, ?_⟩
  · intro b h
    have hb : 512 * b ≤ v.len := by rw [build_size] at h; omega
    have e : rankSpec v.bits (512 * b) = onesBefore v.data (8 * b) := by
      rw [show 512 * b = 64 * (8 * b) by omega]; exact rankSpec_words0 v _ (by omega)
    rw [build_getElem v b h, e]
    simp only [rankSample, BitVec.toNat_ofNat]
    apply Nat.mod_eq_of_lt
    have := wordOnes_le v.data 0 (8 * b)
    unfold onesBefore
    omega
  · intro b h j hj hjw
    rw [build_getElem v b h]
    simp only [rankSample]
    rw [blockSample_field _ _ _ (Nat.min_le_left _ _) j hj (by omega), Nat.mul_comm b 8]
  · intro b h
    rw [build_getElem v b h]
    exact blockSample_top _ _ _

/-- `build` leaves the fields of the missing words of a partial last block 0 -/
theorem build_missing_field (v : RawVec) (b : Nat) (h : b < (RankSup.build v).samples.size) (j : Nat)
    (hj : j < 7) (hjw : v.data.size ≤ 8 * b + j) :
    (((RankSup.build v).samples[b]).2 >>> (9 * j)).toNat % 512 = 0 := by
  rw [build_getElem v b h]
  exact blockSample_field_missing _ _ _ (Nat.min_le_left _ _) j hj (by omega)

/-! ### the total number of ones -/

theorem countOnes_eq (v : RawVec) (hv : v.WF) : v.countOnes = v.bits.count true :=
  RawVec.countOnes_eq hv

/-! ### the public wrapper -/

/-- `rank` through the wrapper, for any valid support: correct at every index (clamped past the end) -/
theorem rankQ_ok {b : BitVector} {v : RawVec} {s : RankSup} (hv : v.WF) (hdata : b.data = v)
    (hrank : b.rank = some s) (hs : s.Valid v) (hones : b.ones = v.bits.count true) (i : Nat) :
    b.rankQ i = .ok (rankSpec v.bits i) := by
  unfold BitVector.rankQ BitVector.len BitVector.countOnes
  rw [hdata, hrank]
  by_cases h : i ≥ v.len
  · rw [if_pos h, hones, rankSpec_of_ge _ _ (by rw [RawVec.bits_length]; exact h)]
  · rw [if_neg h]
    exact rankU_ok hv hs i (by omega)

/-- `rank_zero` through the wrapper: `i - rank i`, no underflow in either arithmetic mode -/
theorem rankZeroQ_ok {b : BitVector} {v : RawVec} {s : RankSup} (hv : v.WF) (hdata : b.data = v)
    (hrank : b.rank = some s) (hs : s.Valid v) (hones : b.ones = v.bits.count true) (m : Mode) (i : Nat) :
    b.rankZeroQ m i = .ok (i - rankSpec v.bits i) := by
  unfold BitVector.rankZeroQ
  rw [rankQ_ok hv hdata hrank hs hones i]
  simp only [bind_ok]
  exact subM_ok (rankSpec_le _ _)

/-- the wrapper with the built support -/
theorem rankQ_build {b : BitVector} {v : RawVec} (hv : v.WF) (hlen : v.len < 2 ^ 64) (hdata : b.data = v)
    (hrank : b.rank = some (RankSup.build v)) (hones : b.ones = v.bits.count true) (i : Nat) :
    b.rankQ i = .ok (rankSpec v.bits i) :=
  rankQ_ok hv hdata hrank (build_valid hv hlen) hones i

theorem rankZeroQ_build {b : BitVector} {v : RawVec} (hv : v.WF) (hlen : v.len < 2 ^ 64) (hdata : b.data = v)
    (hrank : b.rank = some (RankSup.build v)) (hones : b.ones = v.bits.count true) (m : Mode) (i : Nat) :
    b.rankZeroQ m i = .ok (i - rankSpec v.bits i) :=
  rankZeroQ_ok hv hdata hrank (build_valid hv hlen) hones m i

/-- `BitVector::from(raw)` followed by `enable_rank`, with no side hypothesis left -/
theorem rankQ_ofRaw {v : RawVec} (hv : v.WF) (hlen : v.len < 2 ^ 64) (i : Nat) :
    (BitVector.ofRaw v).enableRank.rankQ i = .ok (rankSpec v.bits i) :=
  rankQ_build hv hlen rfl rfl (countOnes_eq v hv) i

theorem rankZeroQ_ofRaw {v : RawVec} (hv : v.WF) (hlen : v.len < 2 ^ 64) (m : Mode) (i : Nat) :
    (BitVector.ofRaw v).enableRank.rankZeroQ m i = .ok (i - rankSpec v.bits i) :=
  rankZeroQ_build hv hlen rfl rfl (countOnes_eq v hv) m i

/-- `rank_zero` agrees with the zero-rank of the specification up to the length -/
theorem sub_rankSpec_eq_rankZeroSpec (B : List Bool) (i : Nat) (hi : i ≤ B.length) :
    i - rankSpec B i = rankZeroSpec B i := by
  unfold rankSpec rankZeroSpec
  have h1 : (B.take i).length = i := List.length_take_of_le hi
  have h2 : ∀ l : List Bool, l.count true + l.count false = l.length := by
    intro l
    induction l with
    | nil => rfl
    | cons a l ih => cases a <;> simp [List.count_cons] <;> omega
  have := h2 (B.take i)
  omega

end Sds
