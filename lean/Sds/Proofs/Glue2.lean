/-
Proofs/Glue2: lemmas between proof files, used by the property files.

* histories of `enable_*` calls on a plain bitvector (`enable_history_inv`);
* the parts of a built wavelet matrix are serializable (`wm_first_wf`, `wm_levels_wf`).
-/
import Sds.Proofs.WM
import Sds.Proofs.Supports
import Sds.Proofs.Sparse2
import Sds.Proofs.IntVec
import Sds.Proofs.Glue

namespace Sds
open Outcome

/-- in a non-decreasing list every element is at most the last one -/
theorem sortedLe_le_getLast (P : List Nat) (hP : sortedLe P = true) (hne : P ≠ []) :
    ∀ p ∈ P, p ≤ P.getLast hne := by
  have hpw := sortedLe_pairwise P hP
  intro p hp
  obtain ⟨i, hi, rfl⟩ := List.getElem_of_mem hp
  rw [List.getLast_eq_getElem]
  exact pairwise_le_getElem hpw i (P.length - 1) (by omega) (by omega)

/-! ## codecs of structures that embed plain bitvectors; histories of `enable_*` calls -/

section Embedded
open SupportProofs

/-! ### histories of `enable_*` calls on a plain bitvector -/

/-- each `enable_*` sets its own support structure and leaves the other two alone -/
theorem enableRank_fields (b : BitVector) : b.enableRank.rank.isSome = true ∧
    b.enableRank.select = b.select ∧ b.enableRank.selectZero = b.selectZero := by
  unfold BitVector.enableRank
  cases h : b.rank <;> exact ⟨by simp [h], rfl, rfl⟩

theorem enableSelect_fields (b : BitVector) : b.enableSelect.select.isSome = true ∧
    b.enableSelect.rank = b.rank ∧ b.enableSelect.selectZero = b.selectZero := by
  unfold BitVector.enableSelect
  cases h : b.select <;> exact ⟨by simp [h], rfl, rfl⟩

theorem enableSelectZero_fields (b : BitVector) : b.enableSelectZero.selectZero.isSome = true ∧
    b.enableSelectZero.rank = b.rank ∧ b.enableSelectZero.select = b.select := by
  unfold BitVector.enableSelectZero
  cases h : b.selectZero <;> exact ⟨by simp [h], rfl, rfl⟩

theorem enableSome_isSome (r s z : Bool) (b : BitVector) :
    (enableSome r s z b).rank.isSome = (r || b.rank.isSome) ∧
    (enableSome r s z b).select.isSome = (s || b.select.isSome) ∧
    (enableSome r s z b).selectZero.isSome = (z || b.selectZero.isSome) := by
  unfold enableSome
  cases r <;> cases s <;> cases z <;>
    simp only [if_true, if_false, Bool.false_eq_true, Bool.true_or, Bool.false_or,
      enableRank_fields, enableSelect_fields, enableSelectZero_fields, and_self]

/-- any sequence of `enable_*` calls (each step enables the subset selected by three flags) keeps a sound,
serializable bitvector with valid supports in that state, never touches the data or the count, keeps
`enableAll` the same, and the supports present afterwards are those present before or enabled on the way -/
theorem enable_history_inv (steps : List (Bool × Bool × Bool)) : ∀ (b0 : BitVector),
    Sound b0 → bitVectorWF b0 → SupValid b0 →
    Sound (steps.foldl (fun b t => enableSome t.1 t.2.1 t.2.2 b) b0) ∧
    bitVectorWF (steps.foldl (fun b t => enableSome t.1 t.2.1 t.2.2 b) b0) ∧
    SupValid (steps.foldl (fun b t => enableSome t.1 t.2.1 t.2.2 b) b0) ∧
    (steps.foldl (fun b t => enableSome t.1 t.2.1 t.2.2 b) b0).data = b0.data ∧
    (steps.foldl (fun b t => enableSome t.1 t.2.1 t.2.2 b) b0).ones = b0.ones ∧
    (steps.foldl (fun b t => enableSome t.1 t.2.1 t.2.2 b) b0).enableAll = b0.enableAll ∧
    (steps.foldl (fun b t => enableSome t.1 t.2.1 t.2.2 b) b0).rank.isSome =
      (b0.rank.isSome || steps.any (fun t => t.1)) ∧
    (steps.foldl (fun b t => enableSome t.1 t.2.1 t.2.2 b) b0).select.isSome =
      (b0.select.isSome || steps.any (fun t => t.2.1)) ∧
    (steps.foldl (fun b t => enableSome t.1 t.2.1 t.2.2 b) b0).selectZero.isSome =
      (b0.selectZero.isSome || steps.any (fun t => t.2.2)) := by
  induction steps with
  | nil => intro b0 h1 h2 h3; simp [h1, h2, h3]
  | cons t ts ih =>
    intro b0 h1 h2 h3
    obtain ⟨a1, a2, a3, a4, a5, a6, a7, a8, a9⟩ := ih (enableSome t.1 t.2.1 t.2.2 b0)
      (enableSome_sound _ _ _ h1) (enableSome_wf _ _ _ h1 h2) (enableSome_supValid _ _ _ h1 h3)
    obtain ⟨p1, p2, p3⟩ := enableSome_isSome t.1 t.2.1 t.2.2 b0
    simp only [List.foldl_cons, List.any_cons]
    refine ⟨a1, a2, a3, by rw [a4, enableSome_data], by rw [a5, enableSome_ones],
      by rw [a6, enableSome_enableAll], ?_, ?_, ?_⟩
    · rw [a7, p1]; cases t.1 <;> cases b0.rank.isSome <;> simp
    · rw [a8, p2]; cases t.2.1 <;> cases b0.select.isSome <;> simp
    · rw [a9, p3]; cases t.2.2 <;> cases b0.selectZero.isSome <;> simp

/-- a history in which the vector is written and loaded back after every step is the same as the history of
the `enable_*` calls alone: no load fails and every load returns the value that was written -/
theorem enable_reload_history (steps : List (Bool × Bool × Bool)) : ∀ (b0 : BitVector),
    Sound b0 → bitVectorWF b0 → SupValid b0 →
    steps.foldlM (fun b t => do
        let p ← bitVectorC.load (bitVectorC.ser (enableSome t.1 t.2.1 t.2.2 b))
        pure p.1) b0 =
      ok (steps.foldl (fun b t => enableSome t.1 t.2.1 t.2.2 b) b0) := by
  induction steps with
  | nil => intro b0 _ _ _; rfl
  | cons t ts ih =>
    intro b0 h1 h2 h3
    have hwf := enableSome_wf t.1 t.2.1 t.2.2 h1 h2
    have hr := bitVectorC_lawful.roundtrip _ [] hwf
    rw [List.append_nil] at hr
    rw [List.foldlM_cons, hr]
    simp only [bind_ok, pure_eq, List.foldl_cons]
    exact ih _ (enableSome_sound _ _ _ h1) hwf (enableSome_supValid _ _ _ h1 h3)

/-- the `first` array of a built wavelet matrix is serializable when it fits a `usize`-addressed file -/
theorem wm_first_wf (V : List Nat) (hV : ∀ v, v ∈ V → v < 2 ^ 64)
    (hfirst : (V.foldl max 0 + 1) * 64 < 2 ^ 64) : intVecWF (WM.ofValues V).first := by
  rw [first_ofValues V hV]
  obtain ⟨hwf, _, hit⟩ := IntVec.ofList_spec 64 (firstList V) (by decide) (by decide)
  obtain ⟨hp, _, _⟩ := IntVec.pack_spec hwf
  refine intVecWF_of_bits_lt hp (Nat.lt_of_le_of_lt (Nat.mul_le_mul ?_ hp.2.1) hfirst)
  rw [IntVec.pack_len, ← IntVec.items_length, hit]
  simp [firstList]

/-- the levels of a built core, each with the subset of supports selected by `f`, are serializable bitvectors of
the length of `V` -/
theorem wm_levels_wf (V : List Nat) (hlen : V.length < 2 ^ 63) (f : Nat → Bool × Bool × Bool) :
    ∀ b, b ∈ ((List.range (widthOf V)).map fun l =>
        enableSome (f l).1 (f l).2.1 (f l).2.2 (BitVector.ofRaw (RawVec.ofBits (col (widthOf V) V l)))) →
      bitVectorWF b ∧ b.len = V.length := by
  have hcl : ∀ l, (RawVec.ofBits (col (widthOf V) V l)).len = V.length := by
    intro l
    rw [← RawVec.bits_length, RawVec.bits_ofBits, length_col]
  intro b hb
  obtain ⟨l, _, rfl⟩ := List.mem_map.mp hb
  have hl63 : (RawVec.ofBits (col (widthOf V) V l)).len < 2 ^ 63 := by rw [hcl]; exact hlen
  have hs0 := ofRaw_sound (RawVec.ofBits_WF _) hl63
  refine ⟨enableSome_wf _ _ _ hs0 (ofRaw_wf (RawVec.ofBits_WF _) hl63), ?_⟩
  unfold BitVector.len
  rw [enableSome_data]
  exact hcl l

theorem wmCoreC_ser_ofValues (V : List Nat) :
    wmCoreC.ser (WMCore.ofValues V) = BitVec.ofNat 64 (widthOf V) :: ((List.range (widthOf V)).map fun l =>
      enableSome true true true (BitVector.ofRaw (RawVec.ofBits (col (widthOf V) V l)))).flatMap
        bitVectorC.ser := by
  rw [ofValues_eq]
  simp [wmCoreC, WMCore.width]
  rfl

end Embedded

end Sds
