/-
Proofs/GenEqView: the read accessors of the memory-mapped views (`RawVectorMapper`, `IntVectorMapper`) and
`count_ones` of `raw_vector.rs` as TRANSLATED statement by statement from the source (Generated/FnsView.lean) are
equal to the hand-written model definitions (Model/RawVec.lean, Model/IntVec.lean).

* The five mapper accessors are the same terms as the in-memory ones (`rfl`), so the
  equations of Proofs/GenEqVec.lean carry over.
* `count_ones` is `for value in self.data.iter() { result += value.count_ones() as usize }`, a `loopM` over an
  index and the accumulator.  Every word contributes at most 64 (`popcount_le`), so under
  `64 * v.data.size < U64` (the length in bits, rounded up to words, is below 2^64) the running sum never overflows
  and the loop is the model's `Array.foldl`.
-/
import Sds.Model.IntVec
import Sds.Generated.FnsView
import Sds.Proofs.BitsMore
import Sds.Proofs.GenEqVec

namespace Sds.GenEq
open Sds Outcome Generated

/-! ### mapper accessors = in-memory accessors -/

theorem mapper_bit_def : gen_RawVectorMapper_bit = gen_RawVector_bit := rfl
theorem mapper_int_def : gen_RawVectorMapper_int = gen_RawVector_int := rfl
theorem mapper_word_def : gen_RawVectorMapper_word = gen_RawVector_word := rfl
theorem mapper_word_unchecked_def : gen_RawVectorMapper_word_unchecked = gen_RawVector_word_unchecked := rfl
theorem mapper_get_def : gen_IntVectorMapper_get = gen_IntVector_get := rfl

theorem mapper_bit_eq (m : Mode) (v : RawVec) (i : Nat) : gen_RawVectorMapper_bit m v i = v.bitM i := by
  rw [mapper_bit_def]; exact raw_bit_eq m v i

theorem mapper_word_eq (m : Mode) (v : RawVec) (i : Nat) : gen_RawVectorMapper_word m v i = v.wordM i := by
  rw [mapper_word_def]; exact raw_word_eq m v i

theorem mapper_word_unchecked_eq (m : Mode) (v : RawVec) (i : Nat) :
    gen_RawVectorMapper_word_unchecked m v i = v.wordU i := by
  rw [mapper_word_unchecked_def]; exact raw_word_unchecked_eq m v i

theorem mapper_int_eq' (m : Mode) (v : RawVec) (off w : Nat) (hw : w ≤ 64) (ho : off < U64) :
    gen_RawVectorMapper_int m v off w = if w = 0 then ok 0 else readIntM v.data off w := by
  rw [mapper_int_def]; exact raw_int_eq' m v off w hw ho

theorem mapper_int_eq (m : Mode) (v : RawVec) (off w : Nat) (hw : w ≤ 64) (ho : off < U64)
    (hin : off + w ≤ 64 * v.data.size) : gen_RawVectorMapper_int m v off w = ok (v.int off w) := by
  rw [mapper_int_def]; exact raw_int_eq m v off w hw ho hin

theorem mapper_get_eq (m : Mode) (v : IntVec) (i : Nat) (hwf : v.WF) (hb : v.len * v.width < U64) :
    gen_IntVectorMapper_get m v i = v.get i := by
  rw [mapper_get_def]; exact int_get_eq m v i hwf hb

/-! ### `count_ones` -/

/-- `count_ones`: the running sum after the words `pre` is their count, at most `64 * pre.length` -/
theorem raw_count_ones_eq (m : Mode) (v : RawVec) (h : 64 * v.data.size < U64) :
    gen_RawVector_count_ones m v = ok v.countOnes := by
  unfold gen_RawVector_count_ones RawVec.countOnes
  rw [← Array.foldl_toList]
  refine sat_eq.1 (for_each_sat
    (fun pre s => s = pre.foldl (fun acc w => acc + popcount w) 0 ∧ s ≤ 64 * pre.length) v.data.toList _ _
    (fun pre x suf s hl ⟨e, hs⟩ => ?_) (fun s _ => ?_) ⟨rfl, Nat.le_refl 0⟩ (fun s hs => sat_ok hs.1))
  · have hp := popcount_le x
    have hlen : pre.length < v.data.size := by rw [← Array.length_toList, hl, List.length_append, List.length_cons]; omega
    dsimp only
    rw [if_pos (decide_eq_true hlen), rd_split hl, addM_bind (by omega)]
    exact sat_next ⟨rfl, by rw [e, List.foldl_append]; rfl, by rw [List.length_append, List.length_singleton]; omega⟩
  · dsimp only
    exact if_neg (mt of_decide_eq_true (Nat.lt_irrefl v.data.size))

theorem mapper_count_ones_def : gen_RawVectorMapper_count_ones = gen_RawVector_count_ones := rfl

theorem mapper_count_ones_eq (m : Mode) (v : RawVec) (h : 64 * v.data.size < U64) :
    gen_RawVectorMapper_count_ones m v = ok v.countOnes := by
  rw [mapper_count_ones_def]; exact raw_count_ones_eq m v h

/-! ### the hypothesis of `count_ones` is about overflow only: without overflow checks the code wraps, with them it
panics, where the model sums in `Nat`; on a vector whose length in bits is below 2^64 it holds. -/

theorem raw_count_ones_eq_of_wf (m : Mode) (v : RawVec) (hwf : v.WF) (hl : v.len + 63 < U64) :
    gen_RawVector_count_ones m v = ok v.countOnes :=
  raw_count_ones_eq m v (by have := hwf.1; omega)

theorem mapper_count_ones_eq_of_wf (m : Mode) (v : RawVec) (hwf : v.WF) (hl : v.len + 63 < U64) :
    gen_RawVectorMapper_count_ones m v = ok v.countOnes :=
  mapper_count_ones_eq m v (by have := hwf.1; omega)

end Sds.GenEq
