/-
Proofs/GenEqConstr4: the remaining constructors of raw_vector.rs / int_vector.rs / rl_vector.rs, as TRANSLATED statement
by statement from the source (Generated/FnsConstr4.lean), are equal to the hand-written model definitions.

* `raw_with_capacity_eq : gen_RawVector_with_capacity m cap = ok RawVec.empty` under `cap + 63 < U64`
  (`bits_to_words(capacity)`; exact form `raw_with_capacity_eq'`: the function IS that addition followed by the empty
  vector; sharp: `raw_with_capacity_ne`; without overflow checks it always succeeds: `raw_with_capacity_wrapping`).
* `int_with_capacity_eq : gen_IntVector_with_capacity m cap width = IntVec.withCapacity cap width` under
  `cap * width + 63 < U64` (`int_with_capacity_eq'`: only needed for an accepted width).  The model ignores the
  capacity; the code computes `capacity * width` and its rounding to words in `usize` (`int_with_capacity_ne`).
* `rlb_encode_eq : gen_RLBuilder_encode m b value = ok { b with data := RLBuilder.encode b.data value }` under
  `value < U64`, `b.data.WF`, width 4 and `(b.data.len + 22) * 4 + 63 < U64` (22 = the longest code).
  `rlb_encode_eq_of`: any width, the bound on the units actually pushed.  The `while value > CODE_MASK` (`loop_sat`)
  pushes all units of the model's `encodeUnits` but the last and leaves the last one in `value`.  The fuel 23 of both
  sides is never exhausted (`value < 2^64 < 8^23`).  Sharp: `rlb_encode_ne_value`.
* `rlb_default_eq`, `rlb_new_eq : … = ok ({} : RLBuilder)` (by `rfl`).
* `rl_from_builder_eq : gen_RLVector_from_builder m b = RL.ofBuilder m b` under representation bounds only
  (`b.len < U64`, `b.ones < U64`, `128 * b.samples.size + 191 < U64`, and the `FlushBounds` of a pending run).
  Corollaries `rl_from_builder_eq_of_inv` (`RLBuilder.Inv` + the bound on the samples) and
  `rl_from_builder_eq_of_dinv` (`Inv`, `DInv`, `b.data.data.len < U64`).  `rl_from_builder_core` is the part after
  the flush, for any flushed builder.
  NO hypothesis on the samples (`ones ≤ bits`), none on `b.ones ≤ b.len`: the code evaluates the mapped iterator
  `bits - ones` BEFORE `count_zeros`, the model AFTER, but both can only fault by the arithmetic-overflow panic
  (`subM_ovf`, `mapM_ovf`), so the two orders have the same outcome in both modes (`rl_from_builder_examples` has a
  case where the two sides fault at different statements, with the same panic).  The three `SampleIndex::new` agree on
  every list (`sample_index_new_eq`).  `IntVec.withCapacity` ignores the capacity; the code's `2 * blocks`,
  `capacity * width`, `bits_to_words` are covered by the bound on the number of samples, as is every `push`.
  Sharpness of `hlen`, `hones`: `rl_from_builder_ne_len`, `rl_from_builder_ne_ones`; of the flush bounds:
  `rlb_flush_ne_ones`, `rlb_flush_ne_end`, `rlb_flush_ne_data` (GenEqBuild).

Method: `from_builder_pieces` (by `rfl`) cuts the translated function into `gen_RLBuilder_flush` and `fbRest` (the
three iterators `fbBits`, `fbOnes`, `fbZs`, the indexes, `fbFinish`); the `for (ones, bits) in samples.iter()` loop
cannot fault under the bound on the samples and is `for_sat` (GenSupport) with the model's `foldl` as invariant.
-/
import Sds.Generated.FnsConstr4
import Sds.Proofs.GenFns
import Sds.Proofs.GenEqBits
import Sds.Proofs.GenEqVec
import Sds.Proofs.GenEqVec2
import Sds.Proofs.GenEqBuild
import Sds.Proofs.GenEqConstr
import Sds.Proofs.GenEqLoop4
import Sds.Proofs.IntVec
import Sds.Proofs.RL

set_option linter.unusedVariables false

namespace Sds.GenEq
open Sds Outcome Generated

/-! ### `RawVector::with_capacity`, `IntVector::with_capacity` -/

/-- the capacity only goes through `bits_to_words` (`capacity + 63` in `usize`): the function is that addition
followed by the empty vector -/
theorem raw_with_capacity_eq' (m : Mode) (cap : Nat) :
    gen_RawVector_with_capacity m cap = (addM m cap 63).bind (fun _ => ok RawVec.empty) := by
  unfold gen_RawVector_with_capacity gen_bits_to_words
  cases addM m cap 63 <;> rfl

theorem raw_with_capacity_eq (m : Mode) (cap : Nat) (h : cap + 63 < U64) :
    gen_RawVector_with_capacity m cap = ok RawVec.empty := by
  rw [raw_with_capacity_eq', addM_ok h]; rfl

/-- without overflow checks the sum wraps and the constructor always succeeds -/
theorem raw_with_capacity_wrapping (cap : Nat) : gen_RawVector_with_capacity .wrapping cap = ok RawVec.empty := by
  rw [raw_with_capacity_eq']
  unfold addM
  by_cases h : cap + 63 < U64
  · rw [if_pos h]; rfl
  · rw [if_neg h]; rfl

/-- `RawVec.ofBits` as a loop of `push_bit` builds it, one item at the end at a time -/
theorem ofBits_snoc (pre : List Bool) (x : Bool) : RawVec.ofBits (pre ++ [x]) = (RawVec.ofBits pre).pushBit x := by
  unfold RawVec.ofBits
  rw [List.foldl_append]; rfl

theorem len_ofBits (B : List Bool) : (RawVec.ofBits B).len = B.length := by
  rw [← RawVec.bits_length, RawVec.bits_ofBits]

/-- `IntVector::with_capacity`, weakest form: the bound is only needed for an accepted width -/
theorem int_with_capacity_eq' (m : Mode) (cap width : Nat)
    (h : 1 ≤ width → width ≤ 64 → cap * width + 63 < U64) :
    gen_IntVector_with_capacity m cap width = IntVec.withCapacity cap width := by
  unfold gen_IntVector_with_capacity IntVec.withCapacity IntVec.new
  by_cases hw : width = 0 ∨ width > 64
  · rw [if_pos hw, if_pos (by simpa using hw)]
  · have hb := h (by omega) (by omega)
    rw [if_neg hw, if_neg (by simpa using hw)]
    simp only [mulM_ok (show cap * width < U64 by omega), raw_with_capacity_eq m _ hb, bind_ok, pure_eq]

theorem int_with_capacity_eq (m : Mode) (cap width : Nat) (h : cap * width + 63 < U64) :
    gen_IntVector_with_capacity m cap width = IntVec.withCapacity cap width :=
  int_with_capacity_eq' m cap width (fun _ _ => h)

/-! ### `RLBuilder::encode` -/

theorem or8_lt : ∀ r, r < 8 → r ||| 8 = r + 8 := by decide

theorem enc_unit (v : Nat) :
    ((BitVec.ofNat 64 v &&& (7 : Word)) ||| (8 : Word)) = BitVec.ofNat 64 (v % 8 + 8) := by
  apply BitVec.eq_of_toNat_eq
  have h7 : (7 : Word).toNat = 2 ^ 3 - 1 := rfl
  have h8 : (8 : Word).toNat = 8 := rfl
  rw [BitVec.toNat_or, BitVec.toNat_and, h7, h8, Nat.and_two_pow_sub_one_eq_mod, BitVec.toNat_ofNat,
    BitVec.toNat_ofNat, or8_lt _ (Nat.mod_lt _ (by decide))]
  omega

theorem enc_shift (v : Nat) (hv : v < 2 ^ 64) : BitVec.ofNat 64 v >>> 3 = BitVec.ofNat 64 (v / 8) := by
  apply BitVec.eq_of_toNat_eq
  rw [BitVec.toNat_ushiftRight, BitVec.toNat_ofNat, BitVec.toNat_ofNat, Nat.shiftRight_eq_div_pow,
    Nat.mod_eq_of_lt hv, Nat.mod_eq_of_lt (by omega)]

theorem enc_gt (v : Nat) (hv : v < 2 ^ 64) : (BitVec.ofNat 64 v > (7 : Word)) ↔ v > 7 := by
  show (7 : Word) < BitVec.ofNat 64 v ↔ _
  rw [BitVec.lt_def, BitVec.toNat_ofNat, Nat.mod_eq_of_lt hv]
  exact Iff.rfl

/-- `encode`, general form: the bound is on the number of units actually pushed -/
theorem rlb_encode_eq_of (m : Mode) (b : RLBuilder) (value : Nat) (hv : value < U64) (hwf : b.data.WF)
    (hb : (b.data.len + (RLBuilder.encodeUnits 23 value).length) * b.data.width + 63 < U64) :
    gen_RLBuilder_encode m b value = ok { b with data := RLBuilder.encode b.data value } := by
  rw [U64_eq] at hv
  refine sat_eq.1 ?_
  unfold gen_RLBuilder_encode
  -- with `f` rounds left: the units still to be written are the model's code of `value`, which is below `8 ^ f`
  refine loop_sat (fun j (s : IntVec × Word) => ∃ f v, j + f = 22 ∧ s.2 = BitVec.ofNat 64 v ∧ v < 2 ^ 64 ∧
      v < 8 ^ (f + 1) ∧ s.1.WF ∧ s.1.width = b.data.width ∧
      (s.1.len + (RLBuilder.encodeUnits (f + 1) v).length) * b.data.width + 63 < U64 ∧
      s.1.extend ((RLBuilder.encodeUnits (f + 1) v).map (BitVec.ofNat 64)) = RLBuilder.encode b.data value)
    (fun c => ∃ d v, c = .brk (d, BitVec.ofNat 64 v) ∧ d.WF ∧ (d.len + 1) * d.width + 63 < U64 ∧
      d.push (BitVec.ofNat 64 v) = RLBuilder.encode b.data value) 22 _ _ (Nat.lt_succ_self _)
    (fun j s _ hI => ?_) (by exact ⟨22, value, rfl, rfl, hv, RLBuilder.lt_8_pow_23 hv, hwf, rfl, hb, rfl⟩)
    (fun c hc => ?_)
  · obtain ⟨d, w⟩ := s
    obtain ⟨f, v, hjf, rfl, hv, h8, dwf, dw, hroom, hE⟩ := hI
    simp only at dwf dw hroom hE
    rw [← dw] at hroom
    by_cases h7 : v > 7
    · obtain ⟨g, rfl⟩ : ∃ g, f = g + 1 := ⟨f - 1, by cases f with | zero => omega | succ g => rfl⟩
      rw [RLBuilder.encodeUnits_succ, if_pos h7] at hroom hE
      rw [List.length_cons] at hroom
      have hmul : (d.len + 1) * d.width ≤ (d.len + ((RLBuilder.encodeUnits (g + 1) (v / 8)).length + 1)) * d.width :=
        Nat.mul_le_mul_right _ (by omega)
      simp only [enc_gt v hv, h7, decide_true, if_true, enc_unit,
        int_push_eq m d (BitVec.ofNat 64 (v % 8 + 8)) dwf (by omega), bind_ok,
        shrW_ok m _ (show 3 < 64 by decide), enc_shift v hv, pure_eq]
      refine sat_ok ⟨by omega, g, v / 8, by omega, rfl, by omega, ?_, IntVec.push_WF dwf _, dw, ?_, hE⟩
      · exact Nat.div_lt_of_lt_mul (by rw [Nat.pow_succ, Nat.mul_comm] at h8; exact h8)
      · rw [IntVec.len_push, ← dw, Nat.add_assoc, Nat.add_comm 1]
        exact hroom
    · rw [RLBuilder.encodeUnits_succ, if_neg h7] at hroom hE
      simp only [enc_gt v hv, h7, decide_false, Bool.false_eq_true, if_false, pure_eq]
      exact sat_ok ⟨d, v, rfl, dwf, hroom, hE⟩
  · obtain ⟨d, v, rfl, dwf, hroom, hE⟩ := hc
    simp only [int_push_eq m d _ dwf hroom, bind_ok, pure_eq, hE]
    exact sat_ok rfl

/-- `encode` of a `usize` value into a well-formed width-4 code vector with room for the longest code (22 units) -/
theorem rlb_encode_eq (m : Mode) (b : RLBuilder) (value : Nat) (hv : value < U64) (hwf : b.data.WF)
    (hw : b.data.width = 4) (hb : (b.data.len + 22) * 4 + 63 < U64) :
    gen_RLBuilder_encode m b value = ok { b with data := RLBuilder.encode b.data value } := by
  apply rlb_encode_eq_of m b value hv hwf
  have h1 := RLBuilder.codeLen_le value
  rw [RLBuilder.encodeUnits_length value (by rw [← U64_eq]; exact hv), hw]
  omega

/-! ### `RLBuilder::default`, `RLBuilder::new` -/

theorem rlb_default_eq (m : Mode) : gen_RLBuilder_default m = ok ({} : RLBuilder) := rfl

theorem rlb_new_eq (m : Mode) : gen_RLBuilder_new m = ok ({} : RLBuilder) := rfl

/-! ### `impl From<RLBuilder> for RLVector` : the translated function, cut into named pieces -/

/-- `builder.samples.iter().map(|(_, bits)| *bits)` -/
def fbBits (builder : RLBuilder) : Outcome (List Nat) :=
  (builder.samples).toList.mapM (fun x_ => do let (_, bits) := x_; pure bits)

/-- `builder.samples.iter().map(|(ones, _)| *ones)` -/
def fbOnes (builder : RLBuilder) : Outcome (List Nat) :=
  (builder.samples).toList.mapM (fun x_ => do let (ones, _) := x_; pure ones)

/-- `builder.samples.iter().map(|(ones, bits)| bits - ones)` -/
def fbZs (m : Mode) (builder : RLBuilder) : Outcome (List Nat) :=
  (builder.samples).toList.mapM (fun x_ => do let (ones, bits) := x_; let t6 ← subM m bits ones; pure t6)

/-- the compressed samples and the final value -/
def fbFinish (m : Mode) (builder : RLBuilder) (rank_index select_index select_zero_index : SampleIndex) :
    Outcome RL := do
  let max_value := (((builder.samples.back?)).getD (0, 0)).2
  let t10 ← mulM m 2 (builder.samples.size)
  let t11 ← gen_bit_len m (BitVec.ofNat 64 max_value)
  let t12 ← unwrapRes (gen_IntVector_with_capacity m t10 t11)
  let samples := t12
  let for_lo1 := 0
  let for_hi1 := builder.samples.size
  let lr1 ← loopM (ρ := RL) (for_hi1 - for_lo1 + 1) (fun (for_i1, samples) => do
      if (decide (for_i1 < for_hi1)) then do
        let (ones, bits) := (builder.samples.getD for_i1 (0, 0))
        let t13 ← gen_IntVector_push m samples (BitVec.ofNat 64 ones)
        let samples := t13
        let t14 ← gen_IntVector_push m samples (BitVec.ofNat 64 bits)
        let samples := t14
        pure (Ctl.next (for_i1 + 1, samples))
      else do
        pure (Ctl.brk (for_i1, samples))) (for_lo1, samples)
  match lr1 with
  | .ret _ => fault .fuel
  | .next _ => fault .fuel
  | .brk (for_i1, samples) => do
    return (⟨(builder.len), (builder.ones), rank_index, select_index, select_zero_index, samples, builder.data⟩ : RL)

/-- everything after `builder.flush()` -/
def fbRest (m : Mode) (builder : RLBuilder) : Outcome RL := do
  let t2 ← fbBits builder
  let t3 ← gen_SampleIndex_new m t2 (builder.len)
  let t4 ← fbOnes builder
  let t5 ← gen_SampleIndex_new m t4 (builder.ones)
  let t7 ← fbZs m builder
  let t8 ← gen_RLBuilder_count_zeros m builder
  let t9 ← gen_SampleIndex_new m t7 t8
  fbFinish m builder t3 t5 t9

theorem from_builder_pieces (m : Mode) (b : RLBuilder) :
    gen_RLVector_from_builder m b = (gen_RLBuilder_flush m b).bind (fbRest m) := rfl


/-- faults only by the arithmetic-overflow panic -/
def OvfOnly {α : Type} (x : Outcome α) : Prop := ∀ e, x = fault e → e = .panic .overflow

theorem subM_ovf (m : Mode) (a b : Nat) : OvfOnly (subM m a b) := by
  intro e h
  unfold subM at h
  by_cases hb : b ≤ a
  · rw [if_pos hb] at h; cases h
  · rw [if_neg hb] at h
    cases m with
    | checked => cases h; rfl
    | wrapping => cases h

/-- a `map` whose closure can only overflow: the list of all items (one per input), or the overflow panic -/
private theorem mapM_loop_ovf {α β : Type} (f : α → Outcome β) (h : ∀ p, OvfOnly (f p)) :
    ∀ (l : List α) (acc : List β), OvfOnly (List.mapM.loop f l acc) ∧
      ∀ zs, List.mapM.loop f l acc = ok zs → zs.length = acc.length + l.length := by
  intro l
  induction l with
  | nil =>
    intro acc
    refine ⟨fun e he => ?_, fun zs hz => ?_⟩
    · simp [List.mapM.loop] at he
    · simp only [List.mapM.loop, pure_eq] at hz
      injection hz with hz
      rw [← hz]; simp
  | cons a t ih =>
    intro acc
    rw [List.mapM.loop]
    cases hf : f a with
    | fault e0 =>
      refine ⟨fun e he => ?_, fun zs hz => ?_⟩
      · rw [bind_fault] at he; injection he with he; rw [← he]; exact h a e0 hf
      · rw [bind_fault] at hz; cases hz
    | ok y =>
      rw [bind_ok]
      refine ⟨(ih (y :: acc)).1, fun zs hz => ?_⟩
      rw [(ih (y :: acc)).2 zs hz]
      simp only [List.length_cons]; omega

theorem mapM_ovf {α β : Type} (f : α → Outcome β) (h : ∀ p, OvfOnly (f p)) (l : List α) :
    OvfOnly (l.mapM f) ∧ ∀ zs, l.mapM f = ok zs → zs.length = l.length := by
  have := mapM_loop_ovf f h l []
  rw [List.mapM]
  refine ⟨this.1, fun zs hz => ?_⟩
  rw [this.2 zs hz]; simp

theorem fb_bits_eq (b : RLBuilder) : fbBits b = ok (b.samples.toList.map (·.2)) :=
  mapM_ok _ _ _ (fun p _ => by cases p; rfl)

theorem fb_ones_eq (b : RLBuilder) : fbOnes b = ok (b.samples.toList.map (·.1)) :=
  mapM_ok _ _ _ (fun p _ => by cases p; rfl)

theorem fb_zs_eq (m : Mode) (b : RLBuilder) : fbZs m b = b.samples.toList.mapM (fun p => subM m p.2 p.1) := by
  have hfun : (fun (x_ : Nat × Nat) =>
      (do let (ones, bits) := x_; let t6 ← subM m bits ones; pure t6 : Outcome Nat)) =
      (fun p => subM m p.2 p.1) := by
    funext p
    obtain ⟨ones, bits⟩ := p
    rfl
  exact congrArg (fun f => b.samples.toList.mapM f) hfun


/-- `builder.samples.last().unwrap_or(&(0, 0)).1` on the list of samples -/
def fbMax (l : List (Nat × Nat)) : Nat := match l.getLast? with | some p => p.2 | none => 0

theorem fb_max_eq (a : Array (Nat × Nat)) : ((a.back?).getD (0, 0)).2 = fbMax a.toList := by
  obtain ⟨l⟩ := a
  unfold fbMax
  rw [List.back?_toArray]
  cases l.getLast? <;> rfl

def fbPush (s : IntVec) (p : Nat × Nat) : IntVec := (s.push (BitVec.ofNat 64 p.1)).push (BitVec.ofNat 64 p.2)

/-- the tail of the function: `samples` is the model's fold over an empty vector of the width of the last sample.
`hs` bounds the bit length `2 * blocks * width ≤ 128 * blocks` of the vector (the capacity computation
`2 * blocks`, `capacity * width`, `bits_to_words`, and every `push`). -/
theorem fb_finish_eq (m : Mode) (b : RLBuilder) (ri si zi : SampleIndex) (hs : 128 * b.samples.size + 63 < U64) :
    fbFinish m b ri si zi =
      ok ⟨b.len, b.ones, ri, si, zi,
        b.samples.toList.foldl fbPush ⟨0, bitLen (BitVec.ofNat 64 (fbMax b.samples.toList)), RawVec.empty⟩,
        b.data⟩ := by
  obtain ⟨w1, w2, _, _⟩ := bitLen_spec (BitVec.ofNat 64 (fbMax b.samples.toList))
  have e10 : mulM m 2 b.samples.size = ok (2 * b.samples.size) := mulM_ok (by omega)
  have e12 : gen_IntVector_with_capacity m (2 * b.samples.size) (bitLen (BitVec.ofNat 64 (fbMax b.samples.toList))) =
      ok ⟨0, bitLen (BitVec.ofNat 64 (fbMax b.samples.toList)), RawVec.empty⟩ := by
    rw [int_with_capacity_eq m _ _ (by have := Nat.mul_le_mul_left (2 * b.samples.size) w2; omega),
      IntVec.withCapacity_ok _ _ w1 w2]
  refine sat_eq.1 ?_
  unfold fbFinish
  simp only [fb_max_eq, e10, bit_len_eq, e12, unwrapRes, bind_ok]
  generalize bitLen (BitVec.ofNat 64 (fbMax b.samples.toList)) = w at w1 w2 ⊢
  -- `samples` holds the first `i` pairs
  refine for_sat (fun i (s : IntVec) => s = (b.samples.toList.take i).foldl fbPush ⟨0, w, RawVec.empty⟩ ∧ s.WF ∧
      s.width = w ∧ s.len = 2 * i) (Nat.zero_le _) _ _
    (fun i s _ hi ⟨hf, wf, hw, hl⟩ => ?_) (fun s _ => ?_) ⟨rfl, IntVec.empty_WF w w1 w2, rfl, rfl⟩
    (fun s ⟨hf, _⟩ => ?_)
  · have hlt : i < b.samples.toList.length := by rw [Array.length_toList]; exact hi
    have hmul : (2 * i + 1 + 1) * w ≤ (2 * b.samples.size) * 64 := Nat.mul_le_mul (by omega) w2
    have hmul' : (2 * i + 1) * w ≤ (2 * i + 1 + 1) * w := Nat.mul_le_mul_right _ (by omega)
    rw [List.take_succ_eq_append_getElem hlt, List.foldl_append, ← hf]
    -- the goal reads the pair through the unfolded `getD`: name it `p`
    dsimp only
    simp only [hi, decide_true, if_true, dite_true]
    generalize hp : b.samples.getInternal i _ = p
    rw [show b.samples.toList[i] = p from hp]
    simp only [int_push_eq m s (BitVec.ofNat 64 p.1) wf (by rw [hl, hw]; omega),
      int_push_eq m (s.push (BitVec.ofNat 64 p.1)) (BitVec.ofNat 64 p.2) (IntVec.push_WF wf _)
        (by rw [IntVec.len_push, IntVec.width_push, hl, hw]; omega),
      bind_ok, pure_eq]
    exact sat_next ⟨rfl, rfl, IntVec.push_WF (IntVec.push_WF wf _) _, hw, by show s.len + 1 + 1 = _; omega⟩
  · simp only [Nat.lt_irrefl, decide_false, Bool.false_eq_true, if_false]; rfl
  · rw [← Array.length_toList, List.take_length] at hf
    exact sat_ok (by rw [hf])

/-- `flush` keeps `len` and `ones` and adds at most one sample -/
theorem flush_fields (m : Mode) (b b' : RLBuilder) (h : b.flush m = ok b') :
    b'.len = b.len ∧ b'.ones = b.ones ∧ b'.samples.size ≤ b.samples.size + 1 := by
  unfold RLBuilder.flush at h
  by_cases hr : b.run.2 = 0
  · rw [if_pos hr] at h; cases h; exact ⟨rfl, rfl, by omega⟩
  · rw [if_neg hr] at h
    cases hg : subM m b.run.1 b.tail with
    | fault e => rw [hg] at h; cases h
    | ok gap =>
      rw [hg] at h
      simp only [bind_ok, pure_eq] at h
      injection h with h
      subst h
      by_cases hc : b.data.len + (RLBuilder.codeLen gap + RLBuilder.codeLen (b.run.2 - 1)) > b.samples.size * 64
      · rw [if_pos hc]; exact ⟨rfl, rfl, by simp [Array.size_push]⟩
      · rw [if_neg hc]; exact ⟨rfl, rfl, Nat.le_succ _⟩

/-- **after the flush**: for ANY flushed builder `b'` with representable `len`, `ones` and at most `2^57 - 1` samples.
No hypothesis relates the samples to each other or to `len` / `ones`: the three `SampleIndex::new` are equal to the
model's on every list (`sample_index_new_eq`); the closure `bits - ones` (evaluated when the code collects the mapped
iterator, BEFORE `count_zeros`; in the model AFTER it) and `count_zeros` can only fault by the same overflow panic, so
the order is unobservable (`subM_ovf`, `mapM_ovf`). -/
theorem rl_from_builder_core (m : Mode) (b b' : RLBuilder) (hfg : gen_RLBuilder_flush m b = ok b')
    (hfm : b.flush m = ok b') (hlen : b'.len < U64) (hones : b'.ones < U64)
    (hs : 128 * b'.samples.size + 63 < U64) :
    gen_RLVector_from_builder m b = RL.ofBuilder m b := by
  have hU := U64_eq
  have hl60 : b'.samples.toList.length < 2 ^ 60 := by rw [Array.length_toList]; omega
  have er := sample_index_new_eq m (b'.samples.toList.map (·.2)) b'.len hlen (by rw [List.length_map]; exact hl60)
  have es := sample_index_new_eq m (b'.samples.toList.map (·.1)) b'.ones hones (by rw [List.length_map]; exact hl60)
  obtain ⟨hzo, hzl⟩ := mapM_ovf (fun p : Nat × Nat => subM m p.2 p.1) (fun p => subM_ovf m _ _) b'.samples.toList
  have hco := subM_ovf m b'.len b'.ones
  rw [from_builder_pieces, hfg, obind_ok']
  unfold RL.ofBuilder fbRest
  simp only [hfm, bind_ok, fb_bits_eq, fb_ones_eq, er, es, fb_zs_eq, rlb_count_zeros_eq, RLBuilder.countZeros]
  cases SampleIndex.new m (b'.samples.toList.map (·.2)) b'.len with
  | fault e => rfl
  | ok ri =>
    simp only [bind_ok]
    cases SampleIndex.new m (b'.samples.toList.map (·.1)) b'.ones with
    | fault e => rfl
    | ok si =>
      simp only [bind_ok]
      cases hz : b'.samples.toList.mapM (fun p : Nat × Nat => subM m p.2 p.1) with
      | fault e1 =>
        cases hc : subM m b'.len b'.ones with
        | fault e2 =>
          have h1 := hzo e1 hz
          have h2 := hco e2 hc
          subst h1; subst h2; rfl
        | ok zeros => rfl
      | ok zs =>
        cases hc : subM m b'.len b'.ones with
        | fault e2 => rfl
        | ok zeros =>
          simp only [bind_ok]
          rw [sample_index_new_eq m zs zeros (subM_lt hlen hc) (by rw [hzl zs hz]; exact hl60)]
          cases SampleIndex.new m zs zeros with
          | fault e => rfl
          | ok zi =>
            simp only [bind_ok]
            rw [fb_finish_eq m b' ri si zi hs]
            obtain ⟨w1, w2, _, _⟩ := bitLen_spec (BitVec.ofNat 64 (fbMax b'.samples.toList))
            show _ = (IntVec.withCapacity (2 * b'.samples.toList.length)
              (bitLen (BitVec.ofNat 64 (fbMax b'.samples.toList))) >>= _)
            rw [IntVec.withCapacity_ok _ _ w1 w2, bind_ok]
            rfl

/-- **`RLVector::from(builder)`** under representation bounds only.  `hlen`, `hones`: the two counters are `usize`
values.  `hs`: the compressed samples vector (2 items of at most 64 bits per sample, one more sample after the flush)
has a representable bit length — this also covers `2 * blocks`, `capacity * width`, `bits_to_words(capacity)` of
`with_capacity`, which the model does not compute.  `hrun`: the bounds of the `flush` of a pending run
(`FlushBounds`).  NOT needed: `ones ≤ bits` in the samples, `b.ones ≤ b.len`, any monotonicity — where those fail
the code and the model fail alike. -/
theorem rl_from_builder_eq (m : Mode) (b : RLBuilder) (hlen : b.len < U64) (hones : b.ones < U64)
    (hs : 128 * b.samples.size + 191 < U64)
    (hrun : b.run.2 ≠ 0 → b.data.len + 44 < U64 ∧ b.run.2 ≤ b.ones ∧ b.run.1 + b.run.2 < U64) :
    gen_RLVector_from_builder m b = RL.ofBuilder m b := by
  have hfe := rlb_flush_eq' m b (fun hr => ⟨(hrun hr).1, by omega, (hrun hr).2.1, (hrun hr).2.2⟩)
  cases hf : b.flush m with
  | fault e =>
    rw [from_builder_pieces, hfe, hf]
    unfold RL.ofBuilder
    rw [hf]
    rfl
  | ok b' =>
    obtain ⟨f1, f2, f3⟩ := flush_fields m b b' hf
    exact rl_from_builder_core m b b' (hfe.trans hf) hf (by rw [f1]; exact hlen) (by rw [f2]; exact hones) (by omega)

/-- on the reachable builder states (`RLBuilder.Inv`), one bound on the number of samples is left -/
theorem rl_from_builder_eq_of_inv (m : Mode) (b : RLBuilder) (h : b.Inv) (hs : 128 * b.samples.size + 191 < U64) :
    gen_RLVector_from_builder m b = RL.ofBuilder m b := by
  have h1 := h.len_lt; have h2 := h.ones_le; have h3 := h.data_le; have h4 := h.run_end
  exact rl_from_builder_eq m b h1 (by omega) hs (fun _ => ⟨by omega, h.run_le_ones, by omega⟩)

/-- … and with the ghost block structure (`DInv`: every sample but the last stands for 64 code units of `data`) that
bound follows from "the bit length of the code units is a `usize`" -/
theorem rl_from_builder_eq_of_dinv (m : Mode) (b : RLBuilder) {done : List (List (Nat × Nat))} {cur : List (Nat × Nat)}
    (h : b.Inv) (hd : RLBuilder.DInv b done cur) (hraw : b.data.data.len < U64) :
    gen_RLVector_from_builder m b = RL.ofBuilder m b := by
  apply rl_from_builder_eq_of_inv m b h
  have h1 := hd.size
  have h2 := hd.data_len
  have h3 : b.data.data.len = b.data.len * b.data.width := h.data_wf.2.2.1
  rw [h.data_w] at h3
  rw [U64_eq] at hraw ⊢
  split at h1 <;> omega

/-! ### the hypotheses are needed; the theorems are not vacuous -/

/-- `raw_with_capacity_eq`: at `capacity = 2^64 - 63` the rounding `capacity + 63` of `bits_to_words` overflows -/
theorem raw_with_capacity_ne : gen_RawVector_with_capacity .checked (U64 - 63) = fault (.panic .overflow) := by decide

/-- `int_with_capacity_eq`: the model ignores the capacity, the code computes `capacity * width` and
`bits_to_words` of it in `usize`.  Both overflows are reachable only with a capacity of at least `2^58 - 1` items:
a request the allocator refuses anyway. -/
theorem int_with_capacity_ne :
    gen_IntVector_with_capacity .checked (U64 - 63) 1 = fault (.panic .overflow) ∧
    gen_IntVector_with_capacity .checked (U64 / 2) 2 = fault (.panic .overflow) ∧
    IntVec.withCapacity (U64 - 63) 1 = ok ⟨0, 1, RawVec.empty⟩ ∧
    IntVec.withCapacity (U64 / 2) 2 = ok ⟨0, 2, RawVec.empty⟩ := by decide

/-- `rlb_encode_eq`, `value < U64`: the code takes a `usize`; the first non-representable value is read as 0 -/
theorem rlb_encode_ne_value :
    (gen_RLBuilder_encode .checked {} U64).toOption.map (·.data.len) = some 1 ∧
    (RLBuilder.encode ({} : RLBuilder).data U64).len = 22 := by decide +kernel

/-- `hlen` of `rl_from_builder_eq`: `len` is a `usize`; at `2^64` (not a value of the real code) the rounding of
`SampleIndex::new` overflows in the code only (`sample_index_new_ne_univ`) -/
theorem rl_from_builder_ne_len :
    gen_RLVector_from_builder .checked { len := U64, run := (U64, 0), samples := #[(0, 0)] } =
      fault (.panic .overflow) ∧
    (RL.ofBuilder .checked { len := U64, run := (U64, 0), samples := #[(0, 0)] }).isOk = true := by decide +kernel

/-- `hones`: likewise for `ones = 2^64` (not a value of the real code); with overflow checks both sides panic (the
model later, in `count_zeros`), without them only the code fails -/
theorem rl_from_builder_ne_ones :
    (gen_RLVector_from_builder .wrapping { len := 5, ones := U64, run := (5, 0), samples := #[(0, 0)] }).isOk = false ∧
    (RL.ofBuilder .wrapping { len := 5, ones := U64, run := (5, 0), samples := #[(0, 0)] }).isOk = true := by
  decide +kernel

/-- the order of `bits - ones` and `count_zeros` is unobservable: here both fault (the code in the closure, on the
sample `(1, 0)`; the model in `count_zeros`, `1 - 2`), with the same panic.  And a builder with a pending run: both
sides flush, build the three indexes and the samples. -/
theorem rl_from_builder_examples :
    gen_RLVector_from_builder .checked { len := 1, ones := 2, run := (1, 0), samples := #[(0, 0), (1, 0)] } =
      fault (.panic .overflow) ∧
    RL.ofBuilder .checked { len := 1, ones := 2, run := (1, 0), samples := #[(0, 0), (1, 0)] } =
      fault (.panic .overflow) ∧
    gen_RLVector_from_builder .checked { len := 10, ones := 3, run := (7, 3) } =
      RL.ofBuilder .checked { len := 10, ones := 3, run := (7, 3) } ∧
    (RL.ofBuilder .checked { len := 10, ones := 3, run := (7, 3) }).isOk = true := by decide +kernel

end Sds.GenEq
