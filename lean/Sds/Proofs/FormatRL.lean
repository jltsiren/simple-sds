/-
Proofs/FormatRL: the format specification written from SERIALIZATION.md (`Spec/Format`, namespace `Doc`) against
the codec of the run-length encoded bitvector — continuation of Proofs/Format.lean.  Namespace `Sds.Format2`.

  1.  (→): every vector produced by `From<RLBuilder>` from a builder reached by
      accepted calls has a block layout conforming to the document (`Doc.RLConf`), hence its serialization is a
      run-length encoded bitvector of the document that reads as `(len, maximal runs)`: what the vector is comes from
      `RL.build_built` (Proofs/Glue4: padded blocks, the "next run does not fit" rule, samples of minimal width);
      here `conf_of_suffix`, `minimalWidth_of_lay`, `rl_build_file_follows_format`.
  2a. (←), model side: the loader establishes `RLQ.GoodB` on a file with a given layout (`rlld_load_good`).
  2b. (←), document side: inversion of `Doc.rlInt` / `rlRun` / `rlBlockRuns` / `rlBlocks` under minimal
      encoding (`RLCanon`); `rl_doc_load`.
  2c. concrete files: `rlFileNonCanonical` (document-valid, library panics), `rlFileAdjacent` (not document-valid).
Not proven: see the list at the end of the file.
-/
import Sds.Proofs.Format
import Sds.Proofs.Codec2
import Sds.Proofs.RLQueries
import Sds.Proofs.Glue4
set_option linter.unusedSimpArgs false
set_option linter.unusedVariables false

namespace Sds.Format2
open Sds Outcome RunIter RLBuilder

/-! ## 1. run-length encoded bitvector, direction (→)

### 1.1 the two copies of the list-level vocabulary coincide -/

theorem runUnits_eq (g l : Nat) : Doc.runUnits g l = runUnits g l := rfl

theorem unitsOf_eq : ∀ l : List (Nat × Nat), Doc.unitsOf l = unitsOf l
  | [] => rfl
  | p :: rs => by simp only [Doc.unitsOf, unitsOf, unitsOf_eq rs, runUnits_eq]

theorem lens_eq : ∀ l : List (Nat × Nat), Doc.lens l = lens l
  | [] => rfl
  | p :: rs => by simp only [Doc.lens, lens, lens_eq rs]

theorem span_eq : ∀ l : List (Nat × Nat), Doc.span l = span l
  | [] => rfl
  | p :: rs => by simp only [Doc.span, span, span_eq rs]

theorem absRuns_eq : ∀ (l : List (Nat × Nat)) (n : Nat), Doc.absRuns n l = absRuns n l
  | [], _ => rfl
  | p :: rs, n => by simp only [Doc.absRuns, absRuns, absRuns_eq rs]

/-! ### 1.2 from the layout to the document's conformance predicate -/

theorem noFit_tail : ∀ (a : List (Nat × Nat)) (r : Blocks), NoFit (a :: r) → NoFit r
  | _, [], _ => trivial
  | _, _ :: _, h => h.2

theorem gapsOk_append : ∀ (a b : List (Nat × Nat)) (n : Nat),
    Doc.GapsOk n (a ++ b) ↔ Doc.GapsOk n a ∧ Doc.GapsOk (n + span a) b
  | [], b, n => by simp [Doc.GapsOk, span]
  | p :: a, b, n => by
    simp only [List.cons_append, Doc.GapsOk, span, gapsOk_append a b]
    rw [show n + p.1 + p.2 + span a = n + (p.1 + p.2 + span a) by omega]
    exact and_assoc.symm

/-- **a padded block layout conforms to the document**, block by block: `suf` are the blocks from block `b` on, `n`
bits and `n1` set bits being encoded before them -/
theorem conf_of_suffix (U S : List Nat) (ones nb : Nat) : ∀ (suf : Blocks) (b n n1 : Nat),
    U.drop (64 * b) = padLast suf → b + suf.length = nb →
    (∀ j, j < suf.length → S[2 * (b + j)]? = some (n1 + lens (suf.take j).flatten) ∧
      S[2 * (b + j) + 1]? = some (n + span (suf.take j).flatten)) →
    (∀ blk ∈ suf, blk ≠ [] ∧ Doc.RunsOk blk ∧ (unitsOf blk).length ≤ 64) →
    ones = n1 + lens suf.flatten → NoFit suf → Doc.GapsOk n suf.flatten →
    Doc.RLConf U.toArray S.toArray ones nb b n n1 suf := by
  intro suf
  induction suf with
  | nil => intro b n n1 _ hb _ _ _ _ _; exact Nat.le_of_eq hb.symm
  | cons blk more ihm =>
    intro b n n1 hU hb hS hv hones hnf hg
    have hblk := hv blk (List.mem_cons_self ..)
    have hup : 1 ≤ (unitsOf blk).length :=
      unitsOf_length_pos hblk.1 (fun p hp => ⟨(hblk.2.1 p hp).1, (hblk.2.1 p hp).2.1⟩)
    have h64 : ∀ x ∈ blk :: more, (unitsOf x).length ≤ 64 := fun x hx => (hv x hx).2.2
    rw [List.flatten_cons, gapsOk_append] at hg
    rw [List.flatten_cons, lens_append] at hones
    rw [List.length_cons] at hb
    have hS0 := hS 0 (Nat.succ_pos _)
    simp only [Nat.add_zero, List.take_zero, List.flatten_nil, lens, span] at hS0
    have ih := ihm (b + 1) (n + span blk) (n1 + lens blk)
      (by
        have := padLast_drop (blk :: more) 1 h64 (Nat.le_add_left 1 _)
        rw [Nat.mul_one] at this
        rw [show 64 * (b + 1) = 64 * b + 64 by omega, ← List.drop_drop, hU]
        exact this)
      (by rw [← hb, Nat.add_assoc, Nat.add_comm 1])
      (fun j hj => by
        have := hS (j + 1) (by simpa using hj)
        simp only [List.take_succ_cons, List.flatten_cons, lens_append, span_append] at this
        rw [show b + 1 + j = b + (j + 1) by omega, Nat.add_assoc n1, Nat.add_assoc n]
        exact this)
      (fun x hx => hv x (List.mem_cons_of_mem _ hx)) (by rw [hones, Nat.add_assoc]) (noFit_tail blk more hnf) hg.2
    obtain ⟨rest, hr⟩ := padLast_cons_units blk more
    have hUl := congrArg List.length hU
    rw [List.length_drop, hr, List.length_append] at hUl
    refine ⟨by omega, ?_, ?_, hblk.2.1, hg.1, ⟨rest, by rw [List.toList_toArray, hU, hr, unitsOf_eq]⟩, ?_, ?_, ?_⟩
    · rw [List.getElem?_toArray, hS0.1]; rfl
    · rw [List.getElem?_toArray, hS0.2]; rfl
    · rw [unitsOf_eq, List.size_toArray]; omega
    · rw [unitsOf_eq, lens_eq, List.size_toArray]
      cases more with
      | nil =>
        have : rest = [] := List.append_cancel_left (hr.symm.trans (List.append_nil _).symm)
        subst this
        rw [List.length_nil] at hb hUl
        rw [if_pos (by omega)]
        exact ⟨hones, by omega⟩
      | cons m ms =>
        obtain ⟨⟨p, rs, rfl, hlt⟩, _⟩ := hnf
        simp only [padLast, padBlk, List.append_assoc] at hU hr
        have hrest := List.append_cancel_left hr
        rw [← hrest, List.length_append, List.length_replicate] at hUl
        simp only [List.length_cons] at hb
        rw [if_neg (by omega)]
        refine ⟨?_, ?_, Or.inr ⟨p, rs, ms, rfl, by rw [runUnits_eq]; omega⟩⟩
        · have := (hS 1 (Nat.succ_lt_succ (Nat.succ_pos _))).1
          simp only [List.take_succ_cons, List.take_zero, List.flatten_cons, List.flatten_nil,
            List.append_nil] at this
          rw [List.getElem?_toArray, this]
          rfl
        · intro j hj
          rw [List.getElem?_toArray, Nat.add_assoc, ← List.getElem?_drop, hU,
            List.getElem?_append_right (by omega), Nat.add_sub_cancel_left,
            List.getElem?_append_left (by rw [List.length_replicate]; omega), List.getElem?_replicate,
            if_pos (by omega)]
          rfl
    · rw [span_eq, lens_eq]; exact ih

/-! ### 1.3 what `From<RLBuilder>` produces -/

/-- "Samples as an integer vector with the minimal width necessary" -/
theorem minimalWidth_of_lay (S : List Nat) (bl : Blocks) (w : Nat) (hlen : S.length = 2 * bl.length)
    (hS : ∀ i, i < bl.length → S[2 * i]? = some (RLQ.cumL bl i) ∧ S[2 * i + 1]? = some (RLQ.cumS bl i))
    (hlt : RLQ.cumS bl (bl.length - 1) < 2 ^ 64)
    (hw : w = bitLen (BitVec.ofNat 64 (RLQ.cumS bl (bl.length - 1)))) : Doc.minimalWidth w S = true := by
  have hmax : S.foldl max 0 = RLQ.cumS bl (bl.length - 1) := by
    apply Nat.le_antisymm
    · apply Nat.le_of_lt_succ
      apply foldl_max_lt S 0 _ (Nat.succ_pos _)
      intro x hx
      obtain ⟨k, hk, rfl⟩ := List.getElem_of_mem hx
      have hj : k / 2 < bl.length := by omega
      obtain ⟨g1, g2⟩ := hS (k / 2) hj
      have c := RLQ.cumS_mono bl (k / 2) (bl.length - 1) (by omega)
      have a := RLQ.cumL_le_cumS bl (k / 2)
      rcases Nat.mod_two_eq_zero_or_one k with hm | hm
      · rw [show 2 * (k / 2) = k by omega, List.getElem?_eq_getElem hk] at g1
        injection g1 with g1; omega
      · rw [show 2 * (k / 2) + 1 = k by omega, List.getElem?_eq_getElem hk] at g2
        injection g2 with g2; omega
    · by_cases h0 : bl.length = 0
      · have : bl = [] := List.eq_nil_of_length_eq_zero h0
        subst this
        simp [RLQ.cumS, span]
      · have := (hS (bl.length - 1) (by omega)).2
        exact (le_foldl_max S 0).2 _ (List.mem_of_getElem? this)
  unfold Doc.minimalWidth
  rw [hmax, hw, Doc.bitLength_eq_bitLen _ hlt]
  simp

theorem mem_lens_le : ∀ (l : List (Nat × Nat)) (p : Nat × Nat), p ∈ l → p.2 ≤ lens l
  | q :: l, p, h => by
    rcases List.mem_cons.mp h with rfl | h
    · simp only [lens]; omega
    · have := mem_lens_le l p h; simp only [lens]; omega

theorem gapsOk_of_pos : ∀ (rs : List (Nat × Nat)) (n : Nat), (∀ q ∈ rs, 1 ≤ q.1) → Doc.GapsOk n rs
  | [], _, _ => trivial
  | q :: rs, n, h =>
    ⟨fun h0 => by have := h q (by simp); omega, gapsOk_of_pos rs _ (fun x hx => h x (by simp [hx]))⟩

/-- **(→, run-length encoded bitvector, unconditional).**  Every vector produced by `From<RLBuilder>` from a
builder reached by an accepted history of `try_set` / `set_len` / `set_bit` calls describing the bit sequence `B`
is written as a run-length encoded bitvector of the document, and the document reads its length and exactly the
maximal runs of `B` from it — in particular: width-4 data, two samples per 64-unit block with the minimal width,
each sample = (set bits, bits) before the block, whole runs per block, `0` padding only where the next run does not
fit, no padding in the final block, maximal runs.  In both modes.
(`hsize`: the two integer vectors fit a `usize`-addressed file, as in `Codec2.build_rlWF`.) -/
theorem rl_build_file_follows_format (m : Mode) (calls : List RL.BCall) (hc : ∀ c ∈ calls, RL.callArgsOk c)
    (b : RLBuilder) (hb : RL.runBCalls m calls {} = ok b) (v : RL) (hv : RL.ofBuilder m b = ok v)
    (hsize : 128 * v.samples.len < 2 ^ 64) (rest : Doc.File) :
    Doc.rl ((rlC m).ser v ++ rest) =
      some (((calls.foldl RL.specCall []).length, maximalRuns (calls.foldl RL.specCall [])), rest) ∧
    ∃ bl : Blocks, Doc.RLConf v.data.items.toArray v.samples.items.toArray v.ones ((v.data.len + 63) / 64) 0 0 0 bl ∧
      absRuns 0 bl.flatten = maximalRuns (calls.foldl RL.specCall []) := by
  obtain ⟨bl, g, hruns, e1, _⟩ := RL.build_built m calls hc b hb v hv
  obtain ⟨k1, k2, k3, k4, k5, _⟩ := Codec2.build_rlWF m calls hc b hb v hv hsize
  generalize calls.foldl RL.specCall [] = B at *
  have hlt := g.len_lt
  have hsp := g.span_le
  have hll := lens_le_span bl.flatten
  -- maximal runs: every gap but the first is positive
  have hgaps : Doc.GapsOk 0 bl.flatten := by
    have hg := RL.gaps_of_maximal hruns
    cases hfe : bl.flatten with
    | nil => trivial
    | cons p rs => rw [hfe] at hg; exact ⟨fun _ => rfl, gapsOk_of_pos rs _ hg⟩
  have hvalid : ∀ blk ∈ bl, blk ≠ [] ∧ Doc.RunsOk blk ∧ (unitsOf blk).length ≤ 64 := by
    intro blk hb
    obtain ⟨a1, a2, a3⟩ := g.valid blk hb
    refine ⟨a1, fun p hp => ⟨(a2 p hp).1, (a2 p hp).2, ?_⟩, a3⟩
    have := mem_lens_le bl.flatten p (List.mem_flatten.mpr ⟨blk, hb, hp⟩)
    rw [← U64_eq]; omega
  have hsl := g.smp_len
  have hS : ∀ j, j < bl.length → v.samples.items[2 * j]? = some (RLQ.cumL bl j) ∧
      v.samples.items[2 * j + 1]? = some (RLQ.cumS bl j) := fun j hj => by
    rw [IntVec.items_getElem?, IntVec.items_getElem?, if_pos (by omega), if_pos (by omega), (g.smp j hj).1,
      (g.smp j hj).2]
    exact ⟨rfl, rfl⟩
  have hconf := conf_of_suffix v.data.items v.samples.items v.ones ((v.data.len + 63) / 64) bl 0 0 0
    (by rw [g.data]; rfl) (by omega)
    (fun j hj => by rw [Nat.zero_add, Nat.zero_add, Nat.zero_add]; exact hS j hj) hvalid
    (by rw [Nat.zero_add]; exact g.ones) g.nofit hgaps
  have hmin := minimalWidth_of_lay v.samples.items bl v.samples.width
    (by rw [IntVec.items_length]; exact hsl) hS
    (by have := RLQ.cumS_le bl (bl.length - 1); rw [← U64_eq]; omega) g.smp_w
  have := Doc.rl_ser_of_conf m v k4 k5 k1 k2 g.data_w (by omega) hmin bl hconf
    (by rw [lens_eq]; exact g.ones.symm) (by rw [span_eq]; exact hsp) rest
  rw [absRuns_eq, hruns, e1] at this
  exact ⟨this, bl, hconf, hruns⟩

end Sds.Format2

/-! ## 2a. run-length encoded bitvector: the loader establishes `RLQ.GoodB` on a file with a given block
layout (both modes) -/

namespace Sds.Format2
open Sds Outcome RunIter RLBuilder

theorem rlld_load_good (m : Mode) (lenE onesE : Word) (r r1 rest : Elems) (vs vd : IntVec)
    (bl : List (List (Nat × Nat)))
    (hs : intVecC.load r = ok (vs, r1)) (hd : intVecC.load r1 = ok (vd, rest)) (hvsl : vs.len < 2 ^ 64)
    (hslen : vs.len = 2 * bl.length)
    (hdlen : (vd.len + 63) / 64 = bl.length)
    (hblk : ∀ blk ∈ bl, blk ≠ [] ∧ BlockOK blk)
    (hdata : ∀ i (h : i < bl.length), ∃ tail, vd.items.drop (64 * i) = unitsOf bl[i] ++ tail)
    (hsm : ∀ i, i < bl.length → (vs.getRaw (2 * i)).toNat = RLQ.cumL bl i ∧
                               (vs.getRaw (2 * i + 1)).toNat = RLQ.cumS bl i)
    (hones : onesE.toNat = lens bl.flatten) (hspan : span bl.flatten ≤ lenE.toNat)
    (hgap : ∀ p rest', bl.flatten = p :: rest' → ∀ q ∈ rest', 1 ≤ q.1) :
    ∃ v, (rlC m).load (lenE :: onesE :: r) = ok (v, rest) ∧ RLQ.GoodB v bl ∧
      v.len = lenE.toNat ∧ v.ones = onesE.toNat ∧ v.samples = vs ∧ v.data = vd := by
  have hlenlt : lenE.toNat < U64 := by rw [U64_eq]; exact lenE.isLt
  have honeslt : onesE.toNat < U64 := by rw [U64_eq]; exact onesE.isLt
  have hblen : bl.length + 8 < U64 := by rw [U64_eq]; omega
  have hl2 : vs.len / 2 = bl.length := by omega
  have hle : onesE.toNat ≤ lenE.toNat := by
    have := lens_le_span bl.flatten
    omega
  obtain ⟨c1, c2, c3⟩ := RL.cols_of_samples vs bl hslen hsm
  have hzq : Codec2.zerosColQ m vs (vs.len / 2) = ok (RLQ.zerosCol bl) := by
    rw [← c3]
    refine Codec2.zerosColQ_eq m vs (fun b hb => ?_)
    have := hsm b (by omega)
    rw [this.1, this.2]
    exact RLQ.cumL_le_cumS bl b
  have hgap' : ∀ q ∈ bl.flatten.tail, 1 ≤ q.1 := fun q hq => by
    cases hfe : bl.flatten with
    | nil => rw [hfe] at hq; cases hq
    | cons p rest' => rw [hfe] at hq; exact hgap p rest' hfe q hq
  obtain ⟨ri, si, zi, hri, hsi, hzi, hv, ht⟩ := RLQ.cols_index m bl hblk hblen hones.symm hspan hlenlt hgap'
  have e1 : usizeC.load (lenE :: onesE :: r) = ok (lenE.toNat, onesE :: r) := rfl
  have e2 : usizeC.load (onesE :: r) = ok (onesE.toNat, r) := rfl
  refine ⟨⟨lenE.toNat, onesE.toNat, ri, si, zi, vs, vd⟩, ?_, ?_, rfl, rfl, rfl, rfl⟩
  · rw [Codec2.rlC_load_eq, e1, bind_ok]
    dsimp only
    rw [e2, bind_ok]
    dsimp only
    rw [hs, bind_ok]
    dsimp only
    rw [hd, bind_ok]
    dsimp only
    rw [if_neg (by rw [hl2, hdlen]; exact fun h => h rfl), Codec2.bitsColQ_eq, bind_ok, Codec2.onesColQ_eq,
      bind_ok, hzq, bind_ok, c1, c2, hri, bind_ok, hsi, bind_ok, subM_ok hle, bind_ok, hzi, bind_ok]
    rfl
  · exact ⟨hlenlt, hslen, hblk, hdata, by show vd.len ≤ _; omega, fun i hi => (hsm i hi).1,
      fun i hi => (hsm i hi).2, hones, hspan, fun hne => (hv hne).1, fun hne => (hv hne).2.1,
      fun hne => (hv hne).2.2, ht⟩

end Sds.Format2

namespace Sds.Format2
open Sds Outcome RunIter RLBuilder

/-! ## 2b. run-length encoded bitvector, direction (←): inversion of the document's decoder -/

/-- every integer of the data is minimally encoded: no continuation unit (`8..15`) is followed by a unit `0`
(a most significant group of data bits that is zero).  The document does not say so; see the finding
`rl_noncanonical_*` below. -/
def RLCanon (U : Array Nat) : Prop := ∀ i : Nat, 8 ≤ U[i]?.getD 0 → U[i + 1]?.getD 0 ≠ 0

theorem rlInt_inv (U : Array Nat) (stop : Nat) (hstop : stop ≤ U.size) (h16 : ∀ i : Nat, U[i]?.getD 0 < 16)
    (hc : RLCanon U) : ∀ (fuel pos shift acc val p : Nat),
    Doc.rlInt U stop fuel pos shift acc = some (val, p) →
    ∃ x, val = acc + x <<< shift ∧ pos < p ∧ p ≤ stop ∧ (U[pos]?.getD 0 ≠ 0 → x ≠ 0) ∧
      ∀ F, 1 ≤ F → x < 8 ^ F → U.toList.drop pos = encodeUnits F x ++ U.toList.drop p := by
  intro fuel
  induction fuel with
  | zero => intro pos shift acc val p h; cases h
  | succ fuel ih =>
    intro pos shift acc val p h
    by_cases hps : stop ≤ pos
    · rw [Doc.rlInt, if_pos hps] at h; cases h
    have hu16 := h16 pos
    have hcan := hc pos
    have hdrop : U.toList.drop pos = U[pos]?.getD 0 :: U.toList.drop (pos + 1) := by
      have hlt : pos < U.size := by omega
      rw [List.drop_eq_getElem_cons (by simpa using hlt), Array.getElem?_eq_getElem hlt]; rfl
    rw [Doc.rlInt_succ U fuel shift acc (Nat.lt_of_not_le hps) rfl] at h
    generalize U[pos]?.getD 0 = u at h hu16 hdrop hcan
    by_cases hfl : u / 8 % 2 = 1
    · -- a continuation unit `a + 8`: by `RLCanon` the integer read from the following units is not 0
      obtain ⟨a, ha, rfl⟩ : ∃ a, a < 8 ∧ u = a + 8 := ⟨u - 8, by omega, by omega⟩
      rw [if_pos hfl, Nat.add_mod_right, Nat.mod_eq_of_lt ha] at h
      obtain ⟨x', e1, e2, e3, e4, e5⟩ := ih _ _ _ _ _ h
      have hx' : x' ≠ 0 := e4 (hcan (Nat.le_add_left 8 a))
      refine ⟨a + 8 * x', by rw [e1, Nat.add_assoc, Doc.shiftLeft_step], by omega, e3, fun _ => by omega, ?_⟩
      intro F hF hx
      obtain ⟨F, rfl⟩ : ∃ k, F = k + 1 := ⟨F - 1, by omega⟩
      have hx'lt : x' < 8 ^ F := by rw [Nat.pow_succ] at hx; omega
      have hF' : 1 ≤ F := by
        cases F with
        | zero => exact absurd hx'lt (by omega)
        | succ _ => omega
      rw [encodeUnits_succ, if_pos (by omega), hdrop, e5 F hF' hx'lt, Nat.add_mul_mod_self_left,
        Nat.mod_eq_of_lt ha, Nat.add_mul_div_left _ _ (by decide), Nat.div_eq_of_lt ha, Nat.zero_add,
        List.cons_append]
    · rw [if_neg hfl] at h
      simp only [Option.some.injEq, Prod.mk.injEq] at h
      obtain ⟨rfl, rfl⟩ := h
      have hu8 : u < 8 := by omega
      refine ⟨u, by rw [Nat.mod_eq_of_lt hu8], Nat.lt_succ_self _, Nat.lt_of_not_le hps, fun h0 => h0, ?_⟩
      intro F hF hx
      obtain ⟨F, rfl⟩ : ∃ k, F = k + 1 := ⟨F - 1, by omega⟩
      rw [encodeUnits_succ, if_neg (Nat.not_lt.mpr (Nat.le_of_lt_succ hu8)), hdrop, List.cons_append, List.nil_append]
theorem rlRun_inv (U : Array Nat) (stop : Nat) (hstop : stop ≤ U.size) (h16 : ∀ i : Nat, U[i]?.getD 0 < 16)
    (hc : RLCanon U) (pos n0 l p : Nat) (h : Doc.rlRun U stop pos = some (n0, l, p)) :
    1 ≤ l ∧ pos < p ∧ p ≤ stop ∧ (n0 < 2 ^ 64 → l - 1 < 2 ^ 64 →
      U.toList.drop pos = runUnits n0 l ++ U.toList.drop p ∧ p = pos + (runUnits n0 l).length) := by
  unfold Doc.rlRun at h
  simp only [Option.bind_eq_bind] at h
  obtain ⟨⟨v1, p1⟩, h1, h⟩ := Option.bind_eq_some_iff.mp h
  obtain ⟨⟨v2, p2⟩, h2, h⟩ := Option.bind_eq_some_iff.mp h
  simp only [Option.some.injEq, Prod.mk.injEq] at h
  obtain ⟨rfl, rfl, rfl⟩ := h
  obtain ⟨x1, a1, a2, a3, _, a5⟩ := rlInt_inv U stop hstop h16 hc _ _ _ _ _ _ h1
  obtain ⟨x2, b1, b2, b3, _, b5⟩ := rlInt_inv U stop hstop h16 hc _ _ _ _ _ _ h2
  simp only [Nat.shiftLeft_zero, Nat.zero_add] at a1 b1
  subst a1; subst b1
  refine ⟨by omega, by omega, b3, fun hn hl => ?_⟩
  have h823 : (2 : Nat) ^ 64 ≤ 8 ^ 23 := by decide
  have e1 := a5 23 (by omega) (by omega)
  have e2 := b5 23 (by omega) (by rw [Nat.add_sub_cancel] at hl; omega)
  have hl1 := congrArg List.length e1
  have hl2 := congrArg List.length e2
  simp only [List.length_drop, List.length_append, Array.length_toList] at hl1 hl2
  unfold runUnits
  rw [Nat.add_sub_cancel, List.append_assoc, ← e2, List.length_append]
  exact ⟨e1, by omega⟩

/-- converse of `Doc.rlBlockRuns_units` under `RLCanon`: whatever the document's run loop accepts up to `target` ones is
`absRuns n blk` for a `blk` whose codes are exactly the units consumed — one `rlRun_inv` per round, induction on the
fuel -/
theorem rlBlockRuns_inv (U : Array Nat) (stop : Nat) (hstop : stop ≤ U.size)
    (h16 : ∀ i : Nat, U[i]?.getD 0 < 16) (hc : RLCanon U) (target : Nat) :
    ∀ (fuel pos n n1 : Nat) (runs : List (Nat × Nat)) (p n' : Nat),
    Doc.rlBlockRuns U stop target fuel pos n n1 = some (runs, p, n') → n' < 2 ^ 64 →
    ∃ blk : List (Nat × Nat), runs = absRuns n blk ∧ n' = n + span blk ∧ target = n1 + lens blk ∧
      (∀ q ∈ blk, q.1 < 2 ^ 64 ∧ 1 ≤ q.2) ∧ Doc.GapsOk n blk ∧
      U.toList.drop pos = unitsOf blk ++ U.toList.drop p ∧ p = pos + (unitsOf blk).length ∧
      (blk ≠ [] → p ≤ stop) := by
  intro fuel
  induction fuel with
  | zero => intro pos n n1 runs p n' h; cases h
  | succ fuel ih =>
    intro pos n n1 runs p n' h hn'
    rw [Doc.rlBlockRuns] at h
    by_cases ht : n1 = target
    · rw [if_pos ht] at h
      obtain ⟨rfl, he⟩ := Prod.mk.inj (Option.some.inj h)
      obtain ⟨rfl, rfl⟩ := Prod.mk.inj he
      exact ⟨[], rfl, rfl, ht.symm, fun _ hq => absurd hq List.not_mem_nil, trivial, rfl, rfl,
        fun hne => absurd rfl hne⟩
    rw [if_neg ht] at h
    by_cases hgt : n1 > target
    · rw [if_pos hgt] at h; cases h
    rw [if_neg hgt] at h
    simp only [Option.bind_eq_bind] at h
    obtain ⟨⟨n0, l, p1⟩, hr, h⟩ := Option.bind_eq_some_iff.mp h
    obtain ⟨hz, h⟩ := Doc.ite_none_eq_some h
    obtain ⟨⟨runs', p', n''⟩, hrec, h⟩ := Option.bind_eq_some_iff.mp h
    dsimp only at hz hrec h
    obtain ⟨rfl, he⟩ := Prod.mk.inj (Option.some.inj h)
    obtain ⟨rfl, rfl⟩ := Prod.mk.inj he
    obtain ⟨blk', c1, c2, c3, c4, c5, c6, c7, c8⟩ := ih _ _ _ _ _ _ hrec hn'
    obtain ⟨d1, d2, d3, d4⟩ := rlRun_inv U stop hstop h16 hc _ _ _ _ hr
    obtain ⟨d5, d6⟩ := d4 (by omega) (by omega)
    refine ⟨(n0, l) :: blk', by simp only [absRuns, c1], by simp only [span]; omega,
      by simp only [lens]; omega, ?_, ⟨fun h0 => Decidable.byContradiction fun hn => hz ⟨h0, hn⟩, c5⟩, ?_, ?_,
      fun _ => ?_⟩
    · intro q hq
      rcases List.mem_cons.mp hq with rfl | hq
      · exact ⟨by show n0 < 2 ^ 64; omega, d1⟩
      · exact c4 q hq
    · simp only [unitsOf]; rw [List.append_assoc, ← c6]; exact d5
    · simp only [unitsOf, List.length_append]; omega
    · by_cases hb : blk' = []
      · subst hb; simp only [unitsOf, List.length_nil, Nat.add_zero] at c7; omega
      · exact c8 hb

/-- what the acceptance of the blocks `b, b+1, …` by the document's decoder says about the file: the blocks
`suf` (runs relative to their predecessor), and for each of them its two samples and its codes -/
theorem rlBlocks_inv (U S : Array Nat) (ones nb : Nat) (hnb : nb = (U.size + 63) / 64)
    (h16 : ∀ i : Nat, U[i]?.getD 0 < 16) (hc : RLCanon U) :
    ∀ (fuel b n n1 : Nat) (runs : List (Nat × Nat)) (nEnd n1End : Nat),
    Doc.rlBlocks U S ones nb fuel b n n1 = some (runs, nEnd, n1End) → nEnd < 2 ^ 64 →
    ∃ suf : Blocks, suf.length = nb - b ∧ runs = absRuns n suf.flatten ∧ nEnd = n + span suf.flatten ∧
      n1End = n1 + lens suf.flatten ∧ (suf ≠ [] → n1End = ones) ∧ Doc.GapsOk n suf.flatten ∧
      ∀ j (h : j < suf.length),
        S[2 * (b + j)]?.getD 0 = n1 + lens (suf.take j).flatten ∧
        S[2 * (b + j) + 1]?.getD 0 = n + span (suf.take j).flatten ∧
        suf[j] ≠ [] ∧ (∀ q ∈ suf[j], q.1 < 2 ^ 64 ∧ 1 ≤ q.2) ∧
        (∃ tail, U.toList.drop (64 * (b + j)) = unitsOf suf[j] ++ tail) ∧ (unitsOf suf[j]).length ≤ 64 := by
  intro fuel
  induction fuel with
  | zero => intro b n n1 runs nEnd n1End h; cases h
  | succ fuel ih =>
    intro b n n1 runs nEnd n1End h hE
    rw [Doc.rlBlocks_succ] at h
    by_cases hb : b ≥ nb
    · rw [if_pos hb] at h
      obtain ⟨rfl, he⟩ := Prod.mk.inj (Option.some.inj h)
      obtain ⟨rfl, rfl⟩ := Prod.mk.inj he
      exact ⟨[], by rw [List.length_nil]; omega, rfl, rfl, rfl, fun hne => absurd rfl hne, trivial,
        fun j h => absurd h (Nat.not_lt_zero _)⟩
    rw [if_neg hb] at h
    obtain ⟨hsm, h⟩ := Doc.ite_none_eq_some h
    -- all that is needed of `nb` being the number of blocks
    have hstart : 64 * b < U.size := by omega
    have hlast : b + 1 ≥ nb → U.size ≤ 64 * b + 64 := by omega
    have hmid : ¬ b + 1 ≥ nb → 64 * b + 64 < U.size := by omega
    clear hnb
    generalize htg : (if decide (b + 1 ≥ nb) = true then ones else S[2 * (b + 1)]?.getD 0) = target at h
    cases hbr : Doc.rlBlockRuns U (min (64 * b + 64) U.size) target 64 (64 * b) n n1 with
    | none => rw [hbr] at h; cases h
    | some rb =>
      obtain ⟨runsb, pos, n'⟩ := rb
      rw [hbr] at h
      obtain ⟨hpad, h⟩ := Doc.ite_none_eq_some h
      cases hrec : Doc.rlBlocks U S ones nb fuel (b + 1) n' target with
      | none => rw [hrec] at h; cases h
      | some rr =>
        obtain ⟨more, nE, n1E⟩ := rr
        rw [hrec] at h
        obtain ⟨rfl, he⟩ := Prod.mk.inj (Option.some.inj h)
        obtain ⟨rfl, rfl⟩ := Prod.mk.inj he
        obtain ⟨suf', s1, s2, s3, s4, s5, s6, s7⟩ := ih _ _ _ _ _ _ hrec hE
        obtain ⟨blk, c1, c2, c3, c4, c5, c6, c7, c8⟩ :=
          rlBlockRuns_inv U _ (Nat.min_le_right _ _) h16 hc target _ _ _ _ _ _ _ hbr (by omega)
        -- the block is not empty: otherwise the padding rule is violated
        have hne : blk ≠ [] := by
          intro he
          subst he
          simp only [unitsOf, List.length_nil, Nat.add_zero] at c7
          subst c7
          have hp := (Doc.padOk_eq_true U _ _ _).mp (by simpa using hpad)
          by_cases hfin : b + 1 ≥ nb
          · have := hlast hfin
            simp only [hfin, decide_true, if_true] at hp; omega
          · have := hmid hfin
            simp only [hfin, decide_false, Bool.false_eq_true, if_false] at hp
            rcases hp.2 with heq | ⟨g, l, p, hrr, hlt⟩
            · omega
            · have := (rlRun_inv U _ (Nat.min_le_right _ _) h16 hc _ _ _ _ hrr).2.2.1
              omega
        have hp := c8 hne
        refine ⟨blk :: suf', by simp only [List.length_cons, s1]; omega, ?_, ?_, ?_, fun _ => ?_, ?_, ?_⟩
        · rw [List.flatten_cons, absRuns_append, c1, s2, c2]
        · rw [List.flatten_cons, span_append, s3, c2]; omega
        · rw [List.flatten_cons, lens_append, s4, c3]; omega
        · by_cases hs' : suf' = []
          · subst hs'
            have hfin : b + 1 ≥ nb := by simp at s1; omega
            simp only [hfin, decide_true, if_true] at htg
            rw [s4, ← htg]; simp [lens]
          · exact s5 hs'
        · rw [List.flatten_cons, gapsOk_append, ← c2]
          exact ⟨c5, s6⟩
        · have hsm' := not_or.mp hsm
          intro j hj
          cases j with
          | zero =>
            simp only [Nat.add_zero, List.take_zero, List.flatten_nil, lens, span, List.getElem_cons_zero]
            exact ⟨Decidable.of_not_not hsm'.1, Decidable.of_not_not hsm'.2, hne, c4, ⟨_, c6⟩, by omega⟩
          | succ j =>
            have := s7 j (by simpa using hj)
            rw [show b + 1 + j = b + (j + 1) by omega, c2, c3] at this
            simp only [List.take_succ_cons, List.flatten_cons, lens_append, span_append, List.getElem_cons_succ]
            rw [← Nat.add_assoc n1, ← Nat.add_assoc n]
            exact this

theorem gaps_pos : ∀ (rs : List (Nat × Nat)) (n : Nat), Doc.GapsOk n rs → 0 < n → ∀ q ∈ rs, 1 ≤ q.1
  | [], _, _, _, q, hq => by cases hq
  | p :: rs, n, h, hn, q, hq => by
    rcases List.mem_cons.mp hq with rfl | hq
    · have := h.1; omega
    · exact gaps_pos rs _ h.2 (by omega) q hq

/-- the code units of the data vector of a run-length encoded bitvector file -/
def rlDataUnits (es : Doc.File) : Option (List Nat) := do
  let (_, r) ← Doc.elem es
  let (_, r) ← Doc.elem r
  let (_, r) ← Doc.intVector r
  let ((_, U), _) ← Doc.intVector r
  some U

/-- what `Doc.rl` accepts -/
theorem rl_eq_some {es rest : Doc.File} {len : Nat} {runs : List (Nat × Nat)}
    (h : Doc.rl es = some ((len, runs), rest)) :
    ∃ (lenE onesE : Word) (r r1 : Doc.File) (sw : Nat) (S U : List Nat) (n : Nat),
      es = lenE :: onesE :: r ∧ lenE.toNat = len ∧ Doc.intVector r = some ((sw, S), r1) ∧
      Doc.intVector r1 = some ((4, U), rest) ∧ S.length = 2 * ((U.length + 63) / 64) ∧
      Doc.minimalWidth sw S = true ∧
      Doc.rlBlocks U.toArray S.toArray onesE.toNat ((U.length + 63) / 64) ((U.length + 63) / 64 + 1) 0 0 0 =
        some (runs, n, onesE.toNat) ∧ n ≤ len := by
  match es, h with
  | [], h => cases h
  | [_], h => cases h
  | lenE :: onesE :: r, h =>
    unfold Doc.rl at h
    simp only [Doc.elem_cons, Option.bind_eq_bind, Option.bind_some] at h
    obtain ⟨⟨⟨sw, S⟩, r1⟩, h1, h⟩ := Option.bind_eq_some_iff.mp h
    obtain ⟨⟨⟨uw, U⟩, r2⟩, h2, h⟩ := Option.bind_eq_some_iff.mp h
    obtain ⟨hck, h⟩ := Doc.ite_none_eq_some h
    obtain ⟨⟨runs', n, n1⟩, h3, h⟩ := Option.bind_eq_some_iff.mp h
    obtain ⟨huw, hck⟩ := not_or.mp hck
    obtain ⟨hsl, hmw⟩ := not_or.mp hck
    obtain rfl : uw = 4 := Decidable.of_not_not huw
    by_cases hfin : n1 = onesE.toNat ∧ n ≤ lenE.toNat
    · rw [if_pos hfin] at h
      obtain ⟨rfl, hle⟩ := hfin
      obtain ⟨he, rfl⟩ := Prod.mk.inj (Option.some.inj h)
      obtain ⟨rfl, rfl⟩ := Prod.mk.inj he
      exact ⟨lenE, onesE, r, r1, sw, S, U, n, rfl, rfl, h1, h2, Decidable.of_not_not hsl,
        (Bool.not_eq_false _).mp hmw, h3, hle⟩
    · rw [if_neg hfin] at h; cases h

/-- **(←, run-length encoded bitvector).**  Every element list the document accepts as a run-length encoded
bitvector of length `len` with the runs `runs`, in which every integer is minimally encoded (`RLCanon`), is loaded
by the library (in both modes), leaving the same rest, into a vector that is `RLQ.Good` for `runs` — the hypothesis
of all query theorems of C03 (`RLQ.Good.get`, `.rank`, `.select`, `.selectZero`, `.successor`, `.predecessor`, the
iterators). -/
theorem rl_doc_load (m : Mode) (es rest : Doc.File) (len : Nat) (runs : List (Nat × Nat))
    (h : Doc.rl es = some ((len, runs), rest))
    (hcan : ∀ U, rlDataUnits es = some U → RLCanon U.toArray) :
    ∃ v, (rlC m).load es = ok (v, rest) ∧ RLQ.Good v runs ∧ v.len = len := by
  obtain ⟨lenE, onesE, r, r1, sw, S, U, n, rfl, hlen, h1, h2, hsl, _, hbl, hn⟩ := rl_eq_some h
  have hcanU : RLCanon U.toArray := hcan U (by
    simp only [rlDataUnits, Doc.elem_cons, Option.bind_eq_bind, Option.bind_some, h1, h2])
  obtain ⟨vs, ls, wfs, hvsl, _, _, its⟩ := Doc.intVector_load h1
  obtain ⟨vd, ld, wfd, _, _, wd, itd⟩ := Doc.intVector_load h2
  have h16 : ∀ i : Nat, U.toArray[i]?.getD 0 < 16 := by
    intro i
    rw [List.getElem?_toArray]
    cases hi : U[i]? with
    | none => decide
    | some x =>
      have hx : x ∈ vd.items := by rw [itd]; exact List.mem_of_getElem? hi
      have := IntVec.items_lt wfd x hx
      rw [wd] at this
      exact this
  have hnlt : n < 2 ^ 64 := by have := lenE.isLt; omega
  obtain ⟨bl, b1, b2, b3, b4, _, hgaps, hidx⟩ := rlBlocks_inv U.toArray S.toArray onesE.toNat ((U.length + 63) / 64)
    (by rw [List.size_toArray]) h16 hcanU _ _ _ _ _ _ _ hbl hnlt
  rw [Nat.sub_zero] at b1
  rw [Nat.zero_add] at b3 b4
  have hsl' : vs.len = 2 * bl.length := by rw [← IntVec.items_length, its, hsl, b1]
  have hdl' : vd.len = U.length := by rw [← IntVec.items_length, itd]
  obtain ⟨v, hv, g, e1, _⟩ := rlld_load_good m lenE onesE r r1 rest vs vd bl ls ld hvsl hsl'
    (by rw [hdl', b1])
    (by
      intro blk hb
      obtain ⟨j, hj, rfl⟩ := List.getElem_of_mem hb
      obtain ⟨_, _, a3, a4, _, a6⟩ := hidx j hj
      exact ⟨a3, a4, a6⟩)
    (by
      intro i hi
      obtain ⟨_, _, _, _, a5, _⟩ := hidx i hi
      rw [Nat.zero_add, List.toList_toArray, ← itd] at a5
      exact a5)
    (by
      intro i hi
      obtain ⟨a1, a2, _⟩ := hidx i hi
      rw [Nat.zero_add, Nat.zero_add, List.getElem?_toArray, ← its, IntVec.items_getElem?,
        if_pos (by omega)] at a1 a2
      exact ⟨a1, a2⟩)
    b4 (by rw [← b3, hlen]; exact hn)
    (by
      intro p rest' hfe q hq
      rw [hfe] at hgaps
      have hp2 : 1 ≤ p.2 := by
        have hp : p ∈ bl.flatten := by rw [hfe]; simp
        obtain ⟨blk, hb, hpb⟩ := List.mem_flatten.mp hp
        obtain ⟨j, hj, rfl⟩ := List.getElem_of_mem hb
        exact ((hidx j hj).2.2.2.1 p hpb).2
      exact gaps_pos rest' _ hgaps.2 (by omega) q hq)
  exact ⟨v, hv, ⟨bl, g, b2⟩, by rw [e1, hlen]⟩

end Sds.Format2

/-! ### 2c. concrete files: findings and non-vacuity -/

namespace Sds.Format2
open Sds Outcome

/-- **Finding (document silent on minimal encodings).**  The bit sequence `1` (one run `(n0, n1) = (0, 1)`, encoded as
the integers `(0, 0)`) written with the integer `n0 = 0` spread over 23 code units: 22 continuation units `8`
(flag set, data `000`) and a final `0`; then `n1 - 1 = 0` as one unit.  Elements: length 1, one set bit, samples
`[0, 0]` of width 1, 24 code units of width 4. -/
def rlFileNonCanonical : Doc.File :=
  [1, 1, 2, 1, 2, 1, 0, 24, 4, 96, 2, 0x8888888888888888, 0x888888]

/-- The document's rules ("4-bit code units, lowest 3 bits data, if the high bit is set the encoding continues in
the next unit") read it as the vector `1`: the document does not require the minimal number of units. -/
theorem rl_noncanonical_doc_valid : Doc.rl rlFileNonCanonical = some ((1, [(0, 1)]), []) := by decide +kernel

/-- … the library loads it, and `get(0)` then panics: the 23rd unit is shifted by 66 bits (`rl_vector.rs`, `decode`:
`(code & CODE_MASK) << shift` overflows in a debug build; the model marks the same point in wrapping mode, where
the real shift amount is masked, as outside its domain). -/
theorem rl_noncanonical_loads_then_panics :
    ((rlC .checked).load rlFileNonCanonical).isOk = true ∧
    ((rlC .checked).load rlFileNonCanonical >>= fun p => p.1.get .checked 0) = fault (.panic .overflow) ∧
    ((rlC .wrapping).load rlFileNonCanonical >>= fun p => p.1.get .wrapping 0) = fault (.panic .other) := by
  decide +kernel

/-- it is excluded from `rl_doc_load` by `RLCanon` only -/
theorem rl_noncanonical_not_canon :
    ∃ U, rlDataUnits rlFileNonCanonical = some U ∧ ¬ RLCanon U.toArray := by
  refine ⟨List.replicate 22 8 ++ [0, 0], by decide +kernel, fun h => ?_⟩
  exact h 21 (by decide) (by decide)

/-- a non-minimal encoding that stays within 22 units (`n0 = 0` as `8, 0`) is read correctly by both sides — `RLCanon`
is sufficient, not necessary, for a correct load; such a vector is not `RLQ.Good` (its data is not the
canonical code of its runs), so the query theorems do not apply to it -/
theorem rl_short_noncanonical_answers :
    Doc.rl [1, 1, 2, 1, 2, 1, 0, 3, 4, 12, 1, 0x008] = some ((1, [(0, 1)]), []) ∧
    ((rlC .checked).load [1, 1, 2, 1, 2, 1, 0, 3, 4, 12, 1, 0x008] >>= fun p => p.1.get .checked 0) = ok true := by
  decide +kernel

/-- **Adjacent runs.**  The bits `11` written as two runs `(0, 1), (0, 1)` (second gap 0): the document says "a
sequence of maximal runs", `Doc.rl` refuses the file; the loader, which does not decode the blocks, accepts it. -/
def rlFileAdjacent : Doc.File := [2, 2, 2, 1, 2, 1, 0, 4, 4, 16, 1, 0]

theorem rl_adjacent_runs_not_document_valid :
    Doc.rl rlFileAdjacent = none ∧ ((rlC .checked).load rlFileAdjacent).isOk = true := by decide +kernel

/-- non-vacuity of `rl_doc_load`: the vector `0110` (one run `(1, 2)`: integers `1, 1`) -/
def rlFileSmall : Doc.File := [4, 2, 2, 1, 2, 1, 0, 2, 4, 8, 1, 0x11]

theorem rl_small_doc_valid : Doc.rl rlFileSmall = some ((4, [(1, 2)]), []) := by decide +kernel

theorem rl_small_loads (m : Mode) :
    ∃ v, (rlC m).load rlFileSmall = ok (v, []) ∧ RLQ.Good v [(1, 2)] ∧ v.len = 4 := by
  refine rl_doc_load m _ _ _ _ rl_small_doc_valid ?_
  intro U hU
  have : U = [1, 1] := by
    have h2 : rlDataUnits rlFileSmall = some [1, 1] := by decide +kernel
    rw [h2] at hU; exact (Option.some.inj hU).symm
  subst this
  intro i h
  match i, h with
  | 0, h => simp at h
  | 1, h => simp at h
  | i + 2, h => simp at h

end Sds.Format2

/-! ### not proven

1. (→) is stated under `128 * v.samples.len < 2^64` (the two integer vectors fit a `usize`-addressed
   file; same condition as `Codec2.build_rlWF`).
2. (←) needs `RLCanon` (minimal integer encodings): without it the statement is false
   (`rl_noncanonical_*`).  Files with non-minimal encodings of at most 22 units are read correctly by the model
   (`rl_short_noncanonical_answers` is one instance) but are not `RLQ.Good`; no general theorem covers them.
   That every file WRITTEN by the library satisfies `RLCanon` is not stated separately (it loads back by the round
   trip of C06, `Codec2.build_roundtrip`).
-/
