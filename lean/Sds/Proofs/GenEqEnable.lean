/-
Proofs/GenEqEnable: `supports_*` / `enable_*` of `bit_vector.rs` as TRANSLATED from the source
(Generated/FnsEnable.lean) are equal to the model's `BitVector.enableRank / enableSelect / enableSelectZero`
(Model/BitVector.lean).  `enable_pred_succ` is `enable_rank` followed by `enable_select`.  No hypotheses.
-/
import Sds.Generated.FnsEnable

namespace Sds.GenEq
open Sds Outcome Generated

theorem supports_rank_eq (m : Mode) (b : BitVector) : gen_BitVector_supports_rank m b = ok b.rank.isSome := rfl
theorem supports_select_eq (m : Mode) (b : BitVector) : gen_BitVector_supports_select m b = ok b.select.isSome := rfl
theorem supports_select_zero_eq (m : Mode) (b : BitVector) :
    gen_BitVector_supports_select_zero m b = ok b.selectZero.isSome := rfl
theorem supports_pred_succ_eq (m : Mode) (b : BitVector) :
    gen_BitVector_supports_pred_succ m b = ok (b.rank.isSome && b.select.isSome) := rfl

theorem enable_rank_eq (m : Mode) (b : BitVector) : gen_BitVector_enable_rank m b = ok b.enableRank := by
  obtain ⟨o, d, r, s, z⟩ := b
  cases r <;> rfl

theorem enable_select_eq (m : Mode) (b : BitVector) : gen_BitVector_enable_select m b = ok b.enableSelect := by
  obtain ⟨o, d, r, s, z⟩ := b
  cases s <;> rfl

theorem enable_select_zero_eq (m : Mode) (b : BitVector) :
    gen_BitVector_enable_select_zero m b = ok b.enableSelectZero := by
  obtain ⟨o, d, r, s, z⟩ := b
  cases z <;> rfl

theorem enable_pred_succ_eq (m : Mode) (b : BitVector) :
    gen_BitVector_enable_pred_succ m b = ok b.enableRank.enableSelect := by
  obtain ⟨o, d, r, s, z⟩ := b
  cases r <;> cases s <;> rfl

theorem enable_pred_succ_eq_bind (m : Mode) (b : BitVector) :
    gen_BitVector_enable_pred_succ m b = (gen_BitVector_enable_rank m b).bind (gen_BitVector_enable_select m) := by
  rw [enable_pred_succ_eq, enable_rank_eq]
  show _ = gen_BitVector_enable_select m b.enableRank
  rw [enable_select_eq]

theorem supports_rank_enable_rank (m : Mode) (b : BitVector) :
    gen_BitVector_supports_rank m b.enableRank = ok true := by
  obtain ⟨o, d, r, s, z⟩ := b
  cases r <;> rfl

theorem supports_pred_succ_enable (m : Mode) (b : BitVector) :
    gen_BitVector_supports_pred_succ m b.enableRank.enableSelect = ok true := by
  obtain ⟨o, d, r, s, z⟩ := b
  cases r <;> cases s <;> rfl

end Sds.GenEq
