/-
Proofs/FormatWM: the plain wavelet matrix against the format specification written from SERIALIZATION.md
(`Spec/Format`, namespace `Doc`), both directions.  The document's walk in closed form, offset by offset (`wmWalk_eq`:
`wmPos`, `wmVal`), is what both rest on.
(→) `Doc.wmPlaces_cols`, `Doc.wmItems_cols`, `Doc.wmFirst_cols` (the walk over the bit columns of `V` reads `V`, and the
    `first` vector the document prescribes), `Doc.wmCore_ser`, `Doc.wm_ser_ofValues`.
(←) `wm_levels_eq_cols` (converse of `Doc.wmItems_cols`), `wm_doc_load` (the loader through `wmCoreC_loads_levels`: a
    level without optional structures is a serialized `BitVector::from`, `wmPlain_ser`); files `wmFileGarbage`, `wmFileWrongRank`
    (present optional structures).
Not proven: see the list at the end of the file.
-/
import Sds.Proofs.Format
import Sds.Proofs.Codec2
set_option linter.unusedSimpArgs false
set_option linter.unusedVariables false


/-! Direction (←) of C07 for the plain wavelet matrix:

  (W1) `wm_levels_eq_cols`: a level list the document walks (`w` levels of one length `len`, `1 ≤ w`) IS the
       column decomposition `col w V` of the items `V := Doc.wmItems levels len` the document reads from it; the
       items are `len` numbers below `2 ^ w`.  (Converse of `Doc.wmItems_cols`.)
  (W2) `wm_doc_load`: a file the document accepts as a plain wavelet matrix with items `V`, in which the three
       optional structures of every level are absent (`wmFilePlain`, a condition on the file), is loaded by
       `WaveletMatrix::load` into a matrix `x` with `x.Ok V width` — the hypothesis of every query theorem of
       C04 / C06 — where `width` is the width element of the file.
       Hypotheses: `wmFilePlain es` (needed: see W3) and `V.length < 2 ^ 63` (`WMCore.Encodes.len_lt`, the bound
       under which the rank / select supports built by `init_support` are valid; a file violating it has
       levels of at least 2^57 elements, so it cannot be tested by running).
  (W3) the hypotheses on concrete files, closed examples at the end:
       `wm_example_loads` (non-vacuity); `wm_optional_garbage_accepted` / `_refused` and
       `wm_optional_wrong_rank_accepted` / `_loaded` / `_rank` / `_get`: document-valid files with a PRESENT optional
       structure on which the loader fails, resp. loads and answers `rank` wrongly / panics in `get`;
       `wm_width_zero`, `wm_empty_alphabet`: the CHOICE readings 2 and 3 of Spec/Format against the loader.
The loader `wmC.load` does not depend on the build mode; `WM.Ok` is the hypothesis of the query theorems of
Proofs/WM, which hold for every mode.
-/


namespace Sds
open Outcome
namespace Format2
open Doc Codec2

/-! ### the document's walk, offset by offset -/

/-- the map of one level as the walk uses it (`Doc.levelMap_eq`: this is `Doc.mapDown B p` for `p < B.length`) -/
def wmDown (B : List Bool) (p : Nat) : Nat := (levelMap B)[p]?.getD 0

/-- position on level `l` of the offset that is at position `p` on the first level of `ls` -/
def wmPos : List (List Bool) → Nat → Nat → Nat
  | _, 0, p => p
  | [], _ + 1, p => p
  | B :: ls, l + 1, p => wmPos ls l (wmDown B p)

/-- the value the walk adds below position `p` of the first level of `ls` -/
def wmVal : List (List Bool) → Nat → Nat
  | [], _ => 0
  | B :: ls, p => 2 ^ ls.length * (B[p]?.getD false).toNat + wmVal ls (wmDown B p)

/-- the walk, offset by offset: final position, accumulated value -/
theorem wmWalk_eq : ∀ (ls : List (List Bool)) (cur : List (Nat × Nat)),
    wmWalk ls cur = cur.map fun pv => (wmPos ls ls.length pv.1, pv.2 + wmVal ls pv.1)
  | [], cur => by simp [wmWalk, wmPos, wmVal]
  | B :: ls, cur => by
    rw [wmWalk, wmWalk_eq ls, List.map_map]
    apply List.map_congr_left
    intro pv _
    simp only [Function.comp, List.length_cons, wmPos, wmVal, wmDown, List.getElem?_toArray]
    cases B[pv.1]?.getD false <;> simp <;> omega

theorem wmPos_succ : ∀ (ls : List (List Bool)) (l p : Nat) (hl : l < ls.length),
    wmPos ls (l + 1) p = wmDown ls[l] (wmPos ls l p)
  | B :: ls, 0, p, _ => by simp [wmPos]
  | B :: ls, l + 1, p, hl => by
    have hl' : l < ls.length := by simpa using hl
    rw [wmPos, wmPos_succ ls l _ hl']
    simp [wmPos]

theorem wmVal_lt : ∀ (ls : List (List Bool)) (p : Nat), wmVal ls p < 2 ^ ls.length
  | [], p => by simp [wmVal]
  | B :: ls, p => by
    have := wmVal_lt ls (wmDown B p)
    simp only [wmVal, List.length_cons, Nat.pow_succ]
    cases B[p]?.getD false <;> simp <;> omega

/-- the value of the walk has, at the bit tested by level `l`, the bit the walk met on level `l` -/
theorem wmVal_bitAt : ∀ (ls : List (List Bool)) (l p : Nat) (hl : l < ls.length),
    bitAt ls.length l (wmVal ls p) = ls[l][wmPos ls l p]?.getD false
  | B :: ls, l, p, hl => by
    have hr := wmVal_lt ls (wmDown B p)
    rw [bitAt_eq_testBit]
    simp only [wmVal, List.length_cons]
    rw [Nat.testBit_two_pow_mul_add _ hr]
    cases l with
    | zero =>
      rw [if_neg (by omega)]
      simp only [Nat.add_sub_cancel, Nat.sub_zero, Nat.sub_self, List.getElem_cons_zero, wmPos]
      cases B[p]?.getD false <;> rfl
    | succ l =>
      have hl' : l < ls.length := by simpa using hl
      rw [if_pos (by omega)]
      have := wmVal_bitAt ls l (wmDown B p) hl'
      rw [bitAt_eq_testBit] at this
      rw [show ls.length + 1 - 1 - (l + 1) = ls.length - 1 - l by omega, this]
      simp [wmPos]

/-- the items the walk reads -/
def wmVals (levels : List (List Bool)) (len : Nat) : List Nat := (List.range len).map (wmVal levels)

theorem wmPlaces_eq (levels : List (List Bool)) (len : Nat) :
    wmPlaces levels len = (List.range len).map fun i => (wmPos levels levels.length i, wmVal levels i) := by
  unfold wmPlaces
  rw [wmWalk_eq, List.map_map]
  apply List.map_congr_left
  intro i _
  simp

theorem wmItems_eq_wmVals (levels : List (List Bool)) (len : Nat) : wmItems levels len = wmVals levels len := by
  unfold wmItems wmVals
  rw [wmPlaces_eq, List.map_map]
  rfl

/-! ### the walk over levels that are bit columns -/

/-- the positions of the walk over levels that are, below level `l`, the bit columns of `V` -/
theorem wmPos_of_cols (levels : List (List Bool)) (V : List Nat) (w : Nat) (hw : levels.length = w) :
    ∀ l, l ≤ w → (∀ k (hk : k < levels.length), k < l → levels[k] = col w V k) →
    ∀ i x, V[i]? = some x → wmPos levels l i = vpos w V l i x := by
  intro l
  induction l with
  | zero =>
    intro _ _ i x hx
    have := (List.getElem?_eq_some_iff.mp hx).1
    simp only [wmPos.eq_1, vpos]; omega
  | succ l ih =>
    intro hl hc i x hx
    have hl' : l < levels.length := by omega
    have hS := getElem?_S_vpos w V l i x hx
    have hlt : vpos w V l i x < (col w V l).length := by
      simp only [col, List.length_map]; exact (List.getElem?_eq_some_iff.mp hS).1
    rw [wmPos_succ levels l i hl', ih (by omega) (fun k hk hkl => hc k hk (by omega)) i x hx,
      hc l hl' (Nat.lt_succ_self l), wmDown, levelMap_eq _ _ hlt]
    unfold col
    rw [mapDown_map _ _ _ x hS]; rfl

/-- the value the walk reads at offset `i` of the bit columns of `V` is `V[i]`: it has the bits of `V[i]` -/
theorem wmVal_of_cols (levels : List (List Bool)) (V : List Nat) (w : Nat) (hw : levels.length = w)
    (hc : ∀ k (hk : k < levels.length), levels[k] = col w V k) (hV : ∀ v ∈ V, v < 2 ^ w) (i x : Nat)
    (hx : V[i]? = some x) : wmVal levels i = x := by
  have hb := wmVal_lt levels i
  have hp := wmPos_of_cols levels V w hw
  subst hw
  rw [← Nat.mod_eq_of_lt (hV x (List.mem_of_getElem? hx))]
  refine (keyEq_iff_of_lt _ _ x hb).mp ((keyEq_iff_bits _ _ _ x).mpr fun l hl => ?_)
  rw [wmVal_bitAt levels l i hl, hp l (by omega) (fun k hk _ => hc k hk) i x hx, hc l hl]
  simp only [col, List.getElem?_map, getElem?_S_vpos _ V l i x hx, Option.map_some, Option.getD_some]

end Format2

namespace Doc
open Format2

/-! ### (→) the walk over the bit columns of `V` -/

/-- **the walk of the document over the bit columns of `V` recovers `V`**: for every offset, the position in
the reordered vector and the item -/
theorem wmPlaces_cols (w : Nat) (V : List Nat) (hV : ∀ v ∈ V, v < 2 ^ w) :
    wmPlaces ((List.range w).map (col w V)) V.length =
      (List.range V.length).map fun i => (finalPos w V i (V.getD i 0), V.getD i 0) := by
  have hlen : ((List.range w).map (col w V)).length = w := by simp
  have hc : ∀ k (hk : k < ((List.range w).map (col w V)).length), ((List.range w).map (col w V))[k] = col w V k := by
    simp
  rw [wmPlaces_eq, hlen]
  apply List.map_congr_left
  intro i hi
  have hi' : i < V.length := List.mem_range.mp hi
  have hx : V[i]? = some (V.getD i 0) := by
    rw [List.getD_eq_getElem?_getD, List.getElem?_eq_getElem hi']; rfl
  rw [wmVal_of_cols _ V w hlen hc hV i _ hx, wmPos_of_cols _ V w hlen w (Nat.le_refl _) (fun k hk _ => hc k hk) i _ hx,
    vpos_final hV i _ (hV _ (List.mem_of_getElem? hx))]


theorem wmItems_cols (w : Nat) (V : List Nat) (hV : ∀ v ∈ V, v < 2 ^ w) :
    wmItems ((List.range w).map (col w V)) V.length = V := by
  unfold wmItems
  rw [wmPlaces_cols w V hV, List.map_map]
  apply List.ext_getElem?
  intro i
  by_cases hi : i < V.length
  · simp [hi, List.getD_eq_getElem?_getD]
  · simp [hi, List.getElem?_eq_none (Nat.le_of_not_lt hi)]

/-! ### wavelet matrix: `first` -/

theorem foldMin_spec : ∀ (ps : List (Nat × Nat)) (a : Array Nat) (v : Nat), v < a.size →
    (ps.foldl (fun (a : Array Nat) (pv : Nat × Nat) => a.modify pv.2 (min pv.1)) a).size = a.size ∧
    ∃ m a0, (ps.foldl (fun (a : Array Nat) (pv : Nat × Nat) => a.modify pv.2 (min pv.1)) a)[v]? = some m ∧
      a[v]? = some a0 ∧ m ≤ a0 ∧ (∀ pv ∈ ps, pv.2 = v → m ≤ pv.1) ∧
      (m = a0 ∨ ∃ pv ∈ ps, pv.2 = v ∧ m = pv.1)
  | [], a, v, hv => ⟨rfl, a[v], a[v], by simp [hv], by simp [hv], Nat.le_refl _, by simp, Or.inl rfl⟩
  | (p, val) :: ps, a, v, hv => by
    have hsz : (a.modify val (min p)).size = a.size := Array.size_modify
    obtain ⟨h1, m, a0', h2, h3, h4, h5, h6⟩ := foldMin_spec ps (a.modify val (min p)) v (by rw [hsz]; exact hv)
    -- the entry at `v` after the first step
    have h3' : a0' = if val = v then min p a[v] else a[v] := by
      rw [Array.getElem?_modify, Array.getElem?_eq_getElem hv] at h3
      by_cases hval : val = v
      · rw [if_pos hval] at h3 ⊢; exact (Option.some.inj h3).symm
      · rw [if_neg hval] at h3 ⊢; exact (Option.some.inj h3).symm
    rw [List.foldl_cons]
    refine ⟨h1.trans hsz, m, a[v], h2, by simp [hv], ?_, ?_, ?_⟩
    · split at h3' <;> omega
    · intro pv hpv hpv2
      rcases List.mem_cons.mp hpv with rfl | hmem
      · rw [if_pos hpv2] at h3'
        show m ≤ p
        omega
      · exact h5 pv hmem hpv2
    · rcases h6 with h6 | ⟨pv, hpv, e1, e2⟩
      · by_cases hval : val = v
        · rw [if_pos hval] at h3'
          by_cases hle : p ≤ a[v]
          · exact Or.inr ⟨(p, val), List.mem_cons_self .., hval, by show m = p; omega⟩
          · exact Or.inl (by omega)
        · rw [if_neg hval] at h3'
          exact Or.inl (by omega)
      · exact Or.inr ⟨pv, List.mem_cons_of_mem _ hpv, e1, e2⟩

theorem exists_first_occurrence : ∀ (V : List Nat) (v : Nat), v ∈ V →
    ∃ i, V[i]? = some v ∧ (V.take i).count v = 0
  | a :: t, v, h => by
    by_cases hav : a = v
    · exact ⟨0, by simp [hav], by simp⟩
    · have ht : v ∈ t := by
        rcases List.mem_cons.mp h with rfl | h'
        · exact absurd rfl hav
        · exact h'
      obtain ⟨i, h1, h2⟩ := exists_first_occurrence t v ht
      refine ⟨i + 1, by simpa using h1, ?_⟩
      rw [List.take_succ_cons, List.count_cons, h2]
      simp [hav]

/-- **the `first` vector the document prescribes**, computed from the walk over the bit columns of `V`: over the
alphabet `0..=max V`, the position of the first occurrence in the reordered vector, or the length -/
theorem wmFirst_cols (w : Nat) (V : List Nat) (hV : ∀ v ∈ V, v < 2 ^ w) :
    wmFirst (wmPlaces ((List.range w).map (col w V)) V.length) V.length =
      (List.range (V.foldl max 0 + 1)).map fun v => if v ∈ V then firstPos w V v else V.length := by
  have hitems := wmItems_cols w V hV
  unfold wmItems at hitems
  have hplaces := wmPlaces_cols w V hV
  generalize wmPlaces ((List.range w).map (col w V)) V.length = places at hitems hplaces
  have hmax : places.foldl (fun m pv => max m pv.2) 0 = V.foldl max 0 := by
    rw [← hitems, List.foldl_map]
  unfold wmFirst
  simp only [hmax]
  generalize V.foldl max 0 = maxv
  apply List.ext_getElem?
  intro v
  by_cases hv : v < maxv + 1
  · obtain ⟨h1, m, a0, h2, h3, h4, h5, h6⟩ :=
      foldMin_spec places (Array.replicate (maxv + 1) V.length) v (by simpa using hv)
    rw [Array.getElem?_toList, h2, List.getElem?_map, List.getElem?_range hv]
    simp only [Option.map_some, Option.some.injEq]
    have ha0 : a0 = V.length := by
      rw [Array.getElem?_replicate, if_pos hv] at h3
      exact (Option.some.inj h3).symm
    subst ha0
    -- every entry of `places` carrying the value `v` sits at `firstPos v + (occurrences before)`
    have hentry : ∀ pv ∈ places, pv.2 = v → ∃ i, V[i]? = some v ∧ pv.1 = firstPos w V v + (V.take i).count v := by
      intro pv hpv hpv2
      rw [hplaces] at hpv
      obtain ⟨i, hi, rfl⟩ := List.mem_map.mp hpv
      have hi' : i < V.length := List.mem_range.mp hi
      simp only at hpv2
      refine ⟨i, ?_, ?_⟩
      · rw [← hpv2, List.getD_eq_getElem?_getD, List.getElem?_eq_getElem hi']; rfl
      · simp only [hpv2]; rfl
    by_cases hmem : v ∈ V
    · rw [if_pos hmem]
      obtain ⟨i0, hi0, hc0⟩ := exists_first_occurrence V v hmem
      have hi0' : i0 < V.length := (List.getElem?_eq_some_iff.mp hi0).1
      have hin : (finalPos w V i0 (V.getD i0 0), V.getD i0 0) ∈ places := by
        rw [hplaces]; exact List.mem_map.mpr ⟨i0, List.mem_range.mpr hi0', rfl⟩
      have hgd : V.getD i0 0 = v := by rw [List.getD_eq_getElem?_getD, hi0]; rfl
      have hle := h5 _ hin hgd
      simp only [hgd, finalPos, hc0, Nat.add_zero] at hle
      have hfl : firstPos w V v ≤ V.length := List.countP_le_length
      rcases h6 with h6 | ⟨pv, hpv, e1, e2⟩
      · omega
      · obtain ⟨i, _, hp⟩ := hentry pv hpv e1
        omega
    · rw [if_neg hmem]
      rcases h6 with h6 | ⟨pv, hpv, e1, e2⟩
      · exact h6
      · obtain ⟨i, hi, _⟩ := hentry pv hpv e1
        exact absurd (List.mem_of_getElem? hi) hmem
  · have hsz := (foldMin_spec places (Array.replicate (maxv + 1) V.length) 0 (by simp)).1
    rw [List.getElem?_eq_none (by simp only [Array.length_toList, hsz, Array.size_replicate]; omega),
      List.getElem?_eq_none (by simp; omega)]


/-! ### (→) the model's serialization -/

theorem wmLevels_ser : ∀ (bs : List BitVector),
    (∀ b ∈ bs, bitVectorWF b ∧ b.ones = b.data.bits.count true) → ∀ rest : File,
    wmLevels bs.length (bs.flatMap bitVectorC.ser ++ rest) = some (bs.map (·.data.bits), rest)
  | [], _, _ => rfl
  | b :: bs, h, rest => by
    have hb := h b (List.mem_cons_self ..)
    rw [List.length_cons, List.flatMap_cons, List.append_assoc]
    simp only [wmLevels, bitVector_ser hb.1 hb.2, Option.bind_eq_bind, Option.bind_some,
      wmLevels_ser bs (fun b' hb' => h b' (List.mem_cons_of_mem _ hb')) rest, List.map_cons]

/-- (→) the serialization of a wavelet matrix core with serializable levels of one length is a `WMCore` of the
document, with the same bits on every level -/
theorem wmCore_ser {c : WMCore} (hw1 : 1 ≤ c.width) (hw : c.width ≤ 64)
    (hwf : ∀ b ∈ c.levels.toList, bitVectorWF b ∧ b.ones = b.data.bits.count true)
    (n : Nat) (hlen : ∀ b ∈ c.levels.toList, b.data.bits.length = n) (rest : File) :
    wmCore (wmCoreC.ser c ++ rest) = some (c.levels.toList.map (·.data.bits), rest) := by
  have hser : wmCoreC.ser c ++ rest =
      BitVec.ofNat 64 c.width :: (c.levels.toList.flatMap bitVectorC.ser ++ rest) := by simp [wmCoreC]
  have hwl : c.width = c.levels.toList.length := by simp [WMCore.width]
  unfold wmCore
  rw [hser]
  simp only [elem_cons, Option.bind_eq_bind, Option.bind_some, toNat_ofNat64 (show c.width < 2 ^ 64 by omega)]
  rw [if_neg (by omega)]
  conv => lhs; rw [hwl]
  rw [wmLevels_ser _ hwf rest]
  simp only [Option.bind_some]
  cases hl : c.levels.toList with
  | nil => rw [hl] at hwl; simp at hwl; omega
  | cons b0 bs =>
    rw [hl] at hlen
    simp only [List.map_cons]
    rw [if_pos]
    rw [List.all_eq_true]
    intro B hB
    rw [← List.map_cons (f := fun b : BitVector => b.data.bits)] at hB
    obtain ⟨b, hb, rfl⟩ := List.mem_map.mp hB
    simp only [beq_iff_eq]
    rw [hlen b hb, hlen b0 (List.mem_cons_self ..)]

open SupportProofs in
/-- a level as the builder makes it: serializable, right counter, the bits it was built from -/
theorem level_facts (B : List Bool) (hlen : B.length < 2 ^ 63) :
    bitVectorWF (BitVector.ofRaw (RawVec.ofBits B)).enableAll ∧
    (BitVector.ofRaw (RawVec.ofBits B)).enableAll.ones =
      (BitVector.ofRaw (RawVec.ofBits B)).enableAll.data.bits.count true ∧
    (BitVector.ofRaw (RawVec.ofBits B)).enableAll.data.bits = B := by
  have hl : (RawVec.ofBits B).len < 2 ^ 63 := by
    rw [← RawVec.bits_length, RawVec.bits_ofBits]; exact hlen
  have hsound := ofRaw_sound (RawVec.ofBits_WF B) hl
  refine ⟨enableAll_wf hsound (ofRaw_wf (RawVec.ofBits_WF B) hl), ?_, ?_⟩
  · exact hsound.enableRank.enableSelect.enableSelectZero.ones_eq
  · rw [enableAll_data]; exact RawVec.bits_ofBits B

/-- **(→, wavelet matrix).** The serialization of the wavelet matrix built from `V` is a plain wavelet matrix of the
document, and the document reads the items `V` from it: the walk down the levels, the `first` vector (positions
of first occurrences in the reordered vector, `len` for absent values, over the alphabet `0..=max V`) and its
minimal width are all as the document prescribes.
(`hfirst`: the `first` vector, one entry per value of the alphabet, fits a raw bitvector.) -/
theorem wm_ser_ofValues (V : List Nat) (hV : ∀ v ∈ V, v < 2 ^ 64) (hlen : V.length < 2 ^ 63)
    (hfirst : (V.foldl max 0 + 1) * 64 < 2 ^ 64) (rest : File) :
    wm (wmC.ser (WM.ofValues V) ++ rest) = some (V, rest) := by
  have hVw := lt_two_pow_widthOf V hV
  have hW1 := widthOf_pos V
  have hW := widthOf_le V
  -- the core
  have hlf := fun l => level_facts (col (widthOf V) V l) (by simp only [col, List.length_map, length_S]; exact hlen)
  have hcols : (WMCore.ofValues V).levels.toList.map (·.data.bits) =
      (List.range (widthOf V)).map (col (widthOf V) V) := by
    rw [ofValues_eq]
    simp only [List.map_map]
    exact List.map_congr_left fun l _ => (hlf l).2.2
  have hcw : (WMCore.ofValues V).width = widthOf V := by rw [ofValues_eq]; simp [WMCore.width]
  have hcore : ∀ r : File, wmCore (wmCoreC.ser (WMCore.ofValues V) ++ r) =
      some ((List.range (widthOf V)).map (col (widthOf V) V), r) := by
    intro r
    rw [← hcols]
    apply wmCore_ser (by rw [hcw]; exact hW1) (by rw [hcw]; exact hW) _ V.length
    · intro b hb
      rw [ofValues_eq] at hb
      obtain ⟨l, _, rfl⟩ := List.mem_map.mp hb
      rw [(hlf l).2.2]
      simp only [col, List.length_map, length_S]
    · intro b hb
      rw [ofValues_eq] at hb
      obtain ⟨l, _, rfl⟩ := List.mem_map.mp hb
      exact ⟨(hlf l).1, (hlf l).2.1⟩
  -- the `first` vector
  generalize hoffs : firstList V = offs
  have hol : offs.length = V.foldl max 0 + 1 := by rw [← hoffs]; simp [firstList]
  have hox : ∀ x ∈ offs, x < 2 ^ 64 := fun x hx => by
    have := mem_firstList_le V x (hoffs ▸ hx); omega
  obtain ⟨owf, owidth, _⟩ := IntVec.ofList_spec 64 offs (by decide) (by decide)
  have oitems := IntVec.ofList_items_of_lt 64 offs (by decide) (by decide) hox
  have olen : (IntVec.ofList 64 offs).len = offs.length := by rw [← IntVec.items_length, oitems]
  obtain ⟨pwf, pitems, _⟩ := IntVec.pack_spec owf
  have plen : (IntVec.ofList 64 offs).pack.len = offs.length := by rw [IntVec.pack_len, olen]
  have hmin := minimalWidth_pack owf (by rw [olen, hol]; omega)
  have hF : (WM.ofValues V).first = (IntVec.ofList 64 offs).pack := by rw [← hoffs]; exact first_ofValues V hV
  have hfirstV : ∀ r : File, intVector (intVecC.ser (IntVec.ofList 64 offs).pack ++ r) =
      some (((IntVec.ofList 64 offs).pack.width, offs), r) := by
    intro r
    have := intVector_ser pwf (by rw [plen, hol]; omega)
      (by rw [pwf.2.2.1, plen, hol]
          exact Nat.lt_of_le_of_lt (Nat.mul_le_mul_left _ pwf.2.1) hfirst) r
    rw [this, pitems, oitems]
  -- put the file together
  have hser : wmC.ser (WM.ofValues V) ++ rest = BitVec.ofNat 64 V.length ::
      (wmCoreC.ser (WMCore.ofValues V) ++ (intVecC.ser (IntVec.ofList 64 offs).pack ++ rest)) := by
    rw [← hF]; simp [wmC]; exact ⟨rfl, rfl⟩
  unfold wm
  rw [hser]
  simp only [elem_cons, Option.bind_eq_bind, Option.bind_some, toNat_ofNat64 (show V.length < 2 ^ 64 by omega),
    hcore, hfirstV]
  have hany : ((List.range (widthOf V)).map (col (widthOf V) V)).any (fun B => B.length != V.length) = false := by
    rw [List.any_eq_false]
    intro B hB
    obtain ⟨l, _, rfl⟩ := List.mem_map.mp hB
    simp [col, length_S]
  rw [hany]
  simp only [Bool.false_eq_true, if_false]
  rw [if_pos ⟨by rw [wmFirst_cols _ V hVw]; exact hoffs.symm, by rw [pitems, oitems] at hmin; exact hmin⟩]
  have := wmItems_cols (widthOf V) V hVw
  unfold wmItems at this
  rw [this]

end Doc

namespace Format2
open Doc Codec2

/-! ### (W1) one level is a permutation of the positions -/

theorem wm_levelMapFrom_perm (z : Nat) : ∀ (B : List Bool) (r0 r1 : Nat),
    (levelMapFrom z B r0 r1).Perm (List.range' r0 (B.count false) ++ List.range' (z + r1) (B.count true))
  | [], _, _ => by simp [levelMapFrom]
  | true :: bs, r0, r1 => by
    simp only [levelMapFrom, List.count_cons_self, List.count_cons_of_ne (by decide : true ≠ false)]
    rw [List.range'_succ]
    exact ((wm_levelMapFrom_perm z bs r0 (r1 + 1)).cons _).trans List.perm_middle.symm
  | false :: bs, r0, r1 => by
    simp only [levelMapFrom, List.count_cons_self, List.count_cons_of_ne (by decide : false ≠ true)]
    rw [List.range'_succ, List.cons_append]
    exact (wm_levelMapFrom_perm z bs (r0 + 1) r1).cons _

/-- every position of the next level is reached from some position of this level -/
theorem wmDown_surj (B : List Bool) (q : Nat) (hq : q < B.length) : ∃ p, p < B.length ∧ wmDown B p = q := by
  have hperm := wm_levelMapFrom_perm (B.count false) B 0 0
  have hrange : List.range' 0 (B.count false) ++ List.range' (B.count false + 0) (B.count true) =
      List.range' 0 B.length := by
    have := @List.range'_append 0 (B.count false) (B.count true) 1
    simp only [Nat.zero_add, Nat.one_mul, Nat.add_zero] at this ⊢
    rw [this]
    congr 1
    have := Glue.count_false_eq B
    have := List.count_le_length (a := true) (l := B)
    omega
  rw [hrange] at hperm
  have hmem : q ∈ levelMapFrom (B.count false) B 0 0 := by
    rw [hperm.mem_iff]; simp [List.mem_range']; omega
  obtain ⟨p, hp⟩ := List.mem_iff_getElem?.mp hmem
  have hpl : p < B.length := by
    have := (List.getElem?_eq_some_iff.mp hp).1
    rwa [levelMapFrom_length] at this
  refine ⟨p, hpl, ?_⟩
  unfold wmDown levelMap
  rw [List.getElem?_toArray, hp]; rfl

/-! ### (W1) every position of every level is reached, so the levels are the columns of the items read -/

theorem wm_walk_invariant (levels : List (List Bool)) (len : Nat)
    (hlen : ∀ B ∈ levels, B.length = len) : ∀ l, l ≤ levels.length →
    (∀ q, q < len → ∃ i, i < len ∧ wmPos levels l i = q) ∧
    (∀ k (hk : k < levels.length), k < l → levels[k] = col levels.length (wmVals levels len) k) := by
  have hVlen : (wmVals levels len).length = len := by simp [wmVals]
  have hVget : ∀ i, i < len → (wmVals levels len)[i]? = some (wmVal levels i) := by
    intro i hi; simp [wmVals, hi]
  intro l
  induction l with
  | zero => exact fun _ => ⟨fun q hq => ⟨q, hq, wmPos.eq_1 _ _⟩, fun k _ hk => absurd hk (Nat.not_lt_zero _)⟩
  | succ l ih =>
    intro hl
    obtain ⟨h2, h3⟩ := ih (by omega)
    have hl' : l < levels.length := hl
    have hBlen : levels[l].length = len := hlen _ (List.getElem_mem hl')
    -- level `l` is the column `l`: the offset that reaches position `q` carries the bit found there
    have hcol : levels[l] = col levels.length (wmVals levels len) l := by
      apply List.ext_getElem?
      intro q
      by_cases hq : q < len
      · obtain ⟨i, hi, hiq⟩ := h2 q hq
        have hS := getElem?_S_vpos levels.length (wmVals levels len) l i _ (hVget i hi)
        rw [← wmPos_of_cols levels _ _ rfl l (by omega) h3 i _ (hVget i hi), hiq] at hS
        simp only [col, List.getElem?_map, hS, Option.map_some]
        rw [wmVal_bitAt levels l i hl', hiq, List.getElem?_eq_getElem (by omega)]
        rfl
      · rw [List.getElem?_eq_none (by omega),
          List.getElem?_eq_none (by simp only [col, List.length_map, length_S, hVlen]; omega)]
    refine ⟨fun q hq => ?_, fun k hk hkl => ?_⟩
    · obtain ⟨p, hp, hpq⟩ := wmDown_surj levels[l] q (by omega)
      obtain ⟨i, hi, hip⟩ := h2 p (by omega)
      exact ⟨i, hi, by rw [wmPos_succ levels l i hl', hip, hpq]⟩
    · by_cases hkl' : k < l
      · exact h3 k hk hkl'
      · have : k = l := by omega
        subst this; exact hcol

/-- **(W1)** a level list the document walks is the column decomposition of the items it reads from it -/
theorem wm_levels_eq_cols (levels : List (List Bool)) (len w : Nat) (hw : levels.length = w)
    (hlen : ∀ B ∈ levels, B.length = len) :
    (wmItems levels len).length = len ∧ (∀ v ∈ wmItems levels len, v < 2 ^ w) ∧
    levels = (List.range w).map (col w (wmItems levels len)) := by
  subst hw
  rw [wmItems_eq_wmVals]
  refine ⟨by simp [wmVals], ?_, ?_⟩
  · intro v hv
    obtain ⟨i, _, rfl⟩ := List.mem_map.mp hv
    exact wmVal_lt levels i
  · obtain ⟨_, h3⟩ := wm_walk_invariant levels len hlen levels.length (Nat.le_refl _)
    apply List.ext_getElem?
    intro k
    by_cases hk : k < levels.length
    · rw [List.getElem?_eq_getElem hk, List.getElem?_map, List.getElem?_range hk, Option.map_some,
        ← h3 k hk hk]
    · rw [List.getElem?_eq_none (by omega), List.getElem?_eq_none (by simp; omega)]

/-! ### (W2) what `Doc.wm` accepts -/

theorem wmLevels_succ (k : Nat) (es : File) : wmLevels (k + 1) es =
    (bitVector es).bind fun p => (wmLevels k p.2).bind fun q => some (p.1 :: q.1, q.2) := rfl

theorem wmLevels_length : ∀ (k : Nat) (es : File) (levels : List (List Bool)) (r : File),
    wmLevels k es = some (levels, r) → levels.length = k
  | 0, es, levels, r, h => by
    simp only [wmLevels, Option.some.injEq, Prod.mk.injEq] at h
    rw [← h.1]; rfl
  | k + 1, es, levels, r, h => by
    rw [wmLevels_succ] at h
    obtain ⟨p, _, h⟩ := Option.bind_eq_some_iff.mp h
    obtain ⟨q, hl, h⟩ := Option.bind_eq_some_iff.mp h
    obtain ⟨rfl, _⟩ := Prod.mk.inj (Option.some.inj h)
    rw [List.length_cons, wmLevels_length k p.2 q.1 q.2 hl]

/-- what the document's acceptance of a wavelet matrix core consists of -/
theorem wmCore_eq_some {es : File} {levels : List (List Bool)} {r : File} (h : wmCore es = some (levels, r)) :
    ∃ (ww : Word) (r1 : File), es = ww :: r1 ∧ 1 ≤ ww.toNat ∧ ww.toNat ≤ 64 ∧
      wmLevels ww.toNat r1 = some (levels, r) := by
  cases es with
  | nil => cases h
  | cons ww r1 =>
    refine ⟨ww, r1, rfl, ?_⟩
    unfold wmCore at h
    simp only [elem_cons, Option.bind_eq_bind, Option.bind_some] at h
    obtain ⟨hw, h⟩ := ite_none_eq_some h
    obtain ⟨⟨lv, r'⟩, hl, h⟩ := Option.bind_eq_some_iff.mp h
    cases lv with
    | nil => cases h
    | cons B0 Bs =>
      simp only at h
      split at h
      · obtain ⟨rfl, rfl⟩ := Prod.mk.inj (Option.some.inj h)
        exact ⟨by omega, by omega, hl⟩
      · cases h

/-- what the document's acceptance of a plain wavelet matrix consists of -/
theorem wm_eq_some {es : File} {V : List Nat} {rest : File} (h : wm es = some (V, rest)) :
    ∃ (lw ww : Word) (r1 r2 : File) (levels : List (List Bool)) (fw : Nat) (first : List Nat),
      es = lw :: ww :: r1 ∧ 1 ≤ ww.toNat ∧ ww.toNat ≤ 64 ∧ wmLevels ww.toNat r1 = some (levels, r2) ∧
      intVector r2 = some ((fw, first), rest) ∧ (∀ B ∈ levels, B.length = lw.toNat) ∧
      first = wmFirst (wmPlaces levels lw.toNat) lw.toNat ∧ V = wmItems levels lw.toNat := by
  cases es with
  | nil => cases h
  | cons lw r =>
    unfold wm at h
    simp only [elem_cons, Option.bind_eq_bind, Option.bind_some] at h
    obtain ⟨⟨levels, r2⟩, hc, h⟩ := Option.bind_eq_some_iff.mp h
    obtain ⟨⟨⟨fw, first⟩, r3⟩, hi, h⟩ := Option.bind_eq_some_iff.mp h
    obtain ⟨hany, h⟩ := ite_none_eq_some h
    split at h
    · rename_i hf
      obtain ⟨hV, rfl⟩ := Prod.mk.inj (Option.some.inj h)
      obtain ⟨ww, r1, rfl, h1, h64, hl⟩ := wmCore_eq_some hc
      refine ⟨lw, ww, r1, r2, levels, fw, first, rfl, h1, h64, hl, hi, fun B hB => ?_, hf.1, by rw [← hV]; rfl⟩
      simp only [List.any_eq_true, not_exists, not_and, bne_iff_ne, ne_eq, Decidable.not_not] at hany
      exact hany B hB
    · cases h

/-! ### (W2) the condition on the file: the optional structures of the levels are absent -/

/-- the first `k` bitvectors of `es` are a number of set bits, a raw bitvector and three `0` elements (three
absent optional structures) -/
def wmPlain : Nat → File → Prop
  | 0, _ => True
  | k + 1, es => ∃ (w : Word) (r : File) (B : List Bool) (rest : File),
      es = w :: r ∧ rawBits r = some (B, 0 :: 0 :: 0 :: rest) ∧ wmPlain k rest

/-- a plain-wavelet-matrix file (`len`, `width`, levels, …) whose `width` level bitvectors carry no optional
structure -/
def wmFilePlain : File → Prop
  | _ :: ww :: r => wmPlain ww.toNat r
  | _ => False

/-- the level bitvectors of a document file without optional structures are what the library writes for
`BitVector::from` of the raw vectors with their bits, back to back -/
theorem wmPlain_ser : ∀ (k : Nat) (r : File) (levels : List (List Bool)) (r2 : File), wmPlain k r →
    wmLevels k r = some (levels, r2) →
    r = (levels.map fun B => BitVector.ofRaw (RawVec.ofBits B)).flatMap bitVectorC.ser ++ r2 ∧
      ∀ B ∈ levels, B.length < 2 ^ 64
  | 0, r, levels, r2, _, hl => by
    simp only [wmLevels, Option.some.injEq, Prod.mk.injEq] at hl
    rw [← hl.1, ← hl.2]
    exact ⟨rfl, fun _ h => nomatch h⟩
  | k + 1, r, levels, r2, hp, hl => by
    obtain ⟨w, r', B, rest', rfl, hraw, hp'⟩ := hp
    rw [wmLevels_succ] at hl
    obtain ⟨⟨B', r3⟩, hb, hl⟩ := Option.bind_eq_some_iff.mp hl
    obtain ⟨⟨Bs, r4⟩, hl', hl⟩ := Option.bind_eq_some_iff.mp hl
    simp only [Option.some.injEq, Prod.mk.injEq] at hl
    obtain ⟨rfl, rfl⟩ := hl
    rw [bitVector_cons, hraw] at hb
    simp only [Option.bind_some, optionalSkip_zero] at hb
    obtain ⟨hcount, hb⟩ := ite_none_eq_some hb
    obtain ⟨rfl, rfl⟩ := Prod.mk.inj (Option.some.inj hb)
    obtain ⟨e, hlt⟩ := wmPlain_ser k rest' Bs r4 hp' hl'
    refine ⟨?_, fun B' hB' => ?_⟩
    · rw [bitVector_plain_ser hraw (Decidable.of_not_not hcount), List.map_cons, List.flatMap_cons,
        List.append_assoc, ← e]
    · rcases List.mem_cons.mp hB' with rfl | h
      · exact (rawBits_eq_some hraw).2
      · exact hlt B' h

/-! ### (W2) the main theorem -/

/-- **(W2).**  Direction (←) for the plain wavelet matrix: what the document accepts (optional structures of
the levels absent, fewer than 2^63 items), `WaveletMatrix::load` accepts, consuming exactly what the document
consumes, into a matrix on which every query theorem of C04 / C06 applies (`WM.Ok` for the `width` element of the
file), with the items the document reads.  The matrix is: the length element, the level bit lists as plain bitvectors
with all supports enabled (`init_support`), the loaded `first`. -/
theorem wm_doc_load (es rest : File) (V : List Nat) (h : wm es = some (V, rest))
    (hplain : wmFilePlain es) (hlen : V.length < 2 ^ 63) :
    ∃ x width, wmC.load es = ok (x, rest) ∧ x.Ok V width := by
  obtain ⟨lw, ww, r1, r2, levels, fw, first, rfl, h1, h64, hl, hi, hlens, hfirst, hV⟩ := wm_eq_some h
  have hplain' : wmPlain ww.toNat r1 := hplain
  have hw := wmLevels_length _ _ _ _ hl
  obtain ⟨hVlen, hVlt, hcols⟩ := wm_levels_eq_cols levels lw.toNat ww.toNat hw hlens
  rw [← hV] at hVlen hVlt hcols
  obtain ⟨hr1, hlt⟩ := wmPlain_ser ww.toNat r1 levels r2 hplain' hl
  obtain ⟨fv, hfload, hfwf, _, _, _, hfitems⟩ := intVector_load hi
  -- the `first` vector
  have hfirst' : first = (List.range (V.foldl max 0 + 1)).map
      (fun v => if v ∈ V then firstPos ww.toNat V v else V.length) := by
    rw [hfirst]
    conv => lhs; rw [hcols, ← hVlen]
    exact wmFirst_cols _ V hVlt
  have hfvlen : fv.len = V.foldl max 0 + 1 := by
    rw [← IntVec.items_length, hfitems, hfirst']; simp
  -- the core
  have hlev : ∀ l, l < ww.toNat → ∃ (hll : l < levels.length), col ww.toNat V l = levels[l] := by
    intro l hlw
    have hll : l < levels.length := by omega
    refine ⟨hll, ?_⟩
    have := congrArg (fun L => L[l]?) hcols
    simp only [List.getElem?_eq_getElem hll, List.getElem?_map, List.getElem?_range hlw, Option.map_some,
      Option.some.injEq] at this
    exact this.symm
  have henc : (WMCore.initSupport
      ⟨(levels.map fun B => BitVector.ofRaw (RawVec.ofBits B)).toArray⟩).Encodes V ww.toNat :=
    { width_eq := by simp [WMCore.width, WMCore.initSupport, hw]
      width_pos := h1
      width_le := h64
      bound := hVlt
      len_lt := hlen
      level := by
        intro l hlw
        obtain ⟨hll, hc⟩ := hlev l hlw
        refine ⟨(BitVector.ofRaw (RawVec.ofBits levels[l])).enableAll, by simp [WMCore.initSupport, hll], ?_⟩
        rw [hc]
        exact levelOk_ofBits _ (by rw [hlens _ (List.getElem_mem hll), ← hVlen]; exact hlen) }
  refine ⟨⟨lw.toNat, WMCore.initSupport ⟨(levels.map fun B => BitVector.ofRaw (RawVec.ofBits B)).toArray⟩, fv⟩,
    ww.toNat, ?_, ?_⟩
  · -- the loader
    have hcore : wmCoreC.load (ww :: r1) = ok (WMCore.initSupport
        ⟨(levels.map fun B => BitVector.ofRaw (RawVec.ofBits B)).toArray⟩, r2) := by
      have hL : (levels.map fun B => BitVector.ofRaw (RawVec.ofBits B)).length = ww.toNat := by
        rw [List.length_map, hw]
      have := (LoadWF.wmCoreC_loads_levels isEof_eof (n := lw.toNat) (hL ▸ h1) (hL ▸ h64) (fun b hb => by
        obtain ⟨B, hB, rfl⟩ := List.mem_map.mp hb
        refine ⟨bitVectorLd_ofBits B (hlt B hB), ?_⟩
        show (RawVec.ofBits B).len = _
        rw [← RawVec.bits_length, RawVec.bits_ofBits, hlens B hB])).1 r2
      rwa [hL, BitVec.ofNat_toNat, BitVec.setWidth_eq, List.cons_append, ← hr1] at this
    simp only [wmC, usizeC, readElem, bind_ok, pure_eq, hcore, len_ok henc, hVlen]
    rw [if_neg (by simp), hfload]
    rfl
  · exact
      { core := henc
        len := hVlen.symm
        mem_lt := by
          intro v hv
          show v < fv.len
          rw [hfvlen]
          have := (le_foldl_max V 0).2 v hv
          omega
        first := by
          intro v hv
          have hv' : v < fv.len := hv
          refine ⟨fv.getRaw v, IntVec.get_ok fv v hv', ?_⟩
          have := IntVec.items_getElem? fv v
          rw [if_pos hv', hfitems, hfirst', List.getElem?_map, List.getElem?_range (by omega)] at this
          simp only [Option.map_some, Option.some.injEq] at this
          exact this.symm }

/-! ### (W3) the hypotheses on concrete files -/

/-- the items `[1, 0]` as a document file: `len` 2; core: `width` 1, level 0 = 1 set bit, raw bitvector of 2
bits in one element `0b01`, three absent optionals; `first` = `[0, 1]`: 2 items of width 1, raw bitvector of 2
bits in one element `0b10` -/
def wmFileOk : File := [2, 1, 1, 2, 1, 1, 0, 0, 0, 2, 1, 2, 1, 2]

theorem wm_example_accepted : wm wmFileOk = some ([1, 0], []) := by decide +kernel

theorem wm_example_plain : wmFilePlain wmFileOk :=
  ⟨1, _, [true, false], [2, 1, 2, 1, 2], rfl, by decide +kernel, trivial⟩

/-- non-vacuity of `wm_doc_load` -/
theorem wm_example_loads : ∃ x width, wmC.load wmFileOk = ok (x, []) ∧ x.Ok [1, 0] width :=
  wm_doc_load _ _ _ wm_example_accepted wm_example_plain (by decide)

/-- `wmFilePlain` cannot be dropped (1): the same file with a rank-support optional of announced length 1 and
content `77`.  The document's reader skips the optional by its length and reads the items `[1, 0]`;
`WaveletMatrix::load` parses the optional as a rank support and fails (unexpected end of file). -/
def wmFileGarbage : File := [2, 1, 1, 2, 1, 1, 1, 77, 0, 0, 2, 1, 2, 1, 2]

theorem wm_optional_garbage_accepted : wm wmFileGarbage = some ([1, 0], []) := by decide +kernel

theorem wm_optional_garbage_refused : wmC.load wmFileGarbage = fault (.err .eof) := by decide +kernel

/-- `wmFilePlain` cannot be dropped (2): the same file with a rank-support optional of the right SHAPE (a vector
of one sample pair, as `BitVector::load` checks) and the wrong CONTENT (`(5, 0)` instead of `(0, 1)`).  The
document's reader skips it and reads `[1, 0]`; `WaveletMatrix::load` accepts the file, keeps the stored rank
support (`enable_rank` does nothing when a support is present) and answers by it. -/
def wmFileWrongRank : File := [2, 1, 1, 2, 1, 1, 3, 1, 5, 0, 0, 0, 2, 1, 2, 1, 2]

theorem wm_optional_wrong_rank_accepted : wm wmFileWrongRank = some ([1, 0], []) := by decide +kernel

/-- the file is loaded completely … -/
theorem wm_optional_wrong_rank_loaded :
    (wmC.load wmFileWrongRank >>= fun p => pure (p.1.len, p.1.first.items, p.2)) = ok (2, [0, 1], []) := by
  decide +kernel

/-- … `rank(1, 1)` (occurrences of the value 1 before offset 1; the items are `[1, 0]`, so 1) answers 6 in both
builds … -/
theorem wm_optional_wrong_rank_rank (m : Mode) :
    (wmC.load wmFileWrongRank >>= fun p => p.1.rank m 1 1) = ok 6 := by
  cases m <;> decide +kernel

/-- … and `get(1)` (the item 0) panics on an arithmetic overflow in the checked build -/
theorem wm_optional_wrong_rank_get :
    (wmC.load wmFileWrongRank >>= fun p => p.1.get .checked 1) = fault (.panic .overflow) := by
  decide +kernel

/-- the reading of the width (CHOICE 2 of Spec/Format: 1 to 64) is the loader's: a core of width 0 is refused
by both -/
theorem wm_width_zero : wm [0, 0, 1, 1, 1, 1, 0] = none ∧
    wmC.load [0, 0, 1, 1, 1, 1, 0] = fault (.err .invalid) := by decide +kernel

/-- the reading of the alphabet of the empty vector (CHOICE 3: `0..=0`, so `first = [0]`) is not forced by the
loader: it also loads the empty vector with an empty `first`, which the document decoder (under CHOICE 3) does
not accept -/
theorem wm_empty_alphabet : wm [0, 1, 0, 0, 0, 0, 0, 0, 0, 1, 0, 0] = none ∧
    wm [0, 1, 0, 0, 0, 0, 0, 0, 1, 1, 1, 1, 0] = some ([], []) ∧
    (wmC.load [0, 1, 0, 0, 0, 0, 0, 0, 0, 1, 0, 0] >>= fun p => pure (p.1.len, p.1.first.items, p.2)) =
      ok (0, [], []) := by decide +kernel

end Format2
end Sds

/-! ### not proven

(←) with present optional structures other than those the library writes is false (`wm_optional_wrong_rank_*`,
`wm_optional_garbage_*`); no theorem covers levels carrying the library's own supports (`wmFilePlain` requires all
optionals absent).
-/
