/-
Proofs/GenEqBits: the functions of `bits.rs` as TRANSLATED statement by statement from the source on every run
(Generated/FnsBits.lean, produced by tools/rs2lean.py) are equal to the hand-written model definitions of
Model/Bits.lean that all other theorems are about.
-/
import Sds.Model.Bits
import Sds.Generated.FnsBits
import Sds.Proofs.Tables
import Sds.Proofs.BitsMore
import Sds.Proofs.GenFns
import Sds.Proofs.GenSimp

namespace Sds.GenEq
open Sds Outcome Generated

theorem bind_pure_id {α} (x : Outcome α) : (x >>= fun a => pure a) = x := by
  cases x <;> rfl

theorem rd_set_self (a : Array Word) (i : Nat) (x : Word) (h : i < a.size) :
    rd (a.setIfInBounds i x) i = x := by
  rw [rd_set _ _ _ _ h, if_pos rfl]


theorem vsplit_eq (m : Mode) (b : Nat) : gen_split_offset m b = ok (b / 64, b % 64) :=
  (GenFns.split_offset_eq m b).trans (congrArg ok (splitOffset_eq b))

theorem low_set_eq (m : Mode) (n : Nat) : gen_low_set m n = lowSetT n := by
  unfold gen_low_set lowSetT; rfl
theorem low_set_unchecked_eq (m : Mode) (n : Nat) : gen_low_set_unchecked m n = lowSetU n := by
  unfold gen_low_set_unchecked lowSetU; rfl
theorem high_set_eq (m : Mode) (n : Nat) : gen_high_set m n = highSetT n := by
  unfold gen_high_set highSetT; rfl
theorem high_set_unchecked_eq (m : Mode) (n : Nat) : gen_high_set_unchecked m n = highSetU n := by
  unfold gen_high_set_unchecked highSetU; rfl

theorem bit_len_eq (m : Mode) (n : Word) : gen_bit_len m n = ok (bitLen n) := by
  unfold gen_bit_len bitLen
  rw [subM_ok (clz_le _)]

theorem reverse_low_eq (m : Mode) (n : Word) (bits : Nat) (h1 : 1 ≤ bits) (h2 : bits ≤ 64) :
    gen_reverse_low m n bits = ok (reverseLow n bits) := by
  unfold gen_reverse_low reverseLow
  rw [subM_ok h2]
  simp only [bind_ok]
  rw [shrW_ok m _ (by omega)]

theorem filler_value_eq (m : Mode) (b : Bool) : gen_filler_value m b = ok (fillerValue b) := by
  unfold gen_filler_value fillerValue
  cases b <;> simp [Pure.pure]

theorem lowSetU_bind (m : Mode) {n : Nat} (h : n ≤ 64) {β : Type} (f : Word → Outcome β) :
    (gen_low_set_unchecked m n >>= f) = f (lowSet n) :=
  bind_of_ok f ((low_set_unchecked_eq m n).trans (lowSetU_eq n h))

theorem highSetU_bind (m : Mode) {n : Nat} (h : n ≤ 64) {β : Type} (f : Word → Outcome β) :
    (gen_high_set_unchecked m n >>= f) = f (highSet n) :=
  bind_of_ok f ((high_set_unchecked_eq m n).trans (highSetU_eq n h))

theorem vsplit_bind (m : Mode) (b : Nat) {β : Type} (f : Nat × Nat → Outcome β) :
    (gen_split_offset m b >>= f) = f (b / 64, b % 64) := bind_of_ok f (vsplit_eq m b)

attribute [gen_simp] vsplit_eq low_set_eq low_set_unchecked_eq high_set_eq high_set_unchecked_eq lowSetU_eq lowSetT_eq
  highSetU_eq highSetT_eq filler_value_eq bit_len_eq GenFns.bit_offset_eq GenFns.words_to_bits_eq
  GenFns.bits_to_words_eq GenFns.words_to_bytes_eq GenFns.bytes_to_words_eq GenFns.div_round_up_eq

theorem read_int_eq (m : Mode) (a : Array Word) (off width : Nat) (hw : width ≤ 64) (ho : off < U64) :
    gen_read_int m a off width = readIntM a off width := by
  have hU := U64_val
  have hoff : off % 64 < 64 := mod64_lt off
  have hidx : off / 64 + 1 < U64 := div64_succ_lt ho
  unfold gen_read_int readIntM readInt
  rw [vsplit_bind, if_neg (Nat.not_lt.2 hw)]
  dsimp only
  -- from here on the word index and the offset in the word are variables: the bounds below are linear
  generalize off / 64 = idx at hidx ⊢
  generalize off % 64 = o at hoff ⊢
  have hsum : o + width < U64 := by omega
  by_cases hi : idx < a.size
  · rw [getC_bind hi, shrW_bind m _ hoff, addM_bind hsum]
    by_cases hc : o + width ≤ 64
    · rw [if_pos (decide_eq_true hc), if_pos hc, if_pos hi, if_pos hc, lowSetU_bind m hw]
      rfl
    · rw [if_neg (by simpa using hc), if_neg hc, addM_bind hidx]
      by_cases hi1 : idx + 1 < a.size
      · rw [getC_bind hi1, addM_bind hsum, and_63, lowSetU_bind m (Nat.le_of_lt (mod64_lt _)),
          subM_bind (Nat.le_of_lt hoff), shlW_bind m _ (show 64 - o < 64 by omega), if_pos hi1, if_neg hc]
        rfl
      · rw [getC_bind_fault hi1, if_neg hi1]
  · rw [getC_bind_fault hi, if_neg hi, if_neg (fun h => hi (Nat.lt_of_succ_lt h)), ite_self]

/-- as `read_int_eq`: word index and in-word offset become variables, then one case per branch of the code (the value
fits in one word or spans two × the word(s) in range or not) -/
theorem write_int_eq (m : Mode) (a : Array Word) (off : Nat) (value : Word) (width : Nat) (ho : off < U64) :
    gen_write_int m a off value width = writeIntM a off value width := by
  have hU := U64_val
  have hoff : off % 64 < 64 := mod64_lt off
  have hidx : off / 64 + 1 < U64 := div64_succ_lt ho
  unfold gen_write_int writeIntM
  rw [low_set_eq]
  by_cases hw : width > 64
  · rw [lowSetT_out _ hw, if_pos hw]; rfl
  have hw' : width ≤ 64 := Nat.le_of_not_lt hw
  rw [lowSetT_eq _ hw', if_neg hw, bind_ok, vsplit_bind]
  unfold writeInt
  dsimp only
  generalize off / 64 = idx at hidx ⊢
  generalize off % 64 = o at hoff ⊢
  rw [addM_bind (show o + width < U64 by omega)]
  have hsz : ∀ (b : Array Word) (k : Nat), k < a.size → b.size = a.size → k < b.size := fun b k hk hb => hb ▸ hk
  by_cases hc : o + width ≤ 64
  · rw [if_pos (decide_eq_true hc), if_pos hc, if_pos hc, subM_bind hw', subM_bind (Nat.le_sub_of_add_le hc),
      highSetU_bind m (Nat.le_trans (Nat.sub_le _ _) (Nat.sub_le _ _)), lowSetU_bind m (Nat.le_of_lt hoff)]
    by_cases hi : idx < a.size
    · rw [getC_bind hi, shlW_bind m _ hoff, getC_bind (hsz _ _ hi (Array.size_setIfInBounds ..)), if_pos hi,
        rd_set_self _ _ _ hi, Array.setIfInBounds_setIfInBounds]
      rfl
    · rw [getC_bind_fault hi, if_neg hi]
  · rw [if_neg (by simpa using hc), if_neg hc, if_neg hc, lowSetU_bind m (Nat.le_of_lt hoff)]
    have hb : width ≤ 128 ∧ o ≤ 128 - width ∧ 128 - width - o ≤ 64 ∧ 64 - o < 64 := by omega
    by_cases hi : idx < a.size
    · rw [getC_bind hi, shlW_bind m _ hoff, getC_bind (hsz _ _ hi (Array.size_setIfInBounds ..)), subM_bind hb.1,
        subM_bind hb.2.1, high_set_eq, highSetT_eq _ hb.2.2.1, bind_ok, addM_bind hidx]
      by_cases hi1 : idx + 1 < a.size
      · have hs2 : ∀ x y, ((a.setIfInBounds idx x).setIfInBounds idx y).size = a.size := fun x y => by
          rw [Array.size_setIfInBounds, Array.size_setIfInBounds]
        rw [getC_bind (hsz _ _ hi1 (hs2 ..)), subM_bind (Nat.le_of_lt hoff), shrW_bind m _ hb.2.2.2, addM_bind hidx,
          getC_bind (hsz _ _ hi1 (by rw [Array.size_setIfInBounds, hs2])), if_pos hi1]
        simp only [pure_eq, rd_set_self, rd_set, Array.size_setIfInBounds, hi, hi1, Array.setIfInBounds_setIfInBounds]
      · rw [getC_bind_fault (by rw [Array.size_setIfInBounds, Array.size_setIfInBounds]; exact hi1), if_neg hi1]
    · rw [getC_bind_fault hi, if_neg (fun h => hi (Nat.lt_of_succ_lt h))]

end Sds.GenEq
