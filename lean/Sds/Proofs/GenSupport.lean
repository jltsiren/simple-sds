/-
Proofs/GenSupport: what the operators of Model/GenSupport.lean return on arguments in range, what they do outside it,
and the rules for translated loops.  The equations `gen_f = model f` of the GenEq* files are rewriting with these and
with the `>>=`, `sat` and mode-arithmetic lemmas of Proofs/Outcome.lean.

A translated loop is `loopM fuel step s` followed by the rest `k` of the function; a rule is applied to the translated
function itself (`refine rule … _ _ …` unifies `step` and `k` with the goal), so no loop body is copied out.
Which rule:

* The loop cannot fault under the hypotheses of the theorem (`gen_f = ok …`): state an invariant indexed by the
  iteration and take `loop_sat` (at most `n` rounds, any exit: `break`, `return`, false condition), `while_sat`
  (exactly `n` rounds), `for_sat` (`for i in lo..hi`), `for_each_sat` (`for x in l`).  The goal has the form
  `(… >>= k).sat Q` (`sat_eq` turns an equation `x = ok a` into it); `for_range_inv` is the equation form for a
  `for` whose state is the pure fold of a step function.
* Faults are part of the equation (`gen_f = model f`, both sides may fail alike):
  the model is a recursion on the same fuel — `loopM_ind` (the induction hypothesis is a parameter, the body is walked
  once; `loopM_bind_eq`, `loopM_eq` are the forms with the invariant proved separately);
  the model is a `foldlM` over `0..n` — `for_range_sim` (through a state embedding, under an invariant),
  `for_loop`, `for_loop_range` (neither).
* `loopM_succ` is one unfolding, for a loop that keeps an induction of its own.
-/
import Sds.Model.GenSupport
import Sds.Proofs.Outcome

namespace Sds.GenEq
open Sds Outcome Generated

/-! ### the operators of the translation, in range and out -/

theorem gDiv_ok (a : Nat) {b : Nat} (h : b ≠ 0) : gDiv a b = ok (a / b) := if_neg h

theorem shAmt_ok (m : Mode) {k : Nat} (h : k < 64) : shAmt m k = ok k := if_pos h

theorem shlW_ok (m : Mode) (w : Word) {k : Nat} (h : k < 64) : shlW m w k = ok (w <<< k) := by
  unfold shlW; rw [shAmt_ok m h]; rfl

theorem shrW_ok (m : Mode) (w : Word) {k : Nat} (h : k < 64) : shrW m w k = ok (w >>> k) := by
  unfold shrW; rw [shAmt_ok m h]; rfl

theorem shlU_ok (m : Mode) (a : Nat) {k : Nat} (h : k < 64) : shlU m a k = ok ((a <<< k) % U64) := by
  unfold shlU; rw [shAmt_ok m h]; rfl

theorem shrU_ok (m : Mode) (a : Nat) {k : Nat} (h : k < 64) : shrU m a k = ok (a >>> k) := by
  unfold shrU; rw [shAmt_ok m h]; rfl

theorem addW_ok (m : Mode) (a b : Word) (h : a.toNat + b.toNat < U64) : addW m a b = ok (a + b) := by
  unfold addW; rw [addM_ok h]; rfl

theorem subW_ok (m : Mode) (a b : Word) (h : b.toNat ≤ a.toNat) : subW m a b = ok (a - b) := by
  unfold subW
  rw [subM_ok h]
  refine congrArg ok (BitVec.eq_of_toNat_eq ?_)
  rw [BitVec.toNat_sub, BitVec.toNat_ofNat]
  have ha := a.isLt
  have hb := b.isLt
  omega

theorem getC_fault {a : Array Word} {i : Nat} (h : ¬ i < a.size) : getC a i = fault (.panic .index) := dif_neg h
theorem getW_fault {a : Array Word} {i : Nat} (h : ¬ i < a.size) : getW a i = fault .oob := dif_neg h

/-! ### masks and shifts by the constants of the word layout -/

theorem and_7 (x : Nat) : x &&& 7 = x % 8 := Nat.and_two_pow_sub_one_eq_mod x 3
theorem and_63 (x : Nat) : x &&& 63 = x % 64 := Nat.and_two_pow_sub_one_eq_mod x 6
theorem and_511 (x : Nat) : x &&& 511 = x % 512 := Nat.and_two_pow_sub_one_eq_mod x 9

theorem splitOffset_eq (b : Nat) : splitOffset b = (b / 64, b % 64) := by
  unfold splitOffset; rw [Nat.shiftRight_eq_div_pow, and_63]

/-- the word index of a bit offset is far below `2^64`, so `index + 1`, `index + 8` are computed without overflow
(term proofs: `omega` on `b / 64` against the 20-digit bound is slow) -/
theorem div64_lt {b : Nat} (h : b < U64) : b / 64 < 2 ^ 58 := Nat.div_lt_of_lt_mul h

theorem div64_succ_lt {b : Nat} (h : b < U64) : b / 64 + 1 < U64 :=
  Nat.lt_of_le_of_lt (Nat.succ_le_of_lt (div64_lt h)) (by decide)


/-! ### `max()` on words: the fold of `maxByGet` and `arrMaxW` -/

/-- `max()` over words, from a running maximum `y`: the word whose value is the maximum of the values -/
theorem foldl_max_some (l : List Word) : ∀ y : Word, ∃ w : Word,
    l.foldl (fun (acc : Option Word) x => match acc with
      | none => some x
      | some y => some (if y ≤ x then x else y)) (some y) = some w ∧
    w.toNat = (l.map (·.toNat)).foldl max y.toNat := by
  induction l with
  | nil => exact fun y => ⟨y, rfl, rfl⟩
  | cons x t ih =>
    intro y
    obtain ⟨w, e, hw⟩ := ih (if y ≤ x then x else y)
    refine ⟨w, e, hw.trans ?_⟩
    rw [List.map_cons, List.foldl_cons]
    congr 1
    by_cases hle : y ≤ x
    · rw [if_pos hle]; rw [BitVec.le_def] at hle; omega
    · rw [if_neg hle]; rw [BitVec.le_def] at hle; omega

/-- … from `None`: `None` only on the empty list -/
theorem foldl_max_none (l : List Word) : ∃ acc : Option Word,
    l.foldl (fun (acc : Option Word) x => match acc with
      | none => some x
      | some y => some (if y ≤ x then x else y)) none = acc ∧
    (l = [] → acc = none) ∧ (l ≠ [] → ∃ w : Word, acc = some w ∧ w.toNat = (l.map (·.toNat)).foldl max 0) := by
  cases l with
  | nil => exact ⟨none, rfl, fun _ => rfl, fun h => absurd rfl h⟩
  | cons x t =>
    obtain ⟨w, e, hw⟩ := foldl_max_some t x
    exact ⟨some w, e, fun h => (nomatch h),
      fun _ => ⟨w, rfl, by rw [hw, List.map_cons, List.foldl_cons, Nat.zero_max]⟩⟩


/-! ### loops -/

theorem loopM_succ {σ ρ : Type} (n : Nat) (step : σ → Outcome (Ctl σ ρ)) (s : σ) :
    loopM (n + 1) step s = (step s).bind (fun c => match c with | .next s' => loopM n step s' | r => ok r) := rfl

/-! #### loops that succeed -/

/-- what a loop body returns when it goes round once more, into a state that satisfies `I` -/
def Next {σ ρ : Type} (I : σ → Prop) (c : Ctl σ ρ) : Prop := ∃ s', c = .next s' ∧ I s'

theorem sat_next {σ ρ : Type} {I : σ → Prop} {s' : σ} (h : I s') : (ok (Ctl.next s' : Ctl σ ρ)).sat (Next I) :=
  ⟨_, rfl, s', rfl, h⟩

/-- `I j s`: `s` can be the state after `j` iterations; `n` bounds their number.  If the body, from a state satisfying
`I j`, either goes round into a state satisfying `I (j + 1)` (and `j < n`), or leaves the loop (`break`, `return`, a
false `while` condition) with a control value satisfying `P`, then the loop followed by the rest `k` of the function
succeeds with whatever `k` achieves under `P`.  The fuel only has to exceed `n`.

In use: when the loop is not the first statement of the goal, `simp only [bind_assoc]` first; give `h0` as
`(by exact …)` (it is elaborated before `s` is known). -/
theorem loop_sat {σ ρ τ : Type} (I : Nat → σ → Prop) (P : Ctl σ ρ → Prop) (n : Nat) (step : σ → Outcome (Ctl σ ρ))
    (k : Ctl σ ρ → Outcome τ) {Q : τ → Prop} {fuel : Nat} (hf : n < fuel)
    (h : ∀ j s, j ≤ n → I j s → (step s).sat fun c => match c with
      | .next s' => j < n ∧ I (j + 1) s'
      | c => P c)
    {s : σ} (h0 : I 0 s) (hk : ∀ c, P c → (k c).sat Q) :
    (loopM fuel step s >>= k).sat Q := by
  suffices ∀ d j s fuel, j + d = n → d < fuel → I j s → (loopM fuel step s >>= k).sat Q from
    this n 0 s fuel (Nat.zero_add n) hf h0
  intro d
  induction d with
  | zero =>
    intro j s fuel hj hfuel hs
    obtain ⟨g, rfl⟩ : ∃ g, fuel = g + 1 := ⟨fuel - 1, by omega⟩
    obtain ⟨c, e, hc⟩ := h j s (by omega) hs
    rw [loopM_succ, e]
    cases c with
    | next s' => exact absurd hc.1 (by omega)
    | brk s' => exact hk _ hc
    | ret r => exact hk _ hc
  | succ d ih =>
    intro j s fuel hj hfuel hs
    obtain ⟨g, rfl⟩ : ∃ g, fuel = g + 1 := ⟨fuel - 1, by omega⟩
    obtain ⟨c, e, hc⟩ := h j s (by omega) hs
    rw [loopM_succ, e]
    cases c with
    | next s' => exact ih (j + 1) s' g (by omega) (by omega) hc.2
    | brk s' => exact hk _ hc
    | ret r => exact hk _ hc

/-- … for a loop that goes round exactly `n` times and leaves at the next test -/
theorem while_sat {σ ρ τ : Type} (I : Nat → σ → Prop) (n : Nat) (step : σ → Outcome (Ctl σ ρ))
    (k : Ctl σ ρ → Outcome τ) {Q : τ → Prop} {fuel : Nat} (hf : n < fuel)
    (h1 : ∀ j s, j < n → I j s → (step s).sat (Next (I (j + 1))))
    (h2 : ∀ s, I n s → step s = ok (.brk s))
    {s : σ} (h0 : I 0 s) (hk : ∀ s', I n s' → (k (.brk s')).sat Q) :
    (loopM fuel step s >>= k).sat Q := by
  refine loop_sat I (fun c => ∃ s', c = .brk s' ∧ I n s') n step k hf (fun j s hj hs => ?_) h0
    (fun c ⟨s', e, hs'⟩ => e ▸ hk s' hs')
  by_cases hjn : j < n
  · obtain ⟨_, e, s', rfl, hs'⟩ := h1 j s hjn hs
    exact ⟨_, e, hjn, hs'⟩
  · have : j = n := by omega
    subst this
    exact ⟨_, h2 s hs, s, rfl, hs⟩

/-- … for `for i in lo..hi` as the translator writes it (counter in the state, fuel `hi - lo + 1`): `I i s` speaks of
the state before iteration `i` -/
theorem for_sat {σ ρ τ : Type} (I : Nat → σ → Prop) {lo hi : Nat} (hlo : lo ≤ hi)
    (step : Nat × σ → Outcome (Ctl (Nat × σ) ρ)) (k : Ctl (Nat × σ) ρ → Outcome τ) {Q : τ → Prop}
    (h1 : ∀ i s, lo ≤ i → i < hi → I i s → (step (i, s)).sat (Next fun p => p.1 = i + 1 ∧ I (i + 1) p.2))
    (h2 : ∀ s, I hi s → step (hi, s) = ok (.brk (hi, s)))
    {s : σ} (h0 : I lo s) (hk : ∀ s', I hi s' → (k (.brk (hi, s'))).sat Q) :
    (loopM (hi - lo + 1) step (lo, s) >>= k).sat Q := by
  refine while_sat (fun j p => p.1 = lo + j ∧ I (lo + j) p.2) (hi - lo) step k (Nat.lt_succ_self _)
    (fun j p hj hp => ?_) (fun p hp => ?_) ⟨rfl, h0⟩ (fun p hp => ?_)
  · obtain ⟨i, s⟩ := p
    obtain ⟨rfl, hs⟩ := hp
    obtain ⟨_, e, p', rfl, hi', hs'⟩ := h1 (lo + j) s (Nat.le_add_right _ _) (by omega) hs
    exact ⟨_, e, p', rfl, by rw [hi']; omega, by rw [show lo + (j + 1) = lo + j + 1 by omega]; exact hs'⟩
  · obtain ⟨i, s⟩ := p
    obtain ⟨rfl, hs⟩ := hp
    have e : lo + (hi - lo) = hi := by omega
    rw [e] at hs ⊢
    exact h2 s hs
  · obtain ⟨i, s⟩ := p
    obtain ⟨rfl, hs⟩ := hp
    have e : lo + (hi - lo) = hi := by omega
    rw [e] at hs ⊢
    exact hk s hs

/-- … for `for x in l` as the translator writes it (a counter loop that reads item `i` of `l` by some accessor):
`I pre s` speaks of the state after the items `pre`; in `h1` the decomposition `l = pre ++ x :: suf` says what the
accessor returns at `pre.length` (`getD_split`, `rd_split`) -/
theorem for_each_sat {α σ ρ τ : Type} (I : List α → σ → Prop) (l : List α)
    (step : Nat × σ → Outcome (Ctl (Nat × σ) ρ)) (k : Ctl (Nat × σ) ρ → Outcome τ) {Q : τ → Prop}
    (h1 : ∀ pre x suf s, l = pre ++ x :: suf → I pre s →
      (step (pre.length, s)).sat (Next fun p => p.1 = pre.length + 1 ∧ I (pre ++ [x]) p.2))
    (h2 : ∀ s, I l s → step (l.length, s) = ok (.brk (l.length, s)))
    {s : σ} (h0 : I [] s) (hk : ∀ s', I l s' → (k (.brk (l.length, s'))).sat Q) :
    (loopM (l.length - 0 + 1) step (0, s) >>= k).sat Q := by
  refine for_sat (fun i s => I (l.take i) s) (Nat.zero_le _) step k (fun i s _ hi hs => ?_)
    (fun s hs => h2 s (by rwa [List.take_length] at hs)) h0
    (fun s' hs' => hk s' (by rwa [List.take_length] at hs'))
  have e := h1 (l.take i) l[i] (l.drop (i + 1)) s
    (by rw [← List.drop_eq_getElem_cons hi, List.take_append_drop]) hs
  rw [List.length_take, Nat.min_eq_left (Nat.le_of_lt hi), ← List.take_succ_eq_append_getElem hi] at e
  exact e

theorem getD_split {α : Type} {l pre suf : List α} {x : α} (h : l = pre ++ x :: suf) (d : α) :
    l.getD pre.length d = x := by
  subst h; simp

theorem rd_split {a : Array Word} {pre suf : List Word} {x : Word} (h : a.toList = pre ++ x :: suf) :
    rd a pre.length = x := by
  obtain ⟨l⟩ := a
  simp only at h
  subst h
  simp [rd]

theorem foldl_range_succ {σ : Type} (f : σ → Nat → σ) (s : σ) (n : Nat) :
    (List.range (n + 1)).foldl f s = f ((List.range n).foldl f s) n := by
  rw [List.range_succ, List.foldl_append]; rfl

/-- the equation form of `for_sat`, for a state that is the pure fold of `g` -/
theorem for_range_inv {τ ρ : Type} (n : Nat) (g : τ → Nat → τ) (I : Nat → τ → Prop)
    (step : Nat × τ → Outcome (Ctl (Nat × τ) ρ))
    (h1 : ∀ i t, i < n → I i t → step (i, t) = ok (Ctl.next (i + 1, g t i)) ∧ I (i + 1) (g t i))
    (h2 : ∀ t, step (n, t) = ok (Ctl.brk (n, t))) (t : τ) (ht : I 0 t) :
    loopM (n - 0 + 1) step (0, t) = ok (Ctl.brk (n, (List.range n).foldl g t)) := by
  have h := for_sat (fun i u => u = (List.range i).foldl g t ∧ I i u) (Nat.zero_le n) step ok
    (Q := (· = Ctl.brk (n, (List.range n).foldl g t)))
    (fun i u _ hi ⟨e, hu⟩ => by
      obtain ⟨e1, hu'⟩ := h1 i u hi hu
      rw [e1]
      exact sat_next ⟨rfl, by rw [foldl_range_succ, ← e], hu'⟩)
    (fun u _ => h2 u) ⟨rfl, ht⟩ (fun u ⟨e, _⟩ => sat_ok (by rw [e]))
  obtain ⟨a, e, rfl⟩ := h
  change (loopM (n - 0 + 1) step (0, t) >>= ok) = _ at e
  cases hl : loopM (n - 0 + 1) step (0, t) with
  | fault f => rw [hl] at e; cases e
  | ok c => rw [hl] at e; exact e

/-! #### loops whose faults are part of the equation -/

/-- A translated loop followed by the statements after it (`fin`) is a recursion `M` on the fuel.  What is left to
prove is one unfolding (`hS`): a run of the body, continued by `R` where it says `next`, is `M (n + 1)` — for any `R`
that is `M n` on the states of the invariant (the induction hypothesis; so the body is walked once, and where it says
`next s'` the walk has shown `inv s'`). -/
theorem loopM_ind {σ ρ τ : Type} (step : σ → Outcome (Ctl σ ρ)) (fin : Ctl σ ρ → Outcome τ)
    (M : Nat → σ → Outcome τ) (inv : σ → Prop)
    (h0 : ∀ s, M 0 s = fault .fuel)
    (hS : ∀ n s, inv s → ∀ R : σ → Outcome τ, (∀ s', inv s' → R s' = M n s') →
      (step s >>= fun c => match c with | .next s' => R s' | r => fin r) = M (n + 1) s) :
    ∀ n s, inv s → (loopM n step s >>= fin) = M n s := by
  intro n
  induction n with
  | zero => intro s _; rw [h0]; rfl
  | succ n ih =>
    intro s hs
    rw [← hS n s hs (fun s' => loopM n step s' >>= fin) ih, loopM_succ]
    cases step s with
    | fault e => rfl
    | ok c => cases c <;> rfl

/-- … with the one-iteration equation `hM` and the invariant `hinv` proved separately -/
theorem loopM_bind_eq {σ ρ τ : Type} (step : σ → Outcome (Ctl σ ρ)) (fin : Ctl σ ρ → Outcome τ)
    (M : Nat → σ → Outcome τ) (inv : σ → Prop)
    (h0 : ∀ s, M 0 s = fault .fuel)
    (hM : ∀ n s, inv s → M (n + 1) s = (step s >>= fun c => match c with | .next s' => M n s' | r => fin r))
    (hinv : ∀ s s', inv s → step s = ok (.next s') → inv s') :
    ∀ n s, inv s → (loopM n step s >>= fin) = M n s :=
  loopM_ind step fin M inv h0 fun n s hs R hR => by
    rw [hM n s hs]
    cases hc : step s with
    | fault e => rfl
    | ok c =>
      cases c with
      | next s' => exact hR s' (hinv s s' hs hc)
      | brk s' => rfl
      | ret r => rfl

/-- … the loop alone (`fin = ok`) -/
theorem loopM_eq {σ ρ : Type} (step : σ → Outcome (Ctl σ ρ)) (M : Nat → σ → Outcome (Ctl σ ρ)) (inv : σ → Prop)
    (h0 : ∀ s, M 0 s = fault .fuel)
    (hM : ∀ n s, inv s → M (n + 1) s = (step s >>= fun c => match c with | .next s' => M n s' | r => ok r))
    (hinv : ∀ s s', inv s → step s = ok (.next s') → inv s') (n : Nat) (s : σ) (hs : inv s) :
    loopM n step s = M n s := by
  rw [← loopM_bind_eq step ok M inv h0 hM hinv n s hs]
  cases loopM n step s <;> rfl

/-- `for i in 0..n { t = g(t, i)? }` against the model's fold of `g`, for a body that may fault.  `φ t` is the state of
the translated loop for the model state `t` (a value kept as a word, say), `I i t` what is known before iteration `i`:
enough for the translated body to be `g` there (`h1`), and kept by `g`.  `I` then also holds of the result of the fold. -/
theorem for_range_sim {σ τ ρ : Type} (n : Nat) (φ : τ → σ) (g : τ → Nat → Outcome τ) (I : Nat → τ → Prop)
    (step : Nat × σ → Outcome (Ctl (Nat × σ) ρ))
    (h1 : ∀ i t, i < n → I i t →
      step (i, φ t) = (g t i >>= fun t' => ok (Ctl.next (i + 1, φ t'))) ∧ ∀ t', g t i = ok t' → I (i + 1) t')
    (h2 : ∀ s, step (n, s) = ok (Ctl.brk (n, s))) :
    ∀ k i t, i + k = n → I i t →
      loopM (k + 1) step (i, φ t) = ((List.range' i k).foldlM g t >>= fun t' => ok (Ctl.brk (n, φ t'))) ∧
        ∀ t', (List.range' i k).foldlM g t = ok t' → I n t' := by
  intro k
  induction k with
  | zero =>
    intro i t hi ht
    obtain rfl : i = n := hi
    exact ⟨by rw [loopM_succ, h2]; rfl, fun t' e => by cases e; exact ht⟩
  | succ k ih =>
    intro i t hi ht
    obtain ⟨e, hI⟩ := h1 i t (by omega) ht
    rw [loopM_succ, e, List.range'_succ, List.foldlM_cons]
    cases hg : g t i with
    | fault f => exact ⟨rfl, fun t' e => by cases e⟩
    | ok t1 => exact ih (i + 1) t1 (by omega) (hI t1 hg)

/-- … from `0`, as the translation writes it -/
theorem for_range_sim' {σ τ ρ : Type} (n : Nat) (φ : τ → σ) (g : τ → Nat → Outcome τ) (I : Nat → τ → Prop)
    (step : Nat × σ → Outcome (Ctl (Nat × σ) ρ))
    (h1 : ∀ i t, i < n → I i t →
      step (i, φ t) = (g t i >>= fun t' => ok (Ctl.next (i + 1, φ t'))) ∧ ∀ t', g t i = ok t' → I (i + 1) t')
    (h2 : ∀ s, step (n, s) = ok (Ctl.brk (n, s))) (t : τ) (ht : I 0 t) :
    loopM (n - 0 + 1) step (0, φ t) = ((List.range n).foldlM g t >>= fun t' => ok (Ctl.brk (n, φ t'))) := by
  rw [List.range_eq_range']
  exact (for_range_sim n φ g I step h1 h2 n 0 t (Nat.zero_add n) ht).1

/-- … without embedding or invariant: `for i in lo..n { s = body(s, i)? }` -/
theorem for_loop {σ ρ : Type} (n : Nat) (body : σ → Nat → Outcome σ)
    (step : Nat × σ → Outcome (Ctl (Nat × σ) ρ))
    (h1 : ∀ i s, i < n → step (i, s) = (body s i).bind (fun s' => ok (Ctl.next (i + 1, s'))))
    (h2 : ∀ i s, ¬ i < n → step (i, s) = ok (Ctl.brk (i, s))) :
    ∀ k i s, i + k = n →
      loopM (k + 1) step (i, s) = ((List.range' i k).foldlM body s).bind (fun s' => ok (Ctl.brk (n, s'))) :=
  fun k i s hi => (for_range_sim n id body (fun _ _ => True) step (fun i t hi _ => ⟨h1 i t hi, fun _ _ => trivial⟩)
    (fun s => h2 n s (Nat.lt_irrefl n)) k i s hi trivial).1

/-- … from `0` -/
theorem for_loop_range {σ ρ : Type} (n : Nat) (body : σ → Nat → Outcome σ)
    (step : Nat × σ → Outcome (Ctl (Nat × σ) ρ))
    (h1 : ∀ i s, i < n → step (i, s) = (body s i).bind (fun s' => ok (Ctl.next (i + 1, s'))))
    (h2 : ∀ i s, ¬ i < n → step (i, s) = ok (Ctl.brk (i, s))) (s : σ) :
    loopM (n - 0 + 1) step (0, s) = ((List.range n).foldlM body s).bind (fun s' => ok (Ctl.brk (n, s'))) := by
  rw [List.range_eq_range']
  exact for_loop n body step h1 h2 n 0 s (by omega)

end Sds.GenEq
