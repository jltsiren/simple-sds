/-
Proofs/GenEqIter: the two-cursor iterators `ops::AccessIter` and `bit_vector::Iter` as TRANSLATED statement by
statement from the source on every run (Generated/FnsIter.lean) perform exactly the step `cursorStep` of Model/Iter
that the deque-simulation theorems of C09 / C10 are about — for every cursor with `next ≤ limit < 2^64` (the invariant
of every iterator the library creates and of every state reached from one), every `n`, both arithmetic modes.
-/
import Sds.Model.Iter
import Sds.Generated.FnsIter
import Sds.Proofs.GenSimp

namespace Sds.GenEq
open Sds Outcome Generated

/-- the `Option` an iterator call returns -/
def outOpt {α} : IOut α → Option α
  | .item a => some a
  | _ => none

def stepPair {α} (get : Nat → α) (c : Cursor) (k : ICall) : Option α × Cursor :=
  (outOpt (cursorStep get c k).1, (cursorStep get c k).2)

theorem access_next_eq {α} (m : Mode) (get : Nat → α) (c : Cursor) (hl : c.limit < U64) :
    gen_AccessIter_next m get c = ok (stepPair get c .next) := by
  unfold gen_AccessIter_next stepPair cursorStep
  by_cases h : c.next ≥ c.limit
  · simp only [gen_simp, h, outOpt]
  · simp only [gen_simp, h, outOpt, Nat.lt_of_le_of_lt (Nat.lt_of_not_le h) hl]

theorem access_next_back_eq {α} (m : Mode) (get : Nat → α) (c : Cursor) :
    gen_AccessIter_next_back m get c = ok (stepPair get c .nextBack) := by
  unfold gen_AccessIter_next_back stepPair cursorStep
  by_cases h : c.next ≥ c.limit
  · simp only [gen_simp, h, outOpt]
  · simp only [gen_simp, h, outOpt, show 1 ≤ c.limit from Nat.lt_of_le_of_lt (Nat.zero_le _) (Nat.lt_of_not_le h)]

/-- `nth` / `nth_back` move by at most the distance between the two ends -/
theorem cursor_nth_le {c : Cursor} (hc : c.next ≤ c.limit) (k : Nat) : c.next + min k (c.limit - c.next) ≤ c.limit :=
  Nat.le_trans (Nat.add_le_add_left (Nat.min_le_right _ _) _) (Nat.le_of_eq (Nat.add_sub_cancel' hc))

theorem access_nth_eq {α} (m : Mode) (get : Nat → α) (c : Cursor) (n : Nat) (hc : c.next ≤ c.limit) (hl : c.limit < U64) :
    gen_AccessIter_nth m get c n = ok (stepPair get c (.nth n)) := by
  unfold gen_AccessIter_nth
  simp only [gen_simp, hc, Nat.lt_of_le_of_lt (cursor_nth_le hc n) hl]
  rw [access_next_eq m get ⟨c.next + min n (c.limit - c.next), c.limit⟩ hl]
  unfold stepPair cursorStep
  by_cases h : c.next + min n (c.limit - c.next) ≥ c.limit <;> simp only [gen_simp, h]

theorem access_nth_back_eq {α} (m : Mode) (get : Nat → α) (c : Cursor) (n : Nat) (hc : c.next ≤ c.limit) :
    gen_AccessIter_nth_back m get c n = ok (stepPair get c (.nthBack n)) := by
  unfold gen_AccessIter_nth_back
  simp only [gen_simp, hc, Nat.le_trans (Nat.min_le_right n _) (Nat.sub_le c.limit c.next), access_next_back_eq]
  unfold stepPair cursorStep
  by_cases h : c.next ≥ c.limit - min n (c.limit - c.next) <;> simp only [gen_simp, h]

theorem access_size_hint_eq {α} (m : Mode) (get : Nat → α) (c : Cursor) (hc : c.next ≤ c.limit) :
    gen_AccessIter_size_hint m get c = ok (c.limit - c.next, some (c.limit - c.next)) := by
  unfold gen_AccessIter_size_hint
  simp only [gen_simp, hc]

/-- the step keeps the invariant, so the equations apply along every call history -/
theorem cursorStep_inv {α} (get : Nat → α) (c : Cursor) (k : ICall) (hc : c.next ≤ c.limit) :
    (cursorStep get c k).2.next ≤ (cursorStep get c k).2.limit ∧ (cursorStep get c k).2.limit ≤ c.limit := by
  cases k with
  | next =>
    simp only [cursorStep]; split
    · exact ⟨hc, Nat.le_refl _⟩
    · next h => exact ⟨Nat.lt_of_not_le h, Nat.le_refl _⟩
  | nextBack =>
    simp only [cursorStep]; split
    · exact ⟨hc, Nat.le_refl _⟩
    · next h => exact ⟨Nat.le_sub_one_of_lt (Nat.lt_of_not_le h), Nat.sub_le _ _⟩
  | nth k =>
    simp only [cursorStep]; split
    · exact ⟨cursor_nth_le hc k, Nat.le_refl _⟩
    · next h => exact ⟨Nat.lt_of_not_le h, Nat.le_refl _⟩
  | nthBack k =>
    simp only [cursorStep]; split
    · exact ⟨Nat.le_sub_of_add_le (cursor_nth_le hc k), Nat.sub_le _ _⟩
    · next h =>
      exact ⟨Nat.le_sub_one_of_lt (Nat.lt_of_not_le h), Nat.le_trans (Nat.sub_le _ 1) (Nat.sub_le _ _)⟩
  | len => exact ⟨hc, Nat.le_refl _⟩

/-! `bit_vector::Iter` has the same five bodies: its translation unfolds to that of `AccessIter`, term for term -/

theorem bit_next_eq {α} (m : Mode) (get : Nat → α) (c : Cursor) (hl : c.limit < U64) :
    gen_BitIter_next m get c = ok (stepPair get c .next) :=
  access_next_eq m get c hl

theorem bit_next_back_eq {α} (m : Mode) (get : Nat → α) (c : Cursor) :
    gen_BitIter_next_back m get c = ok (stepPair get c .nextBack) :=
  access_next_back_eq m get c

theorem bit_nth_eq {α} (m : Mode) (get : Nat → α) (c : Cursor) (n : Nat) (hc : c.next ≤ c.limit) (hl : c.limit < U64) :
    gen_BitIter_nth m get c n = ok (stepPair get c (.nth n)) :=
  access_nth_eq m get c n hc hl

theorem bit_nth_back_eq {α} (m : Mode) (get : Nat → α) (c : Cursor) (n : Nat) (hc : c.next ≤ c.limit) :
    gen_BitIter_nth_back m get c n = ok (stepPair get c (.nthBack n)) :=
  access_nth_back_eq m get c n hc

theorem bit_size_hint_eq {α} (m : Mode) (get : Nat → α) (c : Cursor) (hc : c.next ≤ c.limit) :
    gen_BitIter_size_hint m get c = ok (c.limit - c.next, some (c.limit - c.next)) :=
  access_size_hint_eq m get c hc

end Sds.GenEq
