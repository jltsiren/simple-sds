/-
Proofs/IterSim: an iterator simulates the reference deque (`dequeStep`, `dequeRunM` of Model/Iter.lean).

An iterator is a pair of step functions `next`, `nextBack` (and `len`) on a state type, tied to the deque by a relation
`Rel`.  Its correctness is the two pop facts `FwdSim` / `BwdSim` (and `LenSim`); the default `nth` / `nth_back`, every
call of the three alphabets, every call history of a run machine (`run_sim`, `endRun_sim`) and running to exhaustion
(`FwdSim.drain_of`) are derived from them here, once.  The relations say "`d` is the window `[a, b)` of a sequence": `seg`
for a window of a list, `win` for a window of a function, with the lemmas that turn index-level pop facts into
`FwdSim` / `BwdSim` / `LenSim`.  The run machines are defined here as well: `genRun` / `fwdRun` / `nRun` over given step
functions, and `cursorRunM`, the two-cursor machine of Model/Iter.lean over a `get` that can fault.
-/
import Sds.Model.Iter
import Sds.Proofs.Outcome

namespace Sds.IterProofs
open Sds Outcome

/-- the segment `[a, b)` of the reference list -/
def seg {α} (xs : List α) (a b : Nat) : List α := (xs.take b).drop a

theorem seg_length {α} (xs : List α) (a b : Nat) (hb : b ≤ xs.length) : (seg xs a b).length = b - a := by
  unfold seg
  rw [List.length_drop, List.length_take, Nat.min_eq_left hb]

theorem seg_nil {α} (xs : List α) (a b : Nat) (h : b ≤ a) : seg xs a b = [] := by
  unfold seg
  apply List.drop_eq_nil_of_le
  rw [List.length_take]; omega

theorem seg_getElem? {α} (xs : List α) (a b i : Nat) :
    (seg xs a b)[i]? = if a + i < b then xs[a + i]? else none := by
  unfold seg
  rw [List.getElem?_drop, List.getElem?_take]

theorem seg_cons_getElem {α} (xs : List α) {a b : Nat} (hab : a < b) (hb : b ≤ xs.length) :
    seg xs a b = xs[a] :: seg xs (a + 1) b := by
  unfold seg
  rw [List.drop_eq_getElem_cons (by rw [List.length_take]; omega), List.getElem_take]

theorem seg_drop {α} (xs : List α) (a b k : Nat) : (seg xs a b).drop k = seg xs (a + k) b := by
  unfold seg
  rw [List.drop_drop]

theorem seg_take {α} (xs : List α) (a b j : Nat) (hj : a + j ≤ b) : (seg xs a b).take j = seg xs a (a + j) := by
  apply List.ext_getElem?
  intro i
  rw [List.getElem?_take, seg_getElem?, seg_getElem?]
  by_cases h : i < j
  · rw [if_pos h, if_pos (by omega), if_pos (by omega)]
  · rw [if_neg h, if_neg (by omega)]

theorem seg_getLast?_getElem {α} (xs : List α) {a b : Nat} (hab : a < b) (hb : b ≤ xs.length) :
    (seg xs a b).getLast? = some (xs[b - 1]'(by omega)) := by
  rw [List.getLast?_eq_getElem?, seg_length xs a b hb, seg_getElem?, if_pos (by omega),
    show a + (b - a - 1) = b - 1 by omega, List.getElem?_eq_getElem]

theorem seg_dropLast {α} (xs : List α) (a b : Nat) (hab : a < b) (hb : b ≤ xs.length) :
    (seg xs a b).dropLast = seg xs a (b - 1) := by
  rw [List.dropLast_eq_take, seg_length xs a b hb, seg_take xs a b _ (by omega)]
  congr 1; omega

def optOut {α} : Option α → IOut α
  | none => .none
  | some a => .item a

end Sds.IterProofs

namespace Sds.Iter2
open Sds Outcome IterProofs

variable {σ α C : Type}

/-- `Iterator::nth` / `DoubleEndedIterator::nth_back` as the standard library defines them when the iterator does
not override them (`advance_by(n)` = call `next()` `n` times, giving up with `None` at the first `None`; then one
more `next()`), over a fallible step function -/
def nthDefault (next : σ → Outcome (Option α × σ)) : Nat → σ → Outcome (Option α × σ)
  | 0, it => next it
  | k + 1, it => do
    let r ← next it
    match r.1 with
    | none => return (none, r.2)
    | some _ => nthDefault next k r.2

/-- one call of a double-ended `ExactSizeIterator` whose `nth` / `nth_back` are the defaults and whose `len()` is
`len` (`ExactSizeIterator::len` = `size_hint().0`) -/
def genStep (next nextBack : σ → Outcome (Option α × σ)) (len : σ → Outcome Nat) (it : σ) :
    ICall → Outcome (IOut α × σ)
  | .next => do let r ← next it; return (optOut r.1, r.2)
  | .nextBack => do let r ← nextBack it; return (optOut r.1, r.2)
  | .nth k => do let r ← nthDefault next k it; return (optOut r.1, r.2)
  | .nthBack k => do let r ← nthDefault nextBack k it; return (optOut r.1, r.2)
  | .len => do let n ← len it; return (.len n, it)

/-- a call history; a fault anywhere makes the whole run a fault -/
def genRun (next nextBack : σ → Outcome (Option α × σ)) (len : σ → Outcome Nat) :
    σ → List ICall → Outcome (List (IOut α))
  | _, [] => ok []
  | it, c :: cs => do
    let r ← genStep next nextBack len it c
    let os ← genRun next nextBack len r.2 cs
    return r.1 :: os

/-- the call alphabet of a forward-only `ExactSizeIterator` -/
inductive FCall | next | nth (k : Nat) | len
  deriving DecidableEq, Repr

def FCall.toICall : FCall → ICall
  | .next => .next
  | .nth k => .nth k
  | .len => .len

def fwdStep (next : σ → Outcome (Option α × σ)) (len : σ → Outcome Nat) (it : σ) : FCall → Outcome (IOut α × σ)
  | .next => do let r ← next it; return (optOut r.1, r.2)
  | .nth k => do let r ← nthDefault next k it; return (optOut r.1, r.2)
  | .len => do let n ← len it; return (.len n, it)

def fwdRun (next : σ → Outcome (Option α × σ)) (len : σ → Outcome Nat) : σ → List FCall → Outcome (List (IOut α))
  | _, [] => ok []
  | it, c :: cs => do
    let r ← fwdStep next len it c
    let os ← fwdRun next len r.2 cs
    return r.1 :: os

/-- the call alphabet of a forward-only iterator that is not an `ExactSizeIterator` -/
inductive NCall | next | nth (k : Nat)
  deriving DecidableEq, Repr

def NCall.toICall : NCall → ICall
  | .next => .next
  | .nth k => .nth k

def nStep (next : σ → Outcome (Option α × σ)) (it : σ) : NCall → Outcome (IOut α × σ)
  | .next => do let r ← next it; return (optOut r.1, r.2)
  | .nth k => do let r ← nthDefault next k it; return (optOut r.1, r.2)

def nRun (next : σ → Outcome (Option α × σ)) : σ → List NCall → Outcome (List (IOut α))
  | _, [] => ok []
  | it, c :: cs => do
    let r ← nStep next it c
    let os ← nRun next r.2 cs
    return r.1 :: os

/-- `cursorStep` of Model/Iter.lean with the item fetched through a fallible `get` (`AccessIter` over a parent whose
`get` can fault, `ops.rs:287-330`; `WaveletMatrix::iter`) -/
def cursorStepM {α} (get : Nat → Outcome α) (c : Cursor) : ICall → Outcome (IOut α × Cursor)
  | .next => if c.next ≥ c.limit then ok (.none, c) else do
      let x ← get c.next
      return (.item x, { c with next := c.next + 1 })
  | .nextBack => if c.next ≥ c.limit then ok (.none, c) else do
      let x ← get (c.limit - 1)
      return (.item x, { c with limit := c.limit - 1 })
  | .nth k =>
    let n := c.next + min k (c.limit - c.next)
    if n ≥ c.limit then ok (.none, { c with next := n }) else do
      let x ← get n
      return (.item x, { c with next := n + 1 })
  | .nthBack k =>
    let l := c.limit - min k (c.limit - c.next)
    if c.next ≥ l then ok (.none, { c with limit := l }) else do
      let x ← get (l - 1)
      return (.item x, { c with limit := l - 1 })
  | .len => ok (.len (c.limit - c.next), c)

def cursorRunM {α} (get : Nat → Outcome α) : Cursor → List ICall → Outcome (List (IOut α))
  | _, [] => ok []
  | c, k :: ks => do
    let r ← cursorStepM get c k
    let os ← cursorRunM get r.2 ks
    return r.1 :: os

/-! ### the reference deque, call by call -/

theorem deque_next_nil : dequeStep ([] : List α) .next = (.none, []) := rfl
theorem deque_next_cons (x : α) (d : List α) : dequeStep (x :: d) .next = (.item x, d) := rfl

theorem deque_nth_zero (d : List α) : dequeStep d (.nth 0) = dequeStep d .next := by
  cases d <;> rfl

theorem deque_nth_nil (k : Nat) : dequeStep ([] : List α) (.nth k) = (.none, []) := by
  simp [dequeStep]

theorem deque_nth_succ_cons (x : α) (d : List α) (k : Nat) :
    dequeStep (x :: d) (.nth (k + 1)) = dequeStep d (.nth k) := by
  simp [dequeStep]

theorem deque_nextBack_nil : dequeStep ([] : List α) .nextBack = (.none, []) := rfl

theorem deque_nthBack_zero (d : List α) : dequeStep d (.nthBack 0) = dequeStep d .nextBack := by
  simp [dequeStep]

/-- `nth_back k` is `nth k` on the reversed deque -/
theorem dequeStep_nthBack (d : List α) (k : Nat) :
    dequeStep d (.nthBack k) =
      ((dequeStep d.reverse (.nth k)).1, (dequeStep d.reverse (.nth k)).2.reverse) := by
  simp only [dequeStep, List.drop_reverse]
  generalize d.take (d.length - k) = r
  rcases List.eq_nil_or_concat r with rfl | ⟨r', x, rfl⟩
  · rfl
  · simp

/-! ### single-step simulation hypotheses -/

/-- `next` against the front of the deque: same answer, no fault, relation kept -/
structure FwdSim (next : σ → Outcome (Option α × σ)) (Rel : σ → List α → Prop) : Prop where
  nil : ∀ it, Rel it [] → ∃ it', next it = ok (none, it') ∧ Rel it' []
  cons : ∀ it x d, Rel it (x :: d) → ∃ it', next it = ok (some x, it') ∧ Rel it' d

/-- `next_back` against the back of the deque -/
structure BwdSim (nextBack : σ → Outcome (Option α × σ)) (Rel : σ → List α → Prop) : Prop where
  nil : ∀ it, Rel it [] → ∃ it', nextBack it = ok (none, it') ∧ Rel it' []
  snoc : ∀ it d x, Rel it (d ++ [x]) → ∃ it', nextBack it = ok (some x, it') ∧ Rel it' d

/-- `len()` is exact -/
def LenSim (len : σ → Outcome Nat) (Rel : σ → List α → Prop) : Prop := ∀ it d, Rel it d → len it = ok d.length

/-- one item call `f` of an iterator against the deque call `c`: same answer, no fault, relation kept.  `next` and
the default `nth` / `nth_back` have it from the pop facts (below); an `nth` of the iterator's own has it by an argument
of its own (`win_nthSim`); `step_of_sim` turns it into the case of a step function. -/
def CallSim (f : σ → Outcome (Option α × σ)) (c : ICall) (Rel : σ → List α → Prop) : Prop :=
  ∀ {it d}, Rel it d → ∃ o it', f it = ok (o, it') ∧ optOut o = (dequeStep d c).1 ∧ Rel it' (dequeStep d c).2

theorem next_sim {next : σ → Outcome (Option α × σ)} {Rel : σ → List α → Prop} (F : FwdSim next Rel) :
    CallSim next .next Rel := by
  intro it d h
  cases d with
  | nil => obtain ⟨it', h1, h2⟩ := F.nil it h; exact ⟨none, it', h1, rfl, h2⟩
  | cons x d => obtain ⟨it', h1, h2⟩ := F.cons it x d h; exact ⟨some x, it', h1, rfl, h2⟩

/-- **the default `nth(k)`** over a simulated `next` answers as the deque's `nth k`, for every `k` -/
theorem nthDefault_sim {next : σ → Outcome (Option α × σ)} {Rel : σ → List α → Prop} (F : FwdSim next Rel) (k : Nat) :
    CallSim (nthDefault next k) (.nth k) Rel := by
  induction k with
  | zero =>
    intro it d h
    rw [deque_nth_zero]
    exact next_sim F h
  | succ k ih =>
    intro it d h
    cases d with
    | nil =>
      obtain ⟨it', h1, h2⟩ := F.nil it h
      refine ⟨none, it', ?_, ?_, ?_⟩
      · rw [nthDefault, h1]; rfl
      · rw [deque_nth_nil]; rfl
      · rw [deque_nth_nil]; exact h2
    | cons x d =>
      obtain ⟨it', h1, h2⟩ := F.cons it x d h
      obtain ⟨o, it'', g1, g2, g3⟩ := ih h2
      refine ⟨o, it'', ?_, ?_, ?_⟩
      · rw [nthDefault, h1]; exact g1
      · rw [deque_nth_succ_cons]; exact g2
      · rw [deque_nth_succ_cons]; exact g3

/-- `next_back` simulates the back of the deque: it simulates the front of the reversed deque -/
theorem BwdSim.reverse {nextBack : σ → Outcome (Option α × σ)} {Rel : σ → List α → Prop}
    (B : BwdSim nextBack Rel) : FwdSim nextBack (fun it d => Rel it d.reverse) :=
  ⟨B.nil, fun it x d h => B.snoc it d.reverse x (List.reverse_cons ▸ h)⟩

/-- **the default `nth_back(k)`** over a simulated `next_back` answers as the deque's `nth_back k` -/
theorem nthBackDefault_sim {nextBack : σ → Outcome (Option α × σ)} {Rel : σ → List α → Prop}
    (B : BwdSim nextBack Rel) (k : Nat) : CallSim (nthDefault nextBack k) (.nthBack k) Rel := by
  intro it d h
  rw [dequeStep_nthBack]
  exact nthDefault_sim B.reverse k (d := d.reverse) (show Rel it d.reverse.reverse by rw [List.reverse_reverse]; exact h)

theorem nextBack_sim {nextBack : σ → Outcome (Option α × σ)} {Rel : σ → List α → Prop} (B : BwdSim nextBack Rel) :
    CallSim nextBack .nextBack Rel := by
  intro it d h
  rw [← deque_nthBack_zero]
  exact nthBackDefault_sim B 0 h

/-- an item call of the run machines is `do let r ← f; return (optOut r.1, r.2)` for one of the simulated `f` -/
theorem step_of_sim {Rel : σ → List α → Prop} {f : Outcome (Option α × σ)} {D : IOut α × List α}
    (h : ∃ o it', f = ok (o, it') ∧ optOut o = D.1 ∧ Rel it' D.2) :
    ∃ it', (do let r ← f; return (optOut r.1, r.2)) = ok (D.1, it') ∧ Rel it' D.2 := by
  obtain ⟨o, it', h1, h2, h3⟩ := h
  exact ⟨it', by rw [h1]; simp only [bind_ok, pure_eq, h2], h3⟩

/-! ### one step and one run of any machine -/

/-- every call of the machine `step` (alphabet `C`, read as a deque call through `emb`) answers as the deque does, without
fault, and keeps `Rel` -/
def StepSim (step : σ → C → Outcome (IOut α × σ)) (emb : C → ICall) (Rel : σ → List α → Prop) : Prop :=
  ∀ {it d}, Rel it d → ∀ c, ∃ it', step it c = ok ((dequeStep d (emb c)).1, it') ∧ Rel it' (dequeStep d (emb c)).2

/-- **every call history of every run machine**: `run` is any function with the two unfolding equations of a run over
`step`; they hold by `rfl` for `genRun`, `fwdRun`, `nRun` and for the run machines of the single structures -/
theorem run_sim {run : σ → List C → Outcome (List (IOut α))} {step : σ → C → Outcome (IOut α × σ)} {emb : C → ICall}
    {Rel : σ → List α → Prop} (hnil : ∀ it, run it [] = ok [])
    (hcons : ∀ it c cs, run it (c :: cs) = (do let r ← step it c; let os ← run r.2 cs; return r.1 :: os))
    (S : StepSim step emb Rel) (cs : List C) :
    ∀ {it d}, Rel it d → run it cs = ok (dequeRunM d (cs.map emb)) := by
  induction cs with
  | nil => intro it d _; exact hnil it
  | cons c cs ih =>
    intro it d h
    obtain ⟨it', h1, h2⟩ := S h c
    rw [hcons, h1, List.map_cons]
    unfold dequeRunM
    simp only [bind_ok]
    rw [ih h2]; rfl

/-- one call of the two-ended machine against the deque -/
theorem genStep_sim {next nextBack : σ → Outcome (Option α × σ)} {len : σ → Outcome Nat}
    {Rel : σ → List α → Prop} (F : FwdSim next Rel) (B : BwdSim nextBack Rel) (L : LenSim len Rel) :
    StepSim (genStep next nextBack len) id Rel := by
  intro it d h c
  cases c with
  | next => exact step_of_sim (next_sim F h)
  | nextBack => exact step_of_sim (nextBack_sim B h)
  | nth k => exact step_of_sim (nthDefault_sim F k h)
  | nthBack k => exact step_of_sim (nthBackDefault_sim B k h)
  | len => exact ⟨it, by simp only [genStep, L it d h, bind_ok, pure_eq, dequeStep, id], h⟩

/-- **two-ended iterators, every call history** -/
theorem genRun_sim {next nextBack : σ → Outcome (Option α × σ)} {len : σ → Outcome Nat}
    {Rel : σ → List α → Prop} (F : FwdSim next Rel) (B : BwdSim nextBack Rel) (L : LenSim len Rel)
    (calls : List ICall) {it : σ} {d : List α} (h : Rel it d) :
    genRun next nextBack len it calls = ok (dequeRunM d calls) := by
  simpa only [List.map_id] using
    run_sim (run := genRun next nextBack len) (fun _ => rfl) (fun _ _ _ => rfl) (genStep_sim F B L) calls h

theorem fwdStep_sim {next : σ → Outcome (Option α × σ)} {len : σ → Outcome Nat}
    {Rel : σ → List α → Prop} (F : FwdSim next Rel) (L : LenSim len Rel) :
    StepSim (fwdStep next len) FCall.toICall Rel := by
  intro it d h c
  cases c with
  | next => exact step_of_sim (next_sim F h)
  | nth k => exact step_of_sim (nthDefault_sim F k h)
  | len => exact ⟨it, by simp only [fwdStep, L it d h, bind_ok, pure_eq, dequeStep, FCall.toICall], h⟩

/-- **forward-only exact-size iterators, every call history** -/
theorem fwdRun_sim {next : σ → Outcome (Option α × σ)} {len : σ → Outcome Nat}
    {Rel : σ → List α → Prop} (F : FwdSim next Rel) (L : LenSim len Rel)
    (calls : List FCall) {it : σ} {d : List α} (h : Rel it d) :
    fwdRun next len it calls = ok (dequeRunM d (calls.map FCall.toICall)) :=
  run_sim (run := fwdRun next len) (fun _ => rfl) (fun _ _ _ => rfl) (fwdStep_sim F L) calls h

theorem nStep_sim {next : σ → Outcome (Option α × σ)} {Rel : σ → List α → Prop} (F : FwdSim next Rel) :
    StepSim (nStep next) NCall.toICall Rel := by
  intro it d h c
  cases c with
  | next => exact step_of_sim (next_sim F h)
  | nth k => exact step_of_sim (nthDefault_sim F k h)

/-- **forward-only iterators without `len`, every call history** -/
theorem nRun_sim {next : σ → Outcome (Option α × σ)} {Rel : σ → List α → Prop} (F : FwdSim next Rel)
    (calls : List NCall) {it : σ} {d : List α} (h : Rel it d) :
    nRun next it calls = ok (dequeRunM d (calls.map NCall.toICall)) :=
  run_sim (run := nRun next) (fun _ => rfl) (fun _ _ _ => rfl) (nStep_sim F) calls h

/-- **a run machine that also returns its final state**, against any reference run `ref` over the list (`runDeque` for
the two-ended `End` runs of Proofs/Sparse2.lean, `listRun` of Proofs/IterBridge.lean).  `hstep`: one call answers as
the head of the reference run and leaves a related state; it is where the pop facts and the equations of `ref` enter. -/
theorem endRun_sim {E O : Type} {call : E → σ → Outcome (O × σ)} {Rel : σ → List α → Prop}
    {ref : List E → List α → List O × List α} (href : ∀ d, ref [] d = ([], d))
    (hstep : ∀ e es {it d}, Rel it d → ∃ o it' d', call e it = ok (o, it') ∧ Rel it' d' ∧
      ref (e :: es) d = (o :: (ref es d').1, (ref es d').2))
    {run : List E → σ → Outcome (List O × σ)} (hnil : ∀ it, run [] it = ok ([], it))
    (hcons : ∀ e es it, run (e :: es) it = (do let r ← call e it; let q ← run es r.2; return (r.1 :: q.1, q.2)))
    (calls : List E) :
    ∀ {it d}, Rel it d → ∃ it', run calls it = ok ((ref calls d).1, it') ∧ Rel it' (ref calls d).2 := by
  induction calls with
  | nil => intro it d h; exact ⟨it, by rw [hnil, href], by rw [href]; exact h⟩
  | cons e es ih =>
    intro it d h
    obtain ⟨o, it1, d1, h1, h2, h3⟩ := hstep e es h
    obtain ⟨it', g1, g2⟩ := ih h2
    exact ⟨it', by rw [hcons, h1, bind_ok, g1, h3]; rfl, by rw [h3]; exact g2⟩

/-! ### running to exhaustion

`drainG next F st = ok d`: calling `next` until the first `None` delivers exactly `d` (fuel `F`).  `DrainRel next Q` adds
a state predicate `Q st n` (`n` = number of items left): "drains to `d`, with `|d|` on the counter", the relation under
which `len()` of the run-length iterators is stated (Proofs/IterRL.lean); a simulation relation whose states keep the
count lies in it, by `FwdSim.drain`. -/

def drainG (next : σ → Outcome (Option α × σ)) : Nat → σ → Outcome (List α)
  | 0, _ => fault .fuel
  | f + 1, st => do
    let r ← next st
    match r.1 with
    | none => return []
    | some x => do
      let xs ← drainG next f r.2
      return x :: xs

def DrainRel (next : σ → Outcome (Option α × σ)) (Q : σ → Nat → Prop) (st : σ) (d : List α) : Prop :=
  Q st d.length ∧ ∃ F, drainG next F st = ok d

/-- **running to exhaustion**: an iterator whose `next` pops the front of `d` delivers exactly `d` when called until the
first `None` (any fuel above `|d|`).  `dr` is any drain function with the successor equation of one: `drainG`, and the
drains of the single structures whatever they answer at fuel 0. -/
theorem FwdSim.drain_of {next : σ → Outcome (Option α × σ)} {Rel : σ → List α → Prop} (F : FwdSim next Rel)
    {dr : Nat → σ → Outcome (List α)}
    (hsucc : ∀ f it, dr (f + 1) it = (do
      let r ← next it
      match r.1 with
      | none => return []
      | some x => do let xs ← dr f r.2; return x :: xs)) :
    ∀ (d : List α) {it : σ}, Rel it d → ∀ fuel, d.length < fuel → dr fuel it = ok d := by
  intro d
  induction d with
  | nil =>
    intro it h fuel hf
    obtain ⟨f, rfl⟩ := Nat.exists_eq_add_one_of_ne_zero (Nat.ne_of_gt hf)
    obtain ⟨it', h1, _⟩ := F.nil it h
    rw [hsucc, h1]; rfl
  | cons x d ih =>
    intro it h fuel hf
    obtain ⟨f, rfl⟩ := Nat.exists_eq_add_one_of_ne_zero (Nat.ne_of_gt (Nat.zero_lt_of_lt hf))
    obtain ⟨it', h1, h2⟩ := F.cons it x d h
    rw [hsucc, h1]
    simp only [bind_ok]
    rw [ih h2 f (Nat.lt_of_succ_lt_succ hf)]; rfl

theorem FwdSim.drain {next : σ → Outcome (Option α × σ)} {Rel : σ → List α → Prop} (F : FwdSim next Rel) :
    ∀ (d : List α) {it : σ}, Rel it d → ∀ fuel, d.length < fuel → drainG next fuel it = ok d :=
  F.drain_of fun _ _ => rfl

/-! an index cursor over a list: the state `i ≤ |xs|` stands for `xs.drop i`, `len()` is `|xs| - i` -/

def DropRel (xs : List α) (i : Nat) (d : List α) : Prop := i ≤ xs.length ∧ d = xs.drop i

theorem drop_fwdSim (xs : List α) {next : Nat → Outcome (Option α × Nat)}
    (hend : next xs.length = ok (none, xs.length))
    (hget : ∀ i (h : i < xs.length), next i = ok (some xs[i], i + 1)) : FwdSim next (DropRel xs) := by
  constructor
  · intro i ⟨hi, hd⟩
    obtain rfl : i = xs.length :=
      Nat.le_antisymm hi (Nat.le_of_sub_eq_zero (by rw [← List.length_drop, ← hd]; rfl))
    exact ⟨_, hend, hi, hd⟩
  · intro i x d ⟨hi, hd⟩
    have hlt : i < xs.length := Nat.lt_of_sub_pos (by rw [← List.length_drop, ← hd]; exact Nat.succ_pos _)
    rw [List.drop_eq_getElem_cons hlt] at hd
    injection hd with hx hd
    exact ⟨i + 1, by rw [hx]; exact hget i hlt, hlt, hd⟩

theorem drop_lenSim (xs : List α) (m : Mode) : LenSim (fun i => subM m xs.length i) (DropRel xs) := by
  intro i d ⟨hi, hd⟩
  show subM m xs.length i = _
  rw [subM_ok hi, hd, List.length_drop]

theorem seg_full {α} (xs : List α) (r : Nat) : seg xs r xs.length = xs.drop r := by
  unfold seg; rw [List.take_length]

/-! ### windows

Every relation met in practice says that `d` is the window `[a, b)` of a sequence `f`, for indices tied to the state by an
invariant.  The pop facts then follow from their index-level forms (`win_fwdSim`, `win_bwdSim`, `win_lenSim`,
`win_nthSim`); where a relation has further existentials, the three inversion lemmas do the same work inside the proof. -/

/-- the window `[a, b)` of the sequence `f` -/
def win (f : Nat → α) (a b : Nat) : List α := (List.range (b - a)).map fun i => f (a + i)

theorem win_length (f : Nat → α) (a b : Nat) : (win f a b).length = b - a := by
  simp [win]

theorem win_of_le (f : Nat → α) {a b : Nat} (h : b ≤ a) : win f a b = [] := by
  rw [win, Nat.sub_eq_zero_of_le h]; rfl

theorem win_zero (f : Nat → α) (b : Nat) : win f 0 b = (List.range b).map f := by
  simp [win]

theorem win_cons (f : Nat → α) {a b : Nat} (h : a < b) : win f a b = f a :: win f (a + 1) b := by
  rw [win, win, show b - a = (b - (a + 1)) + 1 by omega, List.range_succ_eq_map, List.map_cons, List.map_map]
  congr 1
  apply List.map_congr_left
  intro i _
  show f (a + (i + 1)) = f (a + 1 + i)
  rw [Nat.add_right_comm a 1 i]; rfl

theorem win_snoc (f : Nat → α) {a b : Nat} (h : a < b) : win f a b = win f a (b - 1) ++ [f (b - 1)] := by
  rw [win, win, show b - a = (b - 1 - a) + 1 by omega, List.range_succ, List.map_append, List.map_cons, List.map_nil,
    show a + (b - 1 - a) = b - 1 by omega]

theorem win_drop (f : Nat → α) (a b k : Nat) : (win f a b).drop k = win f (a + k) b := by
  apply List.ext_getElem?
  intro i
  simp only [win, List.getElem?_drop, List.getElem?_map]
  by_cases h : k + i < b - a
  · rw [List.getElem?_range h, List.getElem?_range (by omega)]
    simp only [Option.map_some, Nat.add_assoc]
  · rw [List.getElem?_eq_none (by rw [List.length_range]; omega),
      List.getElem?_eq_none (by rw [List.length_range]; omega)]
    rfl

/-- an empty window, a window with a first element, a window with a last element -/
theorem win_eq_nil {f : Nat → α} {a b : Nat} (h : [] = win f a b) : b ≤ a :=
  Nat.le_of_sub_eq_zero ((win_length f a b).symm.trans (congrArg List.length h.symm))

theorem win_eq_cons {f : Nat → α} {a b : Nat} {x : α} {d : List α} (h : x :: d = win f a b) :
    a < b ∧ x = f a ∧ d = win f (a + 1) b := by
  have hab : a < b := Nat.lt_of_sub_pos (by rw [← win_length f a b, ← h]; exact Nat.succ_pos _)
  rw [win_cons f hab] at h
  injection h with h1 h2
  exact ⟨hab, h1, h2⟩

theorem win_eq_snoc {f : Nat → α} {a b : Nat} {x : α} {d : List α} (h : d ++ [x] = win f a b) :
    a < b ∧ x = f (b - 1) ∧ d = win f a (b - 1) := by
  have hab : a < b := Nat.lt_of_sub_pos (by
    rw [← win_length f a b, ← h, List.length_append]; exact Nat.succ_pos _)
  rw [win_snoc f hab] at h
  obtain ⟨h1, h2⟩ := List.append_inj' h rfl
  injection h2 with h2 _
  exact ⟨hab, h2, h1⟩

/-- a segment of a list is the window of its item function -/
theorem seg_eq_win {xs : List α} {f : Nat → α} (hx : ∀ i, i < xs.length → xs[i]? = some (f i)) (a : Nat) {b : Nat}
    (hb : b ≤ xs.length) : seg xs a b = win f a b := by
  apply List.ext_getElem?
  intro i
  rw [seg_getElem?, win, List.getElem?_map]
  by_cases h : a + i < b
  · rw [if_pos h, hx _ (Nat.lt_of_lt_of_le h hb), List.getElem?_range (by omega)]; rfl
  · rw [if_neg h, List.getElem?_eq_none (by rw [List.length_range]; omega)]; rfl

/-- **the pop facts of a window relation** from their index-level forms.  After a `None` the indices may move
(`a'`, `b'`), as long as the window stays empty. -/
theorem win_fwdSim {next : σ → Outcome (Option α × σ)} {f : Nat → α} {Inv : Nat → Nat → σ → Prop}
    (hnone : ∀ {a b it}, Inv a b it → b ≤ a → ∃ it' a' b', next it = ok (none, it') ∧ Inv a' b' it' ∧ b' ≤ a')
    (hsome : ∀ {a b it}, Inv a b it → a < b → ∃ it', next it = ok (some (f a), it') ∧ Inv (a + 1) b it') :
    FwdSim next fun it d => ∃ a b, Inv a b it ∧ d = win f a b := by
  constructor
  · intro it ⟨a, b, hI, hd⟩
    obtain ⟨it', a', b', h1, h2, h3⟩ := hnone hI (win_eq_nil hd)
    exact ⟨it', h1, a', b', h2, (win_of_le f h3).symm⟩
  · intro it x d ⟨a, b, hI, hd⟩
    obtain ⟨hab, rfl, hd'⟩ := win_eq_cons hd
    obtain ⟨it', h1, h2⟩ := hsome hI hab
    exact ⟨it', h1, a + 1, b, h2, hd'⟩

theorem win_bwdSim {nextBack : σ → Outcome (Option α × σ)} {f : Nat → α} {Inv : Nat → Nat → σ → Prop}
    (hnone : ∀ {a b it}, Inv a b it → b ≤ a → ∃ it' a' b', nextBack it = ok (none, it') ∧ Inv a' b' it' ∧ b' ≤ a')
    (hsome : ∀ {a b it}, Inv a b it → a < b → ∃ it', nextBack it = ok (some (f (b - 1)), it') ∧ Inv a (b - 1) it') :
    BwdSim nextBack fun it d => ∃ a b, Inv a b it ∧ d = win f a b := by
  constructor
  · intro it ⟨a, b, hI, hd⟩
    obtain ⟨it', a', b', h1, h2, h3⟩ := hnone hI (win_eq_nil hd)
    exact ⟨it', h1, a', b', h2, (win_of_le f h3).symm⟩
  · intro it d x ⟨a, b, hI, hd⟩
    obtain ⟨hab, rfl, hd'⟩ := win_eq_snoc hd
    obtain ⟨it', h1, h2⟩ := hsome hI hab
    exact ⟨it', h1, a, b - 1, h2, hd'⟩

theorem win_lenSim {len : σ → Outcome Nat} {f : Nat → α} {Inv : Nat → Nat → σ → Prop}
    (hlen : ∀ {a b it}, Inv a b it → len it = ok (b - a)) :
    LenSim len fun it d => ∃ a b, Inv a b it ∧ d = win f a b := by
  intro it d ⟨a, b, hI, hd⟩
  rw [hlen hI, hd, win_length]

/-- an `nth` of the iterator's own (not the default): `nth k` on the deque is `next` after `drop k`, by definition, so
the index-level facts are those of `next` at `a + k` -/
theorem win_nthSim {nth : σ → Outcome (Option α × σ)} {f : Nat → α} {Inv : Nat → Nat → σ → Prop} {k : Nat}
    (hnone : ∀ {a b it}, Inv a b it → b ≤ a + k → ∃ it' a' b', nth it = ok (none, it') ∧ Inv a' b' it' ∧ b' ≤ a')
    (hsome : ∀ {a b it}, Inv a b it → a + k < b → ∃ it', nth it = ok (some (f (a + k)), it') ∧ Inv (a + k + 1) b it') :
    CallSim nth (.nth k) fun it d => ∃ a b, Inv a b it ∧ d = win f a b := by
  intro it d ⟨a, b, hI, hd⟩
  have e : dequeStep d (.nth k) = dequeStep (win f (a + k) b) .next := by rw [hd, ← win_drop]; rfl
  rw [e]
  by_cases h : a + k < b
  · obtain ⟨it', h1, h2⟩ := hsome hI h
    rw [win_cons f h]
    exact ⟨_, it', h1, rfl, a + k + 1, b, h2, rfl⟩
  · obtain ⟨it', a', b', h1, h2, h3⟩ := hnone hI (Nat.le_of_not_lt h)
    rw [win_of_le f (Nat.le_of_not_lt h)]
    exact ⟨none, it', h1, rfl, a', b', h2, (win_of_le f h3).symm⟩

end Sds.Iter2
