/-
Proofs/Writer: the buffered file writers produce, after `close`, exactly the serialisation of the
equivalent in-memory vector, for every buffer size and every push history.
-/
import Sds.Proofs.RawVec
import Sds.Proofs.IntVec
import Sds.Model.Writer
set_option linter.unusedSimpArgs false
set_option linter.unusedVariables false

namespace Sds
open Outcome

/-! ### 0. bits of a list of words -/

/-- the bits of a list of words, 64 per word, least significant first -/
def wordsBits (ws : List Word) : List Bool := ws.flatMap bitsOfWord

@[simp] theorem wordsBits_nil : wordsBits [] = [] := rfl

theorem wordsBits_cons (w : Word) (l : List Word) : wordsBits (w :: l) = bitsOfWord w ++ wordsBits l := rfl

theorem wordsBits_append (a b : List Word) : wordsBits (a ++ b) = wordsBits a ++ wordsBits b := by
  unfold wordsBits; simp

theorem wordsBits_length (l : List Word) : (wordsBits l).length = 64 * l.length := by
  induction l with
  | nil => rfl
  | cons w l ih => rw [wordsBits_cons, List.length_append, bitsOfWord_length, ih, List.length_cons]; omega

theorem wordsBits_eq (l : List Word) :
    wordsBits l = (List.range (64 * l.length)).map (getBit l.toArray) := by
  induction l with
  | nil => rfl
  | cons w l ih =>
    rw [wordsBits_cons, ih, List.length_cons, show 64 * (l.length + 1) = 64 + 64 * l.length by omega,
      List.range_add, List.map_append, List.map_map]
    have e1 : bitsOfWord w = List.map (getBit (w :: l).toArray) (List.range 64) := by
      unfold bitsOfWord
      apply List.map_congr_left
      intro i hi
      exact (RawVec.getBit_cons_lt w l i (by simpa using hi)).symm
    have e2 : List.map (getBit l.toArray) (List.range (64 * l.length)) =
        List.map (getBit (w :: l).toArray ∘ fun x => 64 + x) (List.range (64 * l.length)) := by
      apply List.map_congr_left
      intro i _
      exact (RawVec.getBit_cons w l i).symm
    rw [e1, e2]

theorem getBit_append (a b : List Word) (j : Nat) :
    getBit (a ++ b).toArray j =
      if j < 64 * a.length then getBit a.toArray j else getBit b.toArray (j - 64 * a.length) := by
  rw [getBit_def, getBit_def, getBit_def]
  unfold rd
  simp only [List.getElem?_toArray]
  by_cases h : j < 64 * a.length
  · rw [if_pos h, List.getElem?_append_left (Nat.div_lt_of_lt_mul h)]
  · rw [if_neg h, List.getElem?_append_right ((Nat.le_div_iff_mul_le (by decide)).mpr (by omega)),
      Nat.sub_mul_div, Nat.sub_mul_mod (by omega)]

namespace RawVec

/-- for a well-formed vector whose length is a multiple of 64, the words are exactly the bits -/
theorem wordsBits_data {v : RawVec} (h : v.WF) (hd : 64 ∣ v.len) : wordsBits v.data.toList = v.bits := by
  rw [wordsBits_eq]
  have hs := h.1
  have : 64 * v.data.toList.length = v.len := by simp; omega
  rw [this]
  rfl

/-- words followed by a vector, seen as one vector -/
def cat (ws : List Word) (v : RawVec) : RawVec := ⟨64 * ws.length + v.len, (ws ++ v.data.toList).toArray⟩

theorem cat_WF (ws : List Word) {v : RawVec} (h : v.WF) : (cat ws v).WF := by
  have hs := h.1
  apply WF.of_tail_zero
  · simp [cat]; omega
  · intro j hj
    simp only [cat] at hj ⊢
    rw [getBit_append, if_neg (by omega)]
    exact h.tail_zero _ (by omega)

theorem bits_cat (ws : List Word) (v : RawVec) : (cat ws v).bits = wordsBits ws ++ v.bits := by
  rw [bits_eq_iff]
  refine ⟨by simp [cat, wordsBits_length, bits_length], fun i hi => ?_⟩
  simp only [cat] at hi ⊢
  rw [getBit_append]
  by_cases h : i < 64 * ws.length
  · rw [if_pos h, List.getElem?_append_left (by rw [wordsBits_length]; exact h), wordsBits_eq]
    simp [h]
  · rw [if_neg h, List.getElem?_append_right (by rw [wordsBits_length]; omega), wordsBits_length,
      bits_getElem?, if_pos (by omega)]

end RawVec

/-! ### 1. abstraction and invariant -/

namespace RawWriter

/-- everything pushed so far: the bits of the body words already on disk, then the buffer -/
def pushed (w : RawWriter) : List Bool := wordsBits w.body ++ w.buf.bits

/-- the invariant of an open writer -/
structure Good (w : RawWriter) : Prop where
  wf : w.buf.WF
  dvd : 64 ∣ w.bufLen
  pos : 0 < w.bufLen
  lt : w.buf.len < w.bufLen
  len_eq : w.len = (pushed w).length

def Inv (w : RawWriter) : Prop := w.isOpen = true → Good w

theorem pushed_length (w : RawWriter) : (pushed w).length = w.body.length * 64 + w.buf.len := by
  unfold pushed; rw [List.length_append, wordsBits_length, RawVec.bits_length]; omega

theorem Good.len_eq' {w : RawWriter} (h : Good w) : w.body.length * 64 + w.buf.len = w.len := by
  rw [h.len_eq, pushed_length]

theorem withBufLen_bufLen (h : List Word) (n : Nat) (bud : Option Nat) :
    (withBufLen h n bud).bufLen = max (((n + 63) / 64) * 64) 64 := rfl

theorem withBufLen_pushed (h : List Word) (n : Nat) (bud : Option Nat) : pushed (withBufLen h n bud) = [] := rfl

theorem withBufLen_Good (h : List Word) (n : Nat) (bud : Option Nat) : Good (withBufLen h n bud) := by
  refine ⟨RawVec.empty_WF, ?_, ?_, ?_, rfl⟩
  · rw [withBufLen_bufLen]; omega
  · rw [withBufLen_bufLen]; omega
  · rw [withBufLen_bufLen]; show 0 < _; omega

theorem withBufLen_Inv (h : List Word) (n : Nat) (bud : Option Nat) : Inv (withBufLen h n bud) :=
  fun _ => withBufLen_Good h n bud

/-! ### 2. writeBody / flush -/

theorem writeBody_none (w : RawWriter) (ws : List Word) (hb : w.budget = none) :
    w.writeBody ws = ({ w with body := w.body ++ ws }, true) := by
  unfold writeBody; rw [hb]

theorem writeBody_spec (w : RawWriter) (ws : List Word) :
    (∃ bud, w.writeBody ws = ({ w with body := w.body ++ ws, budget := bud }, true) ∧
        (w.budget = none → bud = none)) ∨
    (∃ b, w.budget = some b ∧ b < ws.length ∧
        w.writeBody ws = ({ w with body := w.body ++ ws.take b, budget := some 0 }, false)) := by
  unfold writeBody
  cases hb : w.budget with
  | none => left; exact ⟨none, by simp, fun _ => rfl⟩
  | some b =>
    by_cases h : ws.length ≤ b
    · left; exact ⟨some (b - ws.length), by simp [h], fun h => by cases h⟩
    · right; exact ⟨b, rfl, by omega, by simp [h]⟩

/-- `flushSafe` on an open writer, with the tuple pattern unfolded -/
theorem flushSafe_eq (w : RawWriter) (ho : w.isOpen = true) :
    flushSafe w =
      (let R := if w.buf.len > w.bufLen then w.buf.resize w.bufLen false else w.buf
       let nb := if w.buf.len > w.bufLen then
           RawVec.empty.pushInt (w.buf.int w.bufLen (w.buf.len - w.bufLen)) (w.buf.len - w.bufLen)
         else RawVec.empty
       let r := w.writeBody R.data.toList
       if r.2 = true then ({ r.1 with buf := nb }, true) else ({ r.1 with buf := R }, false)) := by
  unfold flushSafe
  by_cases h : w.buf.len > w.bufLen
  · have : 0 < w.buf.len - w.bufLen := by omega
    simp [ho, h, this]
    split <;> simp_all
  · simp [ho, h]
    split <;> simp_all

theorem resize_self {v : RawVec} (h : v.WF) : v.resize v.len false = v := by
  apply RawVec.canonical (RawVec.resize_WF h _ _) h
  rw [RawVec.bits_resize h, Nat.sub_self, List.replicate_zero, List.append_nil,
    List.take_of_length_le (by rw [RawVec.bits_length]; exact Nat.le_refl _)]

/-- the new buffer after a flush — the carry-over re-pushed into an empty buffer, or the empty buffer —
holds exactly the bits beyond `n` -/
theorem carry_eq {v : RawVec} (h : v.WF) (n : Nat) (h1 : n ≤ v.len) (h2 : v.len < n + 64) :
    (if v.len > n then RawVec.empty.pushInt (v.int n (v.len - n)) (v.len - n) else RawVec.empty) =
      RawVec.ofBits (v.bits.drop n) := by
  split
  · have hk1 : 1 ≤ v.len - n := by omega
    have hk2 : v.len - n ≤ 64 := by omega
    apply RawVec.canonical (RawVec.pushInt_WF RawVec.empty_WF _ _ hk1 hk2) (RawVec.ofBits_WF _)
    rw [RawVec.bits_pushInt RawVec.empty_WF _ _ hk1 hk2, RawVec.bits_ofBits]
    have he : RawVec.empty.bits = [] := rfl
    rw [he, List.nil_append]
    apply List.ext_getElem?
    intro i
    rw [List.getElem?_drop, RawVec.bits_getElem?]
    by_cases hi : i < v.len - n
    · rw [if_pos (by omega)]
      simp [hi, RawVec.int_getLsbD v n _ hk1 hk2]
    · rw [if_neg (by omega)]
      simp [hi]
  · rw [List.drop_of_length_le (by rw [RawVec.bits_length]; omega)]; rfl

/-- the state after a successful flush (`bud` = the remaining budget) -/
def flushedTo (w : RawWriter) (bud : Option Nat) : RawWriter :=
  { w with body := w.body ++ (w.buf.resize w.bufLen false).data.toList,
           buf := RawVec.ofBits (w.buf.bits.drop w.bufLen), budget := bud }

/-- **flush keeps the carry-over**: when `bufLen ≤ buf.len < bufLen + 64` a flush either writes exactly the
first `bufLen / 64` words of the buffer and keeps the remaining bits as the new buffer, or the sink fails. -/
theorem flushSafe_spec (w : RawWriter) (ho : w.isOpen = true) (hwf : w.buf.WF)
    (hlo : w.bufLen ≤ w.buf.len) (hhi : w.buf.len < w.bufLen + 64) :
    (∃ bud, flushSafe w = (flushedTo w bud, true) ∧ (w.budget = none → bud = none)) ∨
    (∃ b, w.budget = some b ∧ b < (w.bufLen + 63) / 64 ∧ (flushSafe w).2 = false) := by
  rw [flushSafe_eq w ho]
  have hR : (if w.buf.len > w.bufLen then w.buf.resize w.bufLen false else w.buf)
      = w.buf.resize w.bufLen false := by
    split
    · rfl
    · have : w.bufLen = w.buf.len := by omega
      rw [this, resize_self hwf]
  simp only [hR, carry_eq hwf _ hlo hhi]
  rcases writeBody_spec w (w.buf.resize w.bufLen false).data.toList with ⟨bud, h1, h2⟩ | ⟨b, h1, h2, h3⟩
  · left
    refine ⟨bud, ?_, h2⟩
    rw [h1]; rfl
  · right
    refine ⟨b, h1, ?_, ?_⟩
    · have := (RawVec.resize_WF hwf w.bufLen false).1
      simp at h2
      rw [this] at h2
      simpa using h2
    · rw [h3]; rfl

theorem pushed_flushedTo (w : RawWriter) (bud : Option Nat) (hwf : w.buf.WF) (hd : 64 ∣ w.bufLen)
    (hlo : w.bufLen ≤ w.buf.len) : pushed (flushedTo w bud) = pushed w := by
  unfold pushed flushedTo
  simp only []
  rw [wordsBits_append, RawVec.wordsBits_data (RawVec.resize_WF hwf _ _) (by simpa using hd),
    RawVec.bits_ofBits, RawVec.bits_resize hwf, List.append_assoc]
  congr 1
  rw [show w.bufLen - w.buf.len = 0 by omega]; simp

/-- the words a flush writes are literally the first `bufLen / 64` words of the buffer -/
theorem resize_words {v : RawVec} (h : v.WF) (n : Nat) (hd : 64 ∣ n) (hn : n ≤ v.len) :
    (v.resize n false).data.toList = v.data.toList.take (n / 64) := by
  have hs := h.1
  unfold RawVec.resize RawVec.setUnusedBits
  simp only []
  rw [if_neg (by omega), if_neg (by omega)]
  simp only []
  unfold resizeArr
  rw [if_pos (by omega), show (n + 63) / 64 = n / 64 by omega]
  simp

/-- **flush, unlimited sink**: the flush succeeds, appends the first `bufLen / 64` buffer words to the body,
keeps the carry-over as the new buffer, and leaves `pushed` (and everything else) unchanged. -/
theorem flushSafe_none (w : RawWriter) (ho : w.isOpen = true) (hwf : w.buf.WF) (hd : 64 ∣ w.bufLen)
    (hlo : w.bufLen ≤ w.buf.len) (hhi : w.buf.len < w.bufLen + 64) (hb : w.budget = none) :
    (flushSafe w).2 = true ∧
    (flushSafe w).1.body = w.body ++ w.buf.data.toList.take (w.bufLen / 64) ∧
    (flushSafe w).1.buf = (if w.buf.len > w.bufLen then
        RawVec.empty.pushInt (w.buf.int w.bufLen (w.buf.len - w.bufLen)) (w.buf.len - w.bufLen)
      else RawVec.empty) ∧
    (flushSafe w).1.buf.bits = w.buf.bits.drop w.bufLen ∧
    pushed (flushSafe w).1 = pushed w ∧
    (flushSafe w).1.len = w.len ∧ (flushSafe w).1.header = w.header := by
  rcases flushSafe_spec w ho hwf hlo hhi with ⟨bud, h1, _⟩ | ⟨b, h1, _⟩
  · rw [h1]
    refine ⟨rfl, ?_, ?_, ?_, pushed_flushedTo w bud hwf hd hlo, rfl, rfl⟩
    · show w.body ++ _ = _
      rw [resize_words hwf _ hd hlo]
    · exact (carry_eq hwf _ hlo hhi).symm
    · show (RawVec.ofBits _).bits = _
      rw [RawVec.bits_ofBits]
  · rw [hb] at h1; cases h1

/-! ### 3. push steps -/

/-- `w'` is an open, invariant-satisfying extension of `w` by the bits `L` -/
structure Ext (w w' : RawWriter) (L : List Bool) : Prop where
  good : Good w'
  isOpen : w'.isOpen = true
  pushed_eq : pushed w' = pushed w ++ L
  len_eq : w'.len = w.len + L.length
  bufLen_eq : w'.bufLen = w.bufLen
  userHeader_eq : w'.userHeader = w.userHeader
  header_eq : w'.header = w.header
  budget_none : w.budget = none → w'.budget = none

theorem Ext.refl {w : RawWriter} (hg : Good w) (ho : w.isOpen = true) : Ext w w [] :=
  ⟨hg, ho, by simp, rfl, rfl, rfl, rfl, id⟩

theorem Ext.trans {w w' w'' : RawWriter} {L L' : List Bool} (h1 : Ext w w' L) (h2 : Ext w' w'' L') :
    Ext w w'' (L ++ L') :=
  ⟨h2.good, h2.isOpen, by rw [h2.pushed_eq, h1.pushed_eq, List.append_assoc],
    by rw [h2.len_eq, h1.len_eq, List.length_append]; omega,
    by rw [h2.bufLen_eq, h1.bufLen_eq], by rw [h2.userHeader_eq, h1.userHeader_eq],
    by rw [h2.header_eq, h1.header_eq], fun h => h2.budget_none (h1.budget_none h)⟩

/-- the common tail of `push_bit` / `push_int`: flush when the buffer is full; a failing flush panics -/
def flushIf (w1 : RawWriter) : Outcome RawWriter :=
  if w1.buf.len ≥ w1.bufLen then
    let (w2, okw) := w1.flushSafe
    if okw then ok w2 else fault (.panic .unwrap)
  else ok w1

theorem pushBit_eq (w : RawWriter) (b : Bool) :
    pushBit w b = flushIf { w with buf := w.buf.pushBit b, len := w.len + 1 } := rfl

theorem pushInt_eq (w : RawWriter) (x : Word) (k : Nat) :
    pushInt w x k = if k = 0 then ok w else flushIf { w with buf := w.buf.pushInt x k, len := w.len + k } := rfl

/-- `flushIf` on a full buffer, with the outcome of the flush as projections -/
theorem flushIf_full (w : RawWriter) (h : w.bufLen ≤ w.buf.len) :
    flushIf w = if (flushSafe w).2 = true then ok (flushSafe w).1 else fault (.panic .unwrap) := by
  unfold flushIf; rw [if_pos h]

/-- a sink failure during a push: the budget is smaller than the `bufLen / 64` words a flush writes -/
def SinkFails (w : RawWriter) : Prop := ∃ b, w.budget = some b ∧ b < (w.bufLen + 63) / 64

theorem flushIf_spec (w : RawWriter) (ho : w.isOpen = true) (hg : Good w) (v : RawVec) (L : List Bool)
    (hv : v.WF) (hb : v.bits = w.buf.bits ++ L) (hL : L.length ≤ 64) :
    (∃ w', flushIf { w with buf := v, len := w.len + L.length } = ok w' ∧ Ext w w' L) ∨
    (flushIf { w with buf := v, len := w.len + L.length } = fault (.panic .unwrap) ∧ SinkFails w) := by
  have hvl : v.len = w.buf.len + L.length := by
    rw [← RawVec.bits_length v, hb, List.length_append, RawVec.bits_length]
  have hlt := hg.lt
  have hp1 : pushed { w with buf := v, len := w.len + L.length } = pushed w ++ L := by
    unfold pushed; simp only []; rw [hb, List.append_assoc]
  unfold flushIf
  simp only []
  by_cases hfull : v.len ≥ w.bufLen
  · rw [if_pos hfull]
    rcases flushSafe_spec { w with buf := v, len := w.len + L.length } ho hv hfull (by simp only []; omega)
      with ⟨bud, h1, h2⟩ | ⟨b, h1, h2, h3⟩
    · left
      refine ⟨_, by rw [h1]; rfl, ?_⟩
      have hpe := pushed_flushedTo { w with buf := v, len := w.len + L.length } bud hv hg.dvd hfull
      refine ⟨⟨RawVec.ofBits_WF _, hg.dvd, hg.pos, ?_, ?_⟩, ho, ?_, rfl, rfl, rfl, rfl, h2⟩
      · show (RawVec.ofBits _).len < w.bufLen
        rw [← RawVec.bits_length, RawVec.bits_ofBits, List.length_drop, RawVec.bits_length]
        have := hg.pos; have := hg.dvd
        show v.len - w.bufLen < w.bufLen
        omega
      · rw [hpe, hp1, List.length_append, ← hg.len_eq]; rfl
      · rw [hpe, hp1]
    · right
      exact ⟨by rw [h3]; rfl, b, h1, h2⟩
  · rw [if_neg hfull]
    left
    refine ⟨_, rfl, ⟨hv, hg.dvd, hg.pos, by show v.len < w.bufLen; omega, ?_⟩, ho, hp1, rfl, rfl, rfl, rfl, id⟩
    rw [hp1, List.length_append, ← hg.len_eq]

/-- **push_bit**: one more bit, invariant kept; the only possible failure is the `unwrap` panic of a
failing flush. -/
theorem pushBit_step (w : RawWriter) (ho : w.isOpen = true) (hg : Good w) (b : Bool) :
    (∃ w', pushBit w b = ok w' ∧ Ext w w' [b]) ∨
    (pushBit w b = fault (.panic .unwrap) ∧ SinkFails w) := by
  rw [pushBit_eq]
  exact flushIf_spec w ho hg (w.buf.pushBit b) [b] (RawVec.pushBit_WF hg.wf b) (RawVec.bits_pushBit hg.wf b)
    (by simp)

/-- the bits of an integer of width `k` -/
def intBits (x : Word) (k : Nat) : List Bool := (List.range k).map fun i => x.getLsbD i

@[simp] theorem intBits_length (x : Word) (k : Nat) : (intBits x k).length = k := by simp [intBits]

theorem pushInt_step (w : RawWriter) (ho : w.isOpen = true) (hg : Good w) (x : Word) (k : Nat)
    (hk : k ≤ 64) :
    (∃ w', pushInt w x k = ok w' ∧ Ext w w' (intBits x k)) ∨
    (pushInt w x k = fault (.panic .unwrap) ∧ SinkFails w) := by
  rw [pushInt_eq]
  by_cases h0 : k = 0
  · subst h0
    left
    exact ⟨w, rfl, Ext.refl hg ho⟩
  · rw [if_neg h0]
    have := flushIf_spec w ho hg (w.buf.pushInt x k) (intBits x k)
      (RawVec.pushInt_WF hg.wf x k (by omega) hk) (RawVec.bits_pushInt hg.wf x k (by omega) hk) (by simp [hk])
    rw [intBits_length] at this
    exact this

theorem pushInt_zero (w : RawWriter) (x : Word) : pushInt w x 0 = ok w := rfl

/-- `pushBit_step` in terms of `Inv`, unlimited sink -/
theorem pushBit_spec (w : RawWriter) (ho : w.isOpen = true) (hI : Inv w) (hb : w.budget = none) (b : Bool) :
    ∃ w', pushBit w b = ok w' ∧ Inv w' ∧ w'.isOpen = true ∧ pushed w' = pushed w ++ [b] ∧
      w'.len = w.len + 1 ∧ w'.budget = none := by
  rcases pushBit_step w ho (hI ho) b with ⟨w', h, e⟩ | ⟨_, b', h, _⟩
  · exact ⟨w', h, fun _ => e.good, e.isOpen, e.pushed_eq, e.len_eq, e.budget_none hb⟩
  · rw [hb] at h; cases h

theorem pushInt_spec (w : RawWriter) (ho : w.isOpen = true) (hI : Inv w) (hb : w.budget = none) (x : Word)
    (k : Nat) (hk : k ≤ 64) :
    ∃ w', pushInt w x k = ok w' ∧ Inv w' ∧ w'.isOpen = true ∧
      pushed w' = pushed w ++ (List.range k).map (fun i => x.getLsbD i) ∧
      w'.len = w.len + k ∧ w'.budget = none := by
  rcases pushInt_step w ho (hI ho) x k hk with ⟨w', h, e⟩ | ⟨_, b', h, _⟩
  · exact ⟨w', h, fun _ => e.good, e.isOpen, e.pushed_eq, by rw [e.len_eq, intBits_length],
      e.budget_none hb⟩
  · rw [hb] at h; cases h

/-! ### 4. close -/

/-- body words on disk followed by the buffer words = canonical packing of everything pushed -/
theorem body_buf_eq (w : RawWriter) (hwf : w.buf.WF) :
    w.body ++ w.buf.data.toList = (RawVec.ofBits (pushed w)).data.toList := by
  have : RawVec.cat w.body w.buf = RawVec.ofBits (pushed w) := by
    apply RawVec.canonical (RawVec.cat_WF _ hwf) (RawVec.ofBits_WF _)
    rw [RawVec.bits_cat, RawVec.bits_ofBits]; rfl
  rw [← this]
  simp [RawVec.cat]

theorem ser_ofBits (L : List Bool) :
    rawVecC.ser (RawVec.ofBits L) =
      [BitVec.ofNat 64 L.length, BitVec.ofNat 64 ((L.length + 63) / 64)] ++ (RawVec.ofBits L).data.toList := by
  have h1 : (RawVec.ofBits L).len = L.length := by rw [← RawVec.bits_length, RawVec.bits_ofBits]
  have h2 := (RawVec.ofBits_WF L).1
  simp only [rawVecC, vecU64C]
  rw [h2, h1]; rfl

theorem closeWith_closed (w : RawWriter) (uh : List Word) (hc : w.isOpen = false) : closeWith w uh = ok w := by
  unfold closeWith; simp [hc]

/-- what `close` leaves behind -/
structure Closed (w w' : RawWriter) (uh : List Word) : Prop where
  isOpen : w'.isOpen = false
  len_eq : w'.len = w.len
  body_eq : w'.body = (RawVec.ofBits (pushed w)).data.toList
  header_eq : w'.header = uh ++ [BitVec.ofNat 64 w.len, BitVec.ofNat 64 ((w.len + 63) / 64)]
  file_eq : w'.file = uh ++ rawVecC.ser (RawVec.ofBits (pushed w))
  userHeader_eq : w'.userHeader = w.userHeader
  buf_eq : w'.buf = RawVec.empty

theorem closeWith_spec (w : RawWriter) (ho : w.isOpen = true) (hg : Good w) (uh : List Word) :
    (∃ w', closeWith w uh = ok w' ∧ Closed w w' uh) ∨
    (closeWith w uh = fault (.err .other) ∧ ∃ b, w.budget = some b ∧ b < w.buf.data.size) := by
  unfold closeWith flushFinal
  simp only [ho]
  have hbody := body_buf_eq w hg.wf
  rcases writeBody_spec w w.buf.data.toList with ⟨bud, h1, h2⟩ | ⟨b, h1, h2, h3⟩
  · left
    rw [h1]
    refine ⟨_, rfl, rfl, rfl, hbody, rfl, ?_, rfl, rfl⟩
    show (uh ++ _) ++ (w.body ++ w.buf.data.toList) = _
    rw [hbody, ser_ofBits, ← hg.len_eq, List.append_assoc]
    rfl
  · right
    rw [h3]
    exact ⟨rfl, b, h1, by simpa using h2⟩

/-- **close** (any budget): if `close` succeeds, the writer is closed, `len` is unchanged, the body is
complete (the canonical packing of everything pushed) and the file is the user header followed by the
serialisation of the equivalent in-memory vector. -/
theorem closeWith_ok (w : RawWriter) (ho : w.isOpen = true) (hI : Inv w) (uh : List Word) (w' : RawWriter)
    (h : closeWith w uh = ok w') : Closed w w' uh := by
  rcases closeWith_spec w ho (hI ho) uh with ⟨w'', h1, h2⟩ | ⟨h1, _⟩
  · rw [h1] at h; cases h; exact h2
  · rw [h1] at h; cases h

/-- **close** (unlimited budget) succeeds -/
theorem closeWith_none (w : RawWriter) (ho : w.isOpen = true) (hI : Inv w) (uh : List Word)
    (hb : w.budget = none) : ∃ w', closeWith w uh = ok w' ∧ Closed w w' uh := by
  rcases closeWith_spec w ho (hI ho) uh with h | ⟨_, b, h2, _⟩
  · exact h
  · rw [hb] at h2; cases h2

/-- **close is idempotent** -/
theorem closeWith_idem (w : RawWriter) (uh uh' : List Word) (w' : RawWriter) (h : closeWith w uh = ok w') :
    closeWith w' uh' = ok w' := by
  apply closeWith_closed
  unfold closeWith at h
  by_cases ho : w.isOpen = true
  · simp only [ho] at h
    generalize flushFinal w = r at h
    obtain ⟨r1, r2⟩ := r
    cases r2
    · simp at h
    · simp at h; rw [← h]
  · simp only [ho] at h
    simp at h ho
    rw [← h]; exact ho

/-- close of an invariant-satisfying open writer with an unlimited sink -/
theorem close_spec (w : RawWriter) (ho : w.isOpen = true) (hI : Inv w) (hb : w.budget = none) :
    ∃ w', close w = ok w' ∧ w'.isOpen = false ∧ w'.len = w.len ∧
      w'.file = w.userHeader ++ rawVecC.ser (RawVec.ofBits (pushed w)) ∧
      w'.body = (RawVec.ofBits (pushed w)).data.toList ∧
      w'.header = w.userHeader ++ [BitVec.ofNat 64 w.len, BitVec.ofNat 64 ((w.len + 63) / 64)] ∧
      close w' = ok w' := by
  obtain ⟨w', h1, h2⟩ := closeWith_none w ho hI w.userHeader hb
  exact ⟨w', h1, h2.isOpen, h2.len_eq, h2.file_eq, h2.body_eq, h2.header_eq, closeWith_idem w _ _ w' h1⟩

/-! ### 5. failure laws -/

theorem writeBody_fail (w : RawWriter) (ws : List Word) (b : Nat) (hb : w.budget = some b) (h : b < ws.length) :
    (w.writeBody ws).2 = false := by
  unfold writeBody
  rw [hb]
  simp [show ¬ ws.length ≤ b by omega]

theorem flushIf_fault (w : RawWriter) (f : Fault) (h : flushIf w = fault f) : f = .panic .unwrap := by
  unfold flushIf at h
  split at h
  · generalize flushSafe w = r at h
    obtain ⟨r1, r2⟩ := r
    cases r2
    · simp at h; exact h.symm
    · simp at h
  · cases h

/-- a push can only fail with the `unwrap` panic (no hypothesis on the writer) -/
theorem pushBit_fault (w : RawWriter) (b : Bool) (f : Fault) (h : pushBit w b = fault f) :
    f = .panic .unwrap := flushIf_fault _ f (by rw [← pushBit_eq]; exact h)

theorem pushInt_fault (w : RawWriter) (x : Word) (k : Nat) (f : Fault) (h : pushInt w x k = fault f) :
    f = .panic .unwrap := by
  rw [pushInt_eq] at h
  split at h
  · cases h
  · exact flushIf_fault _ f h

/-- `close` can only fail with an io error (no hypothesis on the writer) -/
theorem closeWith_fault (w : RawWriter) (uh : List Word) (f : Fault) (h : closeWith w uh = fault f) :
    f = .err .other := by
  unfold closeWith at h
  split at h
  · cases h
  · generalize flushFinal w = r at h
    obtain ⟨r1, r2⟩ := r
    cases r2
    · simp at h; exact h.symm
    · simp at h

/-- a flush of a full buffer fails when the sink accepts fewer than `bufLen / 64` words -/
theorem flushSafe_fails (w : RawWriter) (ho : w.isOpen = true) (hwf : w.buf.WF) (hlo : w.bufLen ≤ w.buf.len)
    (hs : SinkFails w) : (flushSafe w).2 = false := by
  obtain ⟨b, hb, hlt⟩ := hs
  rw [flushSafe_eq w ho]
  simp only []
  have hsz : (w.bufLen + 63) / 64 ≤
      (if w.buf.len > w.bufLen then w.buf.resize w.bufLen false else w.buf).data.toList.length := by
    split
    · have := (RawVec.resize_WF hwf w.bufLen false).1
      simp at this ⊢; omega
    · have := hwf.1
      simp; omega
  rw [if_neg (by rw [writeBody_fail w _ b hb (by omega)]; simp)]

theorem flushIf_fails (w : RawWriter) (ho : w.isOpen = true) (hwf : w.buf.WF) (hlo : w.bufLen ≤ w.buf.len)
    (hs : SinkFails w) : flushIf w = fault (.panic .unwrap) := by
  rw [flushIf_full w hlo, flushSafe_fails w ho hwf hlo hs]
  rfl

/-- **failure law for push_bit**: the push panics (`unwrap`) exactly when it fills the buffer and the sink
cannot take the `bufLen / 64` words of the flush -/
theorem pushBit_fails_iff (w : RawWriter) (ho : w.isOpen = true) (hg : Good w) (b : Bool) :
    pushBit w b = fault (.panic .unwrap) ↔ (w.bufLen ≤ w.buf.len + 1 ∧ SinkFails w) := by
  constructor
  · intro h
    refine ⟨?_, ?_⟩
    · rw [pushBit_eq] at h
      unfold flushIf at h
      split at h
      · rename_i h'; exact h'
      · cases h
    · rcases pushBit_step w ho hg b with ⟨w', h1, _⟩ | ⟨_, h2⟩
      · rw [h1] at h; cases h
      · exact h2
  · rintro ⟨h1, h2⟩
    rw [pushBit_eq]
    exact flushIf_fails _ ho (RawVec.pushBit_WF hg.wf b) h1 h2

theorem pushInt_fails_iff (w : RawWriter) (ho : w.isOpen = true) (hg : Good w) (x : Word) (k : Nat)
    (hk : k ≤ 64) :
    pushInt w x k = fault (.panic .unwrap) ↔ (k ≠ 0 ∧ w.bufLen ≤ w.buf.len + k ∧ SinkFails w) := by
  constructor
  · intro h
    have hs : SinkFails w := by
      rcases pushInt_step w ho hg x k hk with ⟨w', h1, _⟩ | ⟨_, h2⟩
      · rw [h1] at h; cases h
      · exact h2
    rw [pushInt_eq] at h
    split at h
    · cases h
    · rename_i h0
      refine ⟨h0, ?_, hs⟩
      unfold flushIf at h
      split at h
      · rename_i h'
        simp only [RawVec.len_pushInt] at h'
        exact h'
      · cases h
  · rintro ⟨h0, h1, h2⟩
    rw [pushInt_eq, if_neg h0]
    exact flushIf_fails _ ho (RawVec.pushInt_WF hg.wf x k (by omega) hk)
      (by simp only [RawVec.len_pushInt]; exact h1) h2

/-- **failure law for close**: `close` fails (with an io error) exactly when the sink cannot take the words
left in the buffer; hence `close = ok` implies that the body is complete (`closeWith_ok`). -/
theorem closeWith_fails_iff (w : RawWriter) (ho : w.isOpen = true) (hg : Good w) (uh : List Word) :
    closeWith w uh = fault (.err .other) ↔ ∃ b, w.budget = some b ∧ b < w.buf.data.size := by
  constructor
  · intro h
    rcases closeWith_spec w ho hg uh with ⟨w', h1, _⟩ | ⟨_, h2⟩
    · rw [h1] at h; cases h
    · exact h2
  · rintro ⟨b, hb, hlt⟩
    have := writeBody_fail w w.buf.data.toList b hb (by simpa using hlt)
    unfold closeWith flushFinal
    simp only [ho]
    generalize w.writeBody w.buf.data.toList = r at this
    obtain ⟨r1, r2⟩ := r
    simp only [] at this
    subst this
    rfl

/-! ### 6. push histories -/

/-- a push of the writer API -/
inductive Push
  | bit (b : Bool)
  | int (x : Word) (k : Nat)

/-- the bits a push appends -/
def Push.bits : Push → List Bool
  | .bit b => [b]
  | .int x k => intBits x k

/-- documented domain: integer widths are at most 64 -/
def Push.valid : Push → Prop
  | .bit _ => True
  | .int _ k => k ≤ 64

def Push.run : Push → RawWriter → Outcome RawWriter
  | .bit b, w => w.pushBit b
  | .int x k, w => w.pushInt x k

/-- run a list of pushes, stopping at the first fault -/
def pushAll (ps : List Push) (w : RawWriter) : Outcome RawWriter := ps.foldlM (fun w p => p.run w) w

/-- all bits of a history, in order -/
def allBits (ps : List Push) : List Bool := ps.flatMap Push.bits

theorem pushAll_nil (w : RawWriter) : pushAll [] w = ok w := rfl

theorem pushAll_cons (p : Push) (ps : List Push) (w : RawWriter) :
    pushAll (p :: ps) w = (p.run w >>= pushAll ps) := by
  unfold pushAll; rw [List.foldlM_cons]

theorem Push.step (p : Push) (hp : p.valid) (w : RawWriter) (ho : w.isOpen = true) (hg : Good w) :
    (∃ w', p.run w = ok w' ∧ Ext w w' p.bits) ∨ (p.run w = fault (.panic .unwrap) ∧ SinkFails w) := by
  cases p with
  | bit b => exact pushBit_step w ho hg b
  | int x k => exact pushInt_step w ho hg x k hp

/-- any valid history: either every push succeeds, the invariant holds and `pushed` grew by exactly the
bits of the history, or some push hit a failing sink and panicked -/
theorem pushAll_spec (ps : List Push) (hps : ∀ p ∈ ps, p.valid) (w : RawWriter) (ho : w.isOpen = true)
    (hg : Good w) :
    (∃ w', pushAll ps w = ok w' ∧ Ext w w' (allBits ps)) ∨
    (pushAll ps w = fault (.panic .unwrap) ∧ w.budget ≠ none) := by
  induction ps generalizing w with
  | nil => left; exact ⟨w, rfl, Ext.refl hg ho⟩
  | cons p ps ih =>
    rw [pushAll_cons]
    rcases p.step (hps p (by simp)) w ho hg with ⟨w1, h1, e1⟩ | ⟨h1, b, hb, _⟩
    · rw [h1, bind_ok]
      rcases ih (fun q hq => hps q (by simp [hq])) w1 e1.isOpen e1.good with ⟨w2, h2, e2⟩ | ⟨h2, hb⟩
      · left
        refine ⟨w2, h2, ?_⟩
        have := e1.trans e2
        simpa [allBits] using this
      · right
        exact ⟨h2, fun h => hb (e1.budget_none h)⟩
    · right
      rw [h1, bind_fault]
      exact ⟨rfl, by rw [hb]; simp⟩

theorem pushAll_none (ps : List Push) (hps : ∀ p ∈ ps, p.valid) (w : RawWriter) (ho : w.isOpen = true)
    (hg : Good w) (hb : w.budget = none) : ∃ w', pushAll ps w = ok w' ∧ Ext w w' (allBits ps) := by
  rcases pushAll_spec ps hps w ho hg with h | ⟨_, h⟩
  · exact h
  · exact absurd hb h

/-- the whole life of a writer: create, push, close -/
def writeAll (userHeader : List Word) (bufLen : Nat) (ps : List Push) (budget : Option Nat := none) :
    Outcome RawWriter :=
  pushAll ps (withBufLen userHeader bufLen budget) >>= close

/-- **History theorem** (unlimited sink): for every buffer size and every valid list of pushes, the file
after `close` is the user header followed by the serialisation of the in-memory vector holding all pushed
bits; `len` is the number of bits pushed; the writer is closed and closing again changes nothing. -/
theorem history (uh : List Word) (bufLen : Nat) (ps : List Push) (hps : ∀ p ∈ ps, p.valid) :
    ∃ w, writeAll uh bufLen ps = ok w ∧
      w.file = uh ++ rawVecC.ser (RawVec.ofBits (allBits ps)) ∧
      w.len = (allBits ps).length ∧ w.isOpen = false ∧ close w = ok w := by
  obtain ⟨w1, h1, e1⟩ := pushAll_none ps hps (withBufLen uh bufLen none) rfl (withBufLen_Good _ _ _) rfl
  have hp : pushed w1 = allBits ps := by rw [e1.pushed_eq, withBufLen_pushed, List.nil_append]
  have hu : w1.userHeader = uh := e1.userHeader_eq
  obtain ⟨w2, h2, c2⟩ := closeWith_none w1 e1.isOpen (fun _ => e1.good) w1.userHeader
    (e1.budget_none rfl)
  refine ⟨w2, ?_, ?_, ?_, c2.isOpen, closeWith_idem _ _ _ _ h2⟩
  · unfold writeAll; rw [h1, bind_ok]; exact h2
  · rw [c2.file_eq, hp, hu]
  · rw [c2.len_eq, e1.good.len_eq, hp]

/-- `history` without a user header (the raw writer) -/
theorem history_raw (bufLen : Nat) (ps : List Push) (hps : ∀ p ∈ ps, p.valid) :
    ∃ w, writeAll [] bufLen ps = ok w ∧
      w.file = rawVecC.ser (RawVec.ofBits (allBits ps)) ∧ w.len = (allBits ps).length ∧
      w.isOpen = false ∧ close w = ok w := by
  simpa using history [] bufLen ps hps

/-- **History theorem with a failing sink**: for every budget, the run either succeeds — and then the file
is complete and correct exactly as with an unlimited sink — or it stops with the `unwrap` panic of a push
or the io error of `close`; a truncated file is never reported as a success. -/
theorem history_budget (uh : List Word) (bufLen : Nat) (ps : List Push) (hps : ∀ p ∈ ps, p.valid)
    (budget : Option Nat) :
    (∃ w, writeAll uh bufLen ps budget = ok w ∧
      w.file = uh ++ rawVecC.ser (RawVec.ofBits (allBits ps)) ∧
      w.body = (RawVec.ofBits (allBits ps)).data.toList ∧
      w.len = (allBits ps).length ∧ w.isOpen = false) ∨
    writeAll uh bufLen ps budget = fault (.panic .unwrap) ∨
    writeAll uh bufLen ps budget = fault (.err .other) := by
  unfold writeAll
  rcases pushAll_spec ps hps (withBufLen uh bufLen budget) rfl (withBufLen_Good _ _ _) with
    ⟨w1, h1, e1⟩ | ⟨h1, _⟩
  · have hp : pushed w1 = allBits ps := by rw [e1.pushed_eq, withBufLen_pushed, List.nil_append]
    have hu : w1.userHeader = uh := e1.userHeader_eq
    rw [h1, bind_ok]
    rcases closeWith_spec w1 e1.isOpen e1.good w1.userHeader with ⟨w2, h2, c2⟩ | ⟨h2, _⟩
    · left
      refine ⟨w2, h2, ?_, ?_, ?_, c2.isOpen⟩
      · rw [c2.file_eq, hp, hu]
      · rw [c2.body_eq, hp]
      · rw [c2.len_eq, e1.good.len_eq, hp]
    · right; right; exact h2
  · right; left; rw [h1, bind_fault]

end RawWriter

/-! ### 7. the integer writer -/

namespace IntWriter
open RawWriter

/-- the bits of a list of `width`-bit items -/
def itemBits (width : Nat) (xs : List Word) : List Bool := xs.flatMap fun x => intBits x width

/-- the raw vector of the equivalent in-memory `IntVec` -/
def rawOf (width : Nat) (xs : List Word) : RawVec := xs.foldl (fun d x => d.pushInt x width) RawVec.empty

theorem foldl_pushInt (width : Nat) (h1 : 1 ≤ width) (h2 : width ≤ 64) (xs : List Word) (d : RawVec)
    (hd : d.WF) :
    (xs.foldl (fun d x => d.pushInt x width) d).WF ∧
      (xs.foldl (fun d x => d.pushInt x width) d).bits = d.bits ++ itemBits width xs := by
  induction xs generalizing d with
  | nil => simp [itemBits, hd]
  | cons x xs ih =>
    have := ih (d.pushInt x width) (RawVec.pushInt_WF hd x width h1 h2)
    rw [RawVec.bits_pushInt hd x width h1 h2] at this
    simpa [itemBits, intBits] using this

theorem rawOf_WF (width : Nat) (h1 : 1 ≤ width) (h2 : width ≤ 64) (xs : List Word) : (rawOf width xs).WF :=
  (foldl_pushInt width h1 h2 xs _ RawVec.empty_WF).1

theorem bits_rawOf (width : Nat) (h1 : 1 ≤ width) (h2 : width ≤ 64) (xs : List Word) :
    (rawOf width xs).bits = itemBits width xs := by
  have := (foldl_pushInt width h1 h2 xs _ RawVec.empty_WF).2
  rw [show RawVec.empty.bits = [] from rfl, List.nil_append] at this
  exact this

theorem rawOf_eq_ofBits (width : Nat) (h1 : 1 ≤ width) (h2 : width ≤ 64) (xs : List Word) :
    RawVec.ofBits (itemBits width xs) = rawOf width xs := by
  apply RawVec.canonical (RawVec.ofBits_WF _) (rawOf_WF width h1 h2 xs)
  rw [RawVec.bits_ofBits, bits_rawOf width h1 h2]

/-- the in-memory vector built from the same items -/
theorem ofList_eq (width : Nat) (xs : List Word) :
    IntVec.ofList width (xs.map BitVec.toNat) = ⟨xs.length, width, rawOf width xs⟩ := by
  unfold IntVec.ofList
  have : List.map (BitVec.ofNat 64) (xs.map BitVec.toNat) = xs := by
    rw [List.map_map]
    conv => rhs; rw [← List.map_id xs]
    apply List.map_congr_left
    intro x _
    simp
  rw [this, IntVec.extend_eq]
  simp [rawOf]

/-- run a list of pushes, stopping at the first fault -/
def pushAll (xs : List Word) (w : IntWriter) : Outcome IntWriter := xs.foldlM (fun w x => w.push x) w

theorem pushAll_cons (x : Word) (xs : List Word) (w : IntWriter) :
    pushAll (x :: xs) w = (w.push x >>= pushAll xs) := by
  unfold pushAll; rw [List.foldlM_cons]

/-- invariant of an open integer writer -/
structure Good (w : IntWriter) : Prop where
  w1 : 1 ≤ w.width
  w2 : w.width ≤ 64
  isOpen : w.writer.isOpen = true
  good : RawWriter.Good w.writer

theorem push_step (w : IntWriter) (hg : Good w) (x : Word) :
    (∃ w', w.push x = ok w' ∧ Good w' ∧ w'.width = w.width ∧ w'.len = w.len + 1 ∧
        Ext w.writer w'.writer (intBits x w.width)) ∨
    (w.push x = fault (.panic .unwrap) ∧ w.writer.budget ≠ none) := by
  unfold push
  rcases pushInt_step w.writer hg.isOpen hg.good x w.width hg.w2 with ⟨r, h1, e⟩ | ⟨h1, b, hb, _⟩
  · left
    rw [h1]
    exact ⟨_, rfl, ⟨hg.w1, hg.w2, e.isOpen, e.good⟩, rfl, rfl, e⟩
  · right
    rw [h1]
    exact ⟨rfl, by rw [hb]; simp⟩

theorem pushAll_spec (xs : List Word) (w : IntWriter) (hg : Good w) :
    (∃ w', pushAll xs w = ok w' ∧ Good w' ∧ w'.width = w.width ∧ w'.len = w.len + xs.length ∧
        Ext w.writer w'.writer (itemBits w.width xs)) ∨
    (pushAll xs w = fault (.panic .unwrap) ∧ w.writer.budget ≠ none) := by
  induction xs generalizing w with
  | nil => left; exact ⟨w, rfl, hg, rfl, rfl, Ext.refl hg.good hg.isOpen⟩
  | cons x xs ih =>
    rw [pushAll_cons]
    rcases push_step w hg x with ⟨w1, h1, g1, hw, hl, e1⟩ | ⟨h1, hb⟩
    · rw [h1, bind_ok]
      rcases ih w1 g1 with ⟨w2, h2, g2, hw2, hl2, e2⟩ | ⟨h2, hb⟩
      · left
        refine ⟨w2, h2, g2, by rw [hw2, hw], by rw [hl2, hl, List.length_cons]; omega, ?_⟩
        have := e1.trans e2
        rw [hw] at this
        simpa [itemBits] using this
      · right
        exact ⟨h2, fun h => hb (e1.budget_none h)⟩
    · right
      rw [h1, bind_fault]
      exact ⟨rfl, hb⟩

/-- the whole life of an integer writer: create, push, close -/
def writeAll (width bufLen : Nat) (xs : List Word) (budget : Option Nat := none) : Outcome IntWriter :=
  withBufLen width bufLen budget >>= pushAll xs >>= close

theorem withBufLen_ok (width bufLen : Nat) (budget : Option Nat) (h1 : 1 ≤ width) (h2 : width ≤ 64) :
    withBufLen width bufLen budget = ok ⟨0, width, RawWriter.withBufLen [0, 0] (bufLen * width) budget⟩ := by
  unfold withBufLen
  rw [if_neg (by omega)]

/-- widths outside 1..64 are rejected at construction -/
theorem withBufLen_bad (width bufLen : Nat) (budget : Option Nat) (h : width = 0 ∨ width > 64) :
    withBufLen width bufLen budget = fault (.err .other) := by
  unfold withBufLen
  rw [if_pos h]

theorem close_idem (w w' : IntWriter) (h : close w = ok w') : close w' = ok w' := by
  unfold close at h ⊢
  cases hc : w.writer.closeWith [BitVec.ofNat 64 w.len, BitVec.ofNat 64 w.width] with
  | fault f => rw [hc] at h; cases h
  | ok r =>
    rw [hc] at h
    simp at h
    subst h
    simp only []
    rw [closeWith_idem _ _ _ _ hc]
    rfl

/-- **IntWriter history theorem**, any budget: for every width in 1..64, every buffer size and every list of
values, the run either succeeds — then the file is `[n, width] ++` the serialisation of the raw vector
holding the values truncated to `width` bits, i.e. the serialisation of the equivalent `IntVec`, and `len`
is the number of values — or it stops with the `unwrap` panic of a push or the io error of `close`. -/
theorem history_budget (width bufLen : Nat) (xs : List Word) (h1 : 1 ≤ width) (h2 : width ≤ 64)
    (budget : Option Nat) :
    (∃ w, writeAll width bufLen xs budget = ok w ∧
      w.file = intVecC.ser (IntVec.ofList width (xs.map BitVec.toNat)) ∧
      w.file = [BitVec.ofNat 64 xs.length, BitVec.ofNat 64 width] ++ rawVecC.ser (rawOf width xs) ∧
      w.len = xs.length ∧ w.width = width ∧ w.writer.len = xs.length * width ∧
      w.writer.isOpen = false ∧ close w = ok w) ∨
    (writeAll width bufLen xs budget = fault (.panic .unwrap) ∧ budget ≠ none) ∨
    (writeAll width bufLen xs budget = fault (.err .other) ∧ budget ≠ none) := by
  unfold writeAll
  rw [withBufLen_ok width bufLen budget h1 h2, bind_ok]
  have g0 : Good ⟨0, width, RawWriter.withBufLen [0, 0] (bufLen * width) budget⟩ :=
    ⟨h1, h2, rfl, withBufLen_Good _ _ _⟩
  rcases pushAll_spec xs _ g0 with ⟨w1, hp, g1, hw, hl, e1⟩ | ⟨hp, hb⟩
  · simp only [] at hw hl e1
    rw [hp, bind_ok]
    have hpushed : pushed w1.writer = itemBits width xs := by
      rw [e1.pushed_eq, withBufLen_pushed, List.nil_append]
    unfold close
    rcases closeWith_spec w1.writer g1.isOpen g1.good [BitVec.ofNat 64 w1.len, BitVec.ofNat 64 w1.width]
      with ⟨r, hc, c⟩ | ⟨hc, b, hb, _⟩
    · left
      rw [hc]
      have hfile : r.file = [BitVec.ofNat 64 xs.length, BitVec.ofNat 64 width] ++
          rawVecC.ser (rawOf width xs) := by
        rw [c.file_eq, hpushed, rawOf_eq_ofBits width h1 h2, hl, hw, Nat.zero_add]
      refine ⟨_, rfl, ?_, hfile, by simp [hl], hw, ?_, c.isOpen, ?_⟩
      · show r.file = _
        rw [hfile, ofList_eq]
        rfl
      · show r.len = _
        rw [c.len_eq, g1.good.len_eq, hpushed]
        simp [itemBits, intBits]
        clear hp hc hfile c e1 hpushed hl
        induction xs with
        | nil => simp
        | cons x xs ih => simp [ih, Nat.add_mul]; omega
      · simp only [bind_ok, pure_eq]
        rw [closeWith_closed r _ c.isOpen]
        rfl
    · right; right
      rw [hc]
      refine ⟨rfl, fun h => ?_⟩
      have := e1.budget_none h
      rw [hb] at this; cases this
  · right; left
    rw [hp, bind_fault]
    exact ⟨rfl, hb⟩

/-- **IntWriter history theorem** (unlimited sink) -/
theorem history (width bufLen : Nat) (xs : List Word) (h1 : 1 ≤ width) (h2 : width ≤ 64) :
    ∃ w, writeAll width bufLen xs = ok w ∧
      w.file = intVecC.ser (IntVec.ofList width (xs.map BitVec.toNat)) ∧
      w.file = [BitVec.ofNat 64 xs.length, BitVec.ofNat 64 width] ++ rawVecC.ser (rawOf width xs) ∧
      w.len = xs.length ∧ close w = ok w := by
  rcases history_budget width bufLen xs h1 h2 none with ⟨w, h, f1, f2, l, _, _, _, c⟩ | ⟨_, h⟩ | ⟨_, h⟩
  · exact ⟨w, h, f1, f2, l, c⟩
  · exact absurd rfl h
  · exact absurd rfl h

end IntWriter

end Sds
