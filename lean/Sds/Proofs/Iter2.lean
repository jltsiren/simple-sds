/-
Proofs/Iter2: iterators against the reference deque over the FULL call alphabet, as instances of the generic simulation
of Proofs/IterSim.lean: the wavelet matrix's `ValueIter` / `IntoIter` (forward) and `iter()` (`AccessIter` over the
fallible `get`: the two-cursor machine of Proofs/Iter.lean) and the owning `IntoIter` of `IntVector`.  The sparse vector's
iterators are in Proofs/IterSparse, the run-length vector's in Proofs/IterRL.
-/
import Sds.Proofs.Iter
import Sds.Proofs.WM
import Sds.Proofs.Outcome

namespace Sds.Iter2
open Sds Outcome IterProofs

/-! ## the wavelet matrix -/

namespace WMI

variable {w : WM} {V : List Nat} {width : Nat}

/-- the positions of the occurrences of `v` in `V`, ascending -/
def occ (V : List Nat) (v : Nat) : List Nat := onesPos (V.map (fun u => u == v))

theorem selectVal_eq_occ (V : List Nat) (v r : Nat) : selectVal V v r = (occ V v)[r]? := by
  unfold selectVal occ
  rw [← selectSpec_eq_onesPos]; rfl

theorem occ_length_le (V : List Nat) (v : Nat) : (occ V v).length ≤ V.length := by
  unfold occ
  rw [length_onesPos]
  have := List.count_le_length (a := true) (l := V.map (fun u => u == v))
  simpa using this

/-! ### `ValueIter` (forward only, no `size_hint`: `wavelet_matrix.rs:302-320`) -/

/-- the state `r` (next rank) stands for the occurrences of rank `≥ r`; after a `None` the state is `|V|`, past every
rank -/
def ValRel (V : List Nat) (v : Nat) (r : Nat) (d : List (Nat × Nat)) : Prop :=
  ∃ a b, (a = r ∧ b = (occ V v).length) ∧ d = win (pairF (occ V v)) a b

theorem value_fwdSim (hw : w.Ok V width) (m : Mode) (v : Nat) :
    FwdSim (fun r => w.valueIterNext m v r) (ValRel V v) := by
  have hle := occ_length_le V v
  apply win_fwdSim (Inv := fun a b r => a = r ∧ b = (occ V v).length)
  · rintro a b r ⟨rfl, rfl⟩ h
    by_cases hr : a ≥ V.length
    · exact ⟨a, a, _, by rw [valueIterNext_ok hw, if_pos hr], ⟨rfl, rfl⟩, h⟩
    · exact ⟨V.length, V.length, _, by rw [valueIterNext_ok hw, if_neg hr, selectVal_eq_occ, List.getElem?_eq_none h],
        ⟨rfl, rfl⟩, hle⟩
  · rintro a b r ⟨rfl, rfl⟩ h
    refine ⟨a + 1, ?_, rfl, rfl⟩
    rw [valueIterNext_ok hw, if_neg (by omega), selectVal_eq_occ, pairF, List.getElem?_eq_getElem h]
    rfl

def valueRun (m : Mode) (w : WM) (v : Nat) : Nat → List NCall → Outcome (List (IOut (Nat × Nat))) :=
  nRun (fun r => w.valueIterNext m v r)

/-- **`value_iter(v)` / `select_iter(r, v)`**: from the state `r`, every forward call history (`next` / `nth k`)
yields the `(rank, index)` pairs of the occurrences of `v` of rank `≥ r` -/
theorem valueRun_from (hw : w.Ok V width) (m : Mode) (v r : Nat) (calls : List NCall) :
    valueRun m w v r calls = ok (dequeRunM ((pairs (occ V v)).drop r) (calls.map NCall.toICall)) := by
  rw [pairs_drop]
  exact nRun_sim (value_fwdSim hw m v) calls ⟨r, _, ⟨rfl, rfl⟩, rfl⟩

/-! ### `IntoIter` (forward only, exact size: `wavelet_matrix.rs:344-366`) -/

/-- `IntoIter::next` (`wavelet_matrix.rs:347-355`): state = `index` -/
def intoNext (m : Mode) (w : WM) (i : Nat) : Outcome (Option Nat × Nat) :=
  if i ≥ w.len then ok (none, i) else do
    let x ← w.get m i
    let j ← addM m i 1
    return (some x, j)

/-- `IntoIter::size_hint().0` (`wavelet_matrix.rs:358-361`): `self.parent.len() - self.index` -/
def intoLen (m : Mode) (w : WM) (i : Nat) : Outcome Nat := subM m w.len i

def intoRun (m : Mode) (w : WM) : Nat → List FCall → Outcome (List (IOut Nat)) :=
  fwdRun (intoNext m w) (intoLen m w)

/-- **`into_iter()`**: every forward call history (`next` / `nth k` / `len`) yields the items -/
theorem intoRun_full (hw : w.Ok V width) (m : Mode) (calls : List FCall) :
    intoRun m w 0 calls = ok (dequeRunM V (calls.map FCall.toICall)) :=
  have hU := hw.core.len_lt
  fwdRun_sim (Rel := DropRel V)
    (drop_fwdSim V (by unfold intoNext; rw [hw.len, if_pos (Nat.le_refl _)]) (fun i h => by
      unfold intoNext
      rw [hw.len, if_neg (Nat.not_le_of_lt h), get_ok_wm hw m i h, bind_ok, addM_ok (by rw [U64_eq]; omega)]; rfl))
    (by unfold intoLen; rw [hw.len]; exact drop_lenSim V m) calls ⟨Nat.zero_le _, rfl⟩

end WMI

/-- **`WaveletMatrix::iter()`** (`AccessIter` over `get`): every call history over the full alphabet yields the
items, with no fault -/
theorem wm_iter_run {w : WM} {V : List Nat} {width : Nat} (hw : w.Ok V width) (m : Mode) (calls : List ICall) :
    cursorRunM (w.get m) ⟨0, w.len⟩ calls = ok (dequeRunM V calls) := by
  rw [hw.len]
  exact cursorRunM_deque V (w.get m) (fun i h => get_ok_wm hw m i h) calls

/-! ## the owning `IntoIter` of `IntVector` (`int_vector.rs:366-388`): forward index cursor, exact size -/

/-- `intoIterStep` of Model/Iter.lean as a step function of the forward machine -/
def intoStep {α} (get : Nat → α) (len : Nat) (i : Nat) : Outcome (Option α × Nat) :=
  ok (match intoIterStep get len i with
    | (.item a, j) => (some a, j)
    | (_, j) => (none, j))

/-- `IntoIter::size_hint().0` (`int_vector.rs:380-383`): `self.parent.len() - self.index` -/
def intoStepLen (m : Mode) (len : Nat) (i : Nat) : Outcome Nat := subM m len i

/-- **owning `IntoIter`**: every forward call history (`next` / `nth k` / `len`) yields the items -/
theorem intoStep_run {α} (xs : List α) (get : Nat → α) (hx : ∀ i, i < xs.length → xs[i]? = some (get i))
    (m : Mode) (calls : List FCall) :
    fwdRun (intoStep get xs.length) (intoStepLen m xs.length) 0 calls =
      ok (dequeRunM xs (calls.map FCall.toICall)) :=
  fwdRun_sim (Rel := DropRel xs)
    (drop_fwdSim xs (by unfold intoStep intoIterStep; rw [if_pos (Nat.le_refl _)]) (fun i h => by
      unfold intoStep intoIterStep
      rw [if_neg (Nat.not_le_of_lt h), ← Option.some.inj ((List.getElem?_eq_getElem h).symm.trans (hx i h))]))
    (drop_lenSim xs m) calls ⟨Nat.zero_le _, rfl⟩

end Sds.Iter2
