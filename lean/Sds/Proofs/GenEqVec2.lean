/-
Proofs/GenEqVec2: `new`, `with_len`, `pop`, `clear` of `int_vector.rs` as TRANSLATED statement by statement from the
source (Generated/FnsVec2.lean) are equal to the hand-written model definitions of Model/IntVec.lean.

  new, clear : unconditional
  with_len   : `len * width < 2^64` (the capacity `len * width` is computed first; it panics with overflow checks on)
               and `(len - 1) * width + 63 < 2^64` (the word count of the buffer before the last push, in bits, is
               computed by `words_to_bits`); both follow from `len * width + 63 < 2^64`.  No hypothesis on `width`:
               outside `1..64` both sides return the same error.
  pop        : `width ≤ 64`, `data.len ≤ 64 * #words` and `data.len + 63 < 2^64 + width` — all consequences of
               `IntVec.WF` and `len * width + 62 < 2^64`; the relation `data.len = len * width` is not needed.

The `for _ in 0..len` loop of `with_len` cannot fault under these bounds: it is the model's fold over `List.range len`
by `for_range_inv` (Proofs/GenSupport), the invariant being that the buffer after `i` pushes is well formed and
`i * width` bits long.
-/
import Sds.Generated.FnsVec2
import Sds.Proofs.GenEqVec
import Sds.Proofs.IntVec


namespace Sds.GenEq
open Sds Outcome Generated

/-! ### new, clear -/

theorem int_new_eq (m : Mode) (width : Nat) : gen_IntVector_new m width = IntVec.new width := by
  unfold gen_IntVector_new IntVec.new
  simp only [gen_simp]

theorem int_clear_eq (m : Mode) (v : IntVec) : gen_IntVector_clear m v = ok v.clear := rfl

/-! ### with_len -/

/-- `with_len`.  `hb`: the capacity `len * width` handed to `RawVector::with_capacity` is a `usize` product (it panics
with overflow checks on: `int_with_len_ne`), and the same bound keeps the bit length below 2^64 at the last push;
`hc`: before the last push the buffer has `⌈(len - 1) * width / 64⌉` words, converted to bits by `words_to_bits`.
Nothing is assumed on `width`: outside `1..64` both sides are the same error. -/
theorem int_with_len_eq (m : Mode) (len width : Nat) (value : Word)
    (hb : len * width < U64) (hc : (len - 1) * width + 63 < U64) :
    gen_IntVector_with_len m len width value = IntVec.withLen len width value := by
  unfold gen_IntVector_with_len IntVec.withLen
  by_cases h : width = 0 ∨ width > 64
  · rw [if_pos (by simpa using h), if_pos h]
  · rw [if_neg (by simpa using h), if_neg h, mulM_ok hb, bind_ok]
    refine (congrArg (· >>= _) (for_range_inv (ρ := IntVec) len (fun d _ => d.pushInt value width)
      (fun i d => d.WF ∧ d.len = i * width) _ (fun i d hi hd => ?_) (fun s => ?_) RawVec.empty
      ⟨RawVec.empty_WF, (Nat.zero_mul _).symm⟩)).trans rfl
    · obtain ⟨hwf, hlen⟩ := hd
      have h1 : (i + 1) * width ≤ len * width := Nat.mul_le_mul_right _ hi
      have h2 : i * width ≤ (len - 1) * width := Nat.mul_le_mul_right _ (Nat.le_sub_one_of_lt hi)
      rw [Nat.succ_mul] at h1
      obtain ⟨hs1, hs2⟩ := wordCount_bounds hwf.1
      dsimp only
      rw [if_pos (decide_eq_true hi), raw_push_int_eq m d value width (by omega) hs1 (by omega) (by omega)]
      exact ⟨rfl, RawVec.pushInt_WF hwf value width (by omega) (by omega),
        by rw [RawVec.len_pushInt, hlen, Nat.succ_mul]⟩
    · exact if_neg (mt of_decide_eq_true (Nat.lt_irrefl len))

/-- one bound on the bit length gives both -/
theorem int_with_len_eq' (m : Mode) (len width : Nat) (value : Word) (hb : len * width + 63 < U64) :
    gen_IntVector_with_len m len width value = IntVec.withLen len width value :=
  int_with_len_eq m len width value (by omega)
    (by have := Nat.mul_le_mul_right width (Nat.sub_le len 1); omega)

/-! ### pop -/

/-- `pop`, from what the code needs: the relation `data.len = len * width` between the item count and the buffer plays
no role (both sides decrement `len` independently of the buffer) -/
theorem int_pop_eq' (m : Mode) (v : IntVec) (hw : v.width ≤ 64) (hs : v.data.len ≤ 64 * v.data.data.size)
    (hl : v.data.len + 63 < U64 + v.width) : gen_IntVector_pop m v = ok v.pop := by
  unfold gen_IntVector_pop IntVec.pop
  by_cases h0 : v.len > 0
  · simp only [gen_simp, h0, Nat.succ_le_of_lt h0, raw_pop_int_eq' m v.data v.width hw hs (fun _ => hl)]
  · simp only [gen_simp, h0, raw_pop_int_eq' m v.data v.width hw hs (fun _ => hl)]

/-- `pop` on a well-formed vector whose bit length leaves room for the rounding `+ 63` of `bits_to_words` (one item
is gone by then, hence `62`) -/
theorem int_pop_eq (m : Mode) (v : IntVec) (hwf : v.WF) (hb : v.len * v.width + 62 < U64) :
    gen_IntVector_pop m v = ok v.pop := by
  obtain ⟨h1, h2, h3, h4, _⟩ := hwf
  exact int_pop_eq' m v h2 (by omega) (by omega)

/-! ### the remaining hypotheses are needed: outside them the code panics where the total model function returns a
value.  (`hc` of `with_len` and `hl` of `pop` can only fail with a buffer of `≥ 2^58` words, which no closed term
evaluates; `hb` fails before the loop starts.) -/

/-- `hb` of `int_with_len_eq`: the capacity `len * width` overflows -/
theorem int_with_len_ne : gen_IntVector_with_len .checked U64 1 0 = fault (.panic .overflow) ∧
    (IntVec.withLen U64 1 0).isOk = true := by decide

/-- `hw` of `int_pop_eq'`: a width above 64 (not an `IntVec.WF` value) -/
theorem int_pop_ne_width : gen_IntVector_pop .checked ⟨1, 65, ⟨65, #[5, 1]⟩⟩ = fault (.panic .overflow) ∧
    IntVec.pop ⟨1, 65, ⟨65, #[5, 1]⟩⟩ = (some 5, ⟨0, 65, ⟨0, #[]⟩⟩) := by decide

/-- `hs` of `int_pop_eq'`: a buffer shorter than its bit length (not an `IntVec.WF` value) -/
theorem int_pop_ne_size : gen_IntVector_pop .checked ⟨1, 1, ⟨1, #[]⟩⟩ = fault (.panic .index) ∧
    gen_IntVector_pop .wrapping ⟨1, 1, ⟨1, #[]⟩⟩ = fault (.panic .index) ∧
    IntVec.pop ⟨1, 1, ⟨1, #[]⟩⟩ = (some 0, ⟨0, 1, ⟨0, #[]⟩⟩) := by decide

/-- the item count and the buffer are popped independently: on a vector with `data.len < width` (not `IntVec.WF`) code
and model both decrement `len` and return `None` -/
example : gen_IntVector_pop .checked ⟨5, 3, ⟨1, #[1]⟩⟩ = ok (none, ⟨4, 3, ⟨1, #[1]⟩⟩) ∧
    IntVec.pop ⟨5, 3, ⟨1, #[1]⟩⟩ = (none, ⟨4, 3, ⟨1, #[1]⟩⟩) := by decide

/-- a run of the translated loop -/
example : gen_IntVector_with_len .checked 3 5 7 = ok ⟨3, 5, ⟨15, #[0x1ce7#64]⟩⟩ := by decide

end Sds.GenEq
