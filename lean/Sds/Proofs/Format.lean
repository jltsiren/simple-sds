/-
Proofs/Format: the format specification written from SERIALIZATION.md (`Spec/Format`, namespace `Doc`) against
the codecs of the model (`Model/Ser`, `Model/Sparse`, `Model/WM`, `Model/RL`).
(→) what the model serializes is a valid file of the document, and the document's reading of it is the content
    of the structure;
(←) what the document accepts, the model's loader accepts, and it loads a structure with that content.

Proven here
  raw bitvector      (→) `Doc.rawBits_ser`      (←) `Doc.rawBits_load`
  integer vector     (→) `Doc.intVector_ser`    (←) `Doc.intVector_load`
  optional           (→) `Doc.optionalSkip_ser`, `Doc.optional_ser`
  bitvector          (→) `Doc.bitVector_ser` (any subset of supports)
                     (←) `Doc.bitVector_load_plain` (the three optionals absent), `Doc.bitVector_eq_some`
  sparse bitvector   (→) `Doc.sparse_ser_of_facts`, `sparse_ser_set`, `sparse_ser_multi` (vectors built by `ofValues`)
  wavelet matrix     the map of one level, `Doc.levelMap_eq`, `Doc.mapDown_map`; both directions are in Proofs/FormatWM
  run-length vector  (→, relative to a conforming block layout) `Doc.rlBlocks_conf`, `Doc.rl_ser_of_conf`
Limits: see the list at the end of the file; continued in Proofs/FormatRL, FormatSparse, FormatWM.
-/
import Sds.Spec.Format
import Sds.Proofs.Codec
import Sds.Proofs.RawVec
import Sds.Proofs.IntVec
import Sds.Proofs.Sparse2
import Sds.Proofs.Supports
import Sds.Proofs.WM
import Sds.Model.RL
set_option linter.unusedSimpArgs false
set_option linter.unusedVariables false

namespace Sds
open Outcome

namespace Doc

/-! ### basic structures -/

@[simp] theorem elem_cons (w : Word) (r : File) : elem (w :: r) = some (w.toNat, r) := rfl
@[simp] theorem elem_nil : elem [] = none := rfl

theorem elem_eq_some {es : File} {n : Nat} {r : File} (h : elem es = some (n, r)) :
    ∃ w, es = w :: r ∧ w.toNat = n := by
  cases es with
  | nil => cases h
  | cons w t => simp only [elem_cons, Option.some.injEq, Prod.mk.injEq] at h; exact ⟨w, by rw [h.2], h.1⟩

theorem ite_none_eq_some {c : Prop} [Decidable c] {α : Type} {e : Option α} {x : α}
    (h : (if c then none else e) = some x) : ¬ c ∧ e = some x := by
  by_cases hc : c
  · rw [if_pos hc] at h; cases h
  · rw [if_neg hc] at h; exact ⟨hc, h⟩

theorem ite_some_eq_some {c : Prop} [Decidable c] {α : Type} {y x : α}
    (h : (if c then some y else none) = some x) : c ∧ y = x := by
  by_cases hc : c
  · rw [if_pos hc] at h; exact ⟨hc, Option.some.inj h⟩
  · rw [if_neg hc] at h; cases h

theorem elemVector_cons (w : Word) (r : File) :
    elemVector (w :: r) = if w.toNat ≤ r.length then some ((r.take w.toNat).toArray, r.drop w.toNat) else none := rfl

theorem elemVector_ser {n : Nat} (hn : n < 2 ^ 64) (l : List Word) (hl : l.length = n) (rest : File) :
    elemVector (BitVec.ofNat 64 n :: (l ++ rest)) = some (l.toArray, rest) := by
  rw [elemVector_cons, toNat_ofNat64 hn, if_pos (by simp; omega)]
  subst hl
  simp

theorem elemVector_eq_some {es : File} {a : Array Word} {r : File} (h : elemVector es = some (a, r)) :
    ∃ w t, es = w :: t ∧ w.toNat ≤ t.length ∧ a = (t.take w.toNat).toArray ∧ r = t.drop w.toNat := by
  cases es with
  | nil => cases h
  | cons w t =>
    rw [elemVector_cons] at h
    obtain ⟨hle, he⟩ := ite_some_eq_some h
    obtain ⟨rfl, rfl⟩ := Prod.mk.inj he
    exact ⟨w, t, rfl, hle, rfl, rfl⟩

/-! ### raw bitvector -/

theorem unusedZero_iff (a : Array Word) (n : Nat) :
    unusedZero a n = true ↔ ∀ j, n ≤ j → getBit a j = false := by
  unfold unusedZero
  rw [List.all_eq_true]
  constructor
  · intro h j hj
    by_cases hjs : 64 * a.size ≤ j
    · exact getBit_of_size_le _ _ hjs
    · have := h (j - n) (List.mem_range.mpr (by omega))
      rw [show n + (j - n) = j by omega] at this
      simpa using this
  · intro h k _
    simp [h (n + k) (by omega)]

theorem rawBits_cons (w : Word) (r : File) :
    rawBits (w :: r) = (elemVector r).bind fun p =>
      if p.1.size = (w.toNat + 63) / 64 ∧ unusedZero p.1 w.toNat = true then
        some ((List.range w.toNat).map (getBit p.1), p.2) else none := rfl

/-- (→) the serialization of a well-formed `RawVector` is a raw bitvector of the document, with the same bits -/
theorem rawBits_ser {v : RawVec} (hwf : v.WF) (hlen : v.len < 2 ^ 64) (rest : File) :
    rawBits (rawVecC.ser v ++ rest) = some (v.bits, rest) := by
  have hsz : v.data.size < 2 ^ 64 := by rw [hwf.size_eq]; omega
  have hser : rawVecC.ser v ++ rest = BitVec.ofNat 64 v.len :: BitVec.ofNat 64 v.data.size :: (v.data.toList ++ rest) := by
    simp [rawVecC, vecU64C]
  rw [hser, rawBits_cons, elemVector_ser hsz _ (by simp), toNat_ofNat64 hlen]
  simp only [Option.bind_some, Array.toArray_toList]
  rw [if_pos ⟨hwf.size_eq, (unusedZero_iff _ _).mpr hwf.tail_zero⟩]
  rfl

/-- a raw bitvector of the document with bits `B` is the serialization of THE raw vector with those bits (the
representation is canonical) -/
theorem rawBits_eq_some {es : File} {B : List Bool} {rest : File} (h : rawBits es = some (B, rest)) :
    es = rawVecC.ser (RawVec.ofBits B) ++ rest ∧ B.length < 2 ^ 64 := by
  cases es with
  | nil => cases h
  | cons w r =>
    rw [rawBits_cons] at h
    obtain ⟨⟨a, r'⟩, hv, h⟩ := Option.bind_eq_some_iff.mp h
    obtain ⟨hc, he⟩ := ite_some_eq_some h
    obtain ⟨hB, rfl⟩ := Prod.mk.inj he
    obtain ⟨w2, t, rfl, hle, ha, hr⟩ := elemVector_eq_some hv
    have hwf : (⟨w.toNat, a⟩ : RawVec).WF := RawVec.WF.of_tail_zero hc.1 ((unusedZero_iff _ _).mp hc.2)
    have hsz : a.size = w2.toNat := by rw [ha, List.size_toArray, List.length_take]; omega
    refine ⟨?_, by rw [← hB, List.length_map, List.length_range]; exact w.isLt⟩
    rw [RawVec.canonical (RawVec.ofBits_WF B) hwf ((RawVec.bits_ofBits B).trans hB.symm)]
    show _ = BitVec.ofNat 64 w.toNat :: BitVec.ofNat 64 a.size :: a.toList ++ r'
    rw [hsz, BitVec.ofNat_toNat, BitVec.setWidth_eq, BitVec.ofNat_toNat, BitVec.setWidth_eq, ha, hr,
      List.cons_append, List.cons_append, List.take_append_drop]

/-- (←) a raw bitvector of the document is loaded by the model, into a well-formed vector with the same bits -/
theorem rawBits_load {es : File} {B : List Bool} {rest : File} (h : rawBits es = some (B, rest)) :
    ∃ v, rawVecC.load es = ok (v, rest) ∧ v.WF ∧ v.len < 2 ^ 64 ∧ v.bits = B := by
  obtain ⟨rfl, hl⟩ := rawBits_eq_some h
  have hlen : (RawVec.ofBits B).len < 2 ^ 64 := by rw [← RawVec.bits_length, RawVec.bits_ofBits]; exact hl
  exact ⟨_, rawVecC_lawful.roundtrip _ rest ⟨RawVec.ofBits_WF B, hlen⟩, RawVec.ofBits_WF B, hlen, RawVec.bits_ofBits B⟩

/-! ### integer vector -/

theorem natOfBits_eq (L : List Bool) : natOfBits L = bitsToNat L := by
  induction L with
  | nil => rfl
  | cons b bs ih => simp only [natOfBits, bitsToNat, ih]

theorem item_toArray (B : List Bool) (w i : Nat) :
    item B.toArray w i = bitsToNat ((B.drop (i * w)).take w) := by
  unfold item
  rw [natOfBits_eq, Array.toList_extract, List.extract_eq_take_drop]
  simp

/-- the items of a well-formed `IntVector`, read off its bits the way the document says -/
theorem items_of_bits {v : IntVec} (hwf : v.WF) :
    (List.range v.len).map (item v.data.bits.toArray v.width) = v.items := by
  unfold IntVec.items
  apply List.map_congr_left
  intro i hi
  have hi' : i < v.len := List.mem_range.mp hi
  rw [item_toArray, ← IntVec.item_eq_bitsToNat hwf i hi', IntVec.getRaw_eq_getD i hi']

theorem intVector_cons (w1 w2 : Word) (r : File) : intVector (w1 :: w2 :: r) =
    if w2.toNat < 1 ∨ 64 < w2.toNat then none else (rawBits r).bind fun p =>
      if p.1.length ≠ w1.toNat * w2.toNat then none else
        some ((w2.toNat, (List.range w1.toNat).map (item p.1.toArray w2.toNat)), p.2) := rfl

/-- (→) the serialization of a well-formed `IntVector` is an integer vector of the document, with the same
width and items -/
theorem intVector_ser {v : IntVec} (hwf : v.WF) (hlen : v.len < 2 ^ 64) (hdl : v.data.len < 2 ^ 64)
    (rest : File) : intVector (intVecC.ser v ++ rest) = some ((v.width, v.items), rest) := by
  obtain ⟨hw1, hw64, hdlen, hdwf⟩ := hwf
  have hser : intVecC.ser v ++ rest =
      BitVec.ofNat 64 v.len :: BitVec.ofNat 64 v.width :: (rawVecC.ser v.data ++ rest) := by
    simp [intVecC]
  rw [hser, intVector_cons, toNat_ofNat64 hlen, toNat_ofNat64 (by omega), if_neg (by omega),
    rawBits_ser hdwf hdl]
  simp only [Option.bind_some]
  rw [if_neg (by rw [RawVec.bits_length, hdlen]; simp), items_of_bits ⟨hw1, hw64, hdlen, hdwf⟩]

/-- (←) an integer vector of the document is loaded by the model, into a well-formed vector with that width
and those items -/
theorem intVector_load {es : File} {w : Nat} {items : List Nat} {rest : File}
    (h : intVector es = some ((w, items), rest)) :
    ∃ v, intVecC.load es = ok (v, rest) ∧ v.WF ∧ v.len < 2 ^ 64 ∧ v.data.len < 2 ^ 64 ∧
      v.width = w ∧ v.items = items := by
  match es, h with
  | [], h => cases h
  | [_], h => cases h
  | w1 :: w2 :: r, h =>
    rw [intVector_cons] at h
    obtain ⟨hw, h⟩ := ite_none_eq_some h
    obtain ⟨⟨B, r'⟩, hb, h⟩ := Option.bind_eq_some_iff.mp h
    obtain ⟨hl, h⟩ := ite_none_eq_some h
    obtain ⟨he, rfl⟩ := Prod.mk.inj (Option.some.inj h)
    obtain ⟨hw', hitems⟩ := Prod.mk.inj he
    obtain ⟨d, hload, hdwf, hdlt, hbits⟩ := rawBits_load hb
    have hdlen : d.len = w1.toNat * w2.toNat := by
      rw [← RawVec.bits_length, hbits]; exact Decidable.of_not_not hl
    have hwf : (⟨w1.toNat, w2.toNat, d⟩ : IntVec).WF :=
      ⟨show 1 ≤ w2.toNat by omega, show w2.toNat ≤ 64 by omega, hdlen, hdwf⟩
    refine ⟨⟨w1.toNat, w2.toNat, d⟩, ?_, hwf, w1.isLt, hdlt, hw', ?_⟩
    · simp only [intVecC, usizeC, readElem, bind_ok, pure_eq, hload]
      rw [if_neg (by rw [hdlen]; simp)]
    · rw [← hitems, ← hbits]; exact (items_of_bits hwf).symm

/-! ### optional structures -/

theorem optionalSkip_cons (w : Word) (r : File) :
    optionalSkip (w :: r) = if w.toNat ≤ r.length then some (r.drop w.toNat) else none := rfl

/-- (→) an optional structure written by the model, present or absent, is skipped by its length element -/
theorem optionalSkip_ser {α} (c : Codec α) (o : Option α)
    (ho : ∀ x, o = some x → (c.ser x).length < 2 ^ 64) (r : File) :
    optionalSkip ((optionC c).ser o ++ r) = some r := by
  cases o with
  | none =>
    show optionalSkip ((0 : Word) :: r) = some r
    rw [optionalSkip_cons]; simp
  | some x =>
    show optionalSkip (BitVec.ofNat 64 (c.ser x).length :: (c.ser x ++ r)) = some r
    rw [optionalSkip_cons, toNat_ofNat64 (ho x rfl), if_pos (by simp)]
    simp

/-- (→) `Doc.optional` with a decoder that reads back what the codec wrote -/
theorem optional_ser {α β} (c : Codec α) (dec : File → Option (β × File)) (f : α → β) (o : Option α)
    (ho : ∀ x, o = some x → 0 < (c.ser x).length ∧ (c.ser x).length < 2 ^ 64 ∧ dec (c.ser x) = some (f x, []))
    (r : File) : optional dec ((optionC c).ser o ++ r) = some (o.map f, r) := by
  cases o with
  | none => rfl
  | some x =>
    obtain ⟨hpos, hlt, hdec⟩ := ho x rfl
    show optional dec (BitVec.ofNat 64 (c.ser x).length :: (c.ser x ++ r)) = _
    simp only [optional, elem_cons, Option.bind_eq_bind, Option.bind_some, toNat_ofNat64 hlt]
    rw [if_neg (by omega), if_pos (by simp)]
    simp [hdec]

/-! ### bitvector -/

theorem bitVector_cons (w : Word) (r : File) : bitVector (w :: r) =
    (rawBits r).bind fun p => if p.1.count true ≠ w.toNat then none else
      (optionalSkip p.2).bind fun r1 => (optionalSkip r1).bind fun r2 => (optionalSkip r2).bind fun r3 =>
        some (p.1, r3) := rfl

/-- (→) the serialization of a `BitVector` — with whatever subset of its three support structures — is a
bitvector of the document with the same bits: the supports are skipped by their lengths -/
theorem bitVector_ser {b : BitVector} (hwf : bitVectorWF b) (hones : b.ones = b.data.bits.count true)
    (rest : File) : bitVector (bitVectorC.ser b ++ rest) = some (b.data.bits, rest) := by
  obtain ⟨⟨hdwf, hdlen⟩, hle, hlt, hr, hs, hz⟩ := hwf
  have hser : bitVectorC.ser b ++ rest = BitVec.ofNat 64 b.ones :: (rawVecC.ser b.data ++
      ((optionC rankSupC).ser b.rank ++ ((optionC selSupC).ser b.select ++
        ((optionC selSupC).ser b.selectZero ++ rest)))) := by
    simp [bitVectorC]
  rw [hser, bitVector_cons, rawBits_ser hdwf hdlen, toNat_ofNat64 hlt]
  simp only [Option.bind_some]
  rw [if_neg (by rw [hones]; simp),
    optionalSkip_ser rankSupC b.rank (fun x hx => (hr x hx).2.2),
    Option.bind_some, optionalSkip_ser selSupC b.select (fun x hx => (hs x hx).2.2),
    Option.bind_some, optionalSkip_ser selSupC b.selectZero (fun x hx => (hz x hx).2.2),
    Option.bind_some]

/-- what `Doc.bitVector` accepts: a number of set bits that is the actual count, a raw bitvector, and three
length-prefixed spans inside the file -/
theorem bitVector_eq_some {es : File} {B : List Bool} {rest : File} (h : bitVector es = some (B, rest)) :
    ∃ w r r0 r1 r2, es = w :: r ∧ rawBits r = some (B, r0) ∧ B.count true = w.toNat ∧
      optionalSkip r0 = some r1 ∧ optionalSkip r1 = some r2 ∧ optionalSkip r2 = some rest := by
  cases es with
  | nil => cases h
  | cons w r =>
    rw [bitVector_cons] at h
    obtain ⟨⟨B', r0⟩, hb, h⟩ := Option.bind_eq_some_iff.mp h
    obtain ⟨hc, h⟩ := ite_none_eq_some h
    obtain ⟨r1, h1, h⟩ := Option.bind_eq_some_iff.mp h
    obtain ⟨r2, h2, h⟩ := Option.bind_eq_some_iff.mp h
    obtain ⟨r3, h3, h⟩ := Option.bind_eq_some_iff.mp h
    obtain ⟨rfl, rfl⟩ := Prod.mk.inj (Option.some.inj h)
    exact ⟨w, r, r0, r1, r2, rfl, hb, Decidable.of_not_not hc, h1, h2, h3⟩

theorem optionalSkip_zero (r : File) : optionalSkip ((0 : Word) :: r) = some r := rfl

/-- a bitvector of the document whose three optional structures are absent is what the library writes for
`BitVector::from` of the raw vector with its bits -/
theorem bitVector_plain_ser {w : Word} {r : File} {B : List Bool} {rest : File}
    (hraw : rawBits r = some (B, 0 :: 0 :: 0 :: rest)) (hones : B.count true = w.toNat) :
    w :: r = bitVectorC.ser (BitVector.ofRaw (RawVec.ofBits B)) ++ rest := by
  obtain ⟨rfl, _⟩ := rawBits_eq_some hraw
  show _ = (BitVec.ofNat 64 (RawVec.ofBits B).countOnes :: (rawVecC.ser (RawVec.ofBits B) ++ [0] ++ [0] ++ [0])) ++ rest
  rw [RawVec.countOnes_eq (RawVec.ofBits_WF B), RawVec.bits_ofBits, hones, BitVec.ofNat_toNat, BitVec.setWidth_eq]
  simp only [List.cons_append, List.append_assoc, List.nil_append]

/-- `BitVector::from` of a raw vector passes every check of `BitVector::load` -/
theorem bitVectorLd_ofBits (B : List Bool) (hB : B.length < 2 ^ 64) :
    LoadWF.bitVectorLd (BitVector.ofRaw (RawVec.ofBits B)) := by
  have hwf := RawVec.ofBits_WF B
  have hl : (RawVec.ofBits B).len = B.length := by rw [← RawVec.bits_length, RawVec.bits_ofBits]
  refine ⟨⟨hwf.size_eq.symm, hl ▸ hB⟩, ?_, fun _ h => (by cases h), fun _ h => (by cases h), fun _ h => (by cases h)⟩
  show (RawVec.ofBits B).countOnes ≤ (RawVec.ofBits B).len
  rw [RawVec.countOnes_eq hwf, RawVec.bits_ofBits, hl]
  exact List.count_le_length

/-- the loader on a bitvector of the document whose three optional structures are absent -/
theorem bitVectorC_load_plain {w : Word} {r : File} {B : List Bool} {rest : File}
    (hraw : rawBits r = some (B, 0 :: 0 :: 0 :: rest)) (hones : B.count true = w.toNat) :
    bitVectorC.load (w :: r) = ok (BitVector.ofRaw (RawVec.ofBits B), rest) := by
  rw [bitVector_plain_ser hraw hones]
  exact (LoadWF.bitVectorC_loads_ld isEof_eof (bitVectorLd_ofBits B (rawBits_eq_some hraw).2)).1 rest

/-- (←) a bitvector of the document whose three optional structures are absent is loaded by the model, into a
bitvector without supports, with the same bits and the right number of set bits -/
theorem bitVector_load_plain {w : Word} {r : File} {B : List Bool} {rest : File}
    (hraw : rawBits r = some (B, 0 :: 0 :: 0 :: rest)) (hones : B.count true = w.toNat) :
    bitVector (w :: r) = some (B, rest) ∧
    ∃ b, bitVectorC.load (w :: r) = ok (b, rest) ∧ b.data.WF ∧ b.data.bits = B ∧ b.ones = B.count true ∧
      b.rank = none ∧ b.select = none ∧ b.selectZero = none ∧ bitVectorWF b := by
  constructor
  · rw [bitVector_cons, hraw]
    simp only [Option.bind_some, optionalSkip_zero]
    rw [if_neg (by rw [hones]; simp)]
  · obtain ⟨⟨hsz, hlt⟩, hle, -⟩ := bitVectorLd_ofBits B (rawBits_eq_some hraw).2
    have hwf := RawVec.ofBits_WF B
    have hc : (BitVector.ofRaw (RawVec.ofBits B)).ones = B.count true := by
      show (RawVec.ofBits B).countOnes = _
      rw [RawVec.countOnes_eq hwf, RawVec.bits_ofBits]
    refine ⟨_, bitVectorC_load_plain hraw hones, hwf, RawVec.bits_ofBits B, hc, rfl, rfl, rfl, ⟨hwf, hlt⟩, hle,
      Nat.lt_of_le_of_lt hle hlt, ?_, ?_, ?_⟩ <;> intro s hs <;> cases hs

/-! ### sparse bitvector -/

/-- the number of buckets the code computes is the `⌈n / 2^w⌉` of the document -/
theorem getBuckets_eq_ceil (n w : Nat) (hw : w ≤ 63) :
    Sparse.getBuckets n w = (n + 2 ^ w - 1) / 2 ^ w := by
  unfold Sparse.getBuckets
  simp only [if_pos (show w < 64 by omega), Nat.shiftRight_eq_div_pow]
  have hd : 0 < 2 ^ w := Nat.two_pow_pos w
  generalize 2 ^ w = d at hd
  have hn := Nat.mod_add_div n d
  have hr := Nat.mod_lt n hd
  generalize n / d = q at hn ⊢
  generalize n % d = r at hn hr ⊢
  have hsucc : d * (q + 1) = d * q + d := Nat.mul_succ d q
  by_cases h0 : r = 0
  · rw [if_neg (by simp [h0])]
    have : n + d - 1 = (d - 1) + d * q := by omega
    rw [this, Nat.add_mul_div_left _ _ hd, Nat.div_eq_of_lt (by omega)]; omega
  · rw [if_pos h0]
    have : n + d - 1 = (r - 1) + d * (q + 1) := by omega
    rw [this, Nat.add_mul_div_left _ _ hd, Nat.div_eq_of_lt (by omega)]; omega

theorem sparseValues_length (w : Nat) : ∀ (sel low : List Nat) (i : Nat),
    (sparseValues w i sel low).length = min sel.length low.length
  | [], low, i => by cases low <;> simp [sparseValues]
  | p :: sel, [], _ => by simp [sparseValues]
  | p :: sel, l :: low, i => by
    simp only [sparseValues, List.length_cons, sparseValues_length w sel low (i + 1)]
    omega

/-- the document's value formula, entry by entry -/
theorem sparseValues_getElem? (w : Nat) : ∀ (sel low : List Nat) (i j : Nat) (h : sel.length = low.length)
    (hj : j < sel.length),
    (sparseValues w i sel low)[j]? = some (low[j]'(h ▸ hj) + ((sel[j] - (i + j)) <<< w))
  | [], _, _, _, _, hj => by simp at hj
  | p :: sel, [], _, _, h, _ => by simp at h
  | p :: sel, l :: low, i, 0, h, hj => by simp [sparseValues]
  | p :: sel, l :: low, i, j + 1, h, hj => by
    simp only [sparseValues, List.getElem?_cons_succ, List.getElem_cons_succ]
    rw [sparseValues_getElem? w sel low (i + 1) j (by simpa using h) (by simpa using hj)]
    congr 3
    omega

/-- "low[i] + ((high.select(i) - i) << w)" puts the two parts of every value back together -/
theorem sparseValues_eq (w : Nat) (P sel low : List Nat) (i : Nat)
    (hs : sel.length = P.length) (hl : low.length = P.length)
    (hsel : ∀ j (hj : j < P.length), sel[j]? = some (P[j] >>> w + (i + j)))
    (hlow : ∀ j (hj : j < P.length), low[j]? = some (P[j] % 2 ^ w)) :
    sparseValues w i sel low = P := by
  apply List.ext_getElem?
  intro j
  by_cases hj : j < P.length
  · have hs' := hsel j hj
    have hl' := hlow j hj
    rw [List.getElem?_eq_getElem (hs ▸ hj)] at hs'
    rw [List.getElem?_eq_getElem (hl ▸ hj)] at hl'
    rw [sparseValues_getElem? w sel low i j (hs.trans hl.symm) (hs ▸ hj), List.getElem?_eq_getElem hj,
      Option.some.inj hs', Option.some.inj hl', Nat.add_sub_cancel, Nat.shiftLeft_eq, Nat.shiftRight_eq_div_pow,
      Nat.mul_comm, Nat.mod_add_div]
  · rw [List.getElem?_eq_none (by rw [sparseValues_length, hs, hl]; omega), List.getElem?_eq_none (by omega)]

/-- the positions of the ones of the unary bucket sequence -/
theorem onesPos_highBits {w buckets : Nat} {P : List Nat} (hP : P.Pairwise (· ≤ ·))
    (hb : ∀ p ∈ P, p >>> w < buckets) :
    (onesPos (highBits w buckets P)).length = P.length ∧
    ∀ j (hj : j < P.length), (onesPos (highBits w buckets P))[j]? = some (P[j] >>> w + (0 + j)) := by
  refine ⟨by rw [length_onesPos, highBits_count_true hP hb], fun j hj => ?_⟩
  rw [← selectSpec_eq_onesPos, highBits_select hP hb j hj, Nat.zero_add]

/-- the unary bucket sequence is a sequence of closed buckets: it does not end with a one -/
theorem highBits_getLast {w buckets : Nat} {P : List Nat} (hP : P.Pairwise (· ≤ ·))
    (hb : ∀ p ∈ P, p >>> w < buckets) : (highBits w buckets P).getLast? ≠ some true := by
  rw [List.getLast?_eq_getElem?, highBits_length hP hb]
  cases buckets with
  | zero =>
    have : P = [] := by
      cases P with
      | nil => rfl
      | cons p ps => exact absurd (hb p (List.mem_cons_self ..)) (Nat.not_lt_zero _)
    subst this
    rw [List.getElem?_eq_none (by rw [highBits_length hP hb]; simp)]
    simp
  | succ k =>
    have hall : (P.filter (fun p => p >>> w ≤ k)) = P := by
      rw [List.filter_eq_self]
      intro p hp
      have := hb p hp
      simp; omega
    have := highBits_zero_pos hP hb k (by omega)
    rw [hall] at this
    rw [show P.length + (k + 1) - 1 = k + P.length by omega, this]
    simp

/-- what the serialization of a sparse vector needs beyond the query interface `Sparse.Encodes`: the concrete
`high` is serializable, its counter is right and its bits are the unary bucket sequence; `low` is well formed -/
structure SparseFacts (s : Sparse) (n w : Nat) (P : List Nat) : Prop where
  high_wf : bitVectorWF s.high
  high_ones : s.high.ones = s.high.data.bits.count true
  high_bits : s.high.data.bits = highBits w (Sparse.getBuckets n w) P
  low_wf : s.low.WF
  low_bits_lt : s.low.data.len < 2 ^ 64

/-- (→) the serialization of a sparse vector encoding the sorted values `P` over the universe `n` is a sparse
bitvector of the document, and the document reads `(n, P)` from it -/
theorem sparse_ser_of_facts {s : Sparse} {n w : Nat} {P : List Nat} (hs : s.Encodes n w P)
    (hf : SparseFacts s n w P) (rest : File) :
    sparse (sparseC.ser s ++ rest) = some ((n, P), rest) := by
  have hpw := hs.pw
  have hbk := hs.hb
  have hser : sparseC.ser s ++ rest =
      BitVec.ofNat 64 s.len :: (bitVectorC.ser s.high ++ (intVecC.ser s.low ++ rest)) := by
    simp [sparseC]
  have hlowlen : s.low.len < 2 ^ 64 := by have := hs.m_lt; rw [hs.low_len]; omega
  obtain ⟨hsl, hsel⟩ := onesPos_highBits hpw hbk
  have hvals : sparseValues w 0 (onesPos (highBits w (Sparse.getBuckets n w) P)) s.low.items = P := by
    apply sparseValues_eq w P _ _ 0 hsl (by rw [IntVec.items_length, hs.low_len]) hsel
    intro j hj
    rw [IntVec.items_getElem?, if_pos (by rw [hs.low_len]; exact hj), hs.low_val j hj]
  have htn : (BitVec.ofNat 64 s.len).toNat = n := by rw [hs.len_eq]; exact toNat_ofNat64 hs.n_lt
  have hcond : (onesPos (highBits w (Sparse.getBuckets n w) P)).length = s.low.items.length ∧
      (highBits w (Sparse.getBuckets n w) P).count false = (n + 2 ^ w - 1) / 2 ^ w ∧
      (highBits w (Sparse.getBuckets n w) P).getLast? ≠ some true ∧
      P.all (· < n) = true ∧ sortedLe P = true := by
    refine ⟨by rw [hsl, IntVec.items_length, hs.low_len], ?_, highBits_getLast hpw hbk, ?_, hs.sorted⟩
    · rw [highBits_count_false hpw hbk, getBuckets_eq_ceil n w hs.w_lt]
    · rw [List.all_eq_true]
      intro p hp
      simpa using hs.bound p hp
  unfold sparse
  rw [hser]
  simp only [elem_cons, Option.bind_eq_bind, Option.bind_some, htn,
    bitVector_ser hf.high_wf hf.high_ones, intVector_ser hf.low_wf hlowlen hf.low_bits_lt, hf.high_bits,
    hs.width_eq, hvals]
  rw [if_pos hcond]

open SupportProofs BuildersProofs in
/-- the builder run on a sorted list below the universe size: the result encodes the list and serializes to a sparse
bitvector of the document that reads back as `(n, P)` -/
theorem ofValues_sparse_ser (w n : Nat) (multi : Bool) (P : List Nat) (hw1 : 1 ≤ w) (hw : w ≤ 63)
    (hn : n < 2 ^ 64) (hhl : P.length + Sparse.getBuckets n w < 2 ^ 63) (hlw : P.length * w < 2 ^ 64)
    (hsorted : if multi then sortedLe P = true else sortedStrict P = true) (hbound : ∀ p ∈ P, p < n) :
    ∃ s, Sparse.ofValues w n multi P = ok s ∧ s.Encodes n w P ∧
      ∀ rest, sparse (sparseC.ser s ++ rest) = some ((n, P), rest) := by
  obtain ⟨b, hb, h1, h2, hbits⟩ := ofValues_built w n multi P hw1 hw hn (by omega) hsorted hbound
  have hlen : b.high.len < 2 ^ 63 := by have : b.high.len = _ := h2.high_len; omega
  have hsound := ofRaw_sound hb.inv.high_wf hlen
  refine ⟨_, h1, h2, fun rest => sparse_ser_of_facts h2 ⟨?_, ?_, ?_, hb.inv.low_wf, ?_⟩ rest⟩
  · exact enableSelectZero_wf hsound.enableSelect (enableSelect_wf hsound (ofRaw_wf hb.inv.high_wf hlen))
  · exact hsound.enableSelect.enableSelectZero.ones_eq
  · show (BitVector.ofRaw b.high).enableSelect.enableSelectZero.data.bits = _
    rw [enableSelectZero_data, enableSelect_data]
    exact hbits
  · show b.low.data.len < 2 ^ 64
    rw [hb.inv.low_wf.2.2.1, show b.low.len = P.length from hb.cap_eq, hb.width_eq]; exact hlw

end Doc

/-- **(→, sparse, set mode).** For a strictly increasing list `P` below the universe size `n`, `ofValues` succeeds,
the result encodes `P`, and its serialization is a sparse bitvector of the document that reads as `(n, P)`.
(`hhl`: the bucket sequence has fewer than 2^63 bits — needed for the select supports of `high` to be
serializable; `hlw`: the low parts fit a raw bitvector.) -/
theorem sparse_ser_set (w n : Nat) (P : List Nat) (hw1 : 1 ≤ w) (hw : w ≤ 63) (hn : n < 2 ^ 64)
    (hhl : P.length + Sparse.getBuckets n w < 2 ^ 63) (hlw : P.length * w < 2 ^ 64)
    (hsorted : sortedStrict P = true) (hbound : ∀ p ∈ P, p < n) :
    ∃ s, Sparse.ofValues w n false P = ok s ∧ s.Encodes n w P ∧
      ∀ rest, Doc.sparse (sparseC.ser s ++ rest) = some ((n, P), rest) :=
  Doc.ofValues_sparse_ser w n false P hw1 hw hn hhl hlw (by simpa using hsorted) hbound

/-- **(→, sparse, multiset mode).** The same for a non-decreasing list. -/
theorem sparse_ser_multi (w n : Nat) (P : List Nat) (hw1 : 1 ≤ w) (hw : w ≤ 63) (hn : n < 2 ^ 64)
    (hhl : P.length + Sparse.getBuckets n w < 2 ^ 63) (hlw : P.length * w < 2 ^ 64)
    (hsorted : sortedLe P = true) (hbound : ∀ p ∈ P, p < n) :
    ∃ s, Sparse.ofValues w n true P = ok s ∧ s.Encodes n w P ∧
      ∀ rest, Doc.sparse (sparseC.ser s ++ rest) = some ((n, P), rest) :=
  Doc.ofValues_sparse_ser w n true P hw1 hw hn hhl hlw (by simpa using hsorted) hbound

namespace Doc

/-! ### wavelet matrix: the map of one level -/

theorem levelMapFrom_length (z : Nat) : ∀ (B : List Bool) (r0 r1 : Nat),
    (levelMapFrom z B r0 r1).length = B.length
  | [], _, _ => rfl
  | true :: bs, r0, r1 => by simp [levelMapFrom, levelMapFrom_length z bs]
  | false :: bs, r0, r1 => by simp [levelMapFrom, levelMapFrom_length z bs]

theorem levelMapFrom_getElem? (z : Nat) : ∀ (B : List Bool) (r0 r1 i : Nat), i < B.length →
    (levelMapFrom z B r0 r1)[i]? =
      some (if B.getD i false then z + (r1 + rankSpec B i) else r0 + rankZeroSpec B i)
  | [], _, _, i, h => by simp at h
  | b :: bs, r0, r1, 0, _ => by cases b <;> simp [levelMapFrom, rankSpec, rankZeroSpec]
  | b :: bs, r0, r1, i + 1, h => by
    have hi : i < bs.length := by simpa using h
    cases b
    · simp only [levelMapFrom, List.getElem?_cons_succ, levelMapFrom_getElem? z bs _ _ i hi]
      simp [rankSpec, rankZeroSpec, List.count_cons]; split <;> omega
    · simp only [levelMapFrom, List.getElem?_cons_succ, levelMapFrom_getElem? z bs _ _ i hi]
      simp [rankSpec, rankZeroSpec, List.count_cons]; split <;> omega

/-- the one-pass map of a level is the map of the document, position by position -/
theorem levelMap_eq (B : List Bool) (i : Nat) (hi : i < B.length) :
    (levelMap B)[i]?.getD 0 = mapDown B i := by
  unfold levelMap mapDown
  rw [List.getElem?_toArray, levelMapFrom_getElem? _ B 0 0 i hi]
  simp

/-- on a level holding the bits `p x` of a sequence `L`, the document's map is the stable partition of `L` -/
theorem mapDown_map {α : Type} (p : α → Bool) (L : List α) (i : Nat) (x : α) (hx : L[i]? = some x) :
    mapDown (L.map p) i = stepPos p L i (p x) := by
  unfold mapDown stepPos
  have hB : (L.map p).getD i false = p x := by
    rw [List.getD_eq_getElem?_getD, List.getElem?_map, hx]; rfl
  rw [hB, count_false_map, rankSpec_map]
  have : rankZeroSpec (L.map p) i = (L.take i).countP (fun x => !p x) := by
    unfold rankZeroSpec; rw [← List.map_take, count_false_map]
  rw [this]

/-! ### minimal widths -/

/-- the document's "minimal width necessary" is the `bit_len` of the code -/
theorem bitLength_eq_bitLen (x : Nat) (hx : x < 2 ^ 64) : bitLength x = bitLen (BitVec.ofNat 64 x) := by
  unfold bitLength
  by_cases h0 : x = 0
  · subst h0; rw [if_pos rfl]; exact bitLen_zero_int.symm
  · rw [if_neg h0]
    obtain ⟨s1, _, s3, s4⟩ := bitLen_spec_int (BitVec.ofNat 64 x)
    have hx' : (BitVec.ofNat 64 x).toNat = x := toNat_ofNat64 hx
    rw [hx'] at s3 s4
    have s4 := s4 (by intro h; rw [h] at hx'; exact h0 (by simpa using hx'.symm))
    have l1 := Nat.log2_self_le h0
    have l2 := @Nat.lt_log2_self x
    generalize bitLen (BitVec.ofNat 64 x) = B at *
    generalize x.log2 = L at *
    have a : B - 1 < L + 1 := (Nat.pow_lt_pow_iff_right (a := 2) (by omega)).1 (Nat.lt_of_le_of_lt s4 l2)
    have c : L < B := (Nat.pow_lt_pow_iff_right (a := 2) (by omega)).1 (Nat.lt_of_le_of_lt l1 s3)
    omega

/-- a packed non-empty `IntVector` is "bit-packed with the minimal width necessary" -/
theorem minimalWidth_pack {v : IntVec} (h : v.WF) (h0 : v.len ≠ 0) :
    minimalWidth v.pack.width v.pack.items = true := by
  obtain ⟨_, hitems, hwidth⟩ := IntVec.pack_spec h
  unfold minimalWidth
  rw [hitems, hwidth h0, bitLength_eq_bitLen _ (show v.items.foldl max 0 < 2 ^ 64 from IntVec.maxItem_lt h)]
  simp

/-! ### run-length encoded bitvector: the document's decoder on a conforming layout -/

open RLBuilder (encodeUnits)

theorem drop_cons_facts {l : List Nat} {p c : Nat} {tl : List Nat} (h : l.drop p = c :: tl) :
    l[p]? = some c ∧ l.drop (p + 1) = tl := by
  constructor
  · have := congrArg (fun x => x[0]?) h
    simpa [List.getElem?_drop] using this
  · have : l.drop (p + 1) = (l.drop p).drop 1 := by rw [List.drop_drop]
    rw [this, h]; rfl

/-- `rlInt` on one code unit `u` -/
theorem rlInt_succ (U : Array Nat) {stop pos u : Nat} (fuel shift acc : Nat) (hps : pos < stop)
    (hu : U[pos]?.getD 0 = u) :
    rlInt U stop (fuel + 1) pos shift acc =
      if u / 8 % 2 = 1 then rlInt U stop fuel (pos + 1) (shift + 3) (acc + (u % 8) <<< shift)
      else some (acc + (u % 8) <<< shift, pos + 1) := by
  rw [rlInt, if_neg (Nat.not_le.mpr hps), hu]

/-- the data bits of a continuation unit and the value of the following units, put together -/
theorem shiftLeft_step (a x s : Nat) : a <<< s + x <<< (s + 3) = (a + 8 * x) <<< s := by
  simp only [Nat.shiftLeft_eq, Nat.pow_add, Nat.add_mul]
  rw [Nat.mul_comm (2 ^ s), ← Nat.mul_assoc, Nat.mul_comm x]

theorem getD_of_drop {l : List Nat} {p c : Nat} {tl : List Nat} (U : Array Nat) (hl : U.toList = l)
    (h : l.drop p = c :: tl) : U[p]?.getD 0 = c := by
  rw [← Array.getElem?_toList, hl, (drop_cons_facts h).1]; rfl

theorem encodeUnits_length_bounds : ∀ (f v : Nat),
    1 ≤ (encodeUnits (f + 1) v).length ∧ (encodeUnits (f + 1) v).length ≤ f + 1
  | 0, v => by
    rw [encodeUnits]; split <;> simp [encodeUnits]
  | f + 1, v => by
    rw [encodeUnits]; split
    · have := encodeUnits_length_bounds f (v / 8)
      simp only [List.length_cons]; omega
    · simp

/-- a value below 8 is one unit without the continuation flag -/
theorem rlInt_last (U : Array Nat) {stop pos v : Nat} (fuel shift acc : Nat) {rest : List Nat} (hv : ¬ v > 7)
    (hd : U.toList.drop pos = v :: rest) (hs : pos < stop) :
    rlInt U stop (fuel + 1) pos shift acc = some (acc + v <<< shift, pos + 1) := by
  rw [rlInt_succ U fuel shift acc hs (getD_of_drop U rfl hd), if_neg (by omega), Nat.mod_eq_of_lt (by omega)]

theorem rlInt_encode (U : Array Nat) (stop : Nat) : ∀ (f v fuel pos shift acc : Nat) (rest : List Nat),
    v < 8 ^ (f + 1) → U.toList.drop pos = encodeUnits (f + 1) v ++ rest →
    pos + (encodeUnits (f + 1) v).length ≤ stop → (encodeUnits (f + 1) v).length ≤ fuel →
    rlInt U stop fuel pos shift acc = some (acc + v <<< shift, pos + (encodeUnits (f + 1) v).length)
  | f, v, 0, pos, shift, acc, rest, _, _, _, hf => by
    have := (encodeUnits_length_bounds f v).1
    omega
  | f, v, fuel + 1, pos, shift, acc, rest, hv, hd, hs, hf => by
    by_cases hv7 : v > 7
    · -- a continuation unit with the low three bits, then the code of `v / 8`
      obtain ⟨f, rfl⟩ : ∃ k, f = k + 1 := ⟨f - 1, by cases f with | zero => omega | succ _ => rfl⟩
      have he : encodeUnits (f + 2) v = (v % 8 + 8) :: encodeUnits (f + 1) (v / 8) := if_pos hv7
      rw [he] at hd hs hf ⊢
      simp only [List.length_cons] at hs hf ⊢
      rw [rlInt_succ U fuel shift acc (by omega) (getD_of_drop U rfl hd), if_pos (by omega),
        rlInt_encode U stop f (v / 8) fuel (pos + 1) (shift + 3) _ rest (by rw [Nat.pow_succ] at hv; omega)
          (drop_cons_facts hd).2 (by omega) (by omega),
        Nat.add_assoc, shiftLeft_step, show (v % 8 + 8) % 8 + 8 * (v / 8) = v by omega,
        Nat.add_assoc pos, Nat.add_comm 1]
    · rw [show encodeUnits (f + 1) v = [v] from if_neg hv7] at hd hs ⊢
      exact rlInt_last U fuel shift acc hv7 hd hs

/-- the code units of one run: `(n0, n1 - 1)` -/
def runUnits (g l : Nat) : List Nat := encodeUnits 23 g ++ encodeUnits 23 (l - 1)

theorem runUnits_length (g l : Nat) : 2 ≤ (runUnits g l).length ∧ (runUnits g l).length ≤ 46 := by
  have h1 : 1 ≤ (encodeUnits 23 g).length ∧ (encodeUnits 23 g).length ≤ 23 := encodeUnits_length_bounds 22 g
  have h2 : 1 ≤ (encodeUnits 23 (l - 1)).length ∧ (encodeUnits 23 (l - 1)).length ≤ 23 :=
    encodeUnits_length_bounds 22 (l - 1)
  unfold runUnits; rw [List.length_append]; omega

/-- the document's reading of one run written with the code of the model -/
theorem rlRun_units (U : Array Nat) (stop pos g l : Nat) (rest : List Nat) (hg : g < 2 ^ 64) (hl1 : 1 ≤ l)
    (hl : l - 1 < 2 ^ 64) (hd : U.toList.drop pos = runUnits g l ++ rest)
    (hs : pos + (runUnits g l).length ≤ stop) :
    rlRun U stop pos = some (g, l, pos + (runUnits g l).length) := by
  have h823 : (2 : Nat) ^ 64 ≤ 8 ^ 23 := by decide
  have b1 : 1 ≤ (encodeUnits 23 g).length ∧ (encodeUnits 23 g).length ≤ 23 := encodeUnits_length_bounds 22 g
  have b2 : 1 ≤ (encodeUnits 23 (l - 1)).length ∧ (encodeUnits 23 (l - 1)).length ≤ 23 :=
    encodeUnits_length_bounds 22 (l - 1)
  unfold runUnits at hd hs ⊢
  rw [List.length_append] at hs ⊢
  rw [List.append_assoc] at hd
  have e1 : rlInt U stop 64 pos 0 0 = some (0 + g <<< 0, pos + (encodeUnits 23 g).length) :=
    rlInt_encode U stop 22 g 64 pos 0 0 _ (by omega) hd (show pos + (encodeUnits 23 g).length ≤ stop by omega)
      (show (encodeUnits 23 g).length ≤ 64 by omega)
  have hd2 : U.toList.drop (pos + (encodeUnits 23 g).length) = encodeUnits 23 (l - 1) ++ rest := by
    rw [← List.drop_drop, hd, List.drop_left]
  have e2 : rlInt U stop 64 (pos + (encodeUnits 23 g).length) 0 0 =
      some (0 + (l - 1) <<< 0, pos + (encodeUnits 23 g).length + (encodeUnits 23 (l - 1)).length) :=
    rlInt_encode U stop 22 (l - 1) 64 (pos + (encodeUnits 23 g).length) 0 0 _ (by omega) hd2
      (show pos + (encodeUnits 23 g).length + (encodeUnits 23 (l - 1)).length ≤ stop by omega)
      (show (encodeUnits 23 (l - 1)).length ≤ 64 by omega)
  unfold rlRun
  simp only [e1, e2, Option.bind_eq_bind, Option.bind_some, Nat.shiftLeft_zero, Nat.zero_add]
  congr 3 <;> omega

/-- runs relative to their predecessor: `(n0, n1)` -/
def lens : List (Nat × Nat) → Nat
  | [] => 0
  | p :: rs => p.2 + lens rs

def span : List (Nat × Nat) → Nat
  | [] => 0
  | p :: rs => p.1 + p.2 + span rs

def unitsOf : List (Nat × Nat) → List Nat
  | [] => []
  | p :: rs => runUnits p.1 p.2 ++ unitsOf rs

/-- absolute `(start, length)` of relative runs, `n` bits being encoded before them -/
def absRuns : Nat → List (Nat × Nat) → List (Nat × Nat)
  | _, [] => []
  | n, p :: rs => (n + p.1, p.2) :: absRuns (n + p.1 + p.2) rs

/-- "maximal runs": only the very first run of the vector may follow zero unset bits -/
def GapsOk : Nat → List (Nat × Nat) → Prop
  | _, [] => True
  | n, p :: rs => (p.1 = 0 → n = 0) ∧ GapsOk (n + p.1 + p.2) rs

def RunsOk (blk : List (Nat × Nat)) : Prop := ∀ p ∈ blk, p.1 < 2 ^ 64 ∧ 1 ≤ p.2 ∧ p.2 - 1 < 2 ^ 64

/-- the document's reading of the runs of one block -/
theorem rlBlockRuns_units (U : Array Nat) (stop : Nat) : ∀ (blk : List (Nat × Nat)) (fuel pos n n1 : Nat)
    (rest : List Nat), RunsOk blk → GapsOk n blk → U.toList.drop pos = unitsOf blk ++ rest →
    pos + (unitsOf blk).length ≤ stop → blk.length < fuel →
    rlBlockRuns U stop (n1 + lens blk) fuel pos n n1 =
      some (absRuns n blk, pos + (unitsOf blk).length, n + span blk)
  | [], fuel, pos, n, n1, rest, _, _, _, _, hf => by
    cases fuel with
    | zero => simp at hf
    | succ fuel => simp [rlBlockRuns, lens, absRuns, unitsOf, span]
  | p :: rs, fuel, pos, n, n1, rest, hr, hg, hd, hs, hf => by
    cases fuel with
    | zero => simp at hf
    | succ fuel =>
      obtain ⟨h1, h2, h3⟩ := hr p (List.mem_cons_self ..)
      have hru := runUnits_length p.1 p.2
      simp only [unitsOf, List.length_append] at hs hd
      rw [List.append_assoc] at hd
      have hrun := rlRun_units U stop pos p.1 p.2 _ h1 h2 h3 hd (by omega)
      have hd' : U.toList.drop (pos + (runUnits p.1 p.2).length) = unitsOf rs ++ rest := by
        rw [← List.drop_drop, hd, List.drop_left]
      have ih := rlBlockRuns_units U stop rs fuel (pos + (runUnits p.1 p.2).length) (n + p.1 + p.2)
        (n1 + p.2) rest (fun q hq => hr q (List.mem_cons_of_mem _ hq)) hg.2 hd' (by omega)
        (by simpa using hf)
      have ht : n1 + lens (p :: rs) = n1 + p.2 + lens rs := by simp only [lens]; omega
      rw [rlBlockRuns, if_neg (by simp only [lens]; omega), if_neg (by simp only [lens]; omega)]
      simp only [hrun, Option.bind_eq_bind, Option.bind_some]
      rw [if_neg (by intro hc; have := hg.1 hc.1; exact hc.2 this), ht, ih]
      simp only [Option.bind_some, absRuns, unitsOf, span, List.length_append]
      congr 3 <;> omega

theorem lens_append (a b : List (Nat × Nat)) : lens (a ++ b) = lens a + lens b := by
  induction a with
  | nil => simp [lens]
  | cons p rs ih => simp only [List.cons_append, lens, ih]; omega

theorem span_append (a b : List (Nat × Nat)) : span (a ++ b) = span a + span b := by
  induction a with
  | nil => simp [span]
  | cons p rs ih => simp only [List.cons_append, span, ih]; omega

theorem absRuns_append (n : Nat) (a b : List (Nat × Nat)) :
    absRuns n (a ++ b) = absRuns n a ++ absRuns (n + span a) b := by
  induction a generalizing n with
  | nil => simp [absRuns, span]
  | cons p rs ih =>
    simp only [List.cons_append, absRuns, span, ih]
    congr 3; omega

theorem unitsOf_length_ge (blk : List (Nat × Nat)) : 2 * blk.length ≤ (unitsOf blk).length := by
  induction blk with
  | nil => simp [unitsOf]
  | cons p rs ih =>
    have := (runUnits_length p.1 p.2).1
    simp only [unitsOf, List.length_append, List.length_cons]; omega

/-- a layout of the code units `U` and the samples `S` in blocks `bl` (runs relative to their predecessor) that
conforms to the document: block `b` starts at unit `64 * b`, its sample is `(n1, n)`, its runs are maximal, it
consists of entire runs, it is padded with `0` units only when it is not the final block and the first run of
the next block does not fit, and the final block ends with its last run -/
def RLConf (U S : Array Nat) (ones nb : Nat) : Nat → Nat → Nat → List (List (Nat × Nat)) → Prop
  | b, _, _, [] => nb ≤ b
  | b, n, n1, blk :: more =>
    b < nb ∧ S[2 * b]?.getD 0 = n1 ∧ S[2 * b + 1]?.getD 0 = n ∧ RunsOk blk ∧ GapsOk n blk ∧
    (∃ rest, U.toList.drop (64 * b) = unitsOf blk ++ rest) ∧
    64 * b + (unitsOf blk).length ≤ min (64 * b + 64) U.size ∧
    (if b + 1 ≥ nb then
      ones = n1 + lens blk ∧ 64 * b + (unitsOf blk).length = min (64 * b + 64) U.size
     else
      S[2 * (b + 1)]?.getD 0 = n1 + lens blk ∧
      (∀ k, k < min (64 * b + 64) U.size - (64 * b + (unitsOf blk).length) →
        U[64 * b + (unitsOf blk).length + k]?.getD 0 = 0) ∧
      (64 * b + (unitsOf blk).length = min (64 * b + 64) U.size ∨
        ∃ p rs more', more = (p :: rs) :: more' ∧
          min (64 * b + 64) U.size - (64 * b + (unitsOf blk).length) < (runUnits p.1 p.2).length)) ∧
    RLConf U S ones nb (b + 1) (n + span blk) (n1 + lens blk) more

/-- the padding check of `rlBlocks` on a block (not) `final` that ends at unit `stop`, its runs ending at `pos` -/
def padOk (U : Array Nat) (final : Bool) (stop pos : Nat) : Bool :=
  if final then decide (pos = stop)
  else
    (List.range (stop - pos)).all (fun k => U[pos + k]?.getD 0 == 0) &&
    (pos == stop ||
      match rlRun U (min (stop + 64) U.size) stop with
      | some (_, _, p) => decide (stop - pos < p - stop)
      | none => false)

theorem rlBlocks_succ (U S : Array Nat) (ones nb fuel b n n1 : Nat) :
    rlBlocks U S ones nb (fuel + 1) b n n1 =
      if b ≥ nb then some ([], n, n1) else
      if S[2 * b]?.getD 0 ≠ n1 ∨ S[2 * b + 1]?.getD 0 ≠ n then none else
      match rlBlockRuns U (min (64 * b + 64) U.size)
          (if decide (b + 1 ≥ nb) then ones else S[2 * (b + 1)]?.getD 0) 64 (64 * b) n n1 with
      | none => none
      | some (runs, pos, n') =>
        if !padOk U (decide (b + 1 ≥ nb)) (min (64 * b + 64) U.size) pos then none else
        match rlBlocks U S ones nb fuel (b + 1) n' (if decide (b + 1 ≥ nb) then ones else S[2 * (b + 1)]?.getD 0) with
        | none => none
        | some (more, nEnd, n1End) => some (runs ++ more, nEnd, n1End) := rfl

/-- what the padding check says: the final block ends with its last run; another block is padded with `0` units, and
only if the first run of the next block would not have fit -/
theorem padOk_eq_true (U : Array Nat) (final : Bool) (stop pos : Nat) :
    padOk U final stop pos = true ↔
      if final then pos = stop
      else (∀ k, k < stop - pos → U[pos + k]?.getD 0 = 0) ∧
        (pos = stop ∨ ∃ g l p, rlRun U (min (stop + 64) U.size) stop = some (g, l, p) ∧ stop - pos < p - stop) := by
  unfold padOk
  cases final
  · simp only [Bool.false_eq_true, if_false, Bool.and_eq_true, List.all_eq_true, List.mem_range, beq_iff_eq,
      Bool.or_eq_true]
    refine and_congr Iff.rfl (or_congr Iff.rfl ?_)
    cases rlRun U (min (stop + 64) U.size) stop with
    | none => simp
    | some r =>
      obtain ⟨g, l, p⟩ := r
      simp only [decide_eq_true_eq, Option.some.injEq, Prod.mk.injEq]
      exact ⟨fun h => ⟨g, l, p, ⟨rfl, rfl, rfl⟩, h⟩, fun ⟨_, _, _, ⟨_, _, e⟩, h⟩ => e ▸ h⟩
  · simp only [if_true, decide_eq_true_eq]

/-- **the document's decoder on a conforming layout** returns the runs, the number of bits and of set bits -/
theorem rlBlocks_conf (U S : Array Nat) (ones nb : Nat) : ∀ (bl : List (List (Nat × Nat))) (fuel b n n1 : Nat),
    RLConf U S ones nb b n n1 bl → bl.length < fuel →
    rlBlocks U S ones nb fuel b n n1 =
      some (absRuns n bl.flatten, n + span bl.flatten, n1 + lens bl.flatten)
  | [], fuel, b, n, n1, hc, hf => by
    cases fuel with
    | zero => simp at hf
    | succ fuel =>
      have : nb ≤ b := hc
      simp [rlBlocks, this, absRuns, span, lens]
  | blk :: more, fuel, b, n, n1, hc, hf => by
    cases fuel with
    | zero => simp at hf
    | succ fuel =>
      obtain ⟨hb, hs1, hs2, hro, hgo, ⟨rest, hd⟩, hle, hfin, hmore⟩ := hc
      -- the target of the block and its padding, final block or not
      have htp : (if decide (b + 1 ≥ nb) then ones else S[2 * (b + 1)]?.getD 0) = n1 + lens blk ∧
          padOk U (decide (b + 1 ≥ nb)) (min (64 * b + 64) U.size) (64 * b + (unitsOf blk).length) = true := by
        rw [padOk_eq_true]
        by_cases hfb : b + 1 ≥ nb
        · rw [if_pos hfb] at hfin
          simp only [hfb, decide_true, if_true]
          exact hfin
        · rw [if_neg hfb] at hfin
          obtain ⟨ht, hz, hfit⟩ := hfin
          simp only [hfb, decide_false, Bool.false_eq_true, if_false]
          refine ⟨ht, hz, ?_⟩
          rcases hfit with heq | ⟨p, rs, more', rfl, hlt⟩
          · exact Or.inl heq
          obtain ⟨_, _, _, hro', _, ⟨rest', hd'⟩, hle', _, _⟩ := hmore
          have hru := runUnits_length p.1 p.2
          simp only [unitsOf, List.length_append] at hle' hd'
          rw [List.append_assoc] at hd'
          have hstop : min (64 * b + 64) U.size = 64 * (b + 1) := by omega
          obtain ⟨q1, q2, q3⟩ := hro' p (List.mem_cons_self ..)
          rw [hstop] at hlt ⊢
          exact Or.inr ⟨p.1, p.2, 64 * (b + 1) + (runUnits p.1 p.2).length,
            rlRun_units U (min (64 * (b + 1) + 64) U.size) (64 * (b + 1)) p.1 p.2 _ q1 q2 q3 hd' (by omega), by omega⟩
      have ih := rlBlocks_conf U S ones nb more fuel (b + 1) (n + span blk) (n1 + lens blk) hmore
        (by simpa using hf)
      have hlen := unitsOf_length_ge blk
      have hruns := rlBlockRuns_units U (min (64 * b + 64) U.size) blk 64 (64 * b) n n1 rest hro hgo hd hle
        (by omega)
      rw [rlBlocks_succ, if_neg (by omega), if_neg (by rw [hs1, hs2]; simp), htp.1, hruns]
      simp only [htp.2, ih, Bool.not_true, Bool.false_eq_true, if_false, List.flatten_cons, absRuns_append,
        span_append, lens_append]
      congr 3 <;> omega

/-- **(→, run-length encoded bitvector, relative to a conforming layout).**  If the two integer vectors of a
serialized `RLVector` are well formed, the samples have the minimal width, and the code units and samples are
laid out in blocks `bl` as the document says (`RLConf`), then the serialization is a run-length encoded
bitvector of the document and the document reads the length and the runs of `bl` from it. -/
theorem rl_ser_of_conf (m : Mode) (v : RL) (hlen : v.len < 2 ^ 64) (hones : v.ones < 2 ^ 64)
    (hs : intVecWF v.samples) (hd : intVecWF v.data) (hw : v.data.width = 4)
    (hsl : v.samples.len = 2 * ((v.data.len + 63) / 64))
    (hmin : minimalWidth v.samples.width v.samples.items = true)
    (bl : List (List (Nat × Nat)))
    (hconf : RLConf v.data.items.toArray v.samples.items.toArray v.ones ((v.data.len + 63) / 64) 0 0 0 bl)
    (hl : lens bl.flatten = v.ones) (hn : span bl.flatten ≤ v.len) (rest : File) :
    rl ((rlC m).ser v ++ rest) = some ((v.len, absRuns 0 bl.flatten), rest) := by
  have hser : (rlC m).ser v ++ rest = BitVec.ofNat 64 v.len :: BitVec.ofNat 64 v.ones ::
      (intVecC.ser v.samples ++ (intVecC.ser v.data ++ rest)) := by simp [rlC]
  have hblen : bl.length < (v.data.len + 63) / 64 + 1 := by
    -- every block of the layout has its own index below the number of blocks
    have : ∀ (bl : List (List (Nat × Nat))) (b n n1 : Nat),
        RLConf v.data.items.toArray v.samples.items.toArray v.ones ((v.data.len + 63) / 64) b n n1 bl →
        b + bl.length ≤ max b ((v.data.len + 63) / 64) := by
      intro bl
      induction bl with
      | nil => intro b n n1 _; simp only [List.length_nil]; omega
      | cons blk more ih =>
        intro b n n1 h
        have h1 := h.1
        have := ih _ _ _ h.2.2.2.2.2.2.2.2
        simp only [List.length_cons]; omega
    have := this bl 0 0 0 hconf
    omega
  have hb := rlBlocks_conf _ _ _ _ bl ((v.data.len + 63) / 64 + 1) 0 0 0 hconf hblen
  unfold rl
  rw [hser]
  simp only [elem_cons, Option.bind_eq_bind, Option.bind_some, toNat_ofNat64 hlen, toNat_ofNat64 hones,
    intVector_ser hs.1 hs.2.1 hs.2.2.2, intVector_ser hd.1 hd.2.1 hd.2.2.2, IntVec.items_length, hw]
  rw [if_neg (by rw [hsl, hmin]; simp)]
  simp only [hb, Option.bind_some, Nat.zero_add]
  rw [if_pos ⟨hl, hn⟩]


/-- sanity check of `RLConf`: the one-block layout of the vector `111` (units `0, 2`, sample `(0, 0)`) conforms -/
example : RLConf #[0, 2] #[0, 0] 3 1 0 0 0 [[(0, 3)]] := by
  refine ⟨by decide, by decide, by decide, ?_, ⟨fun _ => rfl, trivial⟩, ⟨[], by decide⟩, by decide, ?_, ?_⟩
  · intro p hp
    simp only [List.mem_cons, List.not_mem_nil, or_false] at hp
    subst hp
    decide
  · rw [if_pos (by decide)]
    exact ⟨by decide, by decide⟩
  · show 1 ≤ 1
    decide

end Doc

/-! ### limits of what is proven here

1. (→, run-length encoded bitvector) is proven here relative to a conforming layout (`Doc.rl_ser_of_conf`); that every
   vector built by the library has one, and direction (←) for the sparse vector, the run-length vector and the
   wavelet matrix, are in Proofs/FormatRL, FormatSparse, FormatWM.  `Doc.runUnits` / `unitsOf` / `lens` / `span` / `absRuns` have the shapes
   of `RunIter.runUnits` … of Proofs/RL (`Format2.unitsOf_eq` …), which this file does not import.

2. (←, bitvector) with supports present cannot hold as stated: `Doc.bitVector` skips the optional structures by
   their lengths, while `bitVectorC.load` parses and validates them; a file with garbage of the announced
   length is a valid file of the document and is refused by the loader.  `Doc.bitVector_eq_some` states exactly
   what the document-side acceptance gives.

3. (→, sparse) is stated for the vectors built by `Sparse.ofValues` (`SparseFacts` is what is needed beyond
   `Sparse.Encodes`, which by design constrains `high` only through its query interface and says nothing about
   the well-formedness of `low`), under `P.length + getBuckets n w < 2^63` (so that the select supports of `high`
   are serializable: `selBuild_wf` needs it) and `P.length * w < 2^64`.
-/

end Sds
