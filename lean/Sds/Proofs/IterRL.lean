/-
Proofs/IterRL: the run-length vector's `RunIter` / `OneIter` / `Iter` / `ZeroIter` (forward) against the reference
deque over the full call alphabet.  The pop facts are the step lemmas of Proofs/RLQueries.lean (the inversion of `Walk`,
`OneFrom.some` / `.none`, `BitFrom.step`, `ZeroFrom.step`); `len()` is stated over the relations `OneRel` / `BitRel` /
`ZeroRel` ("drains to `d`, with `|d|` left on the counter"), in which the state relations lie.  Namespace `Sds.Iter2.RLI`.
-/
import Sds.Proofs.RLQueries

namespace Sds.Iter2
open Sds Outcome IterProofs

namespace RLI
open RunIter RLQ

variable {m : Mode} {v : RL} {R : List (Nat × Nat)}

/-- a simulation relation whose states keep the count `Q` lies in the relation read off the drain, under which
`len()` is stated (`oneLen_eq_remaining`, `bitLen_eq_remaining`, `zeroLen_eq_remaining`) -/
theorem drainRel_of_sim {σ α : Type} {next : σ → Outcome (Option α × σ)} {Rel : σ → List α → Prop} {Q : σ → Nat → Prop}
    (F : FwdSim next Rel) (hQ : ∀ {it d}, Rel it d → Q it d.length) {it : σ} {d : List α} (h : Rel it d) :
    DrainRel next Q it d :=
  ⟨hQ h, d.length + 1, F.drain d h _ (Nat.lt_succ_self _)⟩

/-! ### `RunIter` (forward only, no `size_hint`: `rl_vector.rs:631-640`) -/

/-- the state stands for the runs ahead of it on the walk -/
def RunRel (m : Mode) (v : RL) (it : RunIter) (d : List (Nat × Nat)) : Prop :=
  ∃ r p rs e, Walk m v it r p rs e ∧ d = absRuns p rs

theorem run_fwdSim (m : Mode) (v : RL) : FwdSim (nextQ m v) (RunRel m v) := by
  constructor
  · intro it ⟨r, p, rs, e, w, hd⟩
    cases w with
    | done hit hn he => exact ⟨e, hn, r, p, [], e, .done he (nextQ_fused m v it e hn).1 he, rfl⟩
    | run hit hn w => cases hd
  · intro it x d ⟨r, p, rs, e, w, hd⟩
    cases w with
    | done hit hn he => cases hd
    | run hit hn w =>
      injection hd with hx hd
      exact ⟨_, hx ▸ hn, _, _, _, e, w, hd⟩

def runRun (m : Mode) (v : RL) : RunIter → List NCall → Outcome (List (IOut (Nat × Nat))) :=
  nRun (nextQ m v)

/-- every forward call history (`next` / `nth k`) of a run iterator on the walk yields the runs ahead of it -/
theorem walk_run {it e : RunIter} {r p : Nat} {rs : List (Nat × Nat)} (w : Walk m v it r p rs e) (cs : List NCall) :
    runRun m v it cs = ok (dequeRunM (absRuns p rs) (cs.map NCall.toICall)) :=
  nRun_sim (run_fwdSim m v) cs ⟨r, p, rs, e, w, rfl⟩

/-! ### `OneIter` (`rl_vector.rs:833-861`) -/

/-- `OneIter::size_hint().0` (`rl_vector.rs:853-856`): `self.iter.parent.count_ones() - self.rank` -/
def oneLen (m : Mode) (v : RL) (it : RLOneIter) : Outcome Nat := subM m v.ones it.rank

/-- `Q st n`: `n` items are left (`rank + n = count_ones`) -/
def OneQ (v : RL) (it : RLOneIter) (n : Nat) : Prop := it.rank + n = v.ones

/-- run to exhaustion the iterator delivers `d`, and its counter leaves `|d|` items -/
def OneRel (m : Mode) (v : RL) : RLOneIter → List (Nat × Nat) → Prop :=
  DrainRel (RLOneIter.nextQ m v) (OneQ v)

theorem oneLen_eq_remaining (m : Mode) {it : RLOneIter} {d : List (Nat × Nat)} (h : OneRel m v it d) :
    oneLen m v it = ok (RLOneIter.remaining v it) := by
  obtain ⟨hq, _⟩ := h
  unfold OneQ at hq
  unfold oneLen RLOneIter.remaining
  rw [subM_ok (by omega)]

theorem one_lenSim (m : Mode) (v : RL) : LenSim (oneLen m v) (OneRel m v) := fun it d h => by
  rw [oneLen_eq_remaining m h]
  exact congrArg ok (Nat.sub_eq_of_eq_add' h.1.symm)

theorem oneSt_rel (ho : v.ones = lensAbs R) {it : RLOneIter} {d : List (Nat × Nat)} (h : OneSt m v R it d) :
    OneRel m v it d :=
  drainRel_of_sim (one_fwdSim ho) (fun ⟨k, h, hd⟩ => by rw [hd, win_length, ← ho]; exact h.rank_add ho) h

def oneRun (m : Mode) (v : RL) : RLOneIter → List FCall → Outcome (List (IOut (Nat × Nat))) :=
  fwdRun (RLOneIter.nextQ m v) (oneLen m v)

/-- every forward call history (`next` / `nth k` / `len`) of a one-iterator that stands for rank `k` yields the set bits
from that rank on -/
theorem oneFrom_run (ho : v.ones = lensAbs R) {st : RLOneIter} {k : Nat} (h : OneFrom m v R st k) (cs : List FCall) :
    oneRun m v st cs = ok (dequeRunM (win (selItem (selectR R)) k (lensAbs R)) (cs.map FCall.toICall)) :=
  fwdRun_sim (one_fwdSim ho) (fun it d h => one_lenSim m v it d (oneSt_rel ho h)) cs ⟨k, h, rfl⟩

/-! ### `Iter` (all bits; `rl_vector.rs:676-713`) -/

/-- `Iter::size_hint().0` (`rl_vector.rs:705-708`): `self.iter.parent.len() - self.pos` -/
def bitLen (m : Mode) (v : RL) (it : RLIter) : Outcome Nat := subM m v.len it.pos

def BitQ (v : RL) (it : RLIter) (n : Nat) : Prop := it.pos + n = v.len

def BitRel (m : Mode) (v : RL) : RLIter → List Bool → Prop := DrainRel (RLIter.nextQ m v) (BitQ v)

theorem bitLen_eq_remaining (m : Mode) {it : RLIter} {d : List Bool} (h : BitRel m v it d) :
    bitLen m v it = ok (RLIter.remaining v it) := by
  obtain ⟨hq, _⟩ := h
  unfold BitQ at hq
  unfold bitLen RLIter.remaining
  rw [subM_ok (by omega)]

theorem bit_lenSim (m : Mode) (v : RL) : LenSim (bitLen m v) (BitRel m v) := fun it d h => by
  rw [bitLen_eq_remaining m h]
  exact congrArg ok (Nat.sub_eq_of_eq_add' h.1.symm)

theorem bitFrom_rel {it : RLIter} {d : List Bool} (h : CountRel (BitFrom m v R) (·.pos) v.len (getR R) it d) :
    BitRel m v it d :=
  drainRel_of_sim (bit_fwdSim m v R) (CountRel.count fun _ h => h.le) h

def bitRun (m : Mode) (v : RL) : RLIter → List FCall → Outcome (List (IOut Bool)) :=
  fwdRun (RLIter.nextQ m v) (bitLen m v)

/-- every forward call history of a bit iterator yields the bits from its position on -/
theorem bitFrom_run {st : RLIter} (h : BitFrom m v R st) (cs : List FCall) :
    bitRun m v st cs = ok (dequeRunM (win (getR R) st.pos v.len) (cs.map FCall.toICall)) :=
  fwdRun_sim (bit_fwdSim m v R) (fun it d h => bit_lenSim m v it d (bitFrom_rel h)) cs ⟨h, rfl⟩

/-! ### `ZeroIter` (`rl_vector.rs:905-934`) -/

/-- `ZeroIter::size_hint().0` (`rl_vector.rs:926-929`): `self.iter.parent.count_zeros() - self.pos.0` -/
def zeroLen (m : Mode) (v : RL) (z : RLZeroIter) : Outcome Nat := subM m v.countZeros z.pos.1

/-- the run iterator inside a zero iterator can be read to the end without fault and has `rank ≤ offset` -/
def ZSafe (m : Mode) (v : RL) (it : RunIter) : Prop :=
  ∃ r q rs fuel e, collect m v fuel it = ok (withPos r (absRuns q rs), e) ∧ it.pos = (r, q) ∧ r ≤ q

def ZeroQ (m : Mode) (v : RL) (z : RLZeroIter) (n : Nat) : Prop :=
  ZSafe m v z.iter ∧ z.pos.1 + n = v.countZeros

def ZeroRel (m : Mode) (v : RL) : RLZeroIter → List (Nat × Nat) → Prop :=
  DrainRel (RLZeroIter.nextQ m v) (ZeroQ m v)

theorem zeroLen_eq_remaining (m : Mode) {z : RLZeroIter} {d : List (Nat × Nat)} (h : ZeroRel m v z d) :
    zeroLen m v z = ok (RLZeroIter.remaining v z) := by
  obtain ⟨⟨_, hq⟩, _⟩ := h
  unfold zeroLen RLZeroIter.remaining
  rw [subM_ok (by omega)]

theorem zero_lenSim (m : Mode) (v : RL) : LenSim (zeroLen m v) (ZeroRel m v) := fun it d h => by
  rw [zeroLen_eq_remaining m h]
  exact congrArg ok (Nat.sub_eq_of_eq_add' h.1.2.symm)

/-- a walk is what `collect` computes -/
theorem collect_of_walk {it e : RunIter} {r p : Nat} {rs : List (Nat × Nat)} (w : Walk m v it r p rs e) :
    ∃ fuel, collect m v fuel it = ok (withPos r (absRuns p rs), e) := by
  induction w with
  | done _ hn _ => exact ⟨1, collect_none m v 0 _ _ hn⟩
  | run _ hn w ih =>
    obtain ⟨f, hc⟩ := ih
    exact ⟨f + 1, by rw [collect_some m v f _ _ _ _ _ hn hc, w.pos]; rfl⟩

theorem zeroFrom_zsafe {sel : Nat → Option Nat} {st : RLZeroIter} (h : ZeroFrom m v sel st) : ZSafe m v st.iter := by
  cases h with
  | @tail it k x hf hrq _ _ => exact ⟨_, _, [], 1, it, collect_none m v 0 _ _ hf, rfl, hrq⟩
  | gap w _ _ _ _ =>
    obtain ⟨f, hc⟩ := collect_of_walk w
    exact ⟨_, _, _, f, _, hc, w.pos, Nat.le_add_right _ _⟩

theorem zeroFrom_rel {sel : Nat → Option Nat} {it : RLZeroIter} {d : List (Nat × Nat)}
    (h : CountRel (ZeroFrom m v sel) (·.pos.1) v.countZeros (selItem sel) it d) : ZeroRel m v it d :=
  drainRel_of_sim (zero_fwdSim m v sel) (fun h => ⟨zeroFrom_zsafe h.1, h.count fun _ h => h.le⟩) h

def zeroRun (m : Mode) (v : RL) : RLZeroIter → List FCall → Outcome (List (IOut (Nat × Nat))) :=
  fwdRun (RLZeroIter.nextQ m v) (zeroLen m v)

/-- every forward call history of a zero iterator yields the unset bits from its rank on, as `sel` numbers them -/
theorem zeroFrom_run {sel : Nat → Option Nat} {st : RLZeroIter} (h : ZeroFrom m v sel st) (cs : List FCall) :
    zeroRun m v st cs = ok (dequeRunM (win (selItem sel) st.pos.1 v.countZeros) (cs.map FCall.toICall)) :=
  fwdRun_sim (zero_fwdSim m v sel) (fun it d h => zero_lenSim m v it d (zeroFrom_rel h)) cs ⟨h, rfl⟩

/-! ### the reference sequences in terms of the bit sequence -/

/-- the items of a select function that reads the list `P`, from rank `k` on -/
theorem win_selItem {sel : Nat → Option Nat} {P : List Nat} (hsel : ∀ j, sel j = P[j]?) (k : Nat) :
    win (selItem sel) k P.length = (pairs P).drop k := by
  rw [← seg_full, seg_eq_win (f := selItem sel) (fun i hi => by rw [pairs_get P i hi, selItem, hsel]) k (Nat.le_refl _),
    pairs_length]

/-- a one-iterator of a vector with bit sequence `B` that stands for rank `k` -/
theorem oneFrom_run_bits {B : List Bool} (ho : v.ones = lensAbs (maximalRuns B)) (e2 : v.ones = B.count true)
    {st : RLOneIter} {k : Nat} (h : OneFrom m v (maximalRuns B) st k) (cs : List FCall) :
    oneRun m v st cs = ok (dequeRunM ((pairs (onesPos B)).drop k) (cs.map FCall.toICall)) := by
  rw [oneFrom_run ho h cs, ← ho, e2, ← length_onesPos,
    win_selItem (fun j => by rw [selectR_maximalRuns, selectSpec_eq_onesPos])]

/-- **all iterators of a well-formed run-length vector, in terms of its bit sequence `B`**: every forward call
history on `run_iter()`, `iter()`, `one_iter()`, `zero_iter()`, `select_iter(r)`, `select_zero_iter(r)` answers as
the reference queue over the maximal runs / the bits / the `(rank, position)` pairs of the set resp. unset bits
(from rank `r` on), with no fault, in both modes -/
theorem good_iterators (m : Mode) {v : RL} (B : List Bool) (hg : Good v (maximalRuns B)) (e1 : v.len = B.length)
    (e2 : v.ones = B.count true) (e3 : v.countZeros = B.count false) :
    (∀ cs : List NCall, ∃ it, v.runIter = ok it ∧
      runRun m v it cs = ok (dequeRunM (maximalRuns B) (cs.map NCall.toICall))) ∧
    (∀ cs : List FCall, ∃ st, v.iter = ok st ∧
      bitRun m v st cs = ok (dequeRunM B (cs.map FCall.toICall))) ∧
    (∀ cs : List FCall, ∃ st, v.oneIter = ok st ∧
      oneRun m v st cs = ok (dequeRunM (pairs (onesPos B)) (cs.map FCall.toICall))) ∧
    (∀ cs : List FCall, ∃ st, v.zeroIter m = ok st ∧
      zeroRun m v st cs = ok (dequeRunM (pairs (zerosPos B)) (cs.map FCall.toICall))) ∧
    (∀ (r : Nat) (cs : List FCall), ∃ st, v.selectIter m r = ok st ∧
      oneRun m v st cs = ok (dequeRunM ((pairs (onesPos B)).drop r) (cs.map FCall.toICall))) ∧
    (∀ (r : Nat) (cs : List FCall), ∃ st, v.selectZeroIter m r = ok st ∧
      zeroRun m v st cs = ok (dequeRunM ((pairs (zerosPos B)).drop r) (cs.map FCall.toICall))) := by
  obtain ⟨bl, g, hR⟩ := hg
  have hgap := sep_gap_tail' _ (hR ▸ maximalRuns_sep B)
  have ho := g.ones_eq
  have zero : ∀ {st : RLZeroIter}, ZeroFrom m v (selectZeroR v.len (maximalRuns B)) st → ∀ cs,
      zeroRun m v st cs = ok (dequeRunM ((pairs (zerosPos B)).drop st.pos.1) (cs.map FCall.toICall)) := fun h cs => by
    rw [zeroFrom_run h cs, e1, e3, ← length_zerosPos, win_selItem fun j => by
      rw [selectZeroR_maximalRuns]; unfold selectZeroSpec zerosPos
      exact selectSpec_eq_onesPos (B.map not) j]
  rw [← hR] at ho
  refine ⟨?_, ?_, ?_, ?_, ?_, ?_⟩
  · intro cs
    obtain ⟨it, h1, a⟩ := g.runIter_at m
    obtain ⟨e, w⟩ := a.walk
    exact ⟨it, h1, by rw [walk_run w cs, hR]; rfl⟩
  · intro cs
    obtain ⟨st, h1, h2, h3⟩ := g.iter_from m
    exact ⟨st, h1, by rw [bitFrom_run h3 cs, h2, ← hR, e1, win_getR_all]⟩
  · intro cs
    obtain ⟨st, h1, h2⟩ := g.oneIter_from m
    exact ⟨st, h1, by rw [oneFrom_run_bits ho e2 (hR ▸ h2) cs, List.drop_zero]⟩
  · intro cs
    obtain ⟨st, h1, h2, h3⟩ := g.zeroIter_from m hgap
    exact ⟨st, h1, by rw [zero (hR ▸ h3) cs, h2, List.drop_zero]⟩
  · intro r cs
    obtain ⟨st, h1, h2⟩ := g.selectIter_from m r
    exact ⟨st, h1, oneFrom_run_bits ho e2 (hR ▸ h2) cs⟩
  · intro r cs
    obtain ⟨st, h1, h2, h3⟩ := g.selectZeroIter_from m hgap r
    refine ⟨st, h1, ?_⟩
    rw [zero (hR ▸ h3) cs, h2]
    rcases Nat.le_total r v.countZeros with h | h
    · rw [Nat.min_eq_left h]
    · rw [Nat.min_eq_right h, List.drop_eq_nil_of_le (by rw [pairs_length, length_zerosPos, e3]; exact Nat.le_refl _),
        List.drop_eq_nil_of_le (by rw [pairs_length, length_zerosPos, ← e3]; exact h)]

end RLI

end Sds.Iter2
