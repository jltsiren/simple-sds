/-
Proofs/GenEqCopy: the three conversions `copy_bit_vec` (`BitVector`, `SparseVector`, `RLVector`; generic over the source,
whose `len()`, `count_ones()` and the list `items` of the (rank, position) pairs of its `one_iter()` are parameters), as
TRANSLATED statement by statement from the source (Generated/FnsCopy.lean), are equal to the chains of hand-written
model operations that C11 is stated about.  The model has no "copy" function: each equation is against the fold of the
model operations.

Method: `items_loop` — the translated `for (_, index) in source.one_iter()` (a counter `loopM` reading
`items.getD i (0, 0)`) is the `foldlM` of the body over `items.map (·.2)` (from `for_loop_range`, GenSupport);
`rl_copy_pieces`, `sp_copy_pieces` cut these two functions at the loop; `foldlM_congr_prefix` replaces the translated body by the model's on
every state the MODEL fold reaches.

* plain.  `bv_copy_eq' : … = if every position falls in a word of the vector then ok (BitVector.ofRaw (fold setBit
  (withLen len false))) else fault (.panic .index)` under `len + 63 < U64` only (exact form).  `bv_copy_eq_of_words`
  (weakest hypothesis on the positions: `p / 64 < (len + 63) / 64`), `bv_copy_eq` (`p < len`).  `ones` is unused.
  C11: `bv_copy_eq_set` (the fold is `RawVec.ofBits (bitsOfSet P len)`, C11 `positions_into_plain`), `bv_copy_eq_bits`
  (a source with bits `B`: the result is `BitVector.ofRaw (RawVec.ofBits B)`, C11 `bits_into_plain`).
  Sharp: `bv_copy_ne_len`, `bv_copy_ne_pos`.
* run-length.  `rlCopyModel m len P` = fold of `setRunUnchecked · · 1` (= `set_bit_unchecked`) from `{}`, `setLen len`,
  `RL.ofBuilder`.  `rl_copy_eq_of`: hypotheses on the builders of the model chain only (the `FlushBounds` where a call
  flushes, the representation bounds of `From<RLBuilder>`) — no order on the positions.  `rl_copy_eq`: positions
  strictly increasing below `len < U64`, and `128 * items.length + 319 < U64` (one sample per flushed run at most; the
  bound of `rl_from_builder_eq` on the samples vector).  C11: `rl_copy_eq_calls` (the code computes `RL.ofBuilder` of
  `RL.runBCalls m (RL.callsOf (P × 1) len) {}`, every `set_bit_unchecked` being an accepted `try_set`),
  `rl_copy_eq_bits` (a source with bits `B`: the conversion SUCCEEDS with the canonical `RL.ofBuilder m
  (RLCanon.canonFlushed B)`, length `|B|`, `count true` ones — C11 `bits_into_rl_is_canonical`).
  Sharp: `rl_copy_ne_len` (`len = 2^64`, not a `usize`).  `hn` is inherited from `rl_from_builder_eq`; no
  counterexample is given for it (it would need 2^57 positions).
* sparse.  `spCopyModel w len ones P` = `unwrapRes (SparseBuilder.new w len ones)`, fold of `setUnchecked`,
  `unwrapRes build`; `w = spWidth fw len ones`.  `sp_copy_eq_of`: the hypotheses of `spb_new_eq` (WITHOUT `1 ≤ fw`: the
  `unwrap()` makes the model's `Err` the code's panic, `sp_new_unwrap_eq`), of `spb_set_unchecked_eq` on every builder
  of the model chain, of `sparse_try_from_eq'` on the last.  `sp_copy_eq`: `fw ≤ 64`, `len < U64`, the two bit-length
  bounds of `new`, positions below `len` — NO hypothesis on order, repetitions or number of positions (too many: the
  same assertion panic; too few / `ones > len`: the same `unwrap` panic).  C11: `sp_copy_eq_values` (strictly
  increasing, `ones = items.length`, `fw ≤ 63`: the conversion SUCCEEDS with `Sparse.ofValues w len false P`, which
  `Encodes` the positions — the value of C11 §3).  Sharp: `sp_copy_ne_pos` (a surplus position far outside the
  universe: index panic vs assertion panic — the order of the two writes, `spb_set_unchecked_ne`), `sp_copy_ne_fw`.

On inputs a source can produce (`len()` a `usize`, positions below it) the translated code and the model agree:
every counterexample needs a length that is not a `usize` (or within 63 of `2^64`), a position
outside the source, or a width the f64 rule never yields.
-/
import Sds.Generated.FnsCopy
import Sds.Proofs.GenFns
import Sds.Proofs.GenEqVec
import Sds.Proofs.GenEqBuild
import Sds.Proofs.GenEqConstr3
import Sds.Proofs.GenEqConstr4
import Sds.Proofs.GenEqLoop4
import Sds.Proofs.RawVec
import Sds.Proofs.Glue4
import Sds.Proofs.RLCanon


namespace Sds.GenEq
open Sds Outcome Generated

private theorem obind_okC {α β : Type} (a : α) (f : α → Outcome β) : (ok a).bind f = f a := rfl

/-! ### the loop `for (_, index) in source.one_iter()` -/

/-- `for (_, index) in items { s = f(s, index)? }` as translated (a counter `loopM` reading `items.getD i (0, 0)`)
is the `foldlM` of `f` over the positions -/
theorem items_loop {σ ρ : Type} (items : List (Nat × Nat)) (f : σ → Nat → Outcome σ)
    (step : Nat × σ → Outcome (Ctl (Nat × σ) ρ))
    (h1 : ∀ i s, i < items.length →
      step (i, s) = (f s (items.getD i (0, 0)).2).bind (fun s' => ok (Ctl.next (i + 1, s'))))
    (h2 : ∀ i s, ¬ i < items.length → step (i, s) = ok (Ctl.brk (i, s))) (s : σ) :
    loopM (items.length - 0 + 1) step (0, s) =
      ((items.map (·.2)).foldlM f s).bind (fun s' => ok (Ctl.brk (items.length, s'))) := by
  rw [for_loop_range (ρ := ρ) items.length (fun s j => f s (items.getD j (0, 0)).2) step h1 h2 s,
    foldlM_range_getD items (0, 0) (fun s x => f s x.2), List.foldlM_map]

/-! ### `BitVector::copy_bit_vec` -/

/-- bit `x` of a vector of `y > x` bits lies in one of its `(y + 63) / 64` words -/
theorem div64_lt_words {x y : Nat} (h : x < y) : x / 64 < (y + 63) / 64 := by
  have h1 : (x + 64) / 64 ≤ (y + 63) / 64 := Nat.div_le_div_right (Nat.add_le_add_right h 63)
  rw [Nat.add_div_right x (by decide)] at h1
  exact h1

theorem size_setBit (v : RawVec) (i : Nat) (b : Bool) : (v.setBit i b).data.size = v.data.size := by
  simp [RawVec.setBit]

theorem size_foldl_setBit (P : List Nat) : ∀ v : RawVec,
    (P.foldl (fun v i => v.setBit i true) v).data.size = v.data.size := by
  induction P with
  | nil => intro v; rfl
  | cons p t ih => intro v; rw [List.foldl_cons, ih, size_setBit]

theorem size_withLen (len : Nat) (b : Bool) : (RawVec.withLen len b).data.size = (len + 63) / 64 := by
  have h := (RawVec.withLen_WF len b).1
  rw [RawVec.len_withLen] at h
  exact h

/-- the loop of `set_bit` calls, exactly: all the model's `setBit` when every word index is in range, the
index panic of the first out-of-range word otherwise (the model's `setBit` would silently skip it) -/
theorem set_bit_fold (m : Mode) : ∀ (P : List Nat) (v : RawVec),
    P.foldlM (fun v i => gen_RawVector_set_bit m v i true) v =
      if ∀ p ∈ P, p / 64 < v.data.size then ok (P.foldl (fun v i => v.setBit i true) v)
      else fault (.panic .index) := by
  intro P
  induction P with
  | nil => intro v; simp
  | cons p t ih =>
    intro v
    rw [List.foldlM_cons]
    by_cases hp : p / 64 < v.data.size
    · rw [raw_set_bit_eq m v p true hp, bind_ok, ih, size_setBit, List.foldl_cons]
      by_cases ht : ∀ q ∈ t, q / 64 < v.data.size
      · rw [if_pos ht, if_pos (by intro q hq; rcases List.mem_cons.mp hq with h | h; exact h ▸ hp; exact ht q h)]
      · rw [if_neg ht, if_neg (fun h => ht (fun q hq => h q (List.mem_cons_of_mem _ hq)))]
    · rw [raw_set_bit_out m v p true hp, bind_fault, if_neg (fun h => hp (h p (List.mem_cons_self ..)))]

/-- **`BitVector::copy_bit_vec`, exact form** under `len + 63 < U64` (`bits_to_words(len)` of `with_len`): the
model's fold when every listed position falls in a word of the vector, the index panic of `set_bit` otherwise.
`ones` (the source's `count_ones()`) is not used by this conversion. -/
theorem bv_copy_eq' (m : Mode) (len ones : Nat) (items : List (Nat × Nat)) (hl : len + 63 < U64) :
    gen_BitVector_copy_bit_vec m len ones items =
      if ∀ p ∈ items.map (fun x : Nat × Nat => x.2), p / 64 < (len + 63) / 64 then
        ok (BitVector.ofRaw ((items.map (·.2)).foldl (fun v i => v.setBit i true) (RawVec.withLen len false)))
      else fault (.panic .index) := by
  unfold gen_BitVector_copy_bit_vec
  rw [raw_with_len_eq m len false hl]
  simp only [bind_ok]
  rw [items_loop (ρ := BitVector) items (fun v i => gen_RawVector_set_bit m v i true) _
      (fun i s hi => by
        simp only [decide_eq_true hi, if_true, Pure.pure]
        rfl)
      (fun i s hi => by simp only [hi, decide_false, Bool.false_eq_true, if_false]; rfl),
    set_bit_fold, size_withLen]
  by_cases h : ∀ p ∈ items.map (fun x : Nat × Nat => x.2), p / 64 < (len + 63) / 64
  · rw [if_pos h, if_pos h]
    exact bv_from_raw_eq m _ (by rw [size_foldl_setBit, size_withLen]; omega)
  · rw [if_neg h, if_neg h]; rfl

/-- **`BitVector::copy_bit_vec`**, weakest hypothesis on the positions: each falls in a word of the vector -/
theorem bv_copy_eq_of_words (m : Mode) (len ones : Nat) (items : List (Nat × Nat)) (hl : len + 63 < U64)
    (hp : ∀ p ∈ items.map (fun x : Nat × Nat => x.2), p / 64 < (len + 63) / 64) :
    gen_BitVector_copy_bit_vec m len ones items =
      ok (BitVector.ofRaw ((items.map (·.2)).foldl (fun v i => v.setBit i true) (RawVec.withLen len false))) := by
  rw [bv_copy_eq' m len ones items hl, if_pos hp]

/-- **`BitVector::copy_bit_vec`** for positions below the length (what every `one_iter()` yields) -/
theorem bv_copy_eq (m : Mode) (len ones : Nat) (items : List (Nat × Nat)) (hl : len + 63 < U64)
    (hp : ∀ p ∈ items.map (fun x : Nat × Nat => x.2), p < len) :
    gen_BitVector_copy_bit_vec m len ones items =
      ok (BitVector.ofRaw ((items.map (·.2)).foldl (fun v i => v.setBit i true) (RawVec.withLen len false))) :=
  bv_copy_eq_of_words m len ones items hl (fun p h => div64_lt_words (hp p h))

/-- a position in a word beyond the vector: the code panics (`set_bit` indexes the words checked); the model's
`setBit` (`setIfInBounds`) would leave the vector unchanged, so the hypothesis on the positions is needed -/
theorem bv_copy_out (m : Mode) (len ones : Nat) (items : List (Nat × Nat)) (hl : len + 63 < U64)
    (hp : ¬ ∀ p ∈ items.map (fun x : Nat × Nat => x.2), p / 64 < (len + 63) / 64) :
    gen_BitVector_copy_bit_vec m len ones items = fault (.panic .index) := by
  rw [bv_copy_eq' m len ones items hl, if_neg hp]

/-! ### `RLVector::copy_bit_vec` -/

/-- the model step of the loop: `set_bit_unchecked(index)` is `set_run_unchecked(index, 1)` -/
abbrev rlStep (m : Mode) (b : RLBuilder) (i : Nat) : Outcome RLBuilder := b.setRunUnchecked m i 1

/-- the model chain the conversion is compared with: the fold of `set_bit_unchecked` over the positions from the
empty builder, then `set_len(len)`, then `From<RLBuilder>` -/
def rlCopyModel (m : Mode) (len : Nat) (P : List Nat) : Outcome RL :=
  (P.foldlM (rlStep m) {}).bind (fun b => (b.setLen m len).bind (RL.ofBuilder m))

/-- the translated function cut at the loop -/
theorem rl_copy_pieces (m : Mode) (len ones : Nat) (items : List (Nat × Nat)) :
    gen_RLVector_copy_bit_vec m len ones items =
      ((items.map (·.2)).foldlM (fun b i => gen_RLBuilder_set_bit_unchecked m b i) {}).bind (fun b =>
        (gen_RLBuilder_set_len m b len).bind (gen_RLVector_from_builder m)) := by
  unfold gen_RLVector_copy_bit_vec
  rw [rlb_new_eq]
  simp only [bind_ok]
  rw [items_loop (ρ := RL) items (fun b i => gen_RLBuilder_set_bit_unchecked m b i) _
    (fun i s hi => by
      simp only [decide_eq_true hi, if_true, Pure.pure]
      rfl)
    (fun i s hi => by simp only [hi, decide_false, Bool.false_eq_true, if_false]; rfl)]
  cases List.foldlM (fun b i => gen_RLBuilder_set_bit_unchecked m b i) {} (items.map (·.2)) with
  | fault e => rfl
  | ok b => rfl

/-- **`RLVector::copy_bit_vec`, general form**: the hypotheses are those of the equations of the pieces, on the
builders the MODEL chain reaches.  `hstep`: the flush bounds at each `set_bit_unchecked` that flushes (a position
not adjacent to `len`, a pending run); `hlen`: the same for `set_len`; `hfin`: the representation bounds of
`From<RLBuilder>`.  No hypothesis orders the positions: out of the safety contract of `set_bit_unchecked` the code
and the model still agree. -/
theorem rl_copy_eq_of (m : Mode) (len ones : Nat) (items : List (Nat × Nat))
    (hstep : ∀ k (hk : k < (items.map (·.2)).length) b, ((items.map (·.2)).take k).foldlM (rlStep m) {} = ok b →
      (items.map (·.2))[k] ≠ b.len → b.run.2 ≠ 0 → FlushBounds b)
    (hlen : ∀ b, (items.map (·.2)).foldlM (rlStep m) {} = ok b → len > b.len → b.run.2 ≠ 0 → FlushBounds b)
    (hfin : ∀ b b', (items.map (·.2)).foldlM (rlStep m) {} = ok b → b.setLen m len = ok b' →
      b'.len < U64 ∧ b'.ones < U64 ∧ 128 * b'.samples.size + 191 < U64 ∧
      (b'.run.2 ≠ 0 → b'.data.len + 44 < U64 ∧ b'.run.2 ≤ b'.ones ∧ b'.run.1 + b'.run.2 < U64)) :
    gen_RLVector_copy_bit_vec m len ones items = rlCopyModel m len (items.map (·.2)) := by
  rw [rl_copy_pieces]
  unfold rlCopyModel
  rw [foldlM_congr_prefix (fun b i => gen_RLBuilder_set_bit_unchecked m b i) (rlStep m) _ {}
    (fun k hk b hb => rlb_set_bit_unchecked_eq' m b _ (hstep k hk b hb))]
  cases hf : (items.map (·.2)).foldlM (rlStep m) {} with
  | fault e => rfl
  | ok b =>
    rw [obind_okC, obind_okC, rlb_set_len_eq' m b len (hlen b hf)]
    cases hs : b.setLen m len with
    | fault e => rfl
    | ok b' =>
      obtain ⟨h1, h2, h3, h4⟩ := hfin b b' hf hs
      rw [obind_okC, obind_okC]
      exact rl_from_builder_eq m b' h1 h2 h3 h4

/-! #### positions in increasing order below `len`: the hypotheses hold -/

theorem setRunUnchecked_samples (m : Mode) (b b' : RLBuilder) (s l : Nat)
    (h : b.setRunUnchecked m s l = ok b') : b'.samples.size ≤ b.samples.size + 1 := by
  unfold RLBuilder.setRunUnchecked at h
  by_cases hl : l = 0
  · rw [if_pos hl] at h; cases h; exact Nat.le_add_right _ _
  · rw [if_neg hl] at h
    by_cases hs : s = b.len
    · rw [if_pos hs] at h
      cases h1 : addM m b.len l with
      | fault e => rw [h1] at h; cases h
      | ok a1 =>
        cases h2 : addM m b.ones l with
        | fault e => rw [h1, h2] at h; cases h
        | ok a2 =>
          cases h3 : addM m b.run.2 l with
          | fault e => rw [h1, h2, h3] at h; cases h
          | ok a3 => rw [h1, h2, h3] at h; cases h; exact Nat.le_add_right _ _
    · rw [if_neg hs] at h
      cases h0 : b.flush m with
      | fault e => rw [h0] at h; cases h
      | ok b1 =>
        have hf := (flush_fields m b b1 h0).2.2
        cases h1 : addM m s l with
        | fault e => rw [h0, h1] at h; cases h
        | ok a1 =>
          cases h2 : addM m b1.ones l with
          | fault e => rw [h0, h1] at h; simp only [bind_ok, h2] at h; cases h
          | ok a2 => rw [h0, h1] at h; simp only [bind_ok, h2] at h; cases h; exact hf

theorem setLen_samples (m : Mode) (b b' : RLBuilder) (n : Nat) (h : b.setLen m n = ok b') :
    b'.samples.size ≤ b.samples.size + 1 := by
  unfold RLBuilder.setLen at h
  by_cases hc : n > b.len
  · rw [if_pos hc] at h
    cases h0 : b.flush m with
    | fault e => rw [h0] at h; cases h
    | ok b1 => rw [h0] at h; cases h; exact (flush_fields m b b1 h0).2.2
  · rw [if_neg hc] at h; cases h; exact Nat.le_add_right _ _

/-- the loop over positions in increasing order below `N`, from a reachable builder with at most `c` samples:
every call is inside the safety contract (`try_set` would accept it and IS `set_bit_unchecked`), the translated
loop computes the model's builder, the invariant is kept and each call adds at most one sample -/
theorem rl_fold_spec (m : Mode) (N : Nat) (hN : N < U64) : ∀ (P : List Nat) (b : RLBuilder) (c : Nat),
    b.Inv → b.samples.size ≤ c → b.len ≤ N → P.Pairwise (· < ·) → (∀ p ∈ P, b.len ≤ p ∧ p < N) →
    64 * (c + P.length) + 44 < U64 →
    ∃ b', P.foldlM (rlStep m) b = ok b' ∧ P.foldlM (fun b i => b.trySet m i 1) b = ok b' ∧
      P.foldlM (fun b i => gen_RLBuilder_set_bit_unchecked m b i) b = ok b' ∧
      b'.Inv ∧ b'.samples.size ≤ c + P.length ∧ b'.len ≤ N := by
  have hU := U64_eq
  intro P
  induction P with
  | nil => intro b c hi hc hl _ _ _; exact ⟨b, rfl, rfl, rfl, hi, by simpa using hc, hl⟩
  | cons p t ih =>
    intro b c hi hc hl hpw hb hs
    obtain ⟨hp1, hp2⟩ := hb p (List.mem_cons_self ..)
    rw [List.pairwise_cons] at hpw
    rw [List.length_cons] at hs
    obtain ⟨b1, e1, i1, _, hne⟩ := (RLBuilder.trySet_spec m hi p 1 (by decide)).2 (by omega)
    obtain ⟨l1, _, _⟩ := hne (by decide)
    have e1' : rlStep m b p = ok b1 := by
      unfold RLBuilder.trySet at e1
      rw [if_neg (Nat.not_lt_of_le hp1), if_neg (by omega)] at e1
      exact e1
    have hs1 := setRunUnchecked_samples m b b1 p 1 e1'
    have eg : gen_RLBuilder_set_bit_unchecked m b p = ok b1 := by
      rw [rlb_set_bit_unchecked_eq_of_inv m b p hi (by omega)]; exact e1'
    obtain ⟨b', f1, f2, f3, i', s', l'⟩ := ih b1 (c + 1) i1 (Nat.le_trans hs1 (Nat.add_le_add_right hc 1)) (l1 ▸ hp2) hpw.2
      (fun q hq => ⟨l1 ▸ hpw.1 q hq, (hb q (List.mem_cons_of_mem _ hq)).2⟩)
      (by rw [Nat.add_assoc, Nat.add_comm 1]; exact hs)
    refine ⟨b', ?_, ?_, ?_, i', by rw [List.length_cons, Nat.add_comm t.length, ← Nat.add_assoc]; exact s', l'⟩
    · rw [List.foldlM_cons, e1', bind_ok]; exact f1
    · rw [List.foldlM_cons, e1, bind_ok]; exact f2
    · rw [List.foldlM_cons, eg, bind_ok]; exact f3

/-- **`RLVector::copy_bit_vec`** for what a `one_iter()` yields: positions in strictly increasing order below
`len`, a `usize` length.  `hn` bounds the number of listed positions (hence of samples: one per flushed run at most)
so that the compressed samples vector of `From<RLBuilder>` has a representable bit length; `ones` is not used by
this conversion.  The model chain succeeds and every intermediate call is within the safety contract. -/
theorem rl_copy_eq (m : Mode) (len ones : Nat) (items : List (Nat × Nat)) (hl : len < U64)
    (hsorted : (items.map (·.2)).Pairwise (· < ·)) (hp : ∀ p ∈ items.map (·.2), p < len)
    (hn : 128 * items.length + 319 < U64) :
    gen_RLVector_copy_bit_vec m len ones items = rlCopyModel m len (items.map (·.2)) := by
  have hlen : (items.map (·.2)).length = items.length := List.length_map ..
  obtain ⟨b, f1, _, f3, hi, hs, hbl⟩ := rl_fold_spec m len hl (items.map (·.2)) {} 0 RLBuilder.inv_empty
    (by decide) (Nat.zero_le _) hsorted (fun p h => ⟨Nat.zero_le _, hp p h⟩) (by omega)
  rw [rl_copy_pieces, f3]
  unfold rlCopyModel
  rw [f1, obind_okC, obind_okC, rlb_set_len_eq_of_inv m b len hi (by omega)]
  cases hsl : b.setLen m len with
  | fault e => rfl
  | ok b' =>
    rw [obind_okC, obind_okC]
    have hs' := setLen_samples m b b' len hsl
    exact rl_from_builder_eq_of_inv m b' (RLBuilder.setLen_inv m hi len hl hsl) (by omega)

/-! #### connection with the conversion theorems of C11 (stated on `RL.runBCalls … (RL.callsOf …)`) -/

/-- the call history of C11 (`try_set(p, 1)` per position, then `set_len(n)`) as a fold -/
theorem runBCalls_bits (m : Mode) (n : Nat) : ∀ (P : List Nat) (b : RLBuilder),
    RL.runBCalls m (RL.callsOf (P.map fun i => (i, 1)) n) b =
      (P.foldlM (fun (b : RLBuilder) i => b.trySet m i 1) b).bind (fun b => b.setLen m n) := by
  intro P
  induction P with
  | nil =>
    intro b
    show (b.setLen m n >>= fun b => RL.runBCalls m [] b) = b.setLen m n
    cases b.setLen m n <;> rfl
  | cons p t ih =>
    intro b
    show (b.trySet m p 1 >>= fun b => RL.runBCalls m (RL.callsOf (t.map fun i => (i, 1)) n) b) = _
    rw [List.foldlM_cons]
    cases b.trySet m p 1 with
    | fault e => rfl
    | ok b1 => exact ih b1

/-- **the translated conversion IS the history C11 is stated about**: under the hypotheses of `rl_copy_eq` every
`set_bit_unchecked` is an accepted `try_set(p, 1)`, so the code computes `From<RLBuilder>` of
`runBCalls (callsOf (positions × 1) len) {}` -/
theorem rl_copy_eq_calls (m : Mode) (len ones : Nat) (items : List (Nat × Nat)) (hl : len < U64)
    (hsorted : (items.map (·.2)).Pairwise (· < ·)) (hp : ∀ p ∈ items.map (·.2), p < len)
    (hn : 128 * items.length + 319 < U64) :
    gen_RLVector_copy_bit_vec m len ones items =
      (RL.runBCalls m (RL.callsOf ((items.map (·.2)).map fun i => (i, 1)) len) {}).bind (RL.ofBuilder m) := by
  have hlen : (items.map (·.2)).length = items.length := List.length_map ..
  obtain ⟨b, f1, f2, _, _⟩ := rl_fold_spec m len hl (items.map (·.2)) {} 0 RLBuilder.inv_empty
    (by decide) (Nat.zero_le _) hsorted (fun p h => ⟨Nat.zero_le _, hp p h⟩) (by omega)
  rw [rl_copy_eq m len ones items hl hsorted hp hn, runBCalls_bits, f2]
  unfold rlCopyModel
  rw [f1]
  rfl

/-- **conversion of a source with bits `B` into a run-length vector**: when the source lists `onesPos B` (C11 §1)
and reports `len() = |B|`, the translated `copy_bit_vec` SUCCEEDS with the vector of C11's
`bits_into_rl_is_canonical`: `From<RLBuilder>` of the bit-at-a-time history, equal to the canonical representative
`RL.ofBuilder m (RLCanon.canonFlushed B)` (C11's `rlOf m B`), of length `|B|` with `count true` ones -/
theorem rl_copy_eq_bits (m : Mode) (B : List Bool) (ones : Nat) (items : List (Nat × Nat)) (hB : B.length < U64)
    (hitems : items.map (·.2) = onesPos B) (hn : 128 * items.length + 319 < U64) :
    ∃ b x, RL.runBCalls m (RL.callsOf ((onesPos B).map fun i => (i, 1)) B.length) {} = ok b ∧
      RL.ofBuilder m b = ok x ∧ gen_RLVector_copy_bit_vec m B.length ones items = ok x ∧
      RL.ofBuilder m (RLCanon.canonFlushed B) = ok x ∧ x.len = B.length ∧ x.ones = B.count true := by
  obtain ⟨hr, hbits⟩ := RL.bitCalls_spec B hB
  obtain ⟨b, hb, _⟩ := RL.runBCalls_accepts m B.length hB _ {} RLBuilder.inv_empty hr
  have hc := RL.callsOf_argsOk _ B.length 0 hr hB
  obtain ⟨x, hx, hl, ho, _⟩ := RL.build_iterate_calls_total m _ hc b hb
  have hd := (RL.callsOf_spec _ B.length hr).trans hbits
  have hcf := RLCanon.ofBuilder_closed_form m _ hc b hb
  rw [hd] at hl ho hcf
  refine ⟨b, x, hb, hx, ?_, hcf ▸ hx, hl, ho⟩
  rw [rl_copy_eq_calls m B.length ones items hB (by rw [hitems]; exact onesPos_pairwise B)
    (by rw [hitems]; exact onesPos_lt B) hn, hitems, hb]
  exact hx

/-! ### `SparseVector::copy_bit_vec` -/

/-- the loop on the Rust layout is the loop on the model's flat layout -/
theorem spbr_fold (f : SparseBuilder → Nat → Outcome SparseBuilder) (P : List Nat) (b : SparseBuilder) :
    P.foldlM (fun br i => spbrLift (fun b => f b i) br) (spbR b) =
      (P.foldlM f b).bind (fun b' => ok (spbR b')) :=
  foldlM_transport (fun _ => True) spbR _ f (fun b _ _ => spbrLift_spbR _ b) (fun _ _ _ _ _ => trivial) P b trivial

/-- `SparseBuilder::new(len, ones).unwrap()`: for EVERY `fw ≤ 64` (no `1 ≤ fw`): with the non-width `fw = 0` the code
panics in `with_len(..).unwrap()` and the model's `new` returns the `Err` of `IntVec.withLen`, which the `unwrap()` of
`copy_bit_vec` turns into the same panic -/
theorem sp_new_unwrap_eq (m : Mode) (fw univ ones : Nat) (hfw2 : fw ≤ 64) (hu : univ < U64)
    (hh : ones + Sparse.getBuckets univ (spWidth fw univ ones) + 63 < U64)
    (hl : ones * spWidth fw univ ones + 63 < U64) :
    unwrapRes (gen_SparseBuilder_new m fw univ ones) =
      (unwrapRes (SparseBuilder.new (spWidth fw univ ones) univ ones)).bind (fun b => ok (spbR b)) := by
  rw [spb_new_eq_any m fw univ ones hfw2 hu hh hl]
  unfold SparseBuilder.new
  by_cases h : ones > univ
  · rw [if_pos h, if_pos h]; rfl
  · rw [if_neg h, if_neg h]
    cases IntVec.withLen ones (spWidth fw univ ones) 0 with
    | ok low => rfl
    | fault e => cases e <;> rfl

/-- the model chain the conversion is compared with: `SparseBuilder::new(len, ones).unwrap()` for the low width `w`,
the fold of `set_unchecked` over the positions, `SparseVector::try_from(builder).unwrap()` -/
def spCopyModel (w len ones : Nat) (P : List Nat) : Outcome Sparse :=
  (unwrapRes (SparseBuilder.new w len ones)).bind (fun b0 =>
    (P.foldlM SparseBuilder.setUnchecked b0).bind (fun b => unwrapRes b.build))

/-- the translated function cut at the loop -/
theorem sp_copy_pieces (m : Mode) (fw len ones : Nat) (items : List (Nat × Nat)) :
    gen_SparseVector_copy_bit_vec m fw len ones items =
      (unwrapRes (gen_SparseBuilder_new m fw len ones)).bind (fun b0 =>
        ((items.map (·.2)).foldlM
            (fun br i => spbrLift (fun b => gen_SparseBuilder_set_unchecked m b i) br) b0).bind (fun b =>
          unwrapRes (gen_SparseVector_try_from m b))) := by
  unfold gen_SparseVector_copy_bit_vec
  show (unwrapRes (gen_SparseBuilder_new m fw len ones) >>= _) = _
  cases unwrapRes (gen_SparseBuilder_new m fw len ones) with
  | fault e => rfl
  | ok b0 =>
    simp only [bind_ok]
    rw [items_loop (ρ := Sparse) items
      (fun br i => spbrLift (fun b => gen_SparseBuilder_set_unchecked m b i) br) _
      (fun i s hi => by
        simp only [decide_eq_true hi, if_true, Pure.pure]
        rfl)
      (fun i s hi => by simp only [hi, decide_false, Bool.false_eq_true, if_false]; rfl)]
    rw [obind_okC]
    cases List.foldlM (fun br i => spbrLift (fun b => gen_SparseBuilder_set_unchecked m b i) br) b0
      (items.map (·.2)) with
    | fault e => rfl
    | ok b => rfl

/-- **`SparseVector::copy_bit_vec`, general form**: the hypotheses of `spb_new_eq_any`, then those of
`spb_set_unchecked_eq` on every builder the MODEL chain reaches, then that of `sparse_try_from_eq'` on the last one -/
theorem sp_copy_eq_of (m : Mode) (fw len ones : Nat) (items : List (Nat × Nat))
    (hfw2 : fw ≤ 64) (hu : len < U64)
    (hh : ones + Sparse.getBuckets len (spWidth fw len ones) + 63 < U64)
    (hl : ones * spWidth fw len ones + 63 < U64)
    (hstep : ∀ b0, SparseBuilder.new (spWidth fw len ones) len ones = ok b0 →
      ∀ k (hk : k < (items.map (·.2)).length) (b : SparseBuilder),
        ((items.map (·.2)).take k).foldlM SparseBuilder.setUnchecked b0 = ok b →
        b.low.WF ∧ b.low.len * b.low.width < U64 ∧ (items.map (·.2))[k] >>> b.low.width + b.len < U64 ∧
        (items.map (·.2))[k] + b.increment < U64 ∧
        (b.len < b.low.len ∨ ((items.map (·.2))[k] >>> b.low.width + b.len) / 64 < b.high.data.size))
    (hfin : ∀ b0 b, SparseBuilder.new (spWidth fw len ones) len ones = ok b0 →
      (items.map (·.2)).foldlM SparseBuilder.setUnchecked b0 = ok b → b.len = b.low.len →
      64 * b.high.data.size < U64) :
    gen_SparseVector_copy_bit_vec m fw len ones items =
      spCopyModel (spWidth fw len ones) len ones (items.map (·.2)) := by
  rw [sp_copy_pieces, sp_new_unwrap_eq m fw len ones hfw2 hu hh hl]
  unfold spCopyModel
  cases hnew : unwrapRes (SparseBuilder.new (spWidth fw len ones) len ones) with
  | fault e => rfl
  | ok b0 =>
    have hnew' : SparseBuilder.new (spWidth fw len ones) len ones = ok b0 := by
      cases hx : SparseBuilder.new (spWidth fw len ones) len ones with
      | ok a => rw [hx] at hnew; exact hnew
      | fault e => rw [hx] at hnew; cases e <;> cases hnew
    rw [obind_okC, obind_okC, obind_okC, spbr_fold,
      foldlM_congr_prefix (fun b i => gen_SparseBuilder_set_unchecked m b i) SparseBuilder.setUnchecked _ b0
        (fun k hk b hb => by
          obtain ⟨h1, h2, h3, h4, h5⟩ := hstep b0 hnew' k hk b hb
          exact spb_set_unchecked_eq m b _ h1 h2 h3 h4 h5)]
    cases hf : (items.map (·.2)).foldlM SparseBuilder.setUnchecked b0 with
    | fault e => rfl
    | ok b =>
      rw [obind_okC, obind_okC, obind_okC]
      exact congrArg unwrapRes (sparse_try_from_eq' m (spbR b) (fun hfull => hfin b0 b hnew' hf hfull))

/-! #### positions below `len`: the hypotheses hold -/

/-- the builders the model chain reaches from a reachable builder, with positions inside the universe, are reachable
builders of the same shape (a `set_unchecked` on a full builder fails, so the chain stops there) -/
theorem sp_fold_inv : ∀ (P : List Nat) (b b' : SparseBuilder), BuildersProofs.SbInv b → (∀ p ∈ P, p < b.univ) →
    P.foldlM SparseBuilder.setUnchecked b = ok b' →
    BuildersProofs.SbInv b' ∧ b'.univ = b.univ ∧ b'.increment = b.increment ∧ b'.low.len = b.low.len ∧
      b'.low.width = b.low.width ∧ b'.high.len = b.high.len := by
  intro P
  induction P with
  | nil =>
    intro b b' hi _ h
    cases h
    exact ⟨hi, rfl, rfl, rfl, rfl, rfl⟩
  | cons p t ih =>
    intro b b' hi hp h
    rw [List.foldlM_cons] at h
    have hpu := hp p (List.mem_cons_self ..)
    by_cases hl : b.len < b.capacity
    · rw [BuildersProofs.setUnchecked_ok hi hpu hl, bind_ok] at h
      obtain ⟨i', e1, e2, e3, e4, e5⟩ := ih _ b' (BuildersProofs.setResult_inv hi hpu hl)
        (fun q hq => hp q (List.mem_cons_of_mem _ hq)) h
      exact ⟨i', e1, e2, e3, e4, by rw [e5]; simp [BuildersProofs.setResult, RawVec.setBit]⟩
    · exfalso
      have hf : b.setUnchecked p = fault (.panic .assert) := by
        unfold SparseBuilder.setUnchecked
        simp only []
        rw [IntVec.set_fault _ _ _ (by unfold SparseBuilder.capacity at hl; omega)]
        rfl
      rw [hf] at h
      cases h

/-- **`SparseVector::copy_bit_vec`** for positions below `len` (what every `one_iter()` yields).  `hfw2`: the value of
the f64 rule is at most 64 (`1 ≤ fw` is NOT needed here, see `sp_new_unwrap_eq`); `hu`: `len` is a `usize`; `hh`, `hl`: the bit lengths of `high` and `low` are
representable (the hypotheses of `spb_new_eq`; `hh` also covers the bit counter of `BitVector::from(high)`).
NO hypothesis on the order of the positions, on repetitions, or on their number: `set_unchecked` does not check the
order; with `ones > len` both sides panic in `new(..).unwrap()`; with more than `ones` positions both panic in the
assertion of `IntVector::set` (the high bit written first is in range); with fewer both panic in
`try_from(..).unwrap()`. -/
theorem sp_copy_eq (m : Mode) (fw len ones : Nat) (items : List (Nat × Nat))
    (hfw2 : fw ≤ 64) (hu : len < U64)
    (hh : ones + Sparse.getBuckets len (spWidth fw len ones) + 63 < U64)
    (hl : ones * spWidth fw len ones + 63 < U64)
    (hp : ∀ p ∈ items.map (·.2), p < len) :
    gen_SparseVector_copy_bit_vec m fw len ones items =
      spCopyModel (spWidth fw len ones) len ones (items.map (·.2)) := by
  have hw2 : spWidth fw len ones ≤ 64 := spWidth_le hfw2
  -- the initial builder
  have hinit : ∀ b0, SparseBuilder.new (spWidth fw len ones) len ones = ok b0 →
      BuildersProofs.SbInv b0 ∧ b0.univ = len ∧ b0.increment = 1 ∧ b0.low.len = ones ∧
        b0.low.width = spWidth fw len ones ∧
        b0.high.len = ones + Sparse.getBuckets len (spWidth fw len ones) := by
    intro b0 h0
    have ho : ones ≤ len := by
      apply Classical.byContradiction
      intro hc
      rw [BuildersProofs.new_reject _ _ _ (Nat.lt_of_not_le hc)] at h0
      cases h0
    have hw1 : 1 ≤ spWidth fw len ones := by
      apply Classical.byContradiction
      intro hc
      rw [BuildersProofs.new_reject_width _ _ _ (Or.inl (Nat.eq_zero_of_not_pos hc))] at h0
      cases h0
    obtain ⟨b, hb, hi, c1, c2, c3, _, _, c6⟩ :=
      BuildersProofs.new_ok (spWidth fw len ones) len ones hw1 hw2 ho (Or.inr hu)
    rw [h0] at hb
    cases hb
    refine ⟨hi, c2, c6, c1, c3, ?_⟩
    have := hi.high_len
    rw [c1, c2, c3] at this
    exact this
  -- every builder reached from it
  have hreach : ∀ b0 (Q : List Nat) b, SparseBuilder.new (spWidth fw len ones) len ones = ok b0 →
      (∀ p ∈ Q, p < len) → Q.foldlM SparseBuilder.setUnchecked b0 = ok b →
      BuildersProofs.SbInv b ∧ b.univ = len ∧ b.increment = 1 ∧ b.low.len = ones ∧
        b.low.width = spWidth fw len ones ∧
        b.high.len = ones + Sparse.getBuckets len (spWidth fw len ones) := by
    intro b0 Q b h0 hQ hf
    obtain ⟨i0, a1, a2, a3, a4, a5⟩ := hinit b0 h0
    obtain ⟨i, e1, e2, e3, e4, e5⟩ := sp_fold_inv Q b0 b i0 (by rw [a1]; exact hQ) hf
    exact ⟨i, e1.trans a1, e2.trans a2, e3.trans a3, e4.trans a4, e5.trans a5⟩
  apply sp_copy_eq_of m fw len ones items hfw2 hu hh hl
  · intro b0 h0 k hk b hb
    obtain ⟨i, e1, e2, e3, e4, e5⟩ := hreach b0 _ b h0
      (fun p hq => hp p (List.mem_of_mem_take hq)) hb
    have hpk : (items.map (·.2))[k] < len := hp _ (List.getElem_mem hk)
    have hsh := BuildersProofs.shr_lt_getBuckets' (w := b.low.width) (Or.inr (e1 ▸ hu)) i.w64 (e1.symm ▸ hpk)
    have hle : b.len ≤ b.low.len := i.len_le
    have hsz := i.high_wf.1
    rw [e1, e4] at hsh
    rw [e5] at hsz
    rw [e2, e3, e4]
    rw [e3] at hle
    -- the high bit of a position below `len`, after at most `ones` items, lies inside `high`
    have hbit := Nat.add_lt_add_of_lt_of_le hsh hle
    rw [Nat.add_comm (Sparse.getBuckets _ _)] at hbit
    exact ⟨i.low_wf, Nat.lt_of_le_of_lt (Nat.le_add_right _ _) hl,
      Nat.lt_trans hbit (Nat.lt_of_le_of_lt (Nat.le_add_right _ 63) hh),
      Nat.lt_of_le_of_lt hpk hu, Or.inr (hsz ▸ div64_lt_words hbit)⟩
  · intro b0 b h0 hf _
    obtain ⟨i, _, _, _, _, e5⟩ := hreach b0 _ b h0 hp hf
    have hsz := i.high_wf.1
    rw [e5] at hsz
    rw [hsz]; exact Nat.lt_of_le_of_lt (Nat.mul_div_le _ 64) hh

/-! #### connection with the conversion theorems of C11 (stated on `Sparse.ofValues`, the `try_set` chain) -/

/-- an accepted `try_set` chain is the `set_unchecked` chain -/
theorem trySet_fold_ok : ∀ (P : List Nat) (b b' : SparseBuilder),
    P.foldlM (fun b v => b.trySet v) b = ok b' → P.foldlM SparseBuilder.setUnchecked b = ok b' := by
  intro P
  induction P with
  | nil => intro b b' h; exact h
  | cons p t ih =>
    intro b b' h
    rw [List.foldlM_cons] at h ⊢
    cases h1 : b.trySet p with
    | fault e => rw [h1] at h; cases h
    | ok b1 =>
      rw [h1, bind_ok] at h
      have h2 : b.setUnchecked p = ok b1 := by
        unfold SparseBuilder.trySet at h1
        split at h1
        · cases h1
        · split at h1
          · cases h1
          · split at h1
            · cases h1
            · exact h1
      rw [h2, bind_ok]
      exact ih b1 b' h

/-- when the model's checked construction (`Sparse.ofValues`: `new`, one `try_set` per value, `build`) succeeds, the
unchecked chain of the conversion is the same vector -/
theorem spCopyModel_of_ofValues (w n : Nat) (P : List Nat) (s : Sparse)
    (h : Sparse.ofValues w n false P = ok s) : spCopyModel w n P.length P = ok s := by
  unfold Sparse.ofValues at h
  simp only [Bool.false_eq_true, if_false] at h
  unfold spCopyModel
  cases h0 : SparseBuilder.new w n P.length with
  | fault e => rw [h0] at h; cases h
  | ok b0 =>
    rw [h0, bind_ok] at h
    cases h1 : P.foldlM (fun b v => b.trySet v) b0 with
    | fault e => rw [h1] at h; cases h
    | ok b =>
      rw [h1, bind_ok] at h
      show (P.foldlM SparseBuilder.setUnchecked b0).bind _ = _
      rw [trySet_fold_ok P b0 b h1, obind_okC, h]
      rfl

/-- **conversion into a sparse vector, as C11 states it**: for a strictly increasing list of positions below `len`,
`ones = ` their number, a low width of at most 63 (the theorems about `Sparse.ofValues` are stated for `w ≤ 63`), the
translated `copy_bit_vec` SUCCEEDS with the vector `Sparse.ofValues w len false positions` — the value C11's
`positions_into_sparse_closed_form` / `plain_into_sparse_preserves_bits` / `sparse_representation_is_canonical` are
about — which encodes the positions -/
theorem sp_copy_eq_values (m : Mode) (fw len ones : Nat) (items : List (Nat × Nat))
    (hfw1 : 1 ≤ fw) (hfw2 : fw ≤ 63) (hu : len < U64)
    (hh : ones + Sparse.getBuckets len (spWidth fw len ones) + 63 < U64)
    (hl : ones * spWidth fw len ones + 63 < U64)
    (hones : ones = items.length) (hm : items.length < 2 ^ 63)
    (hsorted : (items.map (·.2)).Pairwise (· < ·)) (hp : ∀ p ∈ items.map (·.2), p < len) :
    ∃ s, Sparse.ofValues (spWidth fw len ones) len false (items.map (·.2)) = ok s ∧
      gen_SparseVector_copy_bit_vec m fw len ones items = ok s ∧
      s.Encodes len (spWidth fw len ones) (items.map (·.2)) := by
  have hlen : (items.map (·.2)).length = items.length := List.length_map ..
  obtain ⟨s, hs, he⟩ := ofValues_set_ok (spWidth fw len ones) len (items.map (·.2)) (spWidth_pos hfw1)
    (by unfold spWidth; split <;> omega) (by rw [← U64_eq]; exact hu) (by rw [hlen]; exact hm)
    (BuildersProofs.sortedStrict_of_pairwise _ hsorted) hp
  refine ⟨s, hs, ?_, he⟩
  rw [sp_copy_eq m fw len ones items (Nat.le_succ_of_le hfw2) hu hh hl hp, hones, ← hlen]
  exact spCopyModel_of_ofValues _ _ _ s (by rw [hlen, ← hones]; exact hs)

/-! #### `BitVector::copy_bit_vec`: connection with C11 (`positions_into_plain`, `bits_into_plain`) -/

/-- the converted plain vector is `BitVector::from` of THE raw vector with the membership bits of the positions (any
order, repetitions allowed) -/
theorem bv_copy_eq_set (m : Mode) (len ones : Nat) (items : List (Nat × Nat)) (hl : len + 63 < U64)
    (hp : ∀ p ∈ items.map (fun x : Nat × Nat => x.2), p < len) :
    gen_BitVector_copy_bit_vec m len ones items =
      ok (BitVector.ofRaw (RawVec.ofBits (bitsOfSet (items.map (·.2)) len))) := by
  rw [bv_copy_eq m len ones items hl hp]
  obtain ⟨h1, h2⟩ := copyPositions_spec len (items.map (·.2)) hp
  rw [RawVec.canonical h1 (RawVec.ofBits_WF _) (h2.trans (RawVec.bits_ofBits _).symm)]

/-- a source with bits `B` (it lists `onesPos B`, C11 §1, and reports `len() = |B|`) is converted into
`BitVector::from` of the raw vector the plain builder makes from `B` bit by bit -/
theorem bv_copy_eq_bits (m : Mode) (B : List Bool) (ones : Nat) (items : List (Nat × Nat))
    (hl : B.length + 63 < U64) (hitems : items.map (·.2) = onesPos B) :
    gen_BitVector_copy_bit_vec m B.length ones items = ok (BitVector.ofRaw (RawVec.ofBits B)) := by
  rw [bv_copy_eq m B.length ones items hl (by rw [hitems]; exact onesPos_lt B), hitems]
  have h := Glue.copyBits_spec B
  rw [RawVec.canonical h.1 (RawVec.ofBits_WF B) (h.2.trans (RawVec.bits_ofBits B).symm)]

/-! ### the hypotheses are needed; the theorems are not vacuous -/

/-- `hl` of `bv_copy_eq`: `with_len(len, false)` rounds `len + 63` in `usize` (`raw_with_len_ne_len`) -/
theorem bv_copy_ne_len : gen_BitVector_copy_bit_vec .checked (U64 - 63) 0 [] = fault (.panic .overflow) := by
  decide +kernel

/-- the hypothesis on the positions of `bv_copy_eq`: a position in a word beyond the vector makes `set_bit` panic, while
the model's total `setBit` leaves the vector unchanged.  Not a divergence on a real source (`one_iter()` yields
positions below `len()`): the model's `setBit` is simply total.  A position at or above `len` INSIDE the last word
is written by both sides alike (`bv_copy_eq_of_words` covers it). -/
theorem bv_copy_ne_pos :
    gen_BitVector_copy_bit_vec .checked 1 1 [(0, 64)] = fault (.panic .index) ∧
    ([64] : List Nat).foldl (fun v i => v.setBit i true) (RawVec.withLen 1 false) = RawVec.withLen 1 false ∧
    gen_BitVector_copy_bit_vec .checked 1 1 [(0, 5)] =
      ok (BitVector.ofRaw (([5] : List Nat).foldl (fun v i => v.setBit i true) (RawVec.withLen 1 false))) := by
  decide +kernel

/-- a conversion, computed: positions in any order, with a repetition -/
theorem bv_copy_example :
    gen_BitVector_copy_bit_vec .checked 4 3 [(0, 3), (1, 0), (2, 2), (3, 3)] =
      ok (BitVector.ofRaw (RawVec.ofBits [true, false, true, true])) := by decide +kernel

/-- `hl` of `rl_copy_eq`: with `len = 2^64` (not a `usize`) the rounding of `SampleIndex::new` overflows in the code
only (`rl_from_builder_ne_len`) -/
theorem rl_copy_ne_len :
    (gen_RLVector_copy_bit_vec .checked U64 1 [(0, 0)]).isOk = false ∧
    (rlCopyModel .checked U64 [0]).isOk = true := by decide +kernel

/-- `rl_copy_eq_of` / the agreement does not depend on the safety contract of `set_bit_unchecked`: positions out of
order give the same outcome on both sides — a value without overflow checks, the same overflow panic (the gap of a
run that starts before `tail`) with them; and a conversion inside the contract, computed -/
theorem rl_copy_examples :
    gen_RLVector_copy_bit_vec .wrapping 8 4 [(0, 5), (1, 3), (2, 4), (3, 1)] = rlCopyModel .wrapping 8 [5, 3, 4, 1] ∧
    (rlCopyModel .wrapping 8 [5, 3, 4, 1]).isOk = true ∧
    gen_RLVector_copy_bit_vec .checked 8 4 [(0, 5), (1, 3), (2, 4), (3, 1)] = fault (.panic .overflow) ∧
    rlCopyModel .checked 8 [5, 3, 4, 1] = fault (.panic .overflow) ∧
    gen_RLVector_copy_bit_vec .checked 6 3 [(0, 1), (1, 2), (2, 3)] = rlCopyModel .checked 6 [1, 2, 3] ∧
    (rlCopyModel .checked 6 [1, 2, 3]).toOption.map (fun v => (v.len, v.ones, v.data.items, v.samples.items)) =
      some (6, 3, [1, 2], [0, 0]) := by decide +kernel

/-- the hypothesis on the positions of `sp_copy_eq`: with MORE than `ones` positions AND the extra one outside the
universe, far enough for its high bit to fall outside `high`, the code (which writes the high bit first) panics on the
word index and the model (which writes the low part first) on the assertion of `IntVector::set`
(`spb_set_unchecked_ne`).  Both panic; only the kind differs; outside what any `one_iter()` yields. -/
theorem sp_copy_ne_pos :
    gen_SparseVector_copy_bit_vec .checked 1 4 1 [(0, 1), (1, 200)] = fault (.panic .index) ∧
    spCopyModel (spWidth 1 4 1) 4 1 [1, 200] = fault (.panic .assert) := by decide +kernel

/-- `hfw2` of `sp_copy_eq`: a width above 64 (never computed: `universe < 2^64`) indexes the `low_set` table out of
range in the code and is refused by `IntVec.withLen` in the model; `fw = 0` is the same `unwrap` panic on both sides -/
theorem sp_copy_ne_fw :
    gen_SparseVector_copy_bit_vec .checked 65 4 2 [(0, 1), (1, 2)] = fault (.panic .index) ∧
    spCopyModel (spWidth 65 4 2) 4 2 [1, 2] = fault (.panic .unwrap) ∧
    gen_SparseVector_copy_bit_vec .checked 0 4 2 [(0, 1), (1, 2)] = fault (.panic .unwrap) ∧
    spCopyModel (spWidth 0 4 2) 4 2 [1, 2] = fault (.panic .unwrap) := by decide +kernel

/-- `sp_copy_eq` is not vacuous and needs no hypothesis on order or number: a conversion that succeeds; positions out
of order with a repetition (accepted by `set_unchecked` on both sides); too many positions (the assertion of
`IntVector::set` on both sides); too few (`try_from(..).unwrap()`); `ones > len` (`new(..).unwrap()`) -/
theorem sp_copy_examples :
    gen_SparseVector_copy_bit_vec .checked 2 10 3 [(0, 1), (1, 5), (2, 9)] = spCopyModel (spWidth 2 10 3) 10 3 [1, 5, 9] ∧
    spCopyModel (spWidth 2 10 3) 10 3 [1, 5, 9] = Sparse.ofValues 2 10 false [1, 5, 9] ∧
    (Sparse.ofValues 2 10 false [1, 5, 9]).isOk = true ∧
    gen_SparseVector_copy_bit_vec .checked 2 10 3 [(0, 5), (1, 1), (2, 5)] = spCopyModel (spWidth 2 10 3) 10 3 [5, 1, 5] ∧
    (spCopyModel (spWidth 2 10 3) 10 3 [5, 1, 5]).isOk = true ∧
    gen_SparseVector_copy_bit_vec .checked 2 10 2 [(0, 1), (1, 5), (2, 9)] = fault (.panic .assert) ∧
    spCopyModel (spWidth 2 10 2) 10 2 [1, 5, 9] = fault (.panic .assert) ∧
    gen_SparseVector_copy_bit_vec .checked 2 10 4 [(0, 1), (1, 5), (2, 9)] = fault (.panic .unwrap) ∧
    spCopyModel (spWidth 2 10 4) 10 4 [1, 5, 9] = fault (.panic .unwrap) ∧
    gen_SparseVector_copy_bit_vec .checked 2 3 10 [(0, 1)] = fault (.panic .unwrap) ∧
    spCopyModel (spWidth 2 3 10) 3 10 [1] = fault (.panic .unwrap) := by decide +kernel

end Sds.GenEq

