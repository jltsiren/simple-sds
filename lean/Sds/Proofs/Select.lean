/-
Proofs/Select: the select support (`SelSup`, Clark-style: superblocks of 4096 set bits, long / short
superblocks) answers `select` correctly on the transformed vector (`Tr.ident` = select on ones,
`Tr.compl` = select on zeros).
-/
import Sds.Proofs.Rank
import Sds.Proofs.Round
import Sds.Proofs.IntVec
import Sds.Proofs.BitsMore
set_option linter.unusedSimpArgs false
set_option linter.unusedVariables false

namespace Sds
open Outcome


/-! ### in-list select -/

theorem selectBits_onesFrom (B : List Bool) : ∀ (s r : Nat),
    (selectBits B r).map (· + s) = (onesFrom B s)[r]? := by
  induction B with
  | nil => intro s r; simp [selectBits, onesFrom]
  | cons b bs ih =>
    intro s r
    cases b with
    | true =>
      cases r with
      | zero => simp [selectBits, onesFrom]
      | succ r =>
        simp only [selectBits, onesFrom, List.getElem?_cons_succ, ← ih (s + 1) r, Option.map_map]
        congr 1; funext x; simp only [Function.comp]; omega
    | false =>
      simp only [selectBits, onesFrom, ← ih (s + 1) r, Option.map_map]
      congr 1; funext x; simp only [Function.comp]; omega

theorem length_onesFrom (B : List Bool) : ∀ s, (onesFrom B s).length = B.count true := by
  induction B with
  | nil => intro s; rfl
  | cons b bs ih => intro s; cases b <;> simp [onesFrom, ih, List.count_cons]

theorem length_onesPos (B : List Bool) : (onesPos B).length = B.count true := length_onesFrom B 0

/-- `selectSpec` is indexing into the list of positions of the set bits -/
theorem selectSpec_eq_onesPos (B : List Bool) (r : Nat) : selectSpec B r = (onesPos B)[r]? := by
  have := selectBits_onesFrom B 0 r
  simpa [selectSpec, onesPos] using this

theorem selectSpec_isSome (B : List Bool) (r : Nat) (h : r < B.count true) : ∃ p, selectSpec B r = some p := by
  rw [selectSpec_eq_onesPos]
  exact ⟨(onesPos B)[r]'(by rw [length_onesPos]; exact h), List.getElem?_eq_getElem _⟩

/-- `None` exactly when the rank is at least the count -/
theorem selectSpec_eq_none_iff (B : List Bool) (r : Nat) : selectSpec B r = none ↔ B.count true ≤ r := by
  rw [selectSpec_eq_onesPos, List.getElem?_eq_none_iff, length_onesPos]

theorem selectSpec_eq_none (B : List Bool) (r : Nat) (h : B.count true ≤ r) : selectSpec B r = none :=
  (selectSpec_eq_none_iff B r).mpr h

theorem selectBits_append (A B : List Bool) : ∀ r,
    selectBits (A ++ B) r =
      if r < A.count true then selectBits A r else (selectBits B (r - A.count true)).map (· + A.length) := by
  induction A with
  | nil => intro r; simp
  | cons a as ih =>
    intro r
    cases a with
    | true =>
      cases r with
      | zero => simp [selectBits]
      | succ r =>
        simp only [List.cons_append, selectBits, ih r, List.count_cons, beq_self_eq_true, if_true,
          List.length_cons, Nat.add_lt_add_iff_right, Nat.add_sub_add_right]
        split
        · rfl
        · rw [Option.map_map]; congr 1
    | false =>
      simp only [List.cons_append, selectBits, ih r, List.count_cons, List.length_cons]
      simp only [show (false == true) = false from rfl, Bool.false_eq_true, if_false, Nat.add_zero]
      split
      · rfl
      · rw [Option.map_map]; congr 1

/-! ### counting: monotonicity -/

theorem cnt_succ (f : Nat → Bool) (n : Nat) : cnt f (n + 1) = cnt f n + (if f n then 1 else 0) := cntF_succ f n

theorem cnt_mono (f : Nat → Bool) {a b : Nat} (h : a ≤ b) : cnt f a ≤ cnt f b := cntF_mono f a b h

theorem cnt_lt_of_true (f : Nat → Bool) {p q : Nat} (hp : f p = true) (h : p < q) : cnt f p < cnt f q := by
  have h1 := cnt_succ f p
  rw [hp] at h1
  have h2 := cnt_mono f (show p + 1 ≤ q from h)
  simp at h1
  omega

theorem lt_of_cnt_lt (f : Nat → Bool) {p q : Nat} (h : cnt f p < cnt f q) : p < q :=
  Nat.lt_of_not_le fun hle => Nat.not_le_of_lt h (cnt_mono f hle)

/-- a position with no more set bits before it than before the set position `p` is not after `p` -/
theorem le_of_cnt_le (f : Nat → Bool) {p q : Nat} (hp : f p = true) (h : cnt f q ≤ cnt f p) : q ≤ p :=
  Nat.le_of_not_lt fun hlt => Nat.not_le_of_lt (cnt_lt_of_true f hp hlt) h

/-- set positions are ordered as their ranks -/
theorem pos_le_of_cnt_le (f : Nat → Bool) {p q : Nat} (hp : f p = true)
    (h : cnt f p ≤ cnt f q) (hq : f q = true) : p ≤ q := le_of_cnt_le f hq h

/-! ### the transformed vector, bit by bit and word by word -/

/-- bit `j` of the transformed vector (false past the end) -/
def bitT (tr : Tr) (v : RawVec) (j : Nat) : Bool :=
  decide (j < v.len) && (getBit v.data j != (tr == Tr.compl))

theorem bitsT_eq (tr : Tr) (v : RawVec) : bitsT tr v.bits = (List.range v.len).map (bitT tr v) := by
  unfold bitsT RawVec.bits
  cases tr
  · apply List.map_congr_left
    intro i hi
    have := List.mem_range.mp hi
    simp [bitT, this, show (Tr.ident == Tr.compl) = false from rfl]
  · rw [List.map_map]
    apply List.map_congr_left
    intro i hi
    have := List.mem_range.mp hi
    simp [bitT, this, show (Tr.compl == Tr.compl) = true from rfl]

theorem length_bitsT (tr : Tr) (v : RawVec) : (bitsT tr v.bits).length = v.len := by
  rw [bitsT_eq]; simp

theorem bitsT_getD (tr : Tr) (v : RawVec) (j : Nat) : (bitsT tr v.bits)[j]?.getD false = bitT tr v j := by
  rw [bitsT_eq, range_map_getElem?]
  by_cases h : j < v.len
  · simp [h]
  · simp [h, bitT]

theorem bitT_lt {tr : Tr} {v : RawVec} {j : Nat} (h : bitT tr v j = true) : j < v.len := by
  unfold bitT at h
  simp only [Bool.and_eq_true, decide_eq_true_eq] at h
  exact h.1

theorem bitT_of_ge (tr : Tr) (v : RawVec) (j : Nat) (h : v.len ≤ j) : bitT tr v j = false := by
  have : ¬ j < v.len := by omega
  simp [bitT, this]

theorem rankSpec_bitsT (tr : Tr) (v : RawVec) (i : Nat) : rankSpec (bitsT tr v.bits) i = cnt (bitT tr v) i := by
  by_cases h : i ≤ v.len
  · unfold rankSpec
    rw [bitsT_eq, count_take_map_range _ _ _ h]
  · rw [rankSpec_of_ge _ _ (by rw [length_bitsT]; omega)]
    obtain ⟨c, rfl⟩ : ∃ c, i = v.len + c := ⟨i - v.len, by omega⟩
    rw [cnt_add, cnt_false (fun k => bitT tr v (v.len + k)) c (fun k _ => bitT_of_ge _ _ _ (by omega)),
      bitsT_eq]
    rfl

theorem count_bitsT (tr : Tr) (v : RawVec) : (bitsT tr v.bits).count true = cnt (bitT tr v) v.len := by
  rw [← rankSpec_bitsT, rankSpec_of_ge _ _ (by rw [length_bitsT]; exact Nat.le_refl _)]

/-- `select` on the transformed vector: `p` is a set position of rank `r` -/
theorem selectSpec_bitsT (tr : Tr) (v : RawVec) (r p : Nat) :
    selectSpec (bitsT tr v.bits) r = some p ↔ bitT tr v p = true ∧ cnt (bitT tr v) p = r := by
  unfold selectSpec
  rw [bitsT_eq, selectBits_range_map_iff]
  constructor
  · rintro ⟨_, h2, h3⟩; exact ⟨h2, h3⟩
  · rintro ⟨h2, h3⟩; exact ⟨bitT_lt h2, h2, h3⟩

/-- the value of `T::word_unchecked` -/
def wordTv (tr : Tr) (v : RawVec) (k : Nat) : Word :=
  match tr with
  | .ident => rd v.data k
  | .compl => if k ≥ v.len / 64 then (~~~ rd v.data k) &&& lowSet (v.len % 64) else ~~~ rd v.data k

theorem wordT_eq (tr : Tr) (v : RawVec) (k : Nat) (hk : k < v.data.size) : wordT tr v k = ok (wordTv tr v k) := by
  unfold wordT wordTv
  cases tr
  · exact getW_ok hk
  · simp only [getW_ok hk, bind_ok, pure_eq]
    split <;> rfl

theorem wordTv_bit {v : RawVec} (hv : v.WF) (tr : Tr) (k : Nat) (hk : k < v.data.size) (i : Nat) (hi : i < 64) :
    (wordTv tr v k).getLsbD i = bitT tr v (64 * k + i) := by
  unfold wordTv bitT
  rw [getBit_mk _ _ _ hi]
  have hsz := hv.1
  cases tr
  · simp only [show (Tr.ident == Tr.compl) = false from rfl, Bool.bne_false]
    by_cases hlt : 64 * k + i < v.len
    · simp [hlt]
    · have := hv.tail_zero (64 * k + i) (by omega)
      rw [getBit_mk _ _ _ hi] at this
      simp [hlt, this]
  · simp only [show (Tr.compl == Tr.compl) = true from rfl, Bool.bne_true]
    by_cases hge : k ≥ v.len / 64
    · rw [if_pos hge, BitVec.getLsbD_and, BitVec.getLsbD_not, lowSet_getLsbD _ _ hi]
      have hk' : k = v.len / 64 := by omega
      by_cases hlt : 64 * k + i < v.len
      · have : i < v.len % 64 := by omega
        simp [hlt, this, hi]
      · have : ¬ i < v.len % 64 := by omega
        simp [hlt, this]
    · rw [if_neg hge, BitVec.getLsbD_not]
      have hlt : 64 * k + i < v.len := by omega
      simp [hlt, hi]

/-- **Transformed words.**  For a well-formed vector, reading word `k < size` through the transformation
succeeds, and bit `i` of the result is bit `64*k+i` of the transformed bit sequence (false past the end). -/
theorem wordT_ok {v : RawVec} (hv : v.WF) (tr : Tr) (k : Nat) (hk : k < v.data.size) :
    ∃ w, wordT tr v k = ok w ∧ ∀ i, i < 64 → w.getLsbD i = (bitsT tr v.bits)[64 * k + i]?.getD false :=
  ⟨wordTv tr v k, wordT_eq tr v k hk, fun i hi => by rw [bitsT_getD, wordTv_bit hv tr k hk i hi]⟩

/-! ### in-word select -/

theorem selWord_iff (w : Word) (r p : Nat) : selWord w r = ok p ↔ selectBits (bitsOfWord w) r = some p := by
  unfold selWord
  cases h : selectBits (bitsOfWord w) r with
  | none => simp
  | some q => simp

/-- in-word select finds bit `p` iff it is a set bit with exactly `r` set bits below it -/
theorem selWord_ok_iff (w : Word) (r p : Nat) :
    selWord w r = ok p ↔ p < 64 ∧ w.getLsbD p = true ∧ cnt (fun i => w.getLsbD i) p = r := by
  rw [selWord_iff]
  unfold bitsOfWord
  exact selectBits_range_map_iff _ 64 r p

theorem selWord_oob (w : Word) (r : Nat) (h : popcount w ≤ r) : selWord w r = fault .oob := by
  unfold selWord
  have := selectSpec_eq_none (bitsOfWord w) r h
  unfold selectSpec at this
  rw [this]

theorem selWord_isOk (w : Word) (r : Nat) (h : r < popcount w) : ∃ p, selWord w r = ok p := by
  obtain ⟨p, hp⟩ := selectSpec_isSome (bitsOfWord w) r h
  exact ⟨p, (selWord_iff w r p).mpr hp⟩

/-! ### the word scan -/

theorem lowSet_zero : lowSet 0 = 0 := by decide

/-- counting in a word whose bits below `wo` have been cleared -/
theorem cnt_masked {v : RawVec} (hv : v.WF) (tr : Tr) (k : Nat) (hk : k < v.data.size) (wo q : Nat)
    (hwo : wo ≤ q) (hq : q ≤ 64) :
    cnt (bitT tr v) (64 * k + q) =
      cnt (bitT tr v) (64 * k + wo) + cnt (fun i => (wordTv tr v k &&& ~~~ lowSet wo).getLsbD i) q := by
  obtain ⟨d, rfl⟩ : ∃ d, q = wo + d := ⟨q - wo, by omega⟩
  rw [← Nat.add_assoc, cnt_add (bitT tr v), cnt_add _ wo d]
  rw [cnt_false _ wo]
  · rw [Nat.zero_add]
    congr 1
    apply cnt_congr
    intro i hi
    have h1 : wo + i < 64 := by omega
    have h2 : ¬ (wo + i < wo) := by omega
    simp only [BitVec.getLsbD_and, BitVec.getLsbD_not, lowSet_getLsbD _ _ h1, wordTv_bit hv tr k hk _ h1]
    simp [h1, h2, Nat.add_assoc]
  · intro i hi
    have h1 : i < 64 := by omega
    simp only [BitVec.getLsbD_and, BitVec.getLsbD_not, lowSet_getLsbD _ _ h1]
    simp [hi, h1]

theorem scan_ok_cnt {v : RawVec} (hv : v.WF) (tr : Tr) (m : Mode) (p : Nat) (hp : bitT tr v p = true)
    (hp64 : p < 2 ^ 64) :
    ∀ (fuel word wo rr : Nat), wo ≤ 64 → word < v.data.size → v.data.size ≤ fuel + word →
      cnt (bitT tr v) p = cnt (bitT tr v) (64 * word + wo) + rr →
      SelSup.scan tr m v fuel word (wordTv tr v word &&& ~~~ lowSet wo) rr = ok p := by
  intro fuel
  induction fuel with
  | zero => intro word wo rr _ h1 h2; omega
  | succ fuel ih =>
    intro word wo rr hwo hword hfuel hc
    have hpop := cnt_masked hv tr word hword wo 64 hwo (Nat.le_refl _)
    rw [← popcount_eq_cnt] at hpop
    unfold SelSup.scan
    simp only []
    by_cases hones : popcount (wordTv tr v word &&& ~~~ lowSet wo) > rr
    · rw [if_pos hones]
      -- the answer is in this word
      have hlt : p < 64 * word + 64 := lt_of_cnt_lt (bitT tr v) (by omega)
      have hge : 64 * word + wo ≤ p := le_of_cnt_le (bitT tr v) hp (by omega)
      obtain ⟨q, rfl⟩ : ∃ q, p = 64 * word + q := ⟨p - 64 * word, by omega⟩
      have hq : q < 64 := by omega
      have hwq : wo ≤ q := by omega
      have hsel : selWord (wordTv tr v word &&& ~~~ lowSet wo) rr = ok q := by
        rw [selWord_ok_iff]
        refine ⟨hq, ?_, ?_⟩
        · have h2 : ¬ (q < wo) := by omega
          simp only [BitVec.getLsbD_and, BitVec.getLsbD_not, lowSet_getLsbD _ _ hq,
            wordTv_bit hv tr word hword _ hq, hp]
          simp [h2, hq]
        · have := cnt_masked hv tr word hword wo q hwq (by omega)
          omega
      rw [hsel]
      simp only [bind_ok]
      rw [bitOffset_ok m word q (by rw [U64_eq]; omega), Nat.mul_comm]
    · rw [if_neg hones]
      have hge : 64 * word + 64 ≤ p := le_of_cnt_le (bitT tr v) hp (by omega)
      have hplen := bitT_lt hp
      have hw1 : word + 1 < v.data.size := by rw [hv.1]; omega
      rw [wordT_eq tr v _ hw1]
      simp only [bind_ok]
      have := ih (word + 1) 0 (rr - popcount (wordTv tr v word &&& ~~~ lowSet wo)) (by omega) hw1 (by omega)
        (by rw [hc]; have e : 64 * (word + 1) + 0 = 64 * word + 64 := by omega
            rw [e]; omega)
      rw [lowSet_zero, show ~~~ (0 : Word) = BitVec.allOnes 64 from by decide, BitVec.and_allOnes] at this
      exact this

/-- **The scan lemma.**  Start at word `word` with the bits below `wo` cleared.  If the set bit of rank
`rank(64*word+wo) + rr` exists at position `p` (i.e. there are more than `rr` set bits at or after
`64*word+wo`, and `p` is the `rr`-th of them), `p < 2^64`, and the fuel covers the remaining words, the scan
returns `p` in both arithmetic modes, without reading outside the words. -/
theorem scan_ok {v : RawVec} (hv : v.WF) (tr : Tr) (m : Mode) (fuel word wo rr p : Nat) (w : Word)
    (hwo : wo ≤ 64) (hword : word < v.data.size) (hw : wordT tr v word = ok w)
    (hfuel : v.data.size ≤ fuel + word)
    (hsel : selectSpec (bitsT tr v.bits) (rankSpec (bitsT tr v.bits) (64 * word + wo) + rr) = some p)
    (hp64 : p < 2 ^ 64) :
    SelSup.scan tr m v fuel word (w &&& ~~~ lowSet wo) rr = ok p := by
  rw [wordT_eq tr v word hword] at hw
  cases hw
  rw [selectSpec_bitsT, rankSpec_bitsT] at hsel
  exact scan_ok_cnt hv tr m p hsel.1 hp64 fuel word wo rr hwo hword hfuel hsel.2

/-- The scan lemma in counting form: if more than `rr` set bits lie at or after position `64*word+wo`, the scan
finds the `rr`-th of them (0-based). -/
theorem scan_ok_count {v : RawVec} (hv : v.WF) (hlen : v.len < 2 ^ 64) (tr : Tr) (m : Mode)
    (fuel word wo rr : Nat) (w : Word)
    (hwo : wo ≤ 64) (hword : word < v.data.size) (hw : wordT tr v word = ok w)
    (hfuel : v.data.size ≤ fuel + word)
    (hcount : rankSpec (bitsT tr v.bits) (64 * word + wo) + rr < (bitsT tr v.bits).count true) :
    ∃ p, SelSup.scan tr m v fuel word (w &&& ~~~ lowSet wo) rr = ok p ∧
      selectSpec (bitsT tr v.bits) (rankSpec (bitsT tr v.bits) (64 * word + wo) + rr) = some p := by
  obtain ⟨p, hp⟩ := selectSpec_isSome _ _ hcount
  have hlt : p < v.len := bitT_lt ((selectSpec_bitsT tr v _ p).mp hp).1
  exact ⟨p, scan_ok hv tr m fuel word wo rr p w hwo hword hw hfuel hp (by omega), hp⟩

/-! ### integer vectors as lists -/

theorem IntVec.get_of_items {v : IntVec} {i x : Nat} (h : v.items[i]? = some x) :
    ∃ w, v.get i = ok w ∧ w.toNat = x := by
  have hi : i < v.len := by rw [← v.items_length]; exact (List.getElem?_eq_some_iff.mp h).1
  obtain ⟨w, h1, h2⟩ := v.get_spec i hi
  exact ⟨w, h1, Option.some.inj (h2.symm.trans h)⟩

/-! ### valid select supports -/

/-- Superblock `k` (set bits number `4096k .. 4096k+4095` of `P`) is described correctly by the three item
lists: `S[2k]` is the position of its first set bit, `S[2k+1] = 2*ptr + is_short`; a long superblock stores
every set bit relative to the start at `L[ptr + j]`; a short one stores every 64th set bit at `Sh[ptr + b]`. -/
def SbValid (P S L Sh : List Nat) (k : Nat) : Prop :=
  ∃ st q, S[2 * k]? = some st ∧ S[2 * k + 1]? = some q ∧ P[4096 * k]? = some st ∧
    (q % 2 = 0 → ∀ j, j < 4096 → 4096 * k + j < P.length →
      ∃ d, L[q / 2 + j]? = some d ∧ P[4096 * k + j]? = some (st + d)) ∧
    (q % 2 = 1 → ∀ b, b < 64 → 4096 * k + 64 * b < P.length →
      ∃ d, Sh[q / 2 + b]? = some d ∧ P[4096 * k + 64 * b]? = some (st + d))

structure SelValid (P S L Sh : List Nat) : Prop where
  size : S.length = 2 * ((P.length + 4095) / 4096)
  sb : ∀ k, 4096 * k < P.length → SbValid P S L Sh k

/-- validity of a select support for the transformed vector: the item lists of the three integer vectors
describe the positions of the set bits of `bitsT tr v.bits` -/
def SelSup.Valid (s : SelSup) (tr : Tr) (v : RawVec) : Prop :=
  SelValid (onesPos (bitsT tr v.bits)) s.samples.items s.long.items s.short.items

theorem onesPos_lt_len (tr : Tr) (v : RawVec) (r p : Nat) (h : (onesPos (bitsT tr v.bits))[r]? = some p) :
    p < v.len := by
  rw [← selectSpec_eq_onesPos, selectSpec_bitsT] at h
  exact bitT_lt h.1

/-- a rank as superblock number, block of 64 inside the superblock, offset inside the block -/
theorem rank_split (r : Nat) : ∃ k blk rr, blk < 64 ∧ rr < 64 ∧ r = 4096 * k + (64 * blk + rr) :=
  ⟨r / 4096, r % 4096 / 64, r % 4096 % 64, Nat.div_lt_of_lt_mul (Nat.mod_lt r (by decide)),
    Nat.mod_lt _ (by decide), by rw [Nat.div_add_mod, Nat.div_add_mod]⟩

theorem rank_split_div (k : Nat) {blk rr : Nat} (hblk : blk < 64) (hrr : rr < 64) :
    (4096 * k + (64 * blk + rr)) / 4096 = k ∧ (4096 * k + (64 * blk + rr)) % 4096 = 64 * blk + rr ∧
      (64 * blk + rr) / 64 = blk ∧ (64 * blk + rr) % 64 = rr := by
  have hx : 64 * blk + rr < 4096 := by omega
  refine ⟨?_, ?_, ?_, ?_⟩
  · rw [Nat.mul_add_div (by decide), Nat.div_eq_of_lt hx, Nat.add_zero]
  · rw [Nat.mul_add_mod, Nat.mod_eq_of_lt hx]
  · rw [Nat.mul_add_div (by decide), Nat.div_eq_of_lt hrr, Nat.add_zero]
  · rw [Nat.mul_add_mod, Nat.mod_eq_of_lt hrr]

/-- **Query correctness for every valid support** (also one loaded from a file): no out-of-bounds read, no
assertion failure, no overflow in either arithmetic mode, and the result is the specified position. -/
theorem selectU_ok {s : SelSup} {tr : Tr} {v : RawVec} (hv : v.WF) (hlen : v.len < 2 ^ 64)
    (hs : s.Valid tr v) (m : Mode) (r : Nat) (hr : r < (bitsT tr v.bits).count true) :
    ∃ p, s.selectU tr m v r = ok p ∧ selectSpec (bitsT tr v.bits) r = some p := by
  -- the rank, decomposed once: superblock `k`, block `blk` of 64 inside it, `rr` set bits into the block
  obtain ⟨k, blk, rr, hblk, hrr64, rfl⟩ := rank_split r
  obtain ⟨e1, e2, e3, e4⟩ := rank_split_div k hblk hrr64
  have hrP : 4096 * k + (64 * blk + rr) < (onesPos (bitsT tr v.bits)).length := by rw [length_onesPos]; exact hr
  obtain ⟨st, q, hS0, hS1, hP0, hlong, hshort⟩ := hs.sb k (by omega)
  obtain ⟨r0, hr0, hr0v⟩ := IntVec.get_of_items hS0
  obtain ⟨pw, hpw, hpwv⟩ := IntVec.get_of_items hS1
  unfold SelSup.selectU
  simp only [e1, e2, e3, e4, hr0, bind_ok]
  clear e1 e2 e3 e4
  by_cases hoff : 64 * blk + rr = 0
  · rw [if_pos hoff]
    refine ⟨st, by rw [hr0v]; rfl, ?_⟩
    rw [selectSpec_eq_onesPos, ← hP0, hoff]; rfl
  · rw [if_neg hoff]
    simp only [hpw, bind_ok, hpwv, hr0v]
    by_cases hq : q % 2 = 0
    · rw [if_pos hq]
      obtain ⟨d, hd, hPd⟩ := hlong hq (64 * blk + rr) (by omega) hrP
      obtain ⟨dw, hdw, hdwv⟩ := IntVec.get_of_items hd
      have hlt := onesPos_lt_len tr v _ _ hPd
      simp only [hdw, bind_ok, hdwv]
      refine ⟨st + d, addM_ok (by rw [U64_eq]; omega), ?_⟩
      rw [selectSpec_eq_onesPos]; exact hPd
    · rw [if_neg hq]
      obtain ⟨d, hd, hPd⟩ := hshort (by omega) blk hblk (by omega)
      obtain ⟨dw, hdw, hdwv⟩ := IntVec.get_of_items hd
      have hlt := onesPos_lt_len tr v _ _ hPd
      simp only [hdw, bind_ok, hdwv, addM_ok (show st + d < U64 by rw [U64_eq]; omega)]
      by_cases hrr : rr > 0
      · rw [if_pos hrr]
        obtain ⟨p, hp⟩ := selectSpec_isSome _ _ hr
        have hword : (st + d) / 64 < v.data.size := by rw [hv.1]; omega
        rw [wordT_eq tr v _ hword]
        simp only [bind_ok]
        refine ⟨p, ?_, hp⟩
        rw [← selectSpec_eq_onesPos, selectSpec_bitsT] at hPd
        have hp' := (selectSpec_bitsT tr v _ p).mp hp
        have hplt := bitT_lt hp'.1
        apply scan_ok_cnt hv tr m p hp'.1 (by omega) _ _ _ _ (Nat.le_of_lt (Nat.mod_lt _ (by decide))) hword
          (by omega)
        rw [Nat.div_add_mod, hp'.2, hPd.2, Nat.add_assoc]
      · have e : rr = 0 := by omega
        subst e
        rw [if_neg hrr]
        exact ⟨st + d, rfl, by rw [selectSpec_eq_onesPos, ← hPd]; rfl⟩


/-! ### `bit_len` -/

theorem toNat_lt_bitLen (n : Word) : n.toNat < 2 ^ bitLen n := (bitLen_spec_int n).2.2.1

theorem and_lowSet_64 (x : Word) : x &&& lowSet 64 = x := by rw [lowSet_64, BitVec.and_allOnes]

/-! ### the construction, one superblock at a time -/

/-- the loop body of `SelSup.build` -/
def SelSup.buildStep (len : Nat) (pos : Array Nat) (r : SelSup) (k : Nat) : SelSup :=
  let m := pos.size
  let l := bitLen (BitVec.ofNat 64 len)
  let log4 := (l * l) * (l * l)
  let start := pos[4096 * k]?.getD 0
  let cnt := min 4096 (m - 4096 * k)
  let limit := if 4096 * (k + 1) < m then pos[4096 * (k + 1)]?.getD 0 else len
  let samples := r.samples.push (BitVec.ofNat 64 start)
  if limit - start ≥ log4 then
    let samples := samples.push (BitVec.ofNat 64 (2 * r.long.len))
    let long := (List.range cnt).foldl (fun (lv : IntVec) j =>
      lv.push (BitVec.ofNat 64 ((pos[4096 * k + j]?.getD 0) - start))) r.long
    ⟨samples, long, r.short⟩
  else
    let samples := samples.push (BitVec.ofNat 64 (2 * r.short.len + 1))
    let blocks := (cnt + 63) / 64
    let short := (List.range blocks).foldl (fun (sv : IntVec) b =>
      sv.push (BitVec.ofNat 64 ((pos[4096 * k + 64 * b]?.getD 0) - start))) r.short
    ⟨samples, r.long, short⟩

def SelSup.buildLoop (len : Nat) (pos : Array Nat) (n : Nat) : SelSup :=
  (List.range n).foldl (SelSup.buildStep len pos) ⟨IntVec.default, IntVec.default, IntVec.default⟩

theorem SelSup.build_eq (len : Nat) (pos : Array Nat) :
    SelSup.build len pos =
      ⟨(SelSup.buildLoop len pos ((pos.size + 4095) / 4096)).samples.pack,
       (SelSup.buildLoop len pos ((pos.size + 4095) / 4096)).long.pack,
       (SelSup.buildLoop len pos ((pos.size + 4095) / 4096)).short.pack⟩ := rfl

theorem SelSup.buildLoop_succ (len : Nat) (pos : Array Nat) (n : Nat) :
    SelSup.buildLoop len pos (n + 1) = SelSup.buildStep len pos (SelSup.buildLoop len pos n) n := by
  unfold SelSup.buildLoop
  rw [List.range_succ, List.foldl_append, List.foldl_cons, List.foldl_nil]

/-! ### list-level facts about superblocks -/

theorem sorted_get_le {P : List Nat} (hs : P.Pairwise (· < ·)) {i j a b : Nat}
    (hi : P[i]? = some a) (hj : P[j]? = some b) (hij : i ≤ j) : a ≤ b := by
  obtain ⟨hi', rfl⟩ := List.getElem?_eq_some_iff.mp hi
  obtain ⟨hj', rfl⟩ := List.getElem?_eq_some_iff.mp hj
  by_cases h : i = j
  · subst h; exact Nat.le_refl _
  · exact Nat.le_of_lt (List.pairwise_iff_getElem.mp hs i j hi' hj' (by omega))

theorem getElem?_getD_some {P : List Nat} {i : Nat} (h : i < P.length) : P[i]? = some (P[i]?.getD 0) := by
  rw [List.getElem?_eq_getElem h]; rfl

/-- a valid superblock stays valid when the three lists grow at the end -/
theorem SbValid_mono {P S L Sh S' L' Sh' : List Nat} {k : Nat} (h : SbValid P S L Sh k)
    (hS : S <+: S') (hL : L <+: L') (hH : Sh <+: Sh') : SbValid P S' L' Sh' k := by
  obtain ⟨st, q, h1, h2, h3, h4, h5⟩ := h
  have lift : ∀ {A A' : List Nat} {i x : Nat}, A <+: A' → A[i]? = some x → A'[i]? = some x := by
    rintro A _ i x ⟨t, rfl⟩ hx
    rw [List.getElem?_append_left (List.getElem?_eq_some_iff.mp hx).1]; exact hx
  refine ⟨st, q, lift hS h1, lift hS h2, h3, ?_, ?_⟩
  · intro hq j hj hjn
    obtain ⟨d, hd, hp⟩ := h4 hq j hj hjn
    exact ⟨d, lift hL hd, hp⟩
  · intro hq b hb hbn
    obtain ⟨d, hd, hp⟩ := h5 hq b hb hbn
    exact ⟨d, lift hH hd, hp⟩

/-- an entry appended by a build step: the distance of a later position of the superblock from its start -/
theorem new_entry {P A : List Nat} {k st : Nat} (hs : P.Pairwise (· < ·)) (hst : P[4096 * k]? = some st)
    (g : Nat → Nat) (cnt i : Nat) (hi : i < cnt) (hin : 4096 * k + g i < P.length) :
    ∃ d, (A ++ (List.range cnt).map (fun j => P[4096 * k + g j]?.getD 0 - st))[A.length + i]? = some d ∧
      P[4096 * k + g i]? = some (st + d) := by
  refine ⟨P[4096 * k + g i]?.getD 0 - st, ?_, ?_⟩
  · rw [List.getElem?_append_right (Nat.le_add_right _ _), Nat.add_sub_cancel_left]
    simp [hi]
  · obtain ⟨x, h1⟩ : ∃ x, P[4096 * k + g i]? = some x := ⟨_, getElem?_getD_some hin⟩
    have := sorted_get_le hs hst h1 (Nat.le_add_right _ _)
    rw [h1, Option.getD_some]; congr 1; omega

/-- the two samples appended by a build step sit at `2k` and `2k + 1` -/
theorem new_samples {S : List Nat} {k : Nat} (hS : S.length = 2 * k) (st q : Nat) :
    (S ++ [st] ++ [q])[2 * k]? = some st ∧ (S ++ [st] ++ [q])[2 * k + 1]? = some q := by
  constructor <;> rw [List.append_assoc, List.getElem?_append_right (by omega)] <;> simp [hS]

theorem SbValid_new_long {P S L Sh : List Nat} {k st : Nat} (hs : P.Pairwise (· < ·))
    (hS : S.length = 2 * k) (hst : P[4096 * k]? = some st) :
    SbValid P (S ++ [st] ++ [2 * L.length])
      (L ++ (List.range (min 4096 (P.length - 4096 * k))).map (fun j => P[4096 * k + j]?.getD 0 - st)) Sh k := by
  refine ⟨st, 2 * L.length, (new_samples hS _ _).1, (new_samples hS _ _).2, hst, ?_, fun hq => by omega⟩
  intro _ j hj hjn
  rw [Nat.mul_div_cancel_left _ (by decide : 0 < 2)]
  exact new_entry hs hst (fun j => j) _ j (by omega) hjn

theorem SbValid_new_short {P S L Sh : List Nat} {k st : Nat} (hs : P.Pairwise (· < ·))
    (hS : S.length = 2 * k) (hst : P[4096 * k]? = some st) :
    SbValid P (S ++ [st] ++ [2 * Sh.length + 1]) L
      (Sh ++ (List.range ((min 4096 (P.length - 4096 * k) + 63) / 64)).map
        (fun b => P[4096 * k + 64 * b]?.getD 0 - st)) k := by
  refine ⟨st, 2 * Sh.length + 1, (new_samples hS _ _).1, (new_samples hS _ _).2, hst, fun hq => by omega, ?_⟩
  intro _ b hb hbn
  rw [show (2 * Sh.length + 1) / 2 = Sh.length by omega]
  exact new_entry hs hst (fun b => 64 * b) _ b (by omega) hbn

theorem sorted_ge_index {P : List Nat} (hs : P.Pairwise (· < ·)) : ∀ i (h : i < P.length), i ≤ P[i] := by
  intro i
  induction i with
  | zero => intro h; omega
  | succ i ih =>
    intro h
    have h1 := ih (by omega)
    have h2 := List.pairwise_iff_getElem.mp hs i (i + 1) (by omega) h (by omega)
    omega

theorem sorted_length_le {P : List Nat} (hs : P.Pairwise (· < ·)) (len : Nat) (hlt : ∀ x, x ∈ P → x < len) :
    P.length ≤ len := by
  by_cases h : P.length = 0
  · omega
  · have h1 := sorted_ge_index hs (P.length - 1) (by omega)
    have h2 := hlt (P[P.length - 1]'(by omega)) (List.getElem_mem _)
    omega

/-- `bit_len(len)^4`, the threshold between short and long superblocks -/
def log4 (len : Nat) : Nat :=
  (bitLen (BitVec.ofNat 64 len) * bitLen (BitVec.ofNat 64 len)) *
    (bitLen (BitVec.ofNat 64 len) * bitLen (BitVec.ofNat 64 len))

theorem log4_big (len : Nat) (h1 : 2 ^ 63 ≤ len) (h2 : len < 2 ^ 64) : log4 len = 16777216 := by
  have hb : bitLen (BitVec.ofNat 64 len) = 64 := by
    have a := (bitLen_spec_int (BitVec.ofNat 64 len)).2.1
    have b := toNat_lt_bitLen (BitVec.ofNat 64 len)
    rw [BitVec.toNat_ofNat, Nat.mod_eq_of_lt h2] at b
    by_cases h : bitLen (BitVec.ofNat 64 len) ≤ 63
    · have : 2 ^ bitLen (BitVec.ofNat 64 len) ≤ 2 ^ 63 := Nat.pow_le_pow_right (by decide) h
      omega
    · omega
  unfold log4; rw [hb]

/-- the position bounding superblocks `< k` from above: the start of superblock `k`, or `len` -/
def sbBound (len : Nat) (P : List Nat) (k : Nat) : Nat :=
  if 4096 * k < P.length then P[4096 * k]?.getD 0 else len

/-! ### the construction on lists

The three vectors that `SelSup.build` fills are `IntVec.ofList 64` of three lists of naturals given by a recursion on
lists alone (`buildLoop_eq`, no hypothesis).  What the construction yields is then said about the lists: their lengths
for any positions (`sbLists_shape`), their content for strictly ascending positions below `len` (`sbLists_content`);
well-formedness, width and length of the vectors are those of `ofList`. -/

/-- the item lists of `samples`, `long`, `short` -/
structure SbLists where
  S : List Nat
  L : List Nat
  H : List Nat

def SbLists.toSup (X : SbLists) : SelSup := ⟨IntVec.ofList 64 X.S, IntVec.ofList 64 X.L, IntVec.ofList 64 X.H⟩

/-- `SelSup.buildStep` on the lists -/
def sbStep (len : Nat) (P : List Nat) (X : SbLists) (k : Nat) : SbLists :=
  let st := P[4096 * k]?.getD 0
  let cnt := min 4096 (P.length - 4096 * k)
  if sbBound len P (k + 1) - st ≥ log4 len then
    ⟨X.S ++ [st] ++ [2 * X.L.length], X.L ++ (List.range cnt).map (fun j => P[4096 * k + j]?.getD 0 - st), X.H⟩
  else
    ⟨X.S ++ [st] ++ [2 * X.H.length + 1], X.L,
      X.H ++ (List.range ((cnt + 63) / 64)).map (fun b => P[4096 * k + 64 * b]?.getD 0 - st)⟩

def sbLists (len : Nat) (P : List Nat) (n : Nat) : SbLists := (List.range n).foldl (sbStep len P) ⟨[], [], []⟩

theorem sbLists_succ (len : Nat) (P : List Nat) (n : Nat) :
    sbLists len P (n + 1) = sbStep len P (sbLists len P n) n := by
  unfold sbLists
  rw [List.range_succ, List.foldl_append, List.foldl_cons, List.foldl_nil]

theorem buildStep_toSup (len : Nat) (pos : Array Nat) (X : SbLists) (k : Nat) :
    SelSup.buildStep len pos X.toSup k = (sbStep len pos.toList X k).toSup := by
  unfold SelSup.buildStep sbStep SbLists.toSup
  simp only [← Array.getElem?_toList, ← Array.length_toList, IntVec.ofList_len, IntVec.ofList_push,
    IntVec.ofList_foldl_push]
  rw [show (if 4096 * (k + 1) < pos.toList.length then pos.toList[4096 * (k + 1)]?.getD 0 else len) =
      sbBound len pos.toList (k + 1) from rfl,
    show (bitLen (BitVec.ofNat 64 len) * bitLen (BitVec.ofNat 64 len)) *
      (bitLen (BitVec.ofNat 64 len) * bitLen (BitVec.ofNat 64 len)) = log4 len from rfl]
  split <;> rfl

theorem buildLoop_eq (len : Nat) (pos : Array Nat) (n : Nat) :
    SelSup.buildLoop len pos n = (sbLists len pos.toList n).toSup := by
  induction n with
  | zero => rfl
  | succ n ih => rw [SelSup.buildLoop_succ, ih, buildStep_toSup, sbLists_succ]

theorem SelSup.build_eq_lists (len : Nat) (pos : Array Nat) :
    SelSup.build len pos =
      ⟨(IntVec.ofList 64 (sbLists len pos.toList ((pos.size + 4095) / 4096)).S).pack,
       (IntVec.ofList 64 (sbLists len pos.toList ((pos.size + 4095) / 4096)).L).pack,
       (IntVec.ofList 64 (sbLists len pos.toList ((pos.size + 4095) / 4096)).H).pack⟩ := by
  rw [SelSup.build_eq, buildLoop_eq]; rfl

/-! lengths of the lists: no hypothesis on the positions -/

theorem sbStep_length (len : Nat) (P : List Nat) (X : SbLists) (k : Nat) :
    (sbStep len P X k).S.length = X.S.length + 2 ∧
    (((sbStep len P X k).L.length = X.L.length + min 4096 (P.length - 4096 * k) ∧
      (sbStep len P X k).H.length = X.H.length) ∨
     ((sbStep len P X k).L.length = X.L.length ∧
      (sbStep len P X k).H.length = X.H.length + (min 4096 (P.length - 4096 * k) + 63) / 64)) := by
  unfold sbStep
  simp only []
  split
  · exact ⟨by simp, Or.inl ⟨by simp, rfl⟩⟩
  · exact ⟨by simp, Or.inr ⟨rfl, by simp⟩⟩

/-- after `n` full superblocks: `nl` long ones of 4096 entries and `ns` short ones of 64 -/
theorem sbLists_full (len : Nat) (P : List Nat) : ∀ n, 4096 * n ≤ P.length →
    (sbLists len P n).S.length = 2 * n ∧
    ∃ nl ns, nl + ns = n ∧ (sbLists len P n).L.length = 4096 * nl ∧ (sbLists len P n).H.length = 64 * ns := by
  intro n
  induction n with
  | zero => intro _; exact ⟨rfl, 0, 0, rfl, rfl, rfl⟩
  | succ n ih =>
    intro hn
    obtain ⟨hS, nl, ns, e1, e2, e3⟩ := ih (by omega)
    obtain ⟨f1, f5⟩ := sbStep_length len P (sbLists len P n) n
    rw [Nat.min_eq_left (by omega)] at f5
    rw [sbLists_succ]
    refine ⟨by omega, ?_⟩
    rcases f5 with ⟨g1, g2⟩ | ⟨g1, g2⟩
    · exact ⟨nl + 1, ns, by omega, by omega, by omega⟩
    · exact ⟨nl, ns + 1, by omega, by omega, by omega⟩

/-- `⌈(d * a + x) / d⌉ = a + 1` for `1 ≤ x ≤ d` -/
theorem ceilDiv_mul_add {d : Nat} (a : Nat) {x : Nat} (h1 : 1 ≤ x) (h2 : x ≤ d) :
    (d * a + x + (d - 1)) / d = a + 1 := by
  rw [Nat.add_assoc, Nat.mul_add_div (by omega), Nat.div_eq_of_lt_le (k := 1) (by omega) (by omega)]

theorem ceilDiv_mul {d : Nat} (hd : 0 < d) (a : Nat) : (d * a + (d - 1)) / d = a := by
  rw [Nat.mul_add_div hd, Nat.div_eq_of_lt (by omega), Nat.add_zero]

/-- the arithmetic of the last superblock (`c` positions; `b` blocks if it is short), about variables: inside
`sbLists_shape` the same `omega` calls meet `min`, `/` and a dozen hypotheses and cost ten times as much -/
theorem sb_long_room {nl ns n c N : Nat} (e : nl + ns = n) (hc : c ≤ 4096) (hN : 4096 * n + c ≤ N) :
    4096 * nl + c ≤ min (4096 * (n + 1)) N ∧ 64 * ns ≤ min (64 * (n + 1)) N := by omega

theorem sb_short_room {nl ns n c b N : Nat} (e : nl + ns = n) (hb : b ≤ 64) (hbc : b ≤ c) (hN : 4096 * n + c ≤ N) :
    4096 * nl ≤ min (4096 * (n + 1)) N ∧ 64 * ns + b ≤ min (64 * (n + 1)) N := by omega

/-- after `k` superblocks, the last of which may be partial: the superblocks split into long and short ones (what
the loader checks) -/
theorem sbLists_shape (len : Nat) (P : List Nat) (k : Nat) (hk : 4096 * k < P.length + 4096) :
    (sbLists len P k).S.length = 2 * k ∧
    k = ((sbLists len P k).L.length + 4095) / 4096 + ((sbLists len P k).H.length + 63) / 64 ∧
    (sbLists len P k).L.length ≤ min (4096 * k) P.length ∧ (sbLists len P k).H.length ≤ min (64 * k) P.length := by
  cases k with
  | zero => exact ⟨rfl, show 0 = (0 + 4095) / 4096 + (0 + 63) / 64 from rfl, Nat.zero_le _, Nat.zero_le _⟩
  | succ n =>
    obtain ⟨hS, nl, ns, e1, e2, e3⟩ := sbLists_full len P n (by omega)
    obtain ⟨f1, f5⟩ := sbStep_length len P (sbLists len P n) n
    rw [sbLists_succ, f1, hS]
    obtain ⟨c, hc, hc1, hc2, hc3⟩ : ∃ c, min 4096 (P.length - 4096 * n) = c ∧ 1 ≤ c ∧ c ≤ 4096 ∧
      4096 * n + c ≤ P.length := ⟨_, rfl, by omega, by omega, by omega⟩
    rw [hc] at f5
    rcases f5 with ⟨g1, g2⟩ | ⟨g1, g2⟩
    · rw [g1, g2, e2, e3, ceilDiv_mul_add (d := 4096) nl hc1 hc2, ceilDiv_mul (d := 64) (by decide) ns, ← e1]
      exact ⟨(Nat.mul_succ 2 _).symm, Nat.add_right_comm _ _ _, sb_long_room rfl hc2 (e1 ▸ hc3)⟩
    · have hb : 1 ≤ (c + 63) / 64 ∧ (c + 63) / 64 ≤ 64 ∧ (c + 63) / 64 ≤ c := by omega
      generalize (c + 63) / 64 = b at g2 hb
      rw [g1, g2, e2, e3, ceilDiv_mul_add (d := 64) ns hb.1 hb.2.1, ceilDiv_mul (d := 4096) (by decide) nl, ← e1]
      exact ⟨(Nat.mul_succ 2 _).symm, Nat.add_assoc _ _ _, sb_short_room rfl hb.2.1 hb.2.2 (e1 ▸ hc3)⟩

/-! content of the lists, for strictly ascending positions below `len` -/

structure SbContent (len : Nat) (P : List Nat) (X : SbLists) (k : Nat) : Prop where
  lSpan : X.L.length * log4 len ≤ 4096 * sbBound len P k
  sLt : ∀ x ∈ X.S, x < 2 ^ 64
  lLt : ∀ x ∈ X.L, x < 2 ^ 64
  hLt : ∀ x ∈ X.H, x < 2 ^ 64
  sb : ∀ k', k' < k → SbValid P X.S X.L X.H k'

theorem forall_mem_append_map {A : List Nat} {n : Nat} {g : Nat → Nat} {B : Nat} (hA : ∀ x ∈ A, x < B)
    (hg : ∀ i, g i < B) : ∀ x ∈ A ++ (List.range n).map g, x < B := by
  intro x hx
  rcases List.mem_append.mp hx with h | h
  · exact hA x h
  · obtain ⟨i, _, rfl⟩ := List.mem_map.mp h; exact hg i

theorem forall_mem_two {A : List Nat} {a b B : Nat} (hA : ∀ x ∈ A, x < B) (ha : a < B) (hb : b < B) :
    ∀ x ∈ A ++ [a] ++ [b], x < B := by
  intro x hx
  simp only [List.mem_append, List.mem_singleton] at hx
  rcases hx with (h | rfl) | rfl
  · exact hA x h
  · exact ha
  · exact hb

theorem sbStep_content (len : Nat) (P : List Nat) (hlen : len < 2 ^ 64) (hs : P.Pairwise (· < ·))
    (hlt : ∀ x, x ∈ P → x < len) (X : SbLists) (k : Nat) (hk : 4096 * k < P.length)
    (hS : X.S.length = 2 * k) (hL : X.L.length ≤ min (4096 * k) P.length) (hH : X.H.length ≤ 64 * k)
    (h : SbContent len P X k) : SbContent len P (sbStep len P X k) (k + 1) := by
  have hnle := sorted_length_le hs len hlt
  obtain ⟨st, hst⟩ : ∃ st, P[4096 * k]? = some st := ⟨_, getElem?_getD_some hk⟩
  have hstlt : st < len := hlt st (List.mem_of_getElem? hst)
  have hbk : sbBound len P k = st := by unfold sbBound; rw [if_pos hk, hst]; rfl
  have hgetlt : ∀ i : Nat, P[i]?.getD 0 - st < 2 ^ 64 := by
    intro i
    cases hi : P[i]? with
    | none => simp
    | some x => have := hlt x (List.mem_of_getElem? hi); simp; omega
  have hspanOld := h.lSpan
  rw [hbk] at hspanOld
  -- a pointer into the long list fits a word: for `len ≥ 2^63` because a long superblock spans `64^4` positions
  have two_long : 2 * X.L.length < 2 ^ 64 := by
    by_cases hbig : len < 2 ^ 63
    · omega
    · rw [log4_big len (by omega) hlen] at hspanOld; omega
  have hbk1 : st ≤ sbBound len P (k + 1) := by
    unfold sbBound
    split
    · rename_i h1
      obtain ⟨x, hx⟩ : ∃ x, P[4096 * (k + 1)]? = some x := ⟨_, getElem?_getD_some h1⟩
      rw [hx]; exact sorted_get_le hs hst hx (by omega)
    · omega
  unfold sbStep
  simp only [hst, Option.getD_some]
  split
  · rename_i hspan
    refine ⟨?_, forall_mem_two h.sLt (by omega) two_long, forall_mem_append_map h.lLt fun _ => hgetlt _, h.hLt, ?_⟩
    · rw [List.length_append, List.length_map, List.length_range, Nat.add_mul]
      have b : min 4096 (P.length - 4096 * k) * log4 len ≤ 4096 * log4 len :=
        Nat.mul_le_mul_right _ (Nat.min_le_left _ _)
      omega
    · intro k' hk'
      by_cases hlt' : k' < k
      · exact SbValid_mono (h.sb k' hlt') ((List.prefix_append _ _).trans (List.prefix_append _ _))
          (List.prefix_append _ _) (List.prefix_refl _)
      · obtain rfl : k' = k := by omega
        exact SbValid_new_long hs hS hst
  · rename_i hspan
    refine ⟨Nat.le_trans hspanOld (Nat.mul_le_mul_left _ hbk1), forall_mem_two h.sLt (by omega) (by omega), h.lLt,
      forall_mem_append_map h.hLt fun _ => hgetlt _, ?_⟩
    intro k' hk'
    by_cases hlt' : k' < k
    · exact SbValid_mono (h.sb k' hlt') ((List.prefix_append _ _).trans (List.prefix_append _ _))
        (List.prefix_refl _) (List.prefix_append _ _)
    · obtain rfl : k' = k := by omega
      exact SbValid_new_short hs hS hst

theorem sbLists_content (len : Nat) (P : List Nat) (hlen : len < 2 ^ 64) (hs : P.Pairwise (· < ·))
    (hlt : ∀ x, x ∈ P → x < len) : ∀ n, 4096 * n < P.length + 4096 → SbContent len P (sbLists len P n) n := by
  intro n
  induction n with
  | zero =>
    intro _
    exact ⟨Nat.le_trans (Nat.le_of_eq (Nat.zero_mul _)) (Nat.zero_le _), fun _ h => (by cases h),
      fun _ h => (by cases h), fun _ h => (by cases h), fun k' h => absurd h (Nat.not_lt_zero _)⟩
  | succ n ih =>
    intro hn
    obtain ⟨h1, -, h3, h4⟩ := sbLists_shape len P n (by omega)
    rw [sbLists_succ]
    exact sbStep_content len P hlen hs hlt _ n (by omega) h1 h3 (by omega) (ih (by omega))

/-- **The construction is valid**, stated for any strictly ascending array of positions below `len`. -/
theorem build_selValid (len : Nat) (pos : Array Nat) (hlen : len < 2 ^ 64)
    (hs : pos.toList.Pairwise (· < ·)) (hlt : ∀ x, x ∈ pos.toList → x < len) :
    SelValid pos.toList (SelSup.build len pos).samples.items (SelSup.build len pos).long.items
      (SelSup.build len pos).short.items := by
  have hn : pos.toList.length = pos.size := Array.length_toList
  have h := sbLists_content len pos.toList hlen hs hlt ((pos.size + 4095) / 4096) (by omega)
  have h1 := (sbLists_shape len pos.toList ((pos.size + 4095) / 4096) (by omega)).1
  rw [SelSup.build_eq_lists]
  simp only [IntVec.pack_items, (IntVec.ofList64 _ h.sLt).2, (IntVec.ofList64 _ h.lLt).2, (IntVec.ofList64 _ h.hLt).2]
  exact ⟨by rw [h1, hn], fun k hk => h.sb k (by omega)⟩

/-! ### the positions computed from the words -/

theorem foldl_push_filter (g : Nat → Bool) (l : List Nat) : ∀ (acc : Array Nat),
    (l.foldl (fun acc i => if g i then acc.push i else acc) acc).toList = acc.toList ++ l.filter g := by
  induction l with
  | nil => intro acc; simp
  | cons a l ih =>
    intro acc
    simp only [List.foldl_cons, List.filter_cons]
    rw [ih]
    cases g a <;> simp

theorem onesFrom_map_range' (g : Nat → Bool) : ∀ (n s : Nat),
    onesFrom ((List.range' s n).map g) s = (List.range' s n).filter g := by
  intro n
  induction n with
  | zero => intro s; rfl
  | succ n ih =>
    intro s
    rw [List.range'_succ, List.map_cons, List.filter_cons]
    cases h : g s
    · simp only [onesFrom, ih (s + 1)]; simp
    · simp only [onesFrom, ih (s + 1)]; simp

theorem onesPos_bitsT (tr : Tr) (v : RawVec) :
    onesPos (bitsT tr v.bits) = (List.range v.len).filter (bitT tr v) := by
  unfold onesPos
  rw [bitsT_eq, List.range_eq_range', onesFrom_map_range']

theorem positionsT_toList (tr : Tr) (v : RawVec) : (positionsT tr v).toList = onesPos (bitsT tr v.bits) := by
  unfold positionsT
  rw [foldl_push_filter (fun i => getBit v.data i != (tr == Tr.compl)), onesPos_bitsT]
  simp only [List.nil_append, Array.toList_empty]
  apply List.filter_congr
  intro i hi
  have := List.mem_range.mp hi
  simp [bitT, this]

theorem onesPos_sorted (tr : Tr) (v : RawVec) : (onesPos (bitsT tr v.bits)).Pairwise (· < ·) := by
  rw [onesPos_bitsT]; exact List.pairwise_lt_range.filter _

theorem onesPos_mem_lt (tr : Tr) (v : RawVec) (x : Nat) (h : x ∈ onesPos (bitsT tr v.bits)) : x < v.len := by
  rw [onesPos_bitsT] at h
  exact List.mem_range.mp (List.mem_filter.mp h).1

/-- **The built support is valid** (for the plain and for the complemented vector). -/
theorem SelSup.build_valid {v : RawVec} (hv : v.WF) (hlen : v.len < 2 ^ 64) (tr : Tr) :
    (SelSup.build v.len (positionsT tr v)).Valid tr v := by
  unfold SelSup.Valid
  have := build_selValid v.len (positionsT tr v) hlen
    (by rw [positionsT_toList]; exact onesPos_sorted tr v)
    (by rw [positionsT_toList]; exact onesPos_mem_lt tr v)
  rw [positionsT_toList] at this
  exact this


/-! ### the public wrappers -/

theorem count_true_map_not (l : List Bool) : (l.map not).count true = l.length - l.count true := by
  induction l with
  | nil => rfl
  | cons a l ih =>
    have := List.count_le_length (a := true) (l := l)
    cases a <;> simp [List.count_cons, ih] <;> omega

theorem countT_eq {b : BitVector} {v : RawVec} (hdata : b.data = v) (hones : b.ones = v.bits.count true)
    (tr : Tr) : b.countT tr = (bitsT tr v.bits).count true := by
  cases tr
  · exact hones
  · show b.data.len - b.ones = (v.bits.map not).count true
    rw [count_true_map_not, RawVec.bits_length, hdata, hones]

/-- `select` / `select_zero` through the wrapper, for any valid support: `None` exactly when the rank is at
least the number of (transformed) set bits, otherwise the specified position; no fault in either mode. -/
theorem selectT_ok {b : BitVector} {v : RawVec} {s : SelSup} {tr : Tr} (hv : v.WF) (hlen : v.len < 2 ^ 64)
    (hdata : b.data = v) (hones : b.ones = v.bits.count true) (hsup : b.supT tr = some s)
    (hs : s.Valid tr v) (m : Mode) (r : Nat) :
    b.selectT tr m r = ok (selectSpec (bitsT tr v.bits) r) := by
  unfold BitVector.selectT
  rw [countT_eq hdata hones tr]
  by_cases h : r ≥ (bitsT tr v.bits).count true
  · rw [if_pos h, selectSpec_eq_none _ _ h]
  · rw [if_neg h, hsup, hdata]
    obtain ⟨p, hp1, hp2⟩ := selectU_ok hv hlen hs m r (by omega)
    simp only [hp1, bind_ok, pure_eq, hp2]

theorem selectQ_ok {b : BitVector} {v : RawVec} {s : SelSup} (hv : v.WF) (hlen : v.len < 2 ^ 64)
    (hdata : b.data = v) (hones : b.ones = v.bits.count true) (hsup : b.select = some s)
    (hs : s.Valid .ident v) (m : Mode) (r : Nat) :
    b.selectQ m r = ok (selectSpec v.bits r) :=
  selectT_ok (tr := .ident) hv hlen hdata hones hsup hs m r

theorem selectZeroQ_ok {b : BitVector} {v : RawVec} {s : SelSup} (hv : v.WF) (hlen : v.len < 2 ^ 64)
    (hdata : b.data = v) (hones : b.ones = v.bits.count true) (hsup : b.selectZero = some s)
    (hs : s.Valid .compl v) (m : Mode) (r : Nat) :
    b.selectZeroQ m r = ok (selectZeroSpec v.bits r) :=
  selectT_ok (tr := .compl) hv hlen hdata hones hsup hs m r

/-- the wrappers with the built supports -/
theorem selectQ_build {b : BitVector} {v : RawVec} (hv : v.WF) (hlen : v.len < 2 ^ 64)
    (hdata : b.data = v) (hones : b.ones = v.bits.count true)
    (hsup : b.select = some (SelSup.build v.len (positionsT .ident v))) (m : Mode) (r : Nat) :
    b.selectQ m r = ok (selectSpec v.bits r) :=
  selectQ_ok hv hlen hdata hones hsup (SelSup.build_valid hv hlen .ident) m r

theorem selectZeroQ_build {b : BitVector} {v : RawVec} (hv : v.WF) (hlen : v.len < 2 ^ 64)
    (hdata : b.data = v) (hones : b.ones = v.bits.count true)
    (hsup : b.selectZero = some (SelSup.build v.len (positionsT .compl v))) (m : Mode) (r : Nat) :
    b.selectZeroQ m r = ok (selectZeroSpec v.bits r) :=
  selectZeroQ_ok hv hlen hdata hones hsup (SelSup.build_valid hv hlen .compl) m r

/-- `BitVector::from(raw)` followed by `enable_select` / `enable_select_zero`, no side hypothesis left -/
theorem selectQ_ofRaw {v : RawVec} (hv : v.WF) (hlen : v.len < 2 ^ 64) (m : Mode) (r : Nat) :
    (BitVector.ofRaw v).enableSelect.selectQ m r = ok (selectSpec v.bits r) :=
  selectQ_build hv hlen rfl (RawVec.countOnes_eq hv) rfl m r

theorem selectZeroQ_ofRaw {v : RawVec} (hv : v.WF) (hlen : v.len < 2 ^ 64) (m : Mode) (r : Nat) :
    (BitVector.ofRaw v).enableSelectZero.selectZeroQ m r = ok (selectZeroSpec v.bits r) :=
  selectZeroQ_build hv hlen rfl (RawVec.countOnes_eq hv) rfl m r

theorem selectQ_enableAll {v : RawVec} (hv : v.WF) (hlen : v.len < 2 ^ 64) (m : Mode) (r : Nat) :
    (BitVector.ofRaw v).enableAll.selectQ m r = ok (selectSpec v.bits r) :=
  selectQ_build hv hlen rfl (RawVec.countOnes_eq hv) rfl m r

theorem selectZeroQ_enableAll {v : RawVec} (hv : v.WF) (hlen : v.len < 2 ^ 64) (m : Mode) (r : Nat) :
    (BitVector.ofRaw v).enableAll.selectZeroQ m r = ok (selectZeroSpec v.bits r) :=
  selectZeroQ_build hv hlen rfl (RawVec.countOnes_eq hv) rfl m r


end Sds
