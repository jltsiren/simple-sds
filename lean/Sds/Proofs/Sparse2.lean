/-
Proofs/Sparse2: the two-ended one-iterator, `select_zero`, the zero iterator and the all-bits iterator of an
`Encodes` vector.  Each iterator is tied to the list it still has to deliver by a relation (`OneRel`, `ZeroRel`,
`BitRel`: a window of the list-level specification) under which `next` / `next_back` pop the ends (`FwdSim` / `BwdSim`
of Proofs/IterSim); call histories and draining are instances of the drivers there.
-/
import Sds.Proofs.SparseBuild
import Sds.Proofs.IterSim
set_option linter.unusedSimpArgs false
set_option linter.unusedVariables false

namespace Sds
open Outcome

/-- drain an iterator (proof-side helper, not part of the modelled code): at most `fuel` items -/
def drain (m : Mode) (s : Sparse) : Nat → SpOneIter → Outcome (List (Nat × Nat))
  | 0, _ => ok []
  | fuel + 1, it =>
    match SpOneIter.nextQ m s it with
    | .fault f => .fault f
    | .ok (none, _) => ok []
    | .ok (some x, it') =>
      match drain m s fuel it' with
      | .fault f => .fault f
      | .ok xs => ok (x :: xs)

/-- list of `(rank, value)` pairs of the suffix of `P` starting at `r` -/
def itemsFrom (P : List Nat) (r : Nat) : List (Nat × Nat) :=
  (List.range (P.length - r)).map fun i => (r + i, P[r + i]?.getD 0)

namespace Sparse2

/-! ### the two-ended iterator against a deque -/

/-- the pairs `(i, P[i])` for `r ≤ i < R` -/
def itemsBetween (P : List Nat) (r R : Nat) : List (Nat × Nat) :=
  (List.range (R - r)).map fun i => (r + i, P[r + i]?.getD 0)

theorem itemsBetween_eq_itemsFrom (P : List Nat) (r : Nat) : itemsBetween P r P.length = itemsFrom P r := rfl

/-- the state stands for the pairs `(i, P[i])`, `r ≤ i < R` (`itemsBetween P r R` is the window `[r, R)` of
`fun i => (i, P[i]?.getD 0)`, by `rfl`) -/
def _root_.Sds.Iter2.Sp.OneRel (s : Sparse) (w : Nat) (P : List Nat) (it : SpOneIter) (d : List (Nat × Nat)) : Prop :=
  ∃ r R, IterBetween s w P r R it ∧ d = itemsBetween P r R

theorem one_fwdSim {s : Sparse} {n w : Nat} {P : List Nat} (hs : s.Encodes n w P) (m : Mode) :
    Iter2.FwdSim (SpOneIter.nextQ m s) (Iter2.Sp.OneRel s w P) :=
  Iter2.win_fwdSim (f := fun i => (i, P[i]?.getD 0)) (Inv := fun r R it => IterBetween s w P r R it)
    (fun {r R it} hit h => ⟨it, r, R, nextQ_between_none m r R it hit h, hit, h⟩)
    (fun {r R it} hit h => by
      obtain ⟨h1, h2⟩ := nextQ_between hs m r R it hit h
      exact ⟨_, by rw [List.getElem?_eq_getElem (Nat.lt_of_lt_of_le h hit.R_le)]; exact h1, h2⟩)

theorem one_bwdSim {s : Sparse} {n w : Nat} {P : List Nat} (hs : s.Encodes n w P) (m : Mode) :
    Iter2.BwdSim (SpOneIter.nextBackQ m s) (Iter2.Sp.OneRel s w P) :=
  Iter2.win_bwdSim (f := fun i => (i, P[i]?.getD 0)) (Inv := fun r R it => IterBetween s w P r R it)
    (fun {r R it} hit h => ⟨it, r, R, nextBackQ_between_none m r R it hit h, hit, h⟩)
    (fun {r R it} hit h => by
      obtain ⟨h1, h2⟩ := nextBackQ_between hs m r R it hit h
      exact ⟨_, by rw [List.getElem?_eq_getElem (by have := hit.R_le; omega)]; exact h1, h2⟩)

/-- which end of the iterator is called -/
inductive End | front | back
  deriving DecidableEq, Repr

def callDeque {α} (e : End) (D : List α) : Option α × List α :=
  match e with
  | .front => (D.head?, D.tail)
  | .back => (D.getLast?, D.dropLast)

def runDeque {α} : List End → List α → List (Option α) × List α
  | [], D => ([], D)
  | e :: es, D => ((callDeque e D).1 :: (runDeque es (callDeque e D).2).1, (runDeque es (callDeque e D).2).2)

theorem runDeque_front_cons {α} (es : List End) (x : α) (D : List α) :
    runDeque (.front :: es) (x :: D) = (some x :: (runDeque es D).1, (runDeque es D).2) := rfl

theorem runDeque_back_snoc {α} (es : List End) (D : List α) (x : α) :
    runDeque (.back :: es) (D ++ [x]) = (some x :: (runDeque es D).1, (runDeque es D).2) := by
  simp only [runDeque, callDeque, List.getLast?_append, List.getLast?_singleton, List.dropLast_concat,
    Option.some_or]

theorem runDeque_nil_cons {α} (e : End) (es : List End) :
    runDeque (e :: es) ([] : List α) = (none :: (runDeque es []).1, (runDeque es []).2) := by
  cases e <;> rfl

/-- **Two-ended simulation.**  When `call .front` pops the front and `call .back` the back of the list a state stands
for, any interleaving of calls (`run`: any function with the two unfolding equations of a run over `call`) answers
like the same calls on the deque, without fault, and the final state stands for what is left of the deque. -/
theorem runDeque_sim {σ α : Type} {call : End → σ → Outcome (Option α × σ)} {Rel : σ → List α → Prop}
    (F : Iter2.FwdSim (call .front) Rel) (B : Iter2.BwdSim (call .back) Rel)
    {run : List End → σ → Outcome (List (Option α) × σ)} (hnil : ∀ it, run [] it = ok ([], it))
    (hcons : ∀ e es it, run (e :: es) it = (do let r ← call e it; let q ← run es r.2; return (r.1 :: q.1, q.2)))
    (calls : List End) {it : σ} {d : List α} (h : Rel it d) :
    ∃ it', run calls it = ok ((runDeque calls d).1, it') ∧ Rel it' (runDeque calls d).2 := by
  refine Iter2.endRun_sim (ref := runDeque) (fun _ => rfl) (fun e es it d h => ?_) hnil hcons calls h
  cases e with
  | front =>
    cases d with
    | nil => obtain ⟨it', h1, h2⟩ := F.nil it h; exact ⟨none, it', [], h1, h2, rfl⟩
    | cons x d => obtain ⟨it', h1, h2⟩ := F.cons it x d h; exact ⟨some x, it', d, h1, h2, rfl⟩
  | back =>
    rcases List.eq_nil_or_concat d with rfl | ⟨d', x, rfl⟩
    · obtain ⟨it', h1, h2⟩ := B.nil it h; exact ⟨none, it', [], h1, h2, rfl⟩
    · rw [List.concat_eq_append] at h ⊢
      obtain ⟨it', h1, h2⟩ := B.snoc it d' x h
      exact ⟨some x, it', d', h1, h2, runDeque_back_snoc es d' x⟩

def callIter (m : Mode) (s : Sparse) (e : End) (it : SpOneIter) : Outcome (Option (Nat × Nat) × SpOneIter) :=
  match e with
  | .front => SpOneIter.nextQ m s it
  | .back => SpOneIter.nextBackQ m s it

/-- a sequence of calls (proof-side driver): the answers in order and the final state -/
def runCalls (m : Mode) (s : Sparse) : List End → SpOneIter → Outcome (List (Option (Nat × Nat)) × SpOneIter)
  | [], it => ok ([], it)
  | e :: es, it =>
    match callIter m s e it with
    | .fault f => .fault f
    | .ok (o, it') =>
      match runCalls m s es it' with
      | .fault f => .fault f
      | .ok (os, it'') => ok (o :: os, it'')

theorem runCalls_cons (m : Mode) (s : Sparse) (e : End) (es : List End) (it : SpOneIter) :
    runCalls m s (e :: es) it = (do
      let r ← callIter m s e it
      let q ← runCalls m s es r.2
      return (r.1 :: q.1, q.2)) := by
  rw [runCalls]
  cases callIter m s e it with
  | fault f => rfl
  | ok r => cases h : runCalls m s es r.2 <;> simp only [bind_ok, h] <;> rfl

/-- any interleaving of `next` / `next_back` calls on a two-ended state answers exactly like the same calls on the
deque of the pairs it stands for; no fault in either mode -/
theorem runCalls_between {s : Sparse} {n w : Nat} {P : List Nat} (hs : s.Encodes n w P) (m : Mode)
    (calls : List End) {it : SpOneIter} {d : List (Nat × Nat)} (h : Iter2.Sp.OneRel s w P it d) :
    ∃ it', runCalls m s calls it = ok ((runDeque calls d).1, it') ∧ Iter2.Sp.OneRel s w P it' (runDeque calls d).2 :=
  runDeque_sim (one_fwdSim hs m) (one_bwdSim hs m) (fun _ => rfl) (runCalls_cons m s) calls h

/-- from the full iterator: the deque is the whole list of pairs `(i, P[i])` -/
theorem runCalls_full {s : Sparse} {n w : Nat} {P : List Nat} (hs : s.Encodes n w P) (m : Mode)
    (calls : List End) :
    ∃ it' r' R', runCalls m s calls (SpOneIter.full s) = ok ((runDeque calls (itemsFrom P 0)).1, it') ∧
      (runDeque calls (itemsFrom P 0)).2 = itemsBetween P r' R' ∧ IterBetween s w P r' R' it' := by
  obtain ⟨it', h1, r', R', h2, h3⟩ := runCalls_between hs m calls ⟨0, P.length, full_between hs, rfl⟩
  exact ⟨it', r', R', h1, h3, h2⟩

/-- `runCalls_full` with the final state read through `len()` -/
theorem runCalls_full_remaining {s : Sparse} {n w : Nat} {P : List Nat} (hs : s.Encodes n w P) (m : Mode)
    (calls : List End) :
    ∃ it' r' R', runCalls m s calls (SpOneIter.full s) = ok ((runDeque calls (itemsFrom P 0)).1, it') ∧
      (runDeque calls (itemsFrom P 0)).2 = itemsBetween P r' R' ∧ it'.remaining = R' - r' :=
  let ⟨it', r', R', h1, h2, h3⟩ := runCalls_full hs m calls
  ⟨it', r', R', h1, h2, remaining_between r' R' it' h3⟩

/-- the `Some` answers given to the calls on end `e`, in call order -/
def answersOf {α} (e : End) : List End → List (Option α) → List α
  | c :: cs, o :: os => (if c = e then o.toList else []) ++ answersOf e cs os
  | _, _ => []

/-- **Partition.**  On a deque, the answers from the front, what is left, and the reversed answers from the back
make up the original content: every item is delivered at most once, by exactly one end, in order. -/
theorem runDeque_partition {α} : ∀ (calls : List End) (D : List α),
    answersOf .front calls (runDeque calls D).1 ++ (runDeque calls D).2 ++
      (answersOf .back calls (runDeque calls D).1).reverse = D := by
  intro calls
  induction calls with
  | nil => intro D; simp [runDeque, answersOf]
  | cons e es ih =>
    intro D
    cases e with
    | front =>
      cases D with
      | nil =>
        rw [runDeque_nil_cons]
        simpa only [answersOf, Option.toList_none, ite_self, List.nil_append] using ih ([] : List α)
      | cons x D' =>
        rw [runDeque_front_cons]
        simp only [answersOf, if_true, Option.toList_some, reduceCtorEq, if_false, List.nil_append,
          List.cons_append, List.append_assoc]
        rw [← List.append_assoc, ih D']
    | back =>
      rcases List.eq_nil_or_concat D with rfl | ⟨D', x, rfl⟩
      · rw [runDeque_nil_cons]
        simpa only [answersOf, Option.toList_none, ite_self, List.nil_append] using ih ([] : List α)
      · rw [List.concat_eq_append, runDeque_back_snoc]
        simp only [answersOf, if_true, Option.toList_some, reduceCtorEq, if_false, List.nil_append,
          List.reverse_append, List.reverse_cons, List.reverse_nil, List.cons_append]
        rw [← List.append_assoc, ih D']

end Sparse2

/-! #### running the iterator to the end -/

/-- draining an iterator whose next item is number `r` yields exactly the remaining values with their ranks, in
order, with no fault in either mode -/
theorem drain_ok {s : Sparse} {n w : Nat} {P : List Nat} (hs : s.Encodes n w P) (m : Mode) (fuel r : Nat)
    (it : SpOneIter) (hit : IterAt s w P r it) (hf : P.length - r < fuel) :
    drain m s fuel it = ok (itemsFrom P r) := by
  refine (Sparse2.one_fwdSim hs m).drain_of (dr := drain m s) (fun f it => ?_) _
    ⟨r, P.length, Sparse2.between_of_IterAt hs hit, rfl⟩ fuel
    ((Iter2.win_length (fun i => (i, P[i]?.getD 0)) r P.length).symm ▸ hf)
  -- the successor equation of `drain`, which is written with `match` on the faults
  rw [drain]
  cases SpOneIter.nextQ m s it with
  | fault e => rfl
  | ok r =>
    obtain ⟨_ | x, it'⟩ := r
    · rfl
    · cases h : drain m s f it' <;> simp only [bind_ok, h] <;> rfl

theorem drain_full {s : Sparse} {n w : Nat} {P : List Nat} (hs : s.Encodes n w P) (m : Mode) :
    drain m s (P.length + 1) (SpOneIter.full s) = ok (itemsFrom P 0) :=
  drain_ok hs m _ 0 _ (full_IterAt hs) (by omega)

/-- A query `q` that returns `select_iter` at the rank of the pair its specification names, or the empty iterator when
the specification names none, read through the iterator: first item and everything after it.  `predecessor` and
`successor` are the two instances. -/
theorem iterAt_first {s : Sparse} {n w : Nat} {P : List Nat} (hs : s.Encodes n w P) (m : Mode)
    {q : Outcome SpOneIter} {o : Option (Nat × Nat)}
    (hq : q = ok (match o with
      | none => SpOneIter.emptyIter s
      | some kv => s.iterAt w P kv.1))
    (ho : ∀ kv, o = some kv → ∃ hk : kv.1 < P.length, kv.2 = P[kv.1]) :
    match o with
    | none => q = ok (SpOneIter.emptyIter s) ∧
        SpOneIter.nextQ m s (SpOneIter.emptyIter s) = ok (none, SpOneIter.emptyIter s)
    | some kv => ∃ it it', q = ok it ∧ s.selectIter m kv.1 = ok it ∧
        SpOneIter.nextQ m s it = ok (some kv, it') ∧
        drain m s (P.length + 1) it = ok (itemsFrom P kv.1) := by
  cases o with
  | none => exact ⟨hq, nextQ_none hs m _ (empty_IterAt hs)⟩
  | some kv =>
    obtain ⟨hk, hv⟩ := ho kv rfl
    have hit := iterAt_IterAt hs kv.1
    rw [Nat.min_eq_left (Nat.le_of_lt hk)] at hit
    have h1 := (nextQ_ok hs m kv.1 _ hit hk).1
    rw [← hv] at h1
    exact ⟨_, _, hq, selectIter_ok hs m kv.1, h1, drain_ok hs m _ _ _ hit (by omega)⟩

/-- the first item alone, without the case distinction -/
theorem first_answer {s : Sparse} {n w : Nat} {P : List Nat} (hs : s.Encodes n w P) (m : Mode)
    {q : Outcome SpOneIter} {o : Option (Nat × Nat)}
    (hq : q = ok (match o with
      | none => SpOneIter.emptyIter s
      | some kv => s.iterAt w P kv.1))
    (ho : ∀ kv, o = some kv → ∃ hk : kv.1 < P.length, kv.2 = P[kv.1]) :
    ∃ it it', q = ok it ∧ SpOneIter.nextQ m s it = ok (o, it') := by
  have h := iterAt_first hs m hq ho
  cases o with
  | none => exact ⟨_, _, h.1, h.2⟩
  | some kv => obtain ⟨it, it', h1, _, h3, _⟩ := h; exact ⟨it, it', h1, h3⟩

theorem pred_exact {s : Sparse} {n w : Nat} {P : List Nat} (hs : s.Encodes n w P) (m : Mode) (x : Nat) :
    match predSet P x with
    | none => s.predecessor m x = ok (SpOneIter.emptyIter s) ∧
        SpOneIter.nextQ m s (SpOneIter.emptyIter s) = ok (none, SpOneIter.emptyIter s)
    | some kv => ∃ it it', s.predecessor m x = ok it ∧ s.selectIter m kv.1 = ok it ∧
        SpOneIter.nextQ m s it = ok (some kv, it') ∧
        drain m s (P.length + 1) it = ok (itemsFrom P kv.1) :=
  iterAt_first hs m (pred_ok hs m x) fun kv h => predSet_spec hs.pw x kv h

theorem succ_exact {s : Sparse} {n w : Nat} {P : List Nat} (hs : s.Encodes n w P) (m : Mode) (x : Nat) :
    match succSet P x with
    | none => s.successor m x = ok (SpOneIter.emptyIter s) ∧
        SpOneIter.nextQ m s (SpOneIter.emptyIter s) = ok (none, SpOneIter.emptyIter s)
    | some kv => ∃ it it', s.successor m x = ok it ∧ s.selectIter m kv.1 = ok it ∧
        SpOneIter.nextQ m s it = ok (some kv, it') ∧
        drain m s (P.length + 1) it = ok (itemsFrom P kv.1) :=
  iterAt_first hs m (succ_ok hs m x) fun kv h => (succSet_spec x kv h).imp fun _ h => h.2

namespace Sparse2

/-! ### `select_zero` (set mode) -/

/-- at most `rank` zeros in front of item `k - 1` (vacuous for `k = 0`) -/
def ZerosLe (P : List Nat) (rank k : Nat) : Prop := ∀ j (hj : j < P.length), j + 1 = k → P[j] ≤ rank + j

theorem ZerosLe.succ {P : List Nat} {rank k : Nat} (hk : k < P.length) (hge : k ≤ P[k])
    (hd : P[k] - k ≤ rank) : ZerosLe P rank (k + 1) := by
  intro j hj hjm
  obtain rfl : j = k := by omega
  omega

/-- the midpoint of a search interval splits it into two parts of less than half the bound -/
theorem mid_bounds {low high e : Nat} (hgt : high - low > 16) (hf : high - low < 2 * e) :
    low ≤ low + (high - low) / 2 ∧ low + (high - low) / 2 < high ∧
      high - (low + (high - low) / 2 + 1) < e ∧ low + (high - low) / 2 - low < e := by omega

/-- the binary-search phase: it returns a state `(k, it)` with `it` at item `k` and at most `rank` zeros in
front of item `k - 1` -/
theorem fzrSearch_spec {s : Sparse} {n w : Nat} {P : List Nat} (hs : s.Encodes n w P)
    (hst : P.Pairwise (· < ·)) (m : Mode) (rank : Nat) :
    ∀ (fuel low high : Nat) (it : SpOneIter), high - low < 2 ^ (fuel + 4) → low ≤ high → high ≤ P.length →
      IterAt s w P low it → ZerosLe P rank low →
      ∃ k it', Sparse.fzrSearch m s rank (fuel + 1) low high (low, it) = ok (k, it') ∧ IterAt s w P k it' ∧
        ZerosLe P rank k := by
  intro fuel
  induction fuel with
  | zero =>
    intro low high it hf hlh hhP hit hlow
    rw [Sparse.fzrSearch, if_neg (by omega)]
    exact ⟨low, it, rfl, hit, hlow⟩
  | succ fuel ih =>
    intro low high it hf hlh hhP hit hlow
    rw [Sparse.fzrSearch]
    by_cases hgt : high - low > 16
    · rw [if_pos hgt]
      have hpow : 2 ^ (fuel + 1 + 4) = 2 * 2 ^ (fuel + 4) := by rw [Nat.pow_succ]; omega
      obtain ⟨hml, hmh, hm1, hm2⟩ := mid_bounds hgt (hpow ▸ hf)
      have hmidlt : low + (high - low) / 2 < P.length := by omega
      generalize low + (high - low) / 2 = mid at *
      have hge := strict_getElem_ge hst mid hmidlt
      have hnx := nextQ_ok hs m mid _ (by
        have := iterAt_IterAt hs mid
        rwa [show min mid P.length = mid by omega] at this) hmidlt
      simp only [selectIter_ok hs m mid, bind_ok, hnx.1, unwrapM]
      rw [subM_ok hge]
      simp only [bind_ok]
      by_cases hd : P[mid] - mid ≤ rank
      · rw [if_pos hd]
        exact ih (mid + 1) high _ hm1 (by omega) hhP hnx.2 (ZerosLe.succ hmidlt hge hd)
      · rw [if_neg hd]
        exact ih low mid it hm2 hml (by omega) hit hlow
    · rw [if_neg hgt]
      exact ⟨low, it, rfl, hit, hlow⟩

/-- the linear phase: it advances to the first item `K` with more than `rank` zeros in front of it -/
theorem fzrScan_spec {s : Sparse} {n w : Nat} {P : List Nat} (hs : s.Encodes n w P)
    (hst : P.Pairwise (· < ·)) (m : Mode) (rank : Nat) :
    ∀ (fuel k : Nat) (it : SpOneIter), P.length + 2 ≤ fuel + k → IterAt s w P k it → ZerosLe P rank k →
      ∃ K it', Sparse.fzrScan m s rank fuel it (k, it) = ok (K, it') ∧ IterAt s w P K it' ∧
        ZerosLe P rank K ∧ (∀ (h : K < P.length), rank + K < P[K]) := by
  intro fuel
  induction fuel with
  | zero =>
    intro k it hf hit; have := hit.r_le; omega
  | succ fuel ih =>
    intro k it hf hit hk
    have hkl := hit.r_le
    rw [Sparse.fzrScan]
    by_cases hlt : k < P.length
    · have hnx := nextQ_ok hs m k it hit hlt
      have hge := strict_getElem_ge hst k hlt
      simp only [hnx.1, bind_ok]
      rw [subM_ok hge]
      simp only [bind_ok]
      by_cases hd : P[k] - k ≤ rank
      · rw [if_pos hd]
        exact ih (k + 1) _ (by omega) hnx.2 (ZerosLe.succ hlt hge hd)
      · rw [if_neg hd]
        exact ⟨k, it, rfl, hit, hk, fun _ => by omega⟩
    · have e : k = P.length := by omega
      subst e
      simp only [nextQ_none hs m it hit, bind_ok]
      exact ⟨P.length, it, rfl, hit, hk, fun h => absurd h (by omega)⟩

/-- `find_zero_run rank`: the number `K` of values with at most `rank` zeros in front of them, and the iterator
at item `K` -/
theorem findZeroRun_ok {s : Sparse} {n w : Nat} {P : List Nat} (hs : s.Encodes n w P)
    (hstrict : sortedStrict P = true) (m : Mode) (rank : Nat) :
    ∃ K it', s.findZeroRun m rank = ok (K, it') ∧ IterAt s w P K it' ∧ K ≤ P.length ∧
      (∀ j (hj : j < P.length), j < K → P[j] ≤ rank + j) ∧
      (∀ j (hj : j < P.length), K ≤ j → rank + j < P[j]) := by
  have hst := sortedStrict_pairwise P hstrict
  have hm := hs.m_lt
  unfold Sparse.findZeroRun
  rw [hs.countOnes_eq]
  obtain ⟨k, it, h1, h2, h3⟩ := fzrSearch_spec hs hst m rank 69 0 P.length (SpOneIter.full s)
    (by
      have : (2 : Nat) ^ 63 ≤ 2 ^ (69 + 4) := Nat.pow_le_pow_right (by decide) (by decide)
      omega) (Nat.zero_le _) (Nat.le_refl _) (full_IterAt hs) (fun j hj h => absurd h (by omega))
  rw [h1]
  simp only [bind_ok]
  obtain ⟨K, it', h4, h5, h6, h7⟩ := fzrScan_spec hs hst m rank (P.length + 2) k it (by omega) h2 h3
  refine ⟨K, it', h4, h5, h5.r_le, ?_, ?_⟩
  · intro j hj hjK
    have hK1 : K - 1 < P.length := by have := h5.r_le; omega
    have h8 := h6 (K - 1) hK1 (by omega)
    have := strict_gap_mono hst j (K - 1) (by omega) hK1
    omega
  · intro j hj hKj
    have h8 := h7 (by omega)
    have := strict_gap_mono hst K j hKj hj
    omega

/-! #### the list-level specification `selectZeroSet` -/

theorem filter_lt_succ (z : Nat) : ∀ (P : List Nat),
    (P.filter (· < z + 1)).length = (P.filter (· < z)).length + P.count z
  | [] => rfl
  | p :: ps => by
    have ih := filter_lt_succ z ps
    rcases Nat.lt_trichotomy p z with h | h | h
    · simp [h, Nat.lt_succ_of_lt h, Nat.ne_of_lt h, ih]; omega
    · simp [h, ih]; omega
    · simp [Nat.not_lt_of_gt h, show ¬ p < z + 1 by omega, Nat.ne_of_gt h, ih]

theorem strict_count (z : Nat) : ∀ (P : List Nat), P.Pairwise (· < ·) →
    P.count z = if P.contains z then 1 else 0
  | [], _ => by simp
  | p :: ps, h => by
    have h' := List.pairwise_cons.mp h
    have ih := strict_count z ps h'.2
    by_cases e : p = z
    · subst e
      have hz : List.count p ps = 0 := by
        apply List.count_eq_zero.mpr
        intro hm; have := h'.1 p hm; omega
      simp [List.count_cons, hz]
    · have h3 : (p == z) = false := by simp; exact e
      rw [List.count_cons, h3, ih]
      have : (p :: ps).contains z = ps.contains z := by
        simp [List.contains_cons]
        intro h; exact absurd h.symm e
      rw [this]; simp

/-- the number of non-members below `z` is `z - rank z` -/
theorem zeros_below {P : List Nat} (hstrict : sortedStrict P = true) : ∀ z,
    ((List.range z).filter (fun i => !P.contains i)).length = z - rankSet P z
  | 0 => by simp
  | z + 1 => by
    have ih := zeros_below hstrict z
    have h1 := rankSet_le_of_strict hstrict z
    have h2 := rankSet_le_of_strict hstrict (z + 1)
    have h3 : rankSet P (z + 1) = rankSet P z + P.count z := filter_lt_succ z P
    rw [strict_count z P (sortedStrict_pairwise P hstrict)] at h3
    rw [List.range_succ, List.filter_append, List.length_append, ih]
    cases hc : P.contains z with
    | true =>
      rw [hc] at h3
      simp only [if_true] at h3
      simp only [List.filter_cons, List.filter_nil, hc, Bool.not_true, Bool.false_eq_true, if_false,
        List.length_nil]
      omega
    | false =>
      rw [hc] at h3
      simp only [Bool.false_eq_true, if_false] at h3
      simp only [List.filter_cons, List.filter_nil, hc, Bool.not_false, if_true, List.length_cons,
        List.length_nil]
      omega

theorem selectZeroSet_some {P : List Nat} (hstrict : sortedStrict P = true) (n z : Nat) (hz : z < n)
    (hnot : getSet P z = false) : selectZeroSet P n (z - rankSet P z) = some z := by
  unfold selectZeroSet
  unfold getSet at hnot
  have hbase : ((List.range (z + 1)).filter (fun i => !P.contains i))[z - rankSet P z]? = some z := by
    rw [List.range_succ, List.filter_append]
    have hl := zeros_below hstrict z
    rw [List.getElem?_append_right (by omega), hl, Nat.sub_self]
    simp only [List.filter_cons, List.filter_nil, hnot, Bool.not_false, if_true]
    rfl
  obtain ⟨d, rfl⟩ : ∃ d, n = z + 1 + d := ⟨n - (z + 1), by omega⟩
  induction d with
  | zero => exact hbase
  | succ d ih =>
    have ih' := ih (by omega)
    rw [show z + 1 + (d + 1) = (z + 1 + d) + 1 by omega, List.range_succ, List.filter_append]
    have hlt : z - rankSet P z < ((List.range (z + 1 + d)).filter (fun i => !P.contains i)).length := by
      apply Nat.lt_of_not_le
      intro hle
      rw [List.getElem?_eq_none hle] at ih'
      cases ih'
    rw [List.getElem?_append_left hlt]
    exact ih'
/-- a position `c` above the first `k` values and below the others is the zero of rank `c - k` -/
theorem zero_at {P : List Nat} (hstrict : sortedStrict P = true) {n : Nat} (c k : Nat) (hc : c < n)
    (hk : k ≤ P.length) (h1 : ∀ j (hj : j < P.length), j < k → P[j] < c)
    (h2 : ∀ j (hj : j < P.length), k ≤ j → c < P[j]) : selectZeroSet P n (c - k) = some c := by
  have hr : rankSet P c = k :=
    rankSet_eq ((sortedStrict_pairwise P hstrict).imp Nat.le_of_lt) c k hk (fun h => h1 _ (by omega) (by omega))
      (fun h => Nat.le_of_lt (h2 k h (Nat.le_refl _)))
  rw [← hr]
  exact selectZeroSet_some hstrict n c hc (contains_false_of_split P c k h1 h2)

/-- **`select_zero`, set mode**, every rank, both modes: the zero of rank `r` of the list-level specification (`None`
from the number of zeros on) -/
theorem selectZero_spec {s : Sparse} {n w : Nat} {P : List Nat} (hs : s.Encodes n w P)
    (hstrict : sortedStrict P = true) (m : Mode) (r : Nat) :
    s.selectZero m r = ok (selectZeroSet P n r) := by
  unfold Sparse.selectZero
  rw [hs.countZeros_eq]
  by_cases hr : r < n - P.length
  · rw [if_neg (by omega)]
    obtain ⟨K, it', h1, h2, h3, h4, h5⟩ := findZeroRun_ok hs hstrict m r
    have hn := hs.n_lt
    simp only [h1, bind_ok]
    rw [addM_ok (by rw [U64_eq]; omega)]
    have := zero_at hstrict (n := n) (K + r) K (by omega) h3 (fun j hj hjK => by have := h4 j hj hjK; omega)
      (fun j hj hKj => by have := h5 j hj hKj; omega)
    rw [Nat.add_sub_cancel_left] at this
    rw [this]; rfl
  · rw [if_pos (by omega)]
    unfold selectZeroSet
    rw [List.getElem?_eq_none]
    rw [zeros_below hstrict n, rankSet_of_ge hs n (Nat.le_refl _)]
    omega

/-! ### the iterator over the zeros (set mode) -/

/-- state of the zero iterator: the next zero has rank `q`, the candidate position is `q + k` where `k` ones have
been passed, `onePos` is the position of one number `k` (or `n`), the inner iterator is past that one -/
structure ZInv (s : Sparse) (w : Nat) (P : List Nat) (n q k : Nat) (z : SpZeroIter) : Prop where
  limit_eq : z.limit = (n - P.length, n)
  next_eq : z.next = (q, q + k)
  k_le : k ≤ P.length
  iter_at : IterAt s w P (min (k + 1) P.length) z.iter
  one_lt : ∀ (h : k < P.length), z.onePos = P[k]
  one_end : k = P.length → z.onePos = n
  cand_le : q + k ≤ z.onePos
  prev_lt : ∀ j (hj : j < P.length), j < k → P[j] < q + k
  q_le : q ≤ n - P.length

theorem zeroIter_ok {s : Sparse} {n w : Nat} {P : List Nat} (hs : s.Encodes n w P)
    (hstrict : sortedStrict P = true) (m : Mode) :
    ∃ z, s.zeroIter m = ok z ∧ ZInv s w P n 0 0 z := by
  unfold Sparse.zeroIter
  rw [hs.countZeros_eq, hs.len_eq]
  obtain ⟨it', h1, h2⟩ := nextQ_min hs m 0 _ (by rw [Nat.zero_min]; exact full_IterAt hs)
  simp only [h1, bind_ok, pure_eq]
  refine ⟨_, rfl, ⟨rfl, rfl, Nat.zero_le _, h2, ?_, ?_, Nat.zero_le _, fun j hj h => absurd h (by omega),
    Nat.zero_le _⟩⟩
  · intro h0
    simp only [dif_pos h0]
  · intro h0
    simp only [dif_neg (show ¬ 0 < P.length by omega)]

/-- `select_zero_iter(rank)` below the number of zeros returns a state of the zero iterator at rank `rank` -/
theorem selectZeroIter_ok {s : Sparse} {n w : Nat} {P : List Nat} (hs : s.Encodes n w P) (hstrict : sortedStrict P = true) (m : Mode) (rank : Nat)
    (hr : rank < n - P.length) :
    ∃ z k, s.selectZeroIter m rank = ok z ∧ ZInv s w P n rank k z := by
  unfold Sparse.selectZeroIter
  rw [hs.countZeros_eq, hs.len_eq, if_neg (by omega)]
  obtain ⟨K, it', h1, h2, h3, h4, h5⟩ := findZeroRun_ok hs hstrict m rank
  -- one `next()` from the run found: the one at `K` if there is one (`nextQ_min`), as in `zero_iter()`
  obtain ⟨it'', g1, g2⟩ := nextQ_min hs m K it' (by rw [Nat.min_eq_left h3]; exact h2)
  have hn := hs.n_lt
  simp only [h1, g1, bind_ok]
  rw [addM_ok (by rw [U64_eq]; omega)]
  simp only [bind_ok, pure_eq]
  refine ⟨_, K, rfl, ⟨rfl, congrArg (rank, ·) (Nat.add_comm K rank), h3, g2, ?_, ?_, ?_,
    fun j hj hjK => by have := h4 j hj hjK; omega, Nat.le_of_lt hr⟩⟩
  · intro hK; simp only [dif_pos hK]
  · intro hK; simp only [dif_neg (show ¬ K < P.length by omega)]
  · show rank + K ≤ _
    by_cases hK : K < P.length
    · simp only [dif_pos hK]; have := h5 K hK (Nat.le_refl _); omega
    · simp only [dif_neg hK]; omega

/-- `next_run`: skip the ones sitting on the candidate position -/
theorem nextRun_spec {s : Sparse} {n w : Nat} {P : List Nat} (hs : s.Encodes n w P)
    (hst : P.Pairwise (· < ·)) (m : Mode) (q : Nat) (hq : q < n - P.length) :
    ∀ (fuel k : Nat) (z : SpZeroIter), ZInv s w P n q k z → P.length + 2 ≤ fuel + k →
      ∃ k' z', SpZeroIter.nextRun m s fuel z = ok z' ∧ ZInv s w P n q k' z' ∧ q + k' < z'.onePos := by
  have hn := hs.n_lt
  intro fuel
  induction fuel with
  | zero => intro k z hz hf; have := hz.k_le; omega
  | succ fuel ih =>
    intro k z hz hf
    have hkl := hz.k_le
    rw [SpZeroIter.nextRun, hz.next_eq]
    by_cases hge : q + k ≥ z.onePos
    · rw [if_pos hge]
      have hk : k < P.length := by
        apply Nat.lt_of_not_le
        intro h
        have := hz.one_end (by omega)
        omega
      have hone := hz.one_lt hk
      have hb := hs.bound P[k] (List.getElem_mem hk)
      have hc := hz.cand_le
      rw [hone] at hge hc ⊢
      rw [addM_ok (by rw [U64_eq]; omega)]
      simp only [bind_ok]
      obtain ⟨it', h1, h2⟩ := nextQ_min hs m (k + 1) _ hz.iter_at
      simp only [h1, bind_ok]
      apply ih (k + 1) _ _ (by omega)
      -- the new `onePos` is `P[k + 1]`, or `n` when the ones are exhausted
      refine ⟨hz.limit_eq, ?_, by omega, h2, ?_, ?_, ?_, ?_, hz.q_le⟩
      · show (q, P[k] + 1) = (q, q + (k + 1))
        congr 1; omega
      · intro hk1
        simp only [dif_pos hk1]
      · intro hk1
        simp only [dif_neg (show ¬ k + 1 < P.length by omega), hz.limit_eq]
      · by_cases hk1 : k + 1 < P.length
        · have hlt := pairwise_lt_getElem hst k (k + 1) (by omega) hk1
          simp only [dif_pos hk1]
          omega
        · simp only [dif_neg hk1, hz.limit_eq]
          omega
      · intro j hj hjk
        by_cases e : j = k
        · subst e; omega
        · have := hz.prev_lt j hj (by omega); omega
    · rw [if_neg hge]
      exact ⟨k, z, rfl, hz, by omega⟩
/-- **One step of the zero iterator.**  While `q` is below the number of zeros, the item is `(q, c)` with `c` the
zero of rank `q`, and the state advances to rank `q + 1`. -/
theorem zero_nextQ_ok {s : Sparse} {n w : Nat} {P : List Nat} (hs : s.Encodes n w P)
    (hstrict : sortedStrict P = true) (m : Mode) (q k : Nat) (z : SpZeroIter) (hz : ZInv s w P n q k z)
    (hq : q < n - P.length) :
    ∃ c k' z', SpZeroIter.nextQ m s z = ok (some (q, c), z') ∧ ZInv s w P n (q + 1) k' z' ∧
      selectZeroSet P n q = some c := by
  have hst := sortedStrict_pairwise P hstrict
  unfold SpZeroIter.nextQ
  rw [hz.limit_eq, hz.next_eq, hs.countOnes_eq]
  simp only []
  rw [if_neg (by omega)]
  obtain ⟨k', z', h1, h2, h3⟩ := nextRun_spec hs hst m q hq (P.length + 2) k z hz (by omega)
  simp only [h1, bind_ok, pure_eq, h2.next_eq]
  have hkl := h2.k_le
  have honen : z'.onePos ≤ n := by
    by_cases hk : k' < P.length
    · rw [h2.one_lt hk]; exact Nat.le_of_lt (hs.bound _ (List.getElem_mem hk))
    · rw [h2.one_end (by omega)]; exact Nat.le_refl _
  have hnext : ∀ j (hj : j < P.length), k' ≤ j → q + k' < P[j] := by
    intro j hj hkj
    have hk : k' < P.length := by omega
    have := h2.one_lt hk
    have := hs.mono k' j hkj hj
    omega
  have hsel := zero_at hstrict (n := n) (q + k') k' (by omega) hkl h2.prev_lt hnext
  rw [Nat.add_sub_cancel] at hsel
  refine ⟨q + k', k', _, rfl, ?_, hsel⟩
  refine ⟨h2.limit_eq, ?_, hkl, h2.iter_at, h2.one_lt, h2.one_end, ?_, ?_, by omega⟩
  · show (q + 1, q + k' + 1) = (q + 1, q + 1 + k'); congr 1; omega
  · show q + 1 + k' ≤ z'.onePos; omega
  · intro j hj hjk; have := h2.prev_lt j hj hjk; omega

theorem zero_nextQ_none {s : Sparse} {n w : Nat} {P : List Nat} (m : Mode) (k : Nat) (z : SpZeroIter)
    (hz : ZInv s w P n (n - P.length) k z) : SpZeroIter.nextQ m s z = ok (none, z) := by
  unfold SpZeroIter.nextQ
  rw [hz.limit_eq, hz.next_eq]
  simp only []
  rw [if_pos (Nat.le_refl _)]

/-- the item of the zero iterator at rank `q` is the answer of `select_zero q` -/
theorem zero_nextQ_eq_selectZero {s : Sparse} {n w : Nat} {P : List Nat} (hs : s.Encodes n w P)
    (hstrict : sortedStrict P = true) (m : Mode) (q k : Nat) (z : SpZeroIter) (hz : ZInv s w P n q k z)
    (hq : q < n - P.length) :
    ∃ c z', SpZeroIter.nextQ m s z = ok (some (q, c), z') ∧ s.selectZero m q = ok (some c) := by
  obtain ⟨c, k', z', h1, _, h3⟩ := zero_nextQ_ok hs hstrict m q k z hz hq
  exact ⟨c, z', h1, by rw [selectZero_spec hs hstrict m q, h3]⟩

/-- the pairs `(rank, position)` of the zeros of rank `≥ q`, read off the list-level specification -/
def zerosFrom (P : List Nat) (n q : Nat) : List (Nat × Nat) :=
  (List.range (n - P.length - q)).map fun i => (q + i, (selectZeroSet P n (q + i)).getD 0)

/-- the state stands for the zeros of rank `≥ q` with their ranks (`zerosFrom P n q` is the window `[q, n - |P|)` of
`fun i => (i, (selectZeroSet P n i).getD 0)`) -/
def _root_.Sds.Iter2.Sp.ZeroRel (s : Sparse) (w : Nat) (P : List Nat) (n : Nat) (z : SpZeroIter)
    (d : List (Nat × Nat)) : Prop :=
  ∃ q k, ZInv s w P n q k z ∧ d = zerosFrom P n q

theorem zero_fwdSim {s : Sparse} {n w : Nat} {P : List Nat} (hs : s.Encodes n w P) (hstrict : sortedStrict P = true)
    (m : Mode) : Iter2.FwdSim (SpZeroIter.nextQ m s) (Iter2.Sp.ZeroRel s w P n) := by
  constructor
  · intro z ⟨q, k, hz, hd⟩
    obtain rfl : q = n - P.length :=
      Nat.le_antisymm hz.q_le (Iter2.win_eq_nil (f := fun i => (i, (selectZeroSet P n i).getD 0)) hd)
    exact ⟨z, zero_nextQ_none m k z hz, _, k, hz, hd⟩
  · intro z x d ⟨q, k, hz, hd⟩
    obtain ⟨hq, rfl, hd'⟩ :=
      Iter2.win_eq_cons (f := fun i => (i, (selectZeroSet P n i).getD 0)) (b := n - P.length) hd
    obtain ⟨c, k', z', h1, h2, h3⟩ := zero_nextQ_ok hs hstrict m q k z hz hq
    exact ⟨z', by rw [h1, h3]; rfl, q + 1, k', h2, hd'⟩

/-- drain a zero iterator (proof-side helper): at most `fuel` items -/
def drainZ (m : Mode) (s : Sparse) : Nat → SpZeroIter → Outcome (List (Nat × Nat))
  | 0, _ => ok []
  | fuel + 1, z =>
    match SpZeroIter.nextQ m s z with
    | .fault f => .fault f
    | .ok (none, _) => ok []
    | .ok (some x, z') =>
      match drainZ m s fuel z' with
      | .fault f => .fault f
      | .ok xs => ok (x :: xs)

/-- **The zero iterator delivers the zeros in order with their ranks** (set mode): draining a state at rank `q`
yields `(i, select_zero i)` for `q ≤ i < n - |P|`, with no fault in either mode. -/
theorem drainZ_ok {s : Sparse} {n w : Nat} {P : List Nat} (hs : s.Encodes n w P)
    (hstrict : sortedStrict P = true) (m : Mode) (fuel q k : Nat) (z : SpZeroIter) (hz : ZInv s w P n q k z)
    (hf : n - P.length - q < fuel) : drainZ m s fuel z = ok (zerosFrom P n q) := by
  refine (zero_fwdSim hs hstrict m).drain_of (dr := drainZ m s) (fun f z => ?_) _ ⟨q, k, hz, rfl⟩ fuel
    ((Iter2.win_length (fun i => (i, (selectZeroSet P n i).getD 0)) q (n - P.length)).symm ▸ hf)
  rw [drainZ]
  cases SpZeroIter.nextQ m s z with
  | fault e => rfl
  | ok r =>
    obtain ⟨_ | x, z'⟩ := r
    · rfl
    · cases h : drainZ m s f z' <;> simp only [bind_ok, h] <;> rfl

theorem zeroIter_drain {s : Sparse} {n w : Nat} {P : List Nat} (hs : s.Encodes n w P)
    (hstrict : sortedStrict P = true) (m : Mode) :
    ∃ z, s.zeroIter m = ok z ∧ drainZ m s (n - P.length + 1) z = ok (zerosFrom P n 0) := by
  obtain ⟨z, h1, h2⟩ := zeroIter_ok hs hstrict m
  exact ⟨z, h1, drainZ_ok hs hstrict m _ 0 0 z h2 (by omega)⟩

/-! ### the iterator over all bits (two-ended, duplicate-skipping; set and multiset mode) -/

/-- forward duplicate skip: it consumes the items `≤ cur` and stops after the first item `> cur`, or exhausts the
parent and hands back the fallback value -/
theorem skipDupFwd_spec {s : Sparse} {n w : Nat} {P : List Nat} (hs : s.Encodes n w P) (m : Mode)
    (cur R : Nat) (ns0 : Option Nat) :
    ∀ (fuel r : Nat) (it : SpOneIter), IterBetween s w P r R it → R + 1 ≤ fuel + r →
      (∃ j, ∃ (hj : j < P.length), r ≤ j ∧ j < R ∧ (∀ i (hi : i < P.length), r ≤ i → i < j → P[i] ≤ cur) ∧
          cur < P[j] ∧ ∃ it', SpIter.skipDupFwd m s cur fuel it ns0 = ok (it', some P[j]) ∧
            IterBetween s w P (j + 1) R it') ∨
      ((∀ i (hi : i < P.length), r ≤ i → i < R → P[i] ≤ cur) ∧
          ∃ it', SpIter.skipDupFwd m s cur fuel it ns0 = ok (it', ns0) ∧ IterBetween s w P R R it') := by
  intro fuel
  induction fuel with
  | zero => intro r it hit hf; have := hit.r_le; omega
  | succ fuel ih =>
    intro r it hit hf
    have hRl := hit.R_le
    rw [SpIter.skipDupFwd]
    by_cases hr : r < R
    · have hrP : r < P.length := by omega
      obtain ⟨h1, h2⟩ := nextQ_between hs m r R it hit hr
      simp only [h1, bind_ok]
      by_cases hgt : P[r] > cur
      · rw [if_pos hgt]
        left
        exact ⟨r, hrP, Nat.le_refl _, hr, fun i hi h3 h4 => absurd h4 (by omega), hgt, _, rfl, h2⟩
      · rw [if_neg hgt]
        rcases ih (r + 1) _ h2 (by omega) with ⟨j, hj, g1, g2, g3, g4, it', g5, g6⟩ | ⟨g1, it', g2, g3⟩
        · left
          refine ⟨j, hj, by omega, g2, ?_, g4, it', g5, g6⟩
          intro i hi h3 h4
          by_cases e : i = r
          · subst e; omega
          · exact g3 i hi (by omega) h4
        · right
          refine ⟨?_, it', g2, g3⟩
          intro i hi h3 h4
          by_cases e : i = r
          · subst e; omega
          · exact g1 i hi (by omega) h4
    · have e : r = R := by have := hit.r_le; omega
      subst e
      simp only [nextQ_between_none m r r it hit (Nat.le_refl _), bind_ok, pure_eq]
      right
      exact ⟨fun i hi h3 h4 => absurd h4 (by omega), it, rfl, hit⟩

/-- mirror of `skipDupFwd_spec` -/
theorem skipDupBwd_spec {s : Sparse} {n w : Nat} {P : List Nat} (hs : s.Encodes n w P) (m : Mode)
    (cur r : Nat) (ls0 : Option Nat) :
    ∀ (fuel R : Nat) (it : SpOneIter), IterBetween s w P r R it → R + 1 ≤ fuel + r →
      (∃ j, ∃ (hj : j < P.length), r ≤ j ∧ j < R ∧ (∀ i (hi : i < P.length), j < i → i < R → cur ≤ P[i]) ∧
          P[j] < cur ∧ ∃ it', SpIter.skipDupBwd m s cur fuel it ls0 = ok (it', some P[j]) ∧
            IterBetween s w P r j it') ∨
      ((∀ i (hi : i < P.length), r ≤ i → i < R → cur ≤ P[i]) ∧
          ∃ it', SpIter.skipDupBwd m s cur fuel it ls0 = ok (it', ls0) ∧ IterBetween s w P r r it') := by
  intro fuel
  induction fuel with
  | zero => intro R it hit hf; have := hit.r_le; omega
  | succ fuel ih =>
    intro R it hit hf
    have hRl := hit.R_le
    rw [SpIter.skipDupBwd]
    by_cases hr : r < R
    · have hR1 : R - 1 < P.length := by omega
      obtain ⟨h1, h2⟩ := nextBackQ_between hs m r R it hit hr
      simp only [h1, bind_ok]
      by_cases hlt : P[R - 1] < cur
      · rw [if_pos hlt]
        left
        exact ⟨R - 1, hR1, by omega, by omega, fun i hi h3 h4 => absurd h4 (by omega), hlt, _, rfl, h2⟩
      · rw [if_neg hlt]
        rcases ih (R - 1) _ h2 (by omega) with ⟨j, hj, g1, g2, g3, g4, it', g5, g6⟩ | ⟨g1, it', g2, g3⟩
        · left
          refine ⟨j, hj, g1, by omega, ?_, g4, it', g5, g6⟩
          intro i hi h3 h4
          by_cases e : i = R - 1
          · subst e; omega
          · exact g3 i hi h3 (by omega)
        · right
          refine ⟨?_, it', g2, g3⟩
          intro i hi h3 h4
          by_cases e : i = R - 1
          · subst e; omega
          · exact g1 i hi h3 (by omega)
    · have e : r = R := by have := hit.r_le; omega
      subst e
      simp only [nextBackQ_between_none m r r it hit (Nat.le_refl _), bind_ok, pure_eq]
      right
      exact ⟨fun i hi h3 h4 => absurd h4 (by omega), it, rfl, hit⟩

/-- State of the all-bits iterator: positions `a ≤ x < b` are still to be delivered; the parent iterator has
delivered the items below `r` to the front end and those from `R` on to the back end.  `nextSet` / `lastSet`
hold the value most recently taken at each end (it may be stale, i.e. outside the window, which is harmless). -/
structure SInv (s : Sparse) (w : Nat) (P : List Nat) (n a b r R : Nat) (it : SpIter) : Prop where
  next_eq : it.next = a
  limit_eq : it.limit = b
  a_le : a ≤ b
  b_le : b ≤ n
  parent : IterBetween s w P r R it.parent
  ns_mem : ∀ v, it.nextSet = some v → v ∈ P
  ls_mem : ∀ u, it.lastSet = some u → u ∈ P
  front : ∀ i (hi : i < P.length), i < r → P[i] < a ∨ it.nextSet = some P[i]
  back : ∀ i (hi : i < P.length), R ≤ i → b ≤ P[i] ∨ it.lastSet = some P[i]
  mid_front : r < R → ∃ i, ∃ (hi : i < P.length), i + 1 = r ∧ it.nextSet = some P[i] ∧ a ≤ P[i]
  mid_back : r < R → ∃ (hR : R < P.length), it.lastSet = some P[R] ∧ P[R] < b
  ex_front : r = R → ∀ u, it.lastSet = some u → a ≤ u → u < b → ∃ v, it.nextSet = some v ∧ a ≤ v ∧ v ≤ u
  ex_back : r = R → ∀ v, it.nextSet = some v → a ≤ v → v < b → ∃ u, it.lastSet = some u ∧ v ≤ u ∧ u < b

theorem mem_of_some_getElem {P : List Nat} {j v : Nat} (hj : j < P.length) (h : some P[j] = some v) : v ∈ P :=
  Option.some.inj h ▸ List.getElem_mem hj

theorem getSet_true_of_mem {P : List Nat} {x : Nat} (h : x ∈ P) : getSet P x = true := by
  unfold getSet; simpa using h

/-- when the two ends hold values `v ≤ u` of the window, the two conditions for an exhausted parent hold -/
theorem ex_of_held {ns ls : Option Nat} {a b v u : Nat} (hv : ns = some v) (hu : ls = some u) (h1 : a ≤ v)
    (h2 : v ≤ u) (h3 : u < b) :
    (∀ u', ls = some u' → a ≤ u' → u' < b → ∃ v', ns = some v' ∧ a ≤ v' ∧ v' ≤ u') ∧
    (∀ v', ns = some v' → a ≤ v' → v' < b → ∃ u', ls = some u' ∧ v' ≤ u' ∧ u' < b) := by
  subst hv hu
  exact ⟨fun u' e _ _ => ⟨v, rfl, h1, Option.some.inj e ▸ h2⟩, fun v' e _ _ => ⟨u, rfl, Option.some.inj e ▸ h2, h3⟩⟩

/-- every member of the window lies between the values held for the two ends -/
theorem SInv.bracket {s : Sparse} {n w : Nat} {P : List Nat} (hs : s.Encodes n w P) {a b r R : Nat} {it : SpIter}
    (hI : SInv s w P n a b r R it) {x : Nat} (hx : x ∈ P) (ha : a ≤ x) (hb : x < b) :
    (∃ v, it.nextSet = some v ∧ a ≤ v ∧ v ≤ x) ∧ (∃ u, it.lastSet = some u ∧ x ≤ u ∧ u < b) := by
  obtain ⟨i, hi, rfl⟩ := List.mem_iff_getElem.mp hx
  have hrR := hI.parent.r_le
  by_cases h1 : i < r
  · -- delivered at the front: `nextSet` holds it
    have hns : it.nextSet = some P[i] := (hI.front i hi h1).resolve_left (by omega)
    refine ⟨⟨_, hns, ha, Nat.le_refl _⟩, ?_⟩
    by_cases hlt : r < R
    · obtain ⟨hR, g1, g2⟩ := hI.mid_back hlt
      exact ⟨_, g1, hs.mono i R (by omega) hR, g2⟩
    · exact hI.ex_back (by omega) _ hns ha hb
  · by_cases h2 : R ≤ i
    · -- delivered at the back: `lastSet` holds it
      have hls : it.lastSet = some P[i] := (hI.back i hi h2).resolve_left (by omega)
      refine ⟨?_, ⟨_, hls, Nat.le_refl _, hb⟩⟩
      by_cases hlt : r < R
      · obtain ⟨i0, hi0, e0, g1, g2⟩ := hI.mid_front hlt
        exact ⟨_, g1, g2, hs.mono i0 i (by omega) hi⟩
      · exact hI.ex_front (by omega) _ hls ha hb
    · obtain ⟨i0, hi0, e0, g1, g2⟩ := hI.mid_front (by omega)
      obtain ⟨hR, k1, k2⟩ := hI.mid_back (by omega)
      exact ⟨⟨_, g1, g2, hs.mono i0 i (by omega) hi⟩, ⟨_, k1, hs.mono i R (by omega) hR, k2⟩⟩

/-- the window may shrink at either end past positions that `nextSet` / `lastSet` do not hold -/
theorem SInv.shrink {s : Sparse} {n w : Nat} {P : List Nat} {a b r R : Nat} {it : SpIter}
    (hI : SInv s w P n a b r R it) {a' b' : Nat} {it' : SpIter} (he : it' = { it with next := a', limit := b' })
    (ha : a ≤ a') (hb : b' ≤ b) (hab : a' ≤ b') (h1 : ∀ v, it.nextSet = some v → a ≤ v → a' ≤ v)
    (h2 : ∀ u, it.lastSet = some u → u < b → u < b') : SInv s w P n a' b' r R it' := by
  subst he
  have hbn := hI.b_le
  refine ⟨rfl, rfl, hab, by omega, hI.parent, hI.ns_mem, hI.ls_mem, ?_, ?_, ?_, ?_, ?_, ?_⟩
  · exact fun i hi h => (hI.front i hi h).imp (fun g => by omega) id
  · exact fun i hi h => (hI.back i hi h).imp (fun g => by omega) id
  · intro h
    obtain ⟨i0, hi0, e0, g1, g2⟩ := hI.mid_front h
    exact ⟨i0, hi0, e0, g1, h1 _ g1 g2⟩
  · intro h
    obtain ⟨hR, g1, g2⟩ := hI.mid_back h
    exact ⟨hR, g1, h2 _ g1 g2⟩
  · intro h u hu k1 k2
    obtain ⟨v, g1, g2, g3⟩ := hI.ex_front h u hu (by omega) (by omega)
    exact ⟨v, g1, h1 v g1 g2, g3⟩
  · intro h v hv k1 k2
    obtain ⟨u, g1, g2, g3⟩ := hI.ex_back h v hv (by omega) (by omega)
    exact ⟨u, g1, g2, h2 u g1 g3⟩

/-- front end, position not held in `nextSet`: it is not a member -/
theorem front_false {s : Sparse} {n w : Nat} {P : List Nat} (hs : s.Encodes n w P) {a b r R : Nat} {it : SpIter}
    (hI : SInv s w P n a b r R it) (hab : a < b) (hne : it.nextSet ≠ some a) :
    getSet P a = false ∧ SInv s w P n (a + 1) b r R { it with next := it.next + 1 } := by
  constructor
  · unfold getSet
    cases hc : P.contains a with
    | false => rfl
    | true =>
      obtain ⟨⟨v, g1, g2, g3⟩, _⟩ := hI.bracket hs (by simpa using hc) (Nat.le_refl _) hab
      obtain rfl : v = a := by omega
      exact absurd g1 hne
  · exact hI.shrink (by rw [hI.next_eq, ← hI.limit_eq]) (by omega) (Nat.le_refl _) hab
      (fun v hv h => by have : v ≠ a := fun e => hne (e ▸ hv); omega) (fun _ _ h => h)

/-- front end, position held in `nextSet`: it is a member; the duplicates are skipped and the next value loaded -/
theorem front_true {s : Sparse} {n w : Nat} {P : List Nat} (hs : s.Encodes n w P) (m : Mode) {a b r R : Nat}
    {it : SpIter} (hI : SInv s w P n a b r R it) (hab : a < b) (hns : it.nextSet = some a) :
    getSet P a = true ∧ ∃ p ns r', SpIter.skipDupFwd m s a (s.countOnes + 2) it.parent it.lastSet = ok (p, ns) ∧
      SInv s w P n (a + 1) b r' R { it with parent := p, nextSet := ns, next := it.next + 1 } := by
  refine ⟨getSet_true_of_mem (hI.ns_mem a hns), ?_⟩
  have hRl := hI.parent.R_le
  have hrR := hI.parent.r_le
  have hprev : ∀ i (hi : i < P.length), i < r → P[i] ≤ a := by
    intro i hi h
    rcases hI.front i hi h with g | g
    · omega
    · rw [hns] at g; have := Option.some.inj g; omega
  rw [hs.countOnes_eq]
  rcases skipDupFwd_spec hs m a R it.lastSet (P.length + 2) r it.parent hI.parent (by omega) with
    ⟨j, hj, g1, g2, g3, g4, it', g5, g6⟩ | ⟨g1, it', g2, g3⟩
  · obtain ⟨hR, k1, k2⟩ := hI.mid_back (by omega)
    have hex := ex_of_held (ns := some P[j]) rfl k1 (show a + 1 ≤ P[j] by omega) (hs.mono j R (by omega) hR) k2
    refine ⟨it', some P[j], j + 1, g5, ⟨by show it.next + 1 = a + 1; rw [hI.next_eq], hI.limit_eq, by omega,
      hI.b_le, g6, ?_, hI.ls_mem, ?_, hI.back, ?_, fun _ => ⟨hR, k1, k2⟩, fun _ => hex.1, fun _ => hex.2⟩⟩
    · exact fun v hv => mem_of_some_getElem hj hv
    · intro i hi h
      by_cases e : i = j
      · subst e; right; rfl
      · left
        by_cases h1 : i < r
        · have := hprev i hi h1; omega
        · have := g3 i hi (by omega) (by omega); omega
    · intro _
      exact ⟨j, hj, rfl, rfl, by omega⟩
  · refine ⟨it', it.lastSet, R, g2, ⟨by show it.next + 1 = a + 1; rw [hI.next_eq], hI.limit_eq, by omega,
      hI.b_le, g3, hI.ls_mem, hI.ls_mem, ?_, hI.back, fun h => absurd h (by omega), fun h => absurd h (by omega),
      fun _ u hu h1 h2 => ⟨u, hu, h1, Nat.le_refl _⟩, fun _ v hv h1 h2 => ⟨v, hv, Nat.le_refl _, h2⟩⟩⟩
    intro i hi h
    left
    by_cases h1 : i < r
    · have := hprev i hi h1; omega
    · have := g1 i hi (by omega) h; omega

/-- back end, position not held in `lastSet`: it is not a member -/
theorem back_false {s : Sparse} {n w : Nat} {P : List Nat} (hs : s.Encodes n w P) {a b r R : Nat} {it : SpIter}
    (hI : SInv s w P n a b r R it) (hab : a < b) (hne : it.lastSet ≠ some (b - 1)) :
    getSet P (b - 1) = false ∧ SInv s w P n a (b - 1) r R { it with limit := it.limit - 1 } := by
  constructor
  · unfold getSet
    cases hc : P.contains (b - 1) with
    | false => rfl
    | true =>
      obtain ⟨_, u, g1, g2, g3⟩ := hI.bracket hs (by simpa using hc) (by omega) (by omega)
      obtain rfl : u = b - 1 := by omega
      exact absurd g1 hne
  · exact hI.shrink (by rw [hI.limit_eq, ← hI.next_eq]) (Nat.le_refl _) (by omega) (by omega) (fun _ _ h => h)
      (fun u hu h => by have : u ≠ b - 1 := fun e => hne (e ▸ hu); omega)

/-- back end, position held in `lastSet` -/
theorem back_true {s : Sparse} {n w : Nat} {P : List Nat} (hs : s.Encodes n w P) (m : Mode) {a b r R : Nat}
    {it : SpIter} (hI : SInv s w P n a b r R it) (hab : a < b) (hls : it.lastSet = some (b - 1)) :
    getSet P (b - 1) = true ∧
      ∃ p ls R', SpIter.skipDupBwd m s (b - 1) (s.countOnes + 2) it.parent it.nextSet = ok (p, ls) ∧
      SInv s w P n a (b - 1) r R' { it with parent := p, lastSet := ls, limit := it.limit - 1 } := by
  refine ⟨getSet_true_of_mem (hI.ls_mem _ hls), ?_⟩
  have hRl := hI.parent.R_le
  have hrR := hI.parent.r_le
  have hbn := hI.b_le
  have hnext : ∀ i (hi : i < P.length), R ≤ i → b - 1 ≤ P[i] := by
    intro i hi h
    rcases hI.back i hi h with g | g
    · omega
    · rw [hls] at g; have := Option.some.inj g; omega
  rw [hs.countOnes_eq]
  rcases skipDupBwd_spec hs m (b - 1) r it.nextSet (P.length + 2) R it.parent hI.parent (by omega) with
    ⟨j, hj, g1, g2, g3, g4, it', g5, g6⟩ | ⟨g1, it', g2, g3⟩
  · obtain ⟨i0, hi0, e0, k1, k2⟩ := hI.mid_front (by omega)
    have hex := ex_of_held (ls := some P[j]) k1 rfl k2 (hs.mono i0 j (by omega) hj) (show P[j] < b - 1 from g4)
    refine ⟨it', some P[j], j, g5, ⟨hI.next_eq, by show it.limit - 1 = b - 1; rw [hI.limit_eq], by omega, by omega,
      g6, hI.ns_mem, ?_, hI.front, ?_, fun _ => ⟨i0, hi0, e0, k1, k2⟩, ?_, fun _ => hex.1, fun _ => hex.2⟩⟩
    · exact fun v hv => mem_of_some_getElem hj hv
    · intro i hi h
      by_cases e : i = j
      · subst e; right; rfl
      · left
        by_cases h1 : i < R
        · exact g3 i hi (by omega) h1
        · exact hnext i hi (by omega)
    · intro _
      exact ⟨hj, rfl, g4⟩
  · refine ⟨it', it.nextSet, r, g2, ⟨hI.next_eq, by show it.limit - 1 = b - 1; rw [hI.limit_eq], by omega, by omega,
      g3, hI.ns_mem, hI.ns_mem, hI.front, ?_, fun h => absurd h (by omega), fun h => absurd h (by omega),
      fun _ u hu h1 h2 => ⟨u, hu, h1, Nat.le_refl _⟩, fun _ v hv h1 h2 => ⟨v, hv, Nat.le_refl _, h2⟩⟩⟩
    intro i hi h
    left
    by_cases h1 : i < R
    · exact g1 i hi h h1
    · exact hnext i hi (by omega)

/-- **`Iter::next`**: the bit at position `a` (membership of `a`), and the window shrinks from the front -/
theorem sp_nextQ_ok {s : Sparse} {n w : Nat} {P : List Nat} (hs : s.Encodes n w P) (m : Mode) {a b r R : Nat}
    {it : SpIter} (hI : SInv s w P n a b r R it) (hab : a < b) :
    ∃ it' r', SpIter.nextQ m s it = ok (some (getSet P a), it') ∧ SInv s w P n (a + 1) b r' R it' := by
  unfold SpIter.nextQ
  rw [hI.limit_eq, hI.next_eq, if_neg (by omega)]
  by_cases hns : it.nextSet = some a
  · obtain ⟨h1, p, ns, r', h2, h3⟩ := front_true hs m hI hab hns
    rw [hI.next_eq, hI.limit_eq] at h3
    rw [hns]
    simp only [if_true, h2, bind_ok, pure_eq, h1]
    exact ⟨_, r', rfl, h3⟩
  · obtain ⟨h1, h2⟩ := front_false hs hI hab hns
    rw [hI.next_eq, hI.limit_eq] at h2
    rw [h1]
    cases hv : it.nextSet with
    | none => rw [hv] at h2; exact ⟨_, r, rfl, h2⟩
    | some v =>
      have hva : ¬ (v = a) := by
        intro e; rw [hv, e] at hns; exact hns rfl
      simp only [if_neg hva, pure_eq]
      rw [hv] at h2
      exact ⟨_, r, rfl, h2⟩

/-- **`Iter::next_back`**: the bit at position `b - 1`, and the window shrinks from the back -/
theorem sp_nextBackQ_ok {s : Sparse} {n w : Nat} {P : List Nat} (hs : s.Encodes n w P) (m : Mode) {a b r R : Nat}
    {it : SpIter} (hI : SInv s w P n a b r R it) (hab : a < b) :
    ∃ it' R', SpIter.nextBackQ m s it = ok (some (getSet P (b - 1)), it') ∧ SInv s w P n a (b - 1) r R' it' := by
  unfold SpIter.nextBackQ
  rw [hI.limit_eq, hI.next_eq, if_neg (by omega)]
  simp only []
  by_cases hls : it.lastSet = some (b - 1)
  · obtain ⟨h1, p, ls, R', h2, h3⟩ := back_true hs m hI hab hls
    rw [hI.limit_eq, hI.next_eq] at h3
    rw [hls]
    simp only [if_true, h2, bind_ok, pure_eq, h1]
    exact ⟨_, R', rfl, h3⟩
  · obtain ⟨h1, h2⟩ := back_false hs hI hab hls
    rw [hI.limit_eq, hI.next_eq] at h2
    rw [h1]
    cases hv : it.lastSet with
    | none => rw [hv] at h2; exact ⟨_, R, rfl, h2⟩
    | some v =>
      have hva : ¬ (v = b - 1) := by
        intro e; rw [hv, e] at hls; exact hls rfl
      simp only [if_neg hva, pure_eq]
      rw [hv] at h2
      exact ⟨_, R, rfl, h2⟩

/-- the empty window answers `None` at both ends -/
theorem sp_nextQ_none {s : Sparse} {n w : Nat} {P : List Nat} (m : Mode) {a r R : Nat}
    {it : SpIter} (hI : SInv s w P n a a r R it) : SpIter.nextQ m s it = ok (none, it) := by
  unfold SpIter.nextQ
  rw [hI.limit_eq, hI.next_eq, if_pos (Nat.le_refl _)]

theorem sp_nextBackQ_none {s : Sparse} {n w : Nat} {P : List Nat} (m : Mode) {a r R : Nat}
    {it : SpIter} (hI : SInv s w P n a a r R it) : SpIter.nextBackQ m s it = ok (none, it) := by
  unfold SpIter.nextBackQ
  rw [hI.limit_eq, hI.next_eq, if_pos (Nat.le_refl _)]

theorem sp_remaining {s : Sparse} {n w : Nat} {P : List Nat} {a b r R : Nat}
    {it : SpIter} (hI : SInv s w P n a b r R it) : it.remaining = b - a := by
  unfold SpIter.remaining
  rw [hI.limit_eq, hI.next_eq]

/-- **`iter()`** builds a state whose window is the whole universe.  Three cases |P| = 0, 1, ≥ 2, because
`iter()` pre-loads `nextSet` with one `next` and `lastSet` with one `next_back`, falling back to `nextSet` when
the back call finds nothing. -/
theorem sp_iter_ok {s : Sparse} {n w : Nat} {P : List Nat} (hs : s.Encodes n w P) (m : Mode) :
    ∃ it r R, s.iter m = ok it ∧ SInv s w P n 0 n r R it := by
  unfold Sparse.iter
  rw [hs.len_eq]
  have hfull := full_between hs
  by_cases h0 : P.length = 0
  · have hP : P = [] := List.eq_nil_of_length_eq_zero h0
    rw [h0] at hfull
    simp only [nextQ_between_none m 0 0 _ hfull (Nat.le_refl _), nextBackQ_between_none m 0 0 _ hfull (Nat.le_refl _),
      bind_ok, pure_eq, Option.map_none]
    refine ⟨_, 0, 0, rfl, ⟨rfl, rfl, Nat.zero_le _, Nat.le_refl _, hfull, fun v hv => (by cases hv),
      fun v hv => (by cases hv), fun i hi h => absurd h (by omega), fun i hi h => absurd hi (by omega),
      fun h => absurd h (by omega), fun h => absurd h (by omega), fun _ u hu => (by cases hu),
      fun _ u hu => (by cases hu)⟩⟩
  · have hpos : 0 < P.length := by omega
    obtain ⟨h1, h2⟩ := nextQ_between hs m 0 P.length _ hfull hpos
    have hb0 := hs.bound P[0] (List.getElem_mem hpos)
    by_cases h1' : P.length = 1
    · simp only [h1, bind_ok, nextBackQ_between_none m (0 + 1) P.length _ h2 (by omega), pure_eq, Option.map_some]
      refine ⟨_, 0 + 1, P.length, rfl, ⟨rfl, rfl, Nat.zero_le _, Nat.le_refl _, h2, ?_, ?_, ?_, ?_,
        fun h => absurd h (by omega), fun h => absurd h (by omega), ?_, ?_⟩⟩
      · exact fun v hv => mem_of_some_getElem hpos hv
      · exact fun v hv => mem_of_some_getElem hpos hv
      · intro i hi h
        have : i = 0 := by omega
        subst this; right; rfl
      · intro i hi h; omega
      · intro _ u hu ha hb
        exact ⟨u, hu, ha, Nat.le_refl _⟩
      · intro _ v hv ha hb
        exact ⟨v, hv, Nat.le_refl _, hb⟩
    · have hlt : 1 < P.length := by omega
      obtain ⟨h3, h4⟩ := nextBackQ_between hs m (0 + 1) P.length _ h2 (by omega)
      have hL : P.length - 1 < P.length := by omega
      have hbL := hs.bound P[P.length - 1] (List.getElem_mem hL)
      simp only [h1, bind_ok, h3, pure_eq, Option.map_some]
      have hex := ex_of_held (ns := some P[0]) (ls := some P[P.length - 1]) rfl rfl (Nat.zero_le _)
        (hs.mono 0 (P.length - 1) (Nat.zero_le _) hL) hbL
      refine ⟨_, 0 + 1, P.length - 1, rfl, ⟨rfl, rfl, Nat.zero_le _, Nat.le_refl _, h4, ?_, ?_, ?_, ?_, ?_, ?_,
        fun _ => hex.1, fun _ => hex.2⟩⟩
      · exact fun v hv => mem_of_some_getElem hpos hv
      · exact fun v hv => mem_of_some_getElem hL hv
      · intro i hi h
        have : i = 0 := by omega
        subst this; right; rfl
      · intro i hi h
        have : i = P.length - 1 := by omega
        subst this; right; rfl
      · intro _
        exact ⟨0, hpos, rfl, rfl, Nat.zero_le _⟩
      · intro _
        exact ⟨hL, rfl, hbL⟩

/-! #### simulation of the all-bits iterator against the deque of bits -/

/-- the membership bits of the positions `a ≤ x < b` -/
def bitsBetween (P : List Nat) (a b : Nat) : List Bool := (List.range (b - a)).map fun i => getSet P (a + i)

theorem bitsBetween_full (P : List Nat) (n : Nat) : bitsBetween P 0 n = bitsOfSet P n := by
  unfold bitsBetween bitsOfSet getSet
  simp

/-- the state stands for the membership bits of its window (`bitsBetween P a b` is the window `[a, b)` of `getSet P`) -/
def _root_.Sds.Iter2.Sp.BitRel (s : Sparse) (w : Nat) (P : List Nat) (n : Nat) (it : SpIter) (d : List Bool) : Prop :=
  ∃ a b r R, SInv s w P n a b r R it ∧ d = bitsBetween P a b

theorem bit_fwdSim {s : Sparse} {n w : Nat} {P : List Nat} (hs : s.Encodes n w P) (m : Mode) :
    Iter2.FwdSim (SpIter.nextQ m s) (Iter2.Sp.BitRel s w P n) := by
  constructor
  · intro it ⟨a, b, r, R, hI, hd⟩
    obtain rfl : a = b := Nat.le_antisymm hI.a_le (Iter2.win_eq_nil (f := getSet P) hd)
    exact ⟨it, sp_nextQ_none m hI, a, a, r, R, hI, hd⟩
  · intro it x d ⟨a, b, r, R, hI, hd⟩
    obtain ⟨hab, rfl, hd'⟩ := Iter2.win_eq_cons (f := getSet P) hd
    obtain ⟨it', r', h1, h2⟩ := sp_nextQ_ok hs m hI hab
    exact ⟨it', h1, a + 1, b, r', R, h2, hd'⟩

theorem bit_bwdSim {s : Sparse} {n w : Nat} {P : List Nat} (hs : s.Encodes n w P) (m : Mode) :
    Iter2.BwdSim (SpIter.nextBackQ m s) (Iter2.Sp.BitRel s w P n) := by
  constructor
  · intro it ⟨a, b, r, R, hI, hd⟩
    obtain rfl : a = b := Nat.le_antisymm hI.a_le (Iter2.win_eq_nil (f := getSet P) hd)
    exact ⟨it, sp_nextBackQ_none m hI, a, a, r, R, hI, hd⟩
  · intro it d x ⟨a, b, r, R, hI, hd⟩
    obtain ⟨hab, rfl, hd'⟩ := Iter2.win_eq_snoc (f := getSet P) hd
    obtain ⟨it', R', h1, h2⟩ := sp_nextBackQ_ok hs m hI hab
    exact ⟨it', h1, a, b - 1, r, R', h2, hd'⟩

def callSpIter (m : Mode) (s : Sparse) (e : End) (it : SpIter) : Outcome (Option Bool × SpIter) :=
  match e with
  | .front => SpIter.nextQ m s it
  | .back => SpIter.nextBackQ m s it

def runSpCalls (m : Mode) (s : Sparse) : List End → SpIter → Outcome (List (Option Bool) × SpIter)
  | [], it => ok ([], it)
  | e :: es, it =>
    match callSpIter m s e it with
    | .fault f => .fault f
    | .ok (o, it') =>
      match runSpCalls m s es it' with
      | .fault f => .fault f
      | .ok (os, it'') => ok (o :: os, it'')

theorem runSpCalls_cons (m : Mode) (s : Sparse) (e : End) (es : List End) (it : SpIter) :
    runSpCalls m s (e :: es) it = (do
      let r ← callSpIter m s e it
      let q ← runSpCalls m s es r.2
      return (r.1 :: q.1, q.2)) := by
  rw [runSpCalls]
  cases callSpIter m s e it with
  | fault f => rfl
  | ok r => cases h : runSpCalls m s es r.2 <;> simp only [bind_ok, h] <;> rfl

/-- any interleaving of `next` / `next_back` calls on `Iter` answers exactly like the same calls on the deque of the
membership bits of its window; no fault in either mode (set and multiset) -/
theorem runSpCalls_ok {s : Sparse} {n w : Nat} {P : List Nat} (hs : s.Encodes n w P) (m : Mode)
    (calls : List End) {it : SpIter} {d : List Bool} (h : Iter2.Sp.BitRel s w P n it d) :
    ∃ it', runSpCalls m s calls it = ok ((runDeque calls d).1, it') ∧
      Iter2.Sp.BitRel s w P n it' (runDeque calls d).2 :=
  runDeque_sim (bit_fwdSim hs m) (bit_bwdSim hs m) (fun _ => rfl) (runSpCalls_cons m s) calls h

/-- from `iter()`: the deque is the whole bit sequence of the (multi)set -/
theorem iter_runSpCalls {s : Sparse} {n w : Nat} {P : List Nat} (hs : s.Encodes n w P) (m : Mode)
    (calls : List End) :
    ∃ it it', s.iter m = ok it ∧ runSpCalls m s calls it = ok ((runDeque calls (bitsOfSet P n)).1, it') := by
  obtain ⟨it, r, R, h1, h2⟩ := sp_iter_ok hs m
  obtain ⟨it', h3, _⟩ := runSpCalls_ok hs m calls ⟨0, n, r, R, h2, (bitsBetween_full P n).symm⟩
  exact ⟨it, it', h1, h3⟩

end Sparse2
end Sds
