/-
Proofs/Bits: masks, counting the `true` values of a predicate below a bound (`cntF`, shared by the
popcount, rank and count_ones proofs), and the bit-level effect of read_int / write_int.
-/
import Sds.Model.Bits
set_option linter.unusedVariables false

namespace Sds
open Outcome

theorem lowSet_getLsbD (n i : Nat) (hi : i < 64) : (lowSet n).getLsbD i = decide (i < n) := by
  unfold lowSet
  rw [BitVec.getLsbD_ofNat, Nat.testBit_two_pow_sub_one]
  simp [hi]

theorem highSet_getLsbD (n i : Nat) (hi : i < 64) : (highSet n).getLsbD i = decide (64 - n ≤ i) := by
  unfold highSet
  rw [BitVec.getLsbD_not, lowSet_getLsbD _ _ hi]
  by_cases h : 64 - n ≤ i
  · have : ¬ (i < 64 - n) := by omega
    simp [hi, h, this]
  · have : i < 64 - n := by omega
    simp [hi, h, this]

@[simp] theorem lowSet_getElem (n i : Nat) (hi : i < 64) : (lowSet n)[i] = decide (i < n) := by
  rw [← BitVec.getLsbD_eq_getElem]; exact lowSet_getLsbD n i hi

@[simp] theorem highSet_getElem (n i : Nat) (hi : i < 64) : (highSet n)[i] = decide (64 - n ≤ i) := by
  rw [← BitVec.getLsbD_eq_getElem]; exact highSet_getLsbD n i hi

theorem one_shl_getLsbD (i j : Nat) (hj : j < 64) :
    ((1 : Word) <<< i).getLsbD j = decide (j = i) := by
  rw [BitVec.getLsbD_shiftLeft]
  by_cases h : j = i
  · subst h; simp [hj]
  · by_cases h2 : j < i
    · simp [h, h2]
    · have : j - i ≠ 0 := by omega
      simp [h, this, hj, h2]

/-- bit `j` of an array after word `k` was replaced -/
theorem getBit_set (a : Array Word) (k : Nat) (x : Word) (h : k < a.size) (j : Nat) :
    getBit (a.setIfInBounds k x) j = if j / 64 = k then x.getLsbD (j % 64) else getBit a j := by
  unfold getBit
  rw [rd_set _ _ _ _ h]
  split <;> rfl

/-! ### a list given by its entries: `(List.range n).map f` -/

theorem range_map_getElem? {α : Type} (f : Nat → α) (n i : Nat) :
    ((List.range n).map f)[i]? = if i < n then some (f i) else none := by
  by_cases h : i < n <;> simp [h]

theorem range_map_eq_iff {α : Type} (f : Nat → α) (n : Nat) (L : List α) :
    (List.range n).map f = L ↔ L.length = n ∧ ∀ i, i < n → L[i]? = some (f i) := by
  constructor
  · rintro rfl
    exact ⟨by simp, fun i hi => by rw [range_map_getElem?, if_pos hi]⟩
  · rintro ⟨hl, hb⟩
    apply List.ext_getElem?
    intro i
    rw [range_map_getElem?]
    split
    · exact (hb i ‹_›).symm
    · exact (List.getElem?_eq_none (by omega)).symm

/-! ### counting over `List.range` -/

theorem length_eq_count_true_add_false (B : List Bool) : B.length = B.count true + B.count false := by
  induction B with
  | nil => rfl
  | cons b t ih => cases b <;> simp [ih] <;> omega

/-- number of `true` among `f 0 .. f (n-1)` -/
def cntF (f : Nat → Bool) (n : Nat) : Nat := ((List.range n).map f).count true

theorem cntF_succ (f : Nat → Bool) (n : Nat) :
    cntF f (n + 1) = cntF f n + (if f n then 1 else 0) := by
  unfold cntF
  rw [List.range_succ, List.map_append, List.count_append]
  cases h : f n <;> simp [h]

theorem cntF_congr (f g : Nat → Bool) : ∀ n, (∀ i, i < n → f i = g i) → cntF f n = cntF g n
  | 0, _ => rfl
  | n + 1, h => by
    rw [cntF_succ, cntF_succ, cntF_congr f g n (fun i hi => h i (by omega)), h n (by omega)]

theorem cntF_false (f : Nat → Bool) : ∀ n, (∀ i, i < n → f i = false) → cntF f n = 0
  | 0, _ => rfl
  | n + 1, h => by
    rw [cntF_succ, cntF_false f n (fun i hi => h i (by omega)), h n (by omega)]; rfl

theorem cntF_le (f : Nat → Bool) : ∀ n, cntF f n ≤ n
  | 0 => Nat.le_refl _
  | n + 1 => by
    have := cntF_le f n
    rw [cntF_succ]; split <;> omega

theorem cntF_mono (f : Nat → Bool) (a b : Nat) (h : a ≤ b) : cntF f a ≤ cntF f b := by
  induction b with
  | zero => have : a = 0 := by omega
            subst this; exact Nat.le_refl _
  | succ b ih =>
    by_cases hab : a = b + 1
    · subst hab; exact Nat.le_refl _
    · have := ih (by omega)
      rw [cntF_succ]; omega

theorem cntF_add (f : Nat → Bool) (a : Nat) : ∀ b,
    cntF f (a + b) = cntF f a + cntF (fun i => f (a + i)) b
  | 0 => rfl
  | b + 1 => by
    rw [← Nat.add_assoc, cntF_succ, cntF_succ, cntF_add f a b]; omega

theorem cntF_split (f : Nat → Bool) (o n : Nat) (h : o ≤ n) :
    cntF f n = cntF f o + cntF (fun i => f (o + i)) (n - o) := by
  rw [← cntF_add]; congr 1; omega

/-! ### popcount -/

theorem map_range_take (f : Nat → Bool) (o n : Nat) (h : o ≤ n) :
    ((List.range n).map f).take o = (List.range o).map f := by
  rw [← List.map_take, List.take_range, Nat.min_eq_left h]

theorem map_range_drop (f : Nat → Bool) (o n : Nat) (h : o ≤ n) :
    ((List.range n).map f).drop o = (List.range (n - o)).map (fun i => f (o + i)) := by
  have e : n = o + (n - o) := by omega
  conv => lhs; rw [e, List.range_add, List.map_append]
  rw [List.drop_left' (by simp)]
  simp [List.map_map, Function.comp_def]

theorem take_bitsOfWord_count (w : Word) (o : Nat) (ho : o ≤ 64) :
    ((bitsOfWord w).take o).count true = cntF (fun i => w.getLsbD i) o := by
  unfold bitsOfWord cntF
  rw [map_range_take _ _ _ ho]

theorem popcount_eq_cntF (w : Word) : popcount w = cntF (fun i => w.getLsbD i) 64 := rfl

theorem popcount_and_lowSet (w : Word) (o : Nat) (ho : o ≤ 64) :
    popcount (w &&& lowSet o) = ((bitsOfWord w).take o).count true := by
  rw [take_bitsOfWord_count w o ho, popcount_eq_cntF]
  rw [cntF_split _ o 64 ho, cntF_false _ (64 - o), Nat.add_zero]
  · apply cntF_congr
    intro i hi
    rw [BitVec.getLsbD_and, lowSet_getLsbD _ _ (by omega)]
    simp [hi]
  · intro i hi
    rw [BitVec.getLsbD_and, lowSet_getLsbD _ _ (by omega)]
    simp

theorem popcount_le (w : Word) : popcount w ≤ 64 := by
  rw [popcount_eq_cntF]; exact cntF_le _ _

theorem popcount_and_not_lowSet (w : Word) (o : Nat) (ho : o ≤ 64) :
    popcount (w &&& ~~~ lowSet o) = ((bitsOfWord w).drop o).count true := by
  have hd : ((bitsOfWord w).drop o).count true = cntF (fun i => w.getLsbD (o + i)) (64 - o) := by
    unfold bitsOfWord cntF
    rw [map_range_drop _ _ _ ho]
  rw [hd, popcount_eq_cntF]
  rw [cntF_split _ o 64 ho, cntF_false _ o, Nat.zero_add]
  · apply cntF_congr
    intro i hi
    rw [BitVec.getLsbD_and, BitVec.getLsbD_not, lowSet_getLsbD _ _ (by omega)]
    have : o + i < 64 := by omega
    simp [this]
  · intro i hi
    rw [BitVec.getLsbD_and, BitVec.getLsbD_not, lowSet_getLsbD _ _ (by omega)]
    simp [hi]

theorem getLsbD_ge64 (w : Word) (i : Nat) (h : 64 ≤ i) : w.getLsbD i = false :=
  BitVec.getLsbD_of_ge _ _ h

/-- Bit `i` of `(x &&& m) ||| y` where, at that position, the mask `m` is clear exactly where the
field `p` is and `y` is zero outside the field. -/
theorem getLsbD_merge (x m y : Word) (i : Nat) (p b : Bool)
    (hm : m.getLsbD i = !p) (hy : y.getLsbD i = (p && b)) :
    ((x &&& m) ||| y).getLsbD i = if p then b else x.getLsbD i := by
  rw [BitVec.getLsbD_or, BitVec.getLsbD_and, hm, hy]
  cases p <;> simp

/-- the value of a field, masked to its width `w` and moved up to offset `o` -/
theorem getLsbD_field_shl (v : Word) (w o i : Nat) (hi : i < 64) :
    ((v &&& lowSet w) <<< o).getLsbD i = (decide (o ≤ i ∧ i < o + w) && v.getLsbD (i - o)) := by
  rw [BitVec.getLsbD_shiftLeft, BitVec.getLsbD_and, lowSet_getLsbD _ _ (by omega)]
  by_cases h1 : i < o
  · simp [h1, show ¬ o ≤ i by omega]
  · by_cases h2 : i - o < w
    · simp [hi, h1, h2, show o ≤ i ∧ i < o + w by omega]
    · simp [h2, show ¬ (o ≤ i ∧ i < o + w) by omega]

/-- … and the part of it that spills into the next word -/
theorem getLsbD_field_shr (v : Word) (w o i : Nat) (ho : o < 64) (hw : w ≤ 64) (hi : i < 64) :
    ((v &&& lowSet w) >>> (64 - o)).getLsbD i = (decide (i < o + w - 64) && v.getLsbD (64 - o + i)) := by
  rw [BitVec.getLsbD_ushiftRight, BitVec.getLsbD_and]
  by_cases h : 64 - o + i < 64
  · rw [lowSet_getLsbD _ _ h, Bool.and_comm]
    congr 1
    rw [decide_eq_decide]; omega
  · rw [BitVec.getLsbD_of_ge v _ (by omega), Bool.false_and, Bool.and_false]

/-- the word `write_int` leaves when the field lies inside one word -/
theorem getLsbD_writeWord (x v : Word) (w o i : Nat) (h : o + w ≤ 64) (hi : i < 64) :
    ((x &&& (highSet (64 - w - o) ||| lowSet o)) ||| ((v &&& lowSet w) <<< o)).getLsbD i =
      if o ≤ i ∧ i < o + w then v.getLsbD (i - o) else x.getLsbD i := by
  rw [getLsbD_merge _ _ _ _ (decide (o ≤ i ∧ i < o + w)) (v.getLsbD (i - o))]
  · simp only [decide_eq_true_eq]
  · rw [BitVec.getLsbD_or, highSet_getLsbD _ _ hi, lowSet_getLsbD _ _ hi, ← Bool.decide_or, ← decide_not,
      decide_eq_decide]
    omega
  · exact getLsbD_field_shl v w o i hi

/-- the first word when the field straddles two words -/
theorem getLsbD_writeLow (x v : Word) (w o i : Nat) (h : 64 < o + w) (hi : i < 64) :
    ((x &&& lowSet o) ||| ((v &&& lowSet w) <<< o)).getLsbD i =
      if o ≤ i then v.getLsbD (i - o) else x.getLsbD i := by
  rw [getLsbD_merge _ _ _ _ (decide (o ≤ i)) (v.getLsbD (i - o))]
  · simp only [decide_eq_true_eq]
  · rw [lowSet_getLsbD _ _ hi, ← decide_not, decide_eq_decide]
    omega
  · rw [getLsbD_field_shl v w o i hi, decide_eq_decide.2]
    omega

/-- the second word when the field straddles two words -/
theorem getLsbD_writeHigh (x v : Word) (w o i : Nat) (ho : o < 64) (hw : w ≤ 64) (h : 64 < o + w)
    (hi : i < 64) :
    ((x &&& highSet (128 - w - o)) ||| ((v &&& lowSet w) >>> (64 - o))).getLsbD i =
      if i < o + w - 64 then v.getLsbD (64 - o + i) else x.getLsbD i := by
  rw [getLsbD_merge _ _ _ _ (decide (i < o + w - 64)) (v.getLsbD (64 - o + i))]
  · simp only [decide_eq_true_eq]
  · rw [highSet_getLsbD _ _ hi, ← decide_not, decide_eq_decide]
    omega
  · exact getLsbD_field_shr v w o i ho hw hi

/-- Bit-level effect of `write_int`: inside the field the written value, everything else unchanged;
both the one-word and the two-word branch, every offset, every width 1..64, any background. -/
theorem getBit_writeInt (a : Array Word) (off : Nat) (v : Word) (w : Nat) (hw : 1 ≤ w) (hw' : w ≤ 64)
    (hidx : (off + w - 1) / 64 < a.size) (j : Nat) :
    getBit (writeInt a off v w) j =
      if off ≤ j ∧ j < off + w then v.getLsbD (j - off) else getBit a j := by
  have hdiv : off / 64 < a.size := by
    have : off / 64 ≤ (off + w - 1) / 64 := Nat.div_le_div_right (by omega)
    omega
  have hidx1 : 64 < off % 64 + w → off / 64 + 1 < a.size := by omega
  clear hidx
  -- `off = 64 * k + o` and `j = 64 * q + i`: word indices and offsets inside the words
  have hm := Nat.div_add_mod off 64
  have ho := Nat.mod_lt off (show 64 > 0 by decide)
  have hj := Nat.div_add_mod j 64
  have hi := Nat.mod_lt j (show 64 > 0 by decide)
  unfold writeInt getBit
  simp only []
  generalize off / 64 = k at *
  generalize off % 64 = o at *
  generalize j / 64 = q at *
  generalize j % 64 = i at *
  subst hm hj
  split
  · -- single word
    rename_i h1
    rw [rd_set _ _ _ _ hdiv]
    by_cases hqk : q = k
    · subst hqk
      rw [if_pos rfl, getLsbD_writeWord _ _ _ _ _ h1 hi, show 64 * q + i - (64 * q + o) = i - o by omega]
      exact ite_congr (propext (by omega)) (fun _ => rfl) (fun _ => rfl)
    · rw [if_neg hqk, if_neg (by omega)]
  · -- two words
    rename_i h1
    rw [rd_set _ _ _ _ (by simpa using hidx1 (by omega)), rd_set _ _ _ _ hdiv, rd_set _ _ _ _ hdiv,
      if_neg (show k + 1 ≠ k by omega)]
    by_cases hqk : q = k
    · subst hqk
      rw [if_neg (show q ≠ q + 1 by omega), if_pos rfl, getLsbD_writeLow _ _ _ _ _ (by omega) hi,
        show 64 * q + i - (64 * q + o) = i - o by omega]
      exact ite_congr (propext (by omega)) (fun _ => rfl) (fun _ => rfl)
    · by_cases hqk1 : q = k + 1
      · subst hqk1
        rw [if_pos rfl, getLsbD_writeHigh _ _ _ _ _ ho hw' (by omega) hi,
          show 64 * (k + 1) + i - (64 * k + o) = 64 - o + i by omega]
        exact ite_congr (propext (by omega)) (fun _ => rfl) (fun _ => rfl)
      · rw [if_neg hqk1, if_neg hqk, if_neg (by omega)]

theorem size_writeInt (a : Array Word) (off : Nat) (v : Word) (w : Nat) :
    (writeInt a off v w).size = a.size := by
  unfold writeInt; simp only []; split <;> simp

/-- Bit-level meaning of `read_int`: bit `i` of the result is bit `off + i` of the array for `i < w`,
and zero above the width; both branches. -/
theorem getLsbD_readInt (a : Array Word) (off w : Nat) (hw : 1 ≤ w) (hw' : w ≤ 64) (i : Nat) :
    (readInt a off w).getLsbD i = (decide (i < w) && getBit a (off + i)) := by
  by_cases hi : i < 64
  · have hm := Nat.div_add_mod off 64
    have ho := Nat.mod_lt off (show 64 > 0 by decide)
    unfold readInt getBit
    simp only []
    generalize off / 64 = k at *
    generalize off % 64 = o at *
    subst hm
    by_cases hlo : o + i < 64
    · -- bit `off + i` lies in the first word
      rw [show (64 * k + o + i) / 64 = k by omega, show (64 * k + o + i) % 64 = o + i by omega]
      split
      · rw [BitVec.getLsbD_and, BitVec.getLsbD_ushiftRight, lowSet_getLsbD _ _ hi, Bool.and_comm]
      · rw [BitVec.getLsbD_or, BitVec.getLsbD_ushiftRight, BitVec.getLsbD_shiftLeft]
        simp [show i < 64 - o by omega, show i < w by omega]
    · -- it lies in the second word, or above the width
      rw [show (64 * k + o + i) / 64 = k + 1 by omega, show (64 * k + o + i) % 64 = i - (64 - o) by omega]
      split
      · rw [BitVec.getLsbD_and, lowSet_getLsbD _ _ hi]
        simp [show ¬ i < w by omega]
      · rw [BitVec.getLsbD_or, BitVec.getLsbD_ushiftRight, BitVec.getLsbD_of_ge _ _ (by omega),
          BitVec.getLsbD_shiftLeft, BitVec.getLsbD_and, lowSet_getLsbD _ _ (by omega),
          show (decide (i - (64 - o) < (o + w) % 64)) = decide (i < w) by
            rw [decide_eq_decide]; omega]
        simp [hi, show ¬ i < 64 - o by omega, Bool.and_comm]
  · rw [BitVec.getLsbD_of_ge _ _ (by omega)]
    simp [show ¬ i < w by omega]

/-- Read-after-write: the value truncated to the width, at every offset and width. -/
theorem readInt_writeInt (a : Array Word) (off : Nat) (v : Word) (w : Nat) (hw : 1 ≤ w) (hw' : w ≤ 64)
    (hidx : (off + w - 1) / 64 < a.size) :
    readInt (writeInt a off v w) off w = v &&& lowSet w := by
  apply BitVec.eq_of_getLsbD_eq
  intro i hi
  rw [getLsbD_readInt _ _ _ hw hw', getBit_writeInt _ _ _ _ hw hw' hidx, BitVec.getLsbD_and,
    lowSet_getLsbD _ _ hi]
  by_cases hiw : i < w
  · have : off ≤ off + i ∧ off + i < off + w := by omega
    simp [hiw, this]
  · simp [hiw]

/-- Reading a field that does not overlap the written one is unaffected. -/
theorem readInt_writeInt_disjoint (a : Array Word) (off off' : Nat) (v : Word) (w w' : Nat)
    (hw : 1 ≤ w) (hw' : w ≤ 64) (hv : 1 ≤ w') (hv' : w' ≤ 64)
    (hidx : (off + w - 1) / 64 < a.size) (hdis : off' + w' ≤ off ∨ off + w ≤ off') :
    readInt (writeInt a off v w) off' w' = readInt a off' w' := by
  apply BitVec.eq_of_getLsbD_eq
  intro i _
  rw [getLsbD_readInt _ _ _ hv hv', getLsbD_readInt _ _ _ hv hv',
    getBit_writeInt _ _ _ _ hw hw' hidx]
  by_cases hiw : i < w'
  · have : ¬ (off ≤ off' + i ∧ off' + i < off + w) := by omega
    simp [this]
  · simp [hiw]

/-! ### the index-guarded `read_int` / `write_int` succeed on a field inside the array -/

/-- an item of `w ≥ 1` bits at bit `off` of `n` words lies in word `off / 64`, and in the next one too when it
straddles a word boundary -/
theorem item_words {off w n : Nat} (hw : 1 ≤ w) (hin : off + w ≤ 64 * n) :
    off / 64 < n ∧ (¬ off % 64 + w ≤ 64 → off / 64 + 1 < n) := by omega

theorem readIntM_ok (a : Array Word) (off w : Nat) (hw : 1 ≤ w) (hw' : w ≤ 64) (hin : off + w ≤ 64 * a.size) :
    readIntM a off w = ok (readInt a off w) := by
  obtain ⟨h1, h2⟩ := item_words hw hin
  unfold readIntM
  rw [if_neg (Nat.not_lt.2 hw')]
  by_cases hc : off % 64 + w ≤ 64
  · simp only [if_pos hc]; rw [if_pos h1]
  · simp only [if_neg hc]; rw [if_pos (h2 hc)]

theorem writeIntM_ok (a : Array Word) (off : Nat) (x : Word) (w : Nat) (hw : 1 ≤ w) (hw' : w ≤ 64)
    (hin : off + w ≤ 64 * a.size) : writeIntM a off x w = ok (writeInt a off x w) := by
  obtain ⟨h1, h2⟩ := item_words hw hin
  unfold writeIntM
  rw [if_neg (Nat.not_lt.2 hw')]
  by_cases hc : off % 64 + w ≤ 64
  · simp only [if_pos hc]; rw [if_pos h1]
  · simp only [if_neg hc]; rw [if_pos (h2 hc)]

end Sds
