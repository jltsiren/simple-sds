/-
Proofs/GenEqLoad2: `RLVector::load` as TRANSLATED from the source (Generated/FnsLoad2.lean) against the `load` of the
hand-written codec `rlC m` (Model/RL) — same method and style as Proofs/GenEqLoad.

* `rl_load_eq : RlOk es → RlOrd m es → gen_RLVector_load m es = (rlC m).load es`, and under `RlOk es` the second
  hypothesis is also NECESSARY: `rl_load_eq_iff : RlOk es → (… = … ↔ RlOrd m es)`.
* `RlOk es` (arithmetic on the words read, mirrors the loader): the two embedded `IntVector::load` are `IntOk` on their
  part of the stream; `data.len() + 64 < 2^64` (`div_round_up(data.len(), 64)`; sharp: `rl_load_ne_blocks` — the wrapping
  build ACCEPTS a vector with `2^64 − 1` code units and no sample); and, once the sanity check has passed with at least
  one block, `samples.width ≤ 64` (`samples.get` goes through `read_int`, `IntVector::load` does not check the width;
  sharp in the checked build: `rl_load_ne_width`).  Everything else is derived: `len`, `ones < 2^64` (read as words),
  `2 * block + 1 < samples.len()` (so no `samples.get` ever panics: `block < samples.len() / 2`), the number of blocks
  is below `2^58` (sanity check + the bound on `data.len()`), hence the three `SampleIndex::new` agree
  (`sample_index_new_eq`), `len - ones < 2^64`, and `(a - c) as usize` on words is the model's `subM` on their values in
  BOTH modes (`subW_toNat`: same overflow panic when checked, same wrapped value when not).
* `RlOrd m es` (order of effects).  The source evaluates column 1, index 1, column 2, index 2, column 3, `len - ones`,
  index 3; the model evaluates the three columns first.  Columns 1 and 2 cannot fault, the zero column can (checked
  build only, `zerosColQ_ovf`, `zerosColQ_wrapping`: `bits - ones` of a stored pair underflows), so the model reports the
  arithmetic-overflow panic on a stream where the source has already died in the rank or select `SampleIndex::new`.
  `RlRestOrd`: IF the zero column underflows THEN those two constructions fault, if at all, with the overflow panic too.
  `rl_load_ne_order` / `rl_load_ne_order_select`: streams with `RlOk` (`rlOrderStream_ok`) on which the checked source
  reports the ASSERTION panic of `SampleIndex::new` and the model the OVERFLOW panic.  This is a divergence of the MODEL
  from the real code: the real iterators are lazy, the zero-column closure is not even created before the first two
  indexes are built, so the real checked build reports the assertion, as the translation does.
  Sufficient conditions: no overflow checks (`RlOrd_wrapping`, `rl_load_eq_wrapping` needs `RlOk` only), or "the zero
  column does not underflow" (`RlNoUnderflow`: in every stored pair ones ≤ bits; `rl_load_eq_of_noUnderflow`).
  The zero column comes before `len - ones` on both sides (the real code computes `len - ones` before it pulls the first
  item of the lazy zero column, but both can only give the overflow panic).
* streams of small words (`Small`, every word below `2^32`): `RlOk_of_small` with `RlWidthOk` (the width is a stream
  word, as for `SparseVector`), `rl_load_eq_small`, `rl_load_eq_small_wrapping`.

Method: `rl_load_pieces`, `rl_model_pieces` (by `rfl`) cut both loaders into the header and the tail after the sanity
check (`rlGenRest` with the three translated iterators `rlGenBits/Ones/Zeros`; `rlModRest`); `rl_gen_rest_eq` brings
the translated tail to `rlSrcRest` (model operations, order of the source); `rl_rest_eq_iff` compares the two orders.
-/
import Sds.Generated.FnsLoad2
import Sds.Proofs.GenEqLoad
import Sds.Proofs.GenEqConstr
import Sds.Proofs.GenEqConstr4

set_option linter.unusedSimpArgs false
set_option linter.unusedVariables false
namespace Sds.GenEq
open Sds Outcome Generated Codec2

/-! ### reads of a LOADED integer vector -/

theorem int_get_ld (m : Mode) (v : IntVec) (i : Nat) (hld : LoadWF.intVecLd v) (hw : v.width ≤ 64)
    (hi : i < v.len) : gen_IntVector_get m v i = ok (v.getRaw i) := by
  obtain ⟨_, _, hlen, hsz, hl⟩ := hld
  have h1 : (i + 1) * v.width ≤ v.len * v.width := Nat.mul_le_mul_right _ hi
  rw [Nat.succ_mul] at h1
  have hm : i * v.width < U64 := by rw [U64_eq]; omega
  have hin : i * v.width + v.width ≤ 64 * v.data.data.size := by omega
  unfold gen_IntVector_get IntVec.getRaw
  simp [gAssert, hi, mulM_ok hm, raw_int_eq m v.data (i * v.width) v.width hw hm hin]

/-- `(a - c) as usize` on words is the model's subtraction on their values, in both modes -/
theorem subW_toNat (m : Mode) (a c : Word) :
    (do let t ← subW m a c; pure t.toNat : Outcome Nat) = subM m a.toNat c.toNat := by
  unfold subW
  cases h : subM m a.toNat c.toNat with
  | fault e => rfl
  | ok s =>
    have hs : s < 2 ^ 64 := by
      have := subM_lt (by rw [U64_eq]; exact a.isLt) h
      rwa [U64_eq] at this
    show ok (BitVec.ofNat 64 s).toNat = ok s
    rw [BitVec.toNat_ofNat, Nat.mod_eq_of_lt hs]

theorem mapM_congr_mem {α β : Type} (f g : α → Outcome β) : ∀ l : List α, (∀ x ∈ l, f x = g x) →
    l.mapM f = l.mapM g := by
  intro l
  induction l with
  | nil => intro _; rfl
  | cons a l ih =>
    intro h
    rw [List.mapM_cons, List.mapM_cons, h a (by simp), ih (fun x hx => h x (by simp [hx]))]

/-! ### the translated function, cut into named pieces -/

/-- `(0..sample_blocks).map(|block| samples.get(2 * block + 1) as usize)` -/
def rlGenBits (m : Mode) (samples : IntVec) (sample_blocks : Nat) : Outcome (List Nat) :=
  (List.range' 0 (sample_blocks - 0)).mapM (fun block => do let t7 ← mulM m 2 block; let t8 ← addM m t7 1; let t9 ← gen_IntVector_get m samples t8; pure (t9).toNat)

/-- `(0..sample_blocks).map(|block| samples.get(2 * block) as usize)` -/
def rlGenOnes (m : Mode) (samples : IntVec) (sample_blocks : Nat) : Outcome (List Nat) :=
  (List.range' 0 (sample_blocks - 0)).mapM (fun block => do let t12 ← mulM m 2 block; let t13 ← gen_IntVector_get m samples t12; pure (t13).toNat)

/-- `(0..sample_blocks).map(|block| (samples.get(2 * block + 1) - samples.get(2 * block)) as usize)` -/
def rlGenZeros (m : Mode) (samples : IntVec) (sample_blocks : Nat) : Outcome (List Nat) :=
  (List.range' 0 (sample_blocks - 0)).mapM (fun block => do let t16 ← mulM m 2 block; let t17 ← addM m t16 1; let t18 ← gen_IntVector_get m samples t17; let t19 ← mulM m 2 block; let t20 ← gen_IntVector_get m samples t19; let t21 ← subW m t18 t20; pure (t21).toNat)

/-- everything after the sanity check, in the order of the source -/
def rlGenRest (m : Mode) (len ones : Nat) (samples data : IntVec) (reader : Elems) (sample_blocks : Nat) :
    Outcome (RL × Elems) := do
  let t10 ← rlGenBits m samples sample_blocks
  let t11 ← gen_SampleIndex_new m t10 len
  let t14 ← rlGenOnes m samples sample_blocks
  let t15 ← gen_SampleIndex_new m t14 ones
  let t22 ← rlGenZeros m samples sample_blocks
  let t23 ← subM m len ones
  let t24 ← gen_SampleIndex_new m t22 t23
  return ((⟨len, ones, t11, t15, t24, samples, data⟩ : RL), reader)

theorem rl_load_pieces (m : Mode) (es : Elems) : gen_RLVector_load m es = (do
    let (len, reader) ← usizeC.load es
    let (ones, reader) ← usizeC.load reader
    let (samples, reader) ← gen_IntVector_load m reader
    let (data, reader) ← gen_IntVector_load m reader
    let sample_blocks ← gDiv samples.len 2
    let data_blocks ← gen_div_round_up m data.len 64
    if decide (sample_blocks ≠ data_blocks) then fault (.err .invalid)
    else rlGenRest m len ones samples data reader sample_blocks) := rfl

/-- the model after its sanity check: all three columns first, then the indexes -/
def rlModRest (m : Mode) (len ones : Nat) (samples data : IntVec) (r : Elems) : Outcome (RL × Elems) := do
  let bitsCol ← bitsColQ samples (samples.len / 2)
  let onesCol ← onesColQ samples (samples.len / 2)
  let zerosCol ← zerosColQ m samples (samples.len / 2)
  let ri ← SampleIndex.new m bitsCol len
  let si ← SampleIndex.new m onesCol ones
  let z ← subM m len ones
  let zi ← SampleIndex.new m zerosCol z
  return (⟨len, ones, ri, si, zi, samples, data⟩, r)

theorem rl_model_pieces (m : Mode) (es : Elems) : (rlC m).load es = (do
    let (len, r) ← usizeC.load es
    let (ones, r) ← usizeC.load r
    let (samples, r) ← intVecC.load r
    let (data, r) ← intVecC.load r
    if samples.len / 2 ≠ (data.len + 63) / 64 then fault (.err .invalid)
    else rlModRest m len ones samples data r) := rfl


/-! ### the three iterators -/

theorem mapM_length {α β : Type} (f : α → Outcome β) : ∀ (l : List α) (zs : List β), l.mapM f = ok zs →
    zs.length = l.length := by
  intro l
  induction l with
  | nil =>
    intro zs h
    rw [List.mapM_nil] at h
    injection h with h
    subst h
    rfl
  | cons a l ih =>
    intro zs h
    rw [List.mapM_cons] at h
    obtain ⟨y, hy, h⟩ := Outcome.bind_eq_ok h
    obtain ⟨ys, hys, h⟩ := Outcome.bind_eq_ok h
    injection h with h
    rw [← h, List.length_cons, List.length_cons, ih ys hys]

section cols
variable (m : Mode) (s : IntVec) (hld : LoadWF.intVecLd s) (hw : 2 ≤ s.len → s.width ≤ 64)
include hld hw

theorem rl_gen_bits_eq : rlGenBits m s (s.len / 2) = ok (bitsCol s) := by
  unfold rlGenBits bitsCol
  rw [Nat.sub_zero, ← List.range_eq_range']
  refine mapM_ok _ _ _ (fun b hb => ?_)
  have hb' := List.mem_range.mp hb
  have hl := hld.1
  have h2 : 2 * b < U64 := by rw [U64_eq]; omega
  have h3 : 2 * b + 1 < U64 := by rw [U64_eq]; omega
  simp only [bind_of_ok _ (mulM_ok (m := m) h2), bind_of_ok _ (addM_ok (m := m) h3),
    bind_of_ok _ (int_get_ld m s (2 * b + 1) hld (hw (by omega)) (by omega)), pure_eq]

theorem rl_gen_ones_eq : rlGenOnes m s (s.len / 2) = ok (onesCol s) := by
  unfold rlGenOnes onesCol
  rw [Nat.sub_zero, ← List.range_eq_range']
  refine mapM_ok _ _ _ (fun b hb => ?_)
  have hb' := List.mem_range.mp hb
  have hl := hld.1
  have h2 : 2 * b < U64 := by rw [U64_eq]; omega
  simp only [bind_of_ok _ (mulM_ok (m := m) h2),
    bind_of_ok _ (int_get_ld m s (2 * b) hld (hw (by omega)) (by omega)), pure_eq]

theorem rl_gen_zeros_eq : rlGenZeros m s (s.len / 2) = zerosColQ m s (s.len / 2) := by
  unfold rlGenZeros zerosColQ
  rw [Nat.sub_zero, ← List.range_eq_range']
  refine mapM_congr_mem _ _ _ (fun b hb => ?_)
  have hb' := List.mem_range.mp hb
  have hl := hld.1
  have h2 : 2 * b < U64 := by rw [U64_eq]; omega
  have h3 : 2 * b + 1 < U64 := by rw [U64_eq]; omega
  simp only [bind_of_ok _ (mulM_ok (m := m) h2), bind_of_ok _ (addM_ok (m := m) h3),
    bind_of_ok _ (int_get_ld m s (2 * b + 1) hld (hw (by omega)) (by omega)),
    bind_of_ok _ (int_get_ld m s (2 * b) hld (hw (by omega)) (by omega)),
    bind_of_ok _ (IntVec.get_ok s (2 * b + 1) (by omega)),
    bind_of_ok _ (IntVec.get_ok s (2 * b) (by omega))]
  exact subW_toNat m _ _

end cols

/-- the reads of the zero column are in range: only the subtractions are left -/
theorem zerosColQ_sub (m : Mode) (s : IntVec) : zerosColQ m s (s.len / 2) =
    (List.range (s.len / 2)).mapM (fun b => subM m (s.getRaw (2 * b + 1)).toNat (s.getRaw (2 * b)).toNat) := by
  unfold zerosColQ
  refine mapM_congr_mem _ _ _ (fun b hb => ?_)
  have hb' := List.mem_range.mp hb
  simp only [bind_of_ok _ (IntVec.get_ok s (2 * b + 1) (by omega)),
    bind_of_ok _ (IntVec.get_ok s (2 * b) (by omega))]

theorem zerosColQ_ovf (m : Mode) (s : IntVec) : OvfOnly (zerosColQ m s (s.len / 2)) := by
  rw [zerosColQ_sub]
  exact (mapM_ovf _ (fun b => subM_ovf m _ _) _).1

/-- without overflow checks the zero column is always there -/
theorem zerosColQ_wrapping (s : IntVec) : ∃ zs, zerosColQ .wrapping s (s.len / 2) = ok zs := by
  rw [zerosColQ_sub]
  refine ⟨_, mapM_ok _ (fun b => if (s.getRaw (2 * b)).toNat ≤ (s.getRaw (2 * b + 1)).toNat then
    (s.getRaw (2 * b + 1)).toNat - (s.getRaw (2 * b)).toNat else
    ((s.getRaw (2 * b + 1)).toNat + U64 - (s.getRaw (2 * b)).toNat) % U64) _ (fun b _ => ?_)⟩
  unfold subM
  split <;> rfl

/-! ### after the sanity check: the order of the source against the order of the model -/

/-- the translated tail with every arithmetic step discharged — the order of the SOURCE: each column right before
the index built from it, `len - ones` after the third column -/
def rlSrcRest (m : Mode) (len ones : Nat) (samples data : IntVec) (r : Elems) : Outcome (RL × Elems) := do
  let ri ← SampleIndex.new m (bitsCol samples) len
  let si ← SampleIndex.new m (onesCol samples) ones
  let zs ← zerosColQ m samples (samples.len / 2)
  let z ← subM m len ones
  let zi ← SampleIndex.new m zs z
  return (⟨len, ones, ri, si, zi, samples, data⟩, r)

theorem rl_gen_rest_eq (m : Mode) (len ones : Nat) (samples data : IntVec) (r : Elems) (hl : len < U64)
    (ho : ones < U64) (hld : LoadWF.intVecLd samples) (hw : 2 ≤ samples.len → samples.width ≤ 64)
    (hsb : samples.len / 2 < 2 ^ 60) :
    rlGenRest m len ones samples data r (samples.len / 2) = rlSrcRest m len ones samples data r := by
  unfold rlGenRest rlSrcRest
  rw [rl_gen_bits_eq m samples hld hw, rl_gen_ones_eq m samples hld hw, rl_gen_zeros_eq m samples hld hw]
  simp only [bind_ok]
  rw [sample_index_new_eq m (bitsCol samples) len hl (by simpa [bitsCol] using hsb),
    sample_index_new_eq m (onesCol samples) ones ho (by simpa [onesCol] using hsb)]
  refine bind_congr fun ri => bind_congr fun si => bind_congr_ok fun zs hz => bind_congr_ok fun z hs => ?_
  rw [sample_index_new_eq m zs z (subM_lt hl hs) (by rw [mapM_length _ _ _ hz, List.length_range]; exact hsb)]

/-- the model's tail: the zero column is evaluated BEFORE the first two indexes -/
theorem rl_mod_rest_eq (m : Mode) (len ones : Nat) (samples data : IntVec) (r : Elems) :
    rlModRest m len ones samples data r = (do
      let zs ← zerosColQ m samples (samples.len / 2)
      let ri ← SampleIndex.new m (bitsCol samples) len
      let si ← SampleIndex.new m (onesCol samples) ones
      let z ← subM m len ones
      let zi ← SampleIndex.new m zs z
      return (⟨len, ones, ri, si, zi, samples, data⟩, r)) := by
  unfold rlModRest
  rw [bitsColQ_eq, onesColQ_eq]
  simp only [bind_ok]

/-- the two orders are observably the same unless the zero column underflows (checked build) while the rank index or
the select index refuses its column with a DIFFERENT panic (an assertion of `SampleIndex::new`) -/
def RlRestOrd (m : Mode) (len ones : Nat) (samples : IntVec) : Prop :=
  (∃ e, zerosColQ m samples (samples.len / 2) = fault e) →
    OvfOnly (SampleIndex.new m (bitsCol samples) len) ∧
    ((SampleIndex.new m (bitsCol samples) len).isOk = true → OvfOnly (SampleIndex.new m (onesCol samples) ones))

theorem rl_rest_eq_iff (m : Mode) (len ones : Nat) (samples data : IntVec) (r : Elems) :
    rlSrcRest m len ones samples data r = rlModRest m len ones samples data r ↔ RlRestOrd m len ones samples := by
  rw [rl_mod_rest_eq]
  unfold rlSrcRest RlRestOrd
  cases hz : zerosColQ m samples (samples.len / 2) with
  | ok zs =>
    refine iff_of_true ?_ (fun ⟨e, he⟩ => by cases he)
    cases SampleIndex.new m (bitsCol samples) len with
    | fault e => rfl
    | ok ri =>
      cases SampleIndex.new m (onesCol samples) ones with
      | fault e => rfl
      | ok si => rfl
  | fault e =>
    have he : e = .panic .overflow := zerosColQ_ovf m samples e hz
    subst he
    simp only [bind_fault]
    cases h1 : SampleIndex.new m (bitsCol samples) len with
    | fault e1 =>
      simp only [bind_fault]
      constructor
      · intro h _
        injection h with h
        exact ⟨fun e' he' => (by injection he' with he'; rw [← he', h]), fun hk => (by cases hk)⟩
      · intro h
        rw [(h ⟨_, rfl⟩).1 e1 rfl]
    | ok ri =>
      simp only [bind_ok]
      cases h2 : SampleIndex.new m (onesCol samples) ones with
      | fault e2 =>
        simp only [bind_fault]
        constructor
        · intro h _
          injection h with h
          exact ⟨fun e' he' => (by cases he'), fun _ e' he' => (by injection he' with he'; rw [← he', h])⟩
        · intro h
          rw [(h ⟨_, rfl⟩).2 rfl e2 rfl]
      | ok si =>
        simp only [bind_ok, bind_fault]
        exact iff_of_true trivial (fun _ => ⟨fun e' he' => (by cases he'), fun _ e' he' => (by cases he')⟩)

/-! ### `RLVector::load` -/

/-- the arithmetic on the words read: the two embedded integer vectors are `IntOk`, `div_round_up(data.len(), 64)` does
not overflow, and — when the sanity check passes and there is at least one block — the width of the sample vector is at
most 64 (`samples.get` reads through `read_int`; `IntVector::load` does not check the width) -/
def RlOk (es : Elems) : Prop :=
  ∀ len r, usizeC.load es = ok (len, r) → ∀ ones r1, usizeC.load r = ok (ones, r1) →
    IntOk r1 ∧ ∀ samples r2, intVecC.load r1 = ok (samples, r2) →
      IntOk r2 ∧ ∀ data r3, intVecC.load r2 = ok (data, r3) →
        data.len + 64 < U64 ∧
        (samples.len / 2 = (data.len + 63) / 64 → 2 ≤ samples.len → samples.width ≤ 64)

/-- the order of effects: on an accepted header, `RlRestOrd` of the values read -/
def RlOrd (m : Mode) (es : Elems) : Prop :=
  ∀ len r ones r1 samples r2 data r3, usizeC.load es = ok (len, r) → usizeC.load r = ok (ones, r1) →
    intVecC.load r1 = ok (samples, r2) → intVecC.load r2 = ok (data, r3) →
    samples.len / 2 = (data.len + 63) / 64 → RlRestOrd m len ones samples

theorem gDiv_two (a : Nat) : gDiv a 2 = ok (a / 2) := by simp [gDiv]

theorem rl_load_eq (m : Mode) (es : Elems) (h : RlOk es) (ho : RlOrd m es) :
    gen_RLVector_load m es = (rlC m).load es := by
  rw [rl_load_pieces, rl_model_pieces]
  refine same_step h fun len r h1 h => ?_
  refine same_step h fun ones r1 h2 h => ?_
  refine field_step (int_load_eq m) h fun samples r2 h3 h => ?_
  refine field_step (int_load_eq m) h fun data r3 h4 ⟨hd, hwd⟩ => ?_
  dsimp only
  rw [gDiv_two, div_round_up_ok m _ 64 63 rfl hd]
  refine ite_congr_neg fun c => ?_
  have c := Decidable.not_not.mp c
  have hl : len < U64 := by rw [U64_eq]; exact (LoadWF.usizeC_inv h1).2
  have hon : ones < U64 := by rw [U64_eq]; exact (LoadWF.usizeC_inv h2).2
  have hld := (LoadWF.intVecC_load_inv h3).2
  have hsb : samples.len / 2 < 2 ^ 60 := by rw [U64_eq] at hd; omega
  rw [rl_gen_rest_eq m len ones samples data r3 hl hon hld (hwd c) hsb]
  exact (rl_rest_eq_iff m len ones samples data r3).mpr (ho _ _ _ _ _ _ _ _ h1 h2 h3 h4 c)

/-- the order hypothesis is also necessary -/
theorem rl_load_ord_of_eq (m : Mode) (es : Elems) (h : RlOk es)
    (e : gen_RLVector_load m es = (rlC m).load es) : RlOrd m es := by
  intro len r ones r1 samples r2 data r3 h1 h2 h3 h4 c
  obtain ⟨hi1, h⟩ := h _ _ h1 _ _ h2
  obtain ⟨hi2, h⟩ := h _ _ h3
  obtain ⟨hd, hwd⟩ := h _ _ h4
  rw [rl_load_pieces, rl_model_pieces] at e
  simp only [bind_of_ok _ h1, bind_of_ok _ h2, bind_of_ok _ ((int_load_eq m r1 hi1).trans h3),
    bind_of_ok _ ((int_load_eq m r2 hi2).trans h4), bind_of_ok _ h3, bind_of_ok _ h4,
    bind_of_ok _ (gDiv_two samples.len), bind_of_ok _ (div_round_up_ok m data.len 64 63 rfl hd)] at e
  have c1 : decide (samples.len / 2 ≠ (data.len + 63) / 64) = false := by simp [c]
  rw [c1] at e
  simp only [Bool.false_eq_true, if_false] at e
  rw [if_neg (not_not_intro c)] at e
  have hl : len < U64 := by rw [U64_eq]; exact (LoadWF.usizeC_inv h1).2
  have hon : ones < U64 := by rw [U64_eq]; exact (LoadWF.usizeC_inv h2).2
  have hld := (LoadWF.intVecC_load_inv h3).2
  have hsb : samples.len / 2 < 2 ^ 60 := by rw [U64_eq] at hd; omega
  rw [rl_gen_rest_eq m len ones samples data r3 hl hon hld (hwd c) hsb] at e
  exact (rl_rest_eq_iff m len ones samples data r3).mp e

theorem rl_load_eq_iff (m : Mode) (es : Elems) (h : RlOk es) :
    gen_RLVector_load m es = (rlC m).load es ↔ RlOrd m es :=
  ⟨rl_load_ord_of_eq m es h, rl_load_eq m es h⟩

/-! ### when the order cannot be observed -/

/-- without overflow checks the zero column cannot fault -/
theorem RlOrd_wrapping (es : Elems) : RlOrd .wrapping es := by
  intro len r ones r1 samples r2 data r3 _ _ _ _ _ ⟨e, he⟩
  obtain ⟨zs, hz⟩ := zerosColQ_wrapping samples
  rw [hz] at he
  cases he

theorem rl_load_eq_wrapping (es : Elems) (h : RlOk es) :
    gen_RLVector_load .wrapping es = (rlC .wrapping).load es := rl_load_eq .wrapping es h (RlOrd_wrapping es)

/-- "the zero column does not underflow": in every stored sample pair the ones so far are at most the bits so far -/
def RlNoUnderflow (es : Elems) : Prop :=
  ∀ len r ones r1 samples r2 data r3, usizeC.load es = ok (len, r) → usizeC.load r = ok (ones, r1) →
    intVecC.load r1 = ok (samples, r2) → intVecC.load r2 = ok (data, r3) →
    samples.len / 2 = (data.len + 63) / 64 →
    ∀ b, b < samples.len / 2 → (samples.getRaw (2 * b)).toNat ≤ (samples.getRaw (2 * b + 1)).toNat

theorem RlOrd_of_noUnderflow (m : Mode) {es : Elems} (h : RlNoUnderflow es) : RlOrd m es := by
  intro len r ones r1 samples r2 data r3 h1 h2 h3 h4 c ⟨e, he⟩
  rw [zerosColQ_eq m samples (h _ _ _ _ _ _ _ _ h1 h2 h3 h4 c)] at he
  cases he

theorem rl_load_eq_of_noUnderflow (m : Mode) (es : Elems) (h : RlOk es) (hu : RlNoUnderflow es) :
    gen_RLVector_load m es = (rlC m).load es := rl_load_eq m es h (RlOrd_of_noUnderflow m hu)

/-! ### streams of small words -/

/-- small words do not bound the width of the sample vector: it is a stream word -/
def RlWidthOk (es : Elems) : Prop :=
  ∀ len r ones r1 samples r2 data r3, usizeC.load es = ok (len, r) → usizeC.load r = ok (ones, r1) →
    intVecC.load r1 = ok (samples, r2) → intVecC.load r2 = ok (data, r3) →
    samples.len / 2 = (data.len + 63) / 64 → 2 ≤ samples.len → samples.width ≤ 64

theorem RlOk_of_small {es : Elems} (hs : Small es) (hw : RlWidthOk es) : RlOk es := by
  intro len r h1 ones r1 h2
  have s1 := (hs.suffix (usizeC_suffix h1)).suffix (usizeC_suffix h2)
  refine ⟨IntOk_of_small s1, fun samples r2 h3 => ?_⟩
  have s2 := s1.suffix (intVecC_suffix h3)
  refine ⟨IntOk_of_small s2, fun data r3 h4 => ⟨?_, hw _ _ _ _ _ _ _ _ h1 h2 h3 h4⟩⟩
  have l1 := (intVecC_small s2 h4).1
  rw [U64_eq]; omega

theorem rl_load_eq_small (m : Mode) (es : Elems) (h : ∀ w ∈ es, w.toNat < 2 ^ 32) (hw : RlWidthOk es)
    (ho : RlOrd m es) : gen_RLVector_load m es = (rlC m).load es :=
  rl_load_eq m es (RlOk_of_small h hw) ho

theorem rl_load_eq_small_wrapping (es : Elems) (h : ∀ w ∈ es, w.toNat < 2 ^ 32) (hw : RlWidthOk es) :
    gen_RLVector_load .wrapping es = (rlC .wrapping).load es :=
  rl_load_eq_wrapping es (RlOk_of_small h hw)

/-! ### counterexamples -/

/-- one block whose stored sample pair is (ones so far, bits so far) = (5, 3) (4-bit samples, word `0x35`), over a
one-unit data vector; `len = 10`, `ones = 5`.  Every word is small and the width is 4: `RlOk` holds. -/
def rlOrderStream : Elems :=
  [10#64, 5#64, 2#64, 4#64, 8#64, 1#64, 0x35#64, 1#64, 1#64, 1#64, 1#64, 0#64]

/-- the order of effects is observable in the checked build: the SOURCE builds the rank index first and dies on the
assertion `prev == 0` of `SampleIndex::new` (the first bit sample is 3); the MODEL evaluates the zero column `3 - 5`
first and reports the arithmetic-overflow panic.  Without overflow checks both report the assertion. -/
theorem rl_load_ne_order :
    gen_RLVector_load .checked rlOrderStream = fault (.panic .assert) ∧
    (rlC .checked).load rlOrderStream = fault (.panic .overflow) ∧
    gen_RLVector_load .wrapping rlOrderStream = fault (.panic .assert) ∧
    (rlC .wrapping).load rlOrderStream = fault (.panic .assert) := by
  decide +kernel

theorem rl_load_ne_checked :
    gen_RLVector_load .checked rlOrderStream ≠ (rlC .checked).load rlOrderStream := by
  decide +kernel

/-- the arithmetic hypothesis holds of that stream: the divergence is the order of effects alone -/
theorem rlOrderStream_ok : RlOk rlOrderStream := by
  have hs : Small rlOrderStream := by
    intro w hw
    simp only [rlOrderStream, List.mem_cons, List.not_mem_nil, or_false] at hw
    rcases hw with h | h | h | h | h | h | h | h | h | h | h | h <;> subst h <;> decide
  refine RlOk_of_small hs ?_
  intro len r ones r1 samples r2 data r3 h1 h2 h3 h4 _ _
  obtain ⟨rfl, rfl⟩ := usizeC_cons_inv h1
  obtain ⟨rfl, rfl⟩ := usizeC_cons_inv h2
  have e3 : intVecC.load [2#64, 4#64, 8#64, 1#64, 0x35#64, 1#64, 1#64, 1#64, 1#64, 0#64] =
      ok (⟨2, 4, ⟨8, #[0x35#64]⟩⟩, [1#64, 1#64, 1#64, 1#64, 0#64]) := by decide +kernel
  rw [e3] at h3
  injection h3 with h3; injection h3 with ha hb
  subst ha
  decide

theorem rlOrderStream_not_ord : ¬ RlOrd .checked rlOrderStream :=
  fun ho => rl_load_ne_checked (rl_load_eq _ _ rlOrderStream_ok ho)

/-- the same with the pair (3, 0): the rank index is built, the select index dies on its assertion, the zero column
`0 - 3` underflows -/
theorem rl_load_ne_order_select :
    gen_RLVector_load .checked [10#64, 5#64, 2#64, 4#64, 8#64, 1#64, 0x03#64, 1#64, 1#64, 1#64, 1#64, 0#64] =
      fault (.panic .assert) ∧
    (rlC .checked).load [10#64, 5#64, 2#64, 4#64, 8#64, 1#64, 0x03#64, 1#64, 1#64, 1#64, 1#64, 0#64] =
      fault (.panic .overflow) := by
  decide +kernel

/-- `data.len() = 2^64 − 1` (width 0, so no data word is needed) and no samples: `div_round_up(data.len(), 64)`
overflows.  The checked build panics, the wrapping build ACCEPTS (its block count wraps to 0), the model refuses. -/
theorem rl_load_ne_blocks :
    gen_RLVector_load .checked [0#64, 0#64, 0#64, 0#64, 0#64, 0#64, 0xFFFFFFFFFFFFFFFF#64, 0#64, 0#64, 0#64] =
      fault (.panic .overflow) ∧
    (gen_RLVector_load .wrapping
      [0#64, 0#64, 0#64, 0#64, 0#64, 0#64, 0xFFFFFFFFFFFFFFFF#64, 0#64, 0#64, 0#64]).isOk = true ∧
    (rlC .checked).load [0#64, 0#64, 0#64, 0#64, 0#64, 0#64, 0xFFFFFFFFFFFFFFFF#64, 0#64, 0#64, 0#64] =
      fault (.err .invalid) ∧
    (rlC .wrapping).load [0#64, 0#64, 0#64, 0#64, 0#64, 0#64, 0xFFFFFFFFFFFFFFFF#64, 0#64, 0#64, 0#64] =
      fault (.err .invalid) := by
  decide +kernel

/-- sample width 65 (two samples in 130 bits, all zero): `samples.get(1)` goes through `read_int`, whose two-word branch
shifts by `64 - offset = 64`: a shift overflow in the checked build; the wrapping build and the model accept -/
theorem rl_load_ne_width :
    gen_RLVector_load .checked
      [10#64, 0#64, 2#64, 65#64, 130#64, 3#64, 0#64, 0#64, 0#64, 1#64, 1#64, 1#64, 1#64, 0#64] =
        fault (.panic .overflow) ∧
    ((rlC .checked).load
      [10#64, 0#64, 2#64, 65#64, 130#64, 3#64, 0#64, 0#64, 0#64, 1#64, 1#64, 1#64, 1#64, 0#64]).isOk = true ∧
    gen_RLVector_load .wrapping
      [10#64, 0#64, 2#64, 65#64, 130#64, 3#64, 0#64, 0#64, 0#64, 1#64, 1#64, 1#64, 1#64, 0#64] =
    (rlC .wrapping).load
      [10#64, 0#64, 2#64, 65#64, 130#64, 3#64, 0#64, 0#64, 0#64, 1#64, 1#64, 1#64, 1#64, 0#64] := by
  decide +kernel

end Sds.GenEq
