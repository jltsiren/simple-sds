/-
Proofs/FormatSparse: the format specification written from SERIALIZATION.md (`Spec/Format`, namespace `Doc`) against
the codec of the sparse bitvector, direction (←) — continuation of Proofs/Format.lean.  Namespace `Sds.Format2`.
`sp_high_eq`, `sparse_doc_load`, `sparse_doc_load_es`, `sparse_doc_load_supports`, `sparse_doc_load_any_supports`;
files `sp_w64_file` (width 64), `sp_bad_file` (wrong select support).
Not proven: see the list at the end of the file.
-/
import Sds.Proofs.Format
import Sds.Proofs.Glue4
set_option linter.unusedSimpArgs false
set_option linter.unusedVariables false

/-! ## 3. sparse bitvector, direction (←)

Direction (←) of C07 for the sparse bitvector.  A file accepted by the document-level decoder
`Doc.sparse` (Spec/Format) whose `high` bitvector carries no optional structures (S1) or the library's own (S2) is
loaded by the model's `sparseC.load`, and the loaded structure `Encodes` exactly the universe size and the values the
document reads.
-/

namespace Sds.Format2
open Sds Outcome SupportProofs

/-- `low + (d << w)` with `low < 2^w` splits back into `d` and `low` -/
theorem sp_split_combine {w l d : Nat} (hl : l < 2 ^ w) :
    (l + (d <<< w)) >>> w = d ∧ (l + (d <<< w)) % 2 ^ w = l := by
  have hp : 0 < 2 ^ w := Nat.two_pow_pos w
  rw [Nat.shiftLeft_eq, Nat.shiftRight_eq_div_pow]
  constructor
  · rw [Nat.add_mul_div_right _ _ hp, Nat.div_eq_of_lt hl, Nat.zero_add]
  · rw [Nat.add_mul_mod_self_right, Nat.mod_eq_of_lt hl]

/-! ### the mathematical heart: the decoded `high` IS the unary bucket sequence of the decoded values -/

/-- the facts about the decoded values `sparseValues w 0 (onesPos H) low` that follow from `low` being `w`-bit
numbers, one per set bit of `H` -/
theorem sp_values_facts {w : Nat} {H : List Bool} {low : List Nat}
    (hlen : (onesPos H).length = low.length) (hlow : ∀ x ∈ low, x < 2 ^ w) :
    (Doc.sparseValues w 0 (onesPos H) low).length = H.count true ∧
    ∀ j (hj : j < (Doc.sparseValues w 0 (onesPos H) low).length),
      ∃ (h1 : j < (onesPos H).length) (h2 : j < low.length),
        (Doc.sparseValues w 0 (onesPos H) low)[j] >>> w + j = (onesPos H)[j] ∧
        (Doc.sparseValues w 0 (onesPos H) low)[j] % 2 ^ w = low[j] := by
  have hl := Doc.sparseValues_length w (onesPos H) low 0
  rw [← hlen, Nat.min_self] at hl
  refine ⟨by rw [hl, length_onesPos], fun j hj => ?_⟩
  have h1 : j < (onesPos H).length := by omega
  have h2 : j < low.length := by omega
  refine ⟨h1, h2, ?_⟩
  have hv := Doc.sparseValues_getElem? w (onesPos H) low 0 j hlen h1
  rw [List.getElem?_eq_getElem hj, Nat.zero_add] at hv
  have hv := Option.some.inj hv
  have hge := strict_getElem_ge (onesPos_pairwise H) j h1
  obtain ⟨a, b⟩ := sp_split_combine (w := w) (l := low[j]) (d := (onesPos H)[j] - j) (hlow _ (List.getElem_mem h2))
  rw [hv, a, b]
  exact ⟨by omega, rfl⟩

/-- **uniqueness applied to the decoded file**: a bit list `H` with `⌈n / 2^w⌉` zeros whose decoded values
(`low[i] + ((select(i) - i) << w)`, `low[i] < 2^w`) are sorted and below `n` is the bucket sequence
`highBits w (getBuckets n w)` of those values -/
theorem sp_high_eq {w n : Nat} {H : List Bool} {low : List Nat} (hw : w ≤ 63)
    (hlen : (onesPos H).length = low.length) (hlow : ∀ x ∈ low, x < 2 ^ w)
    (hz : H.count false = Sparse.getBuckets n w)
    (hbound : ∀ p ∈ Doc.sparseValues w 0 (onesPos H) low, p < n)
    (hsorted : sortedLe (Doc.sparseValues w 0 (onesPos H) low) = true) :
    H = highBits w (Sparse.getBuckets n w) (Doc.sparseValues w 0 (onesPos H) low) := by
  obtain ⟨hvl, hv⟩ := sp_values_facts hlen hlow
  generalize hP : Doc.sparseValues w 0 (onesPos H) low = P at *
  have hpw := sortedLe_pairwise P hsorted
  have hbk : ∀ p ∈ P, p >>> w < Sparse.getBuckets n w := fun p hp => shr_lt_getBuckets hw (hbound p hp)
  apply highBits_unique hpw hbk H
  · rw [length_eq_count_true_add_false H, hvl, hz]
  · intro q
    rw [← Glue.mem_onesPos]
    constructor
    · intro hq
      obtain ⟨j, hj, e⟩ := List.getElem_of_mem hq
      have hjP : j < P.length := by rw [hvl, ← length_onesPos]; exact hj
      obtain ⟨_, _, e1, _⟩ := hv j hjP
      exact ⟨j, hjP, by rw [e1, e]⟩
    · rintro ⟨j, hj, rfl⟩
      obtain ⟨h1, _, e1, _⟩ := hv j hj
      rw [e1]
      exact List.getElem_mem h1

/-! ### what the document-side acceptance gives -/

/-- the checks of `Doc.sparse`, spelled out, given what its `high` bitvector reads as -/
theorem sp_doc_decompose {lenE : Word} {t r' rest : Doc.File} {H : List Bool} {n : Nat} {P : List Nat}
    (h : Doc.sparse (lenE :: t) = some ((n, P), rest))
    (hbv : Doc.bitVector t = some (H, r')) :
    ∃ w low, Doc.intVector r' = some ((w, low), rest) ∧
      n = lenE.toNat ∧ P = Doc.sparseValues w 0 (onesPos H) low ∧
      (onesPos H).length = low.length ∧ H.count false = (n + 2 ^ w - 1) / 2 ^ w ∧
      (∀ p ∈ P, p < n) ∧ sortedLe P = true := by
  unfold Doc.sparse at h
  simp only [Doc.elem_cons, Option.bind_eq_bind, Option.bind_some, hbv] at h
  obtain ⟨⟨⟨w, low⟩, r''⟩, hiv, h⟩ := Option.bind_eq_some_iff.mp h
  obtain ⟨⟨c1, c2, _, c4, c5⟩, he⟩ := Doc.ite_some_eq_some h
  simp only [Prod.mk.injEq] at he
  obtain ⟨⟨rfl, rfl⟩, rfl⟩ := he
  exact ⟨w, low, hiv, rfl, rfl, c1, c2, fun p hp => by simpa using List.all_eq_true.mp c4 p hp, c5⟩

/-- on a file whose `high` has three absent optionals, acceptance by `Doc.sparse` implies that the stored number
of set bits is the actual one -/
theorem sp_plain_ones {lenE onesE : Word} {r r' rest : Doc.File} {H : List Bool} {n : Nat} {P : List Nat}
    (h : Doc.sparse (lenE :: onesE :: r) = some ((n, P), rest))
    (hraw : Doc.rawBits r = some (H, 0 :: 0 :: 0 :: r')) : H.count true = onesE.toNat := by
  unfold Doc.sparse at h
  simp only [Doc.elem_cons, Option.bind_eq_bind, Option.bind_some, Doc.bitVector_cons, hraw,
    Doc.optionalSkip_zero] at h
  apply Decidable.byContradiction
  intro hc
  rw [if_pos hc] at h
  cases h

/-! ### the loader -/

/-- the supports the loader enables: a select / select_zero structure that is absent is built, one that is the
structure the library builds is kept -/
theorem sp_enabled_supports {b : BitVector}
    (hs : b.select = none ∨ b.select = some (SelSup.build b.data.len (positionsT .ident b.data)))
    (hz : b.selectZero = none ∨ b.selectZero = some (SelSup.build b.data.len (positionsT .compl b.data))) :
    b.enableSelect.enableSelectZero.select = some (SelSup.build b.data.len (positionsT .ident b.data)) ∧
    b.enableSelect.enableSelectZero.selectZero = some (SelSup.build b.data.len (positionsT .compl b.data)) := by
  rcases b with ⟨o, d, rk, s, z⟩
  simp only at hs hz
  rcases hs with hs | hs <;> rcases hz with hz | hz <;> subst hs hz <;> exact ⟨rfl, rfl⟩

/-- the common core: `t` is the part of the file holding `high`; the document reads the bits `H` from it, the
model loads `b` from it with exactly these bits, and after `enable_select` / `enable_select_zero` the two select
structures of `b` are the ones the library builds from `b.data` -/
theorem sp_load_core (lenE : Word) (t r' rest : Doc.File) (H : List Bool) (b : BitVector) (w : Nat)
    (low : List Nat) (n : Nat) (P : List Nat)
    (h : Doc.sparse (lenE :: t) = some ((n, P), rest))
    (hbv : Doc.bitVector t = some (H, r'))
    (hbload : bitVectorC.load t = ok (b, r'))
    (hbwf : b.data.WF) (hdlt : b.data.len < 2 ^ 64) (hbbits : b.data.bits = H) (hbones : b.ones = H.count true)
    (hsel : b.enableSelect.enableSelectZero.select = some (SelSup.build b.data.len (positionsT .ident b.data)))
    (hselz : b.enableSelect.enableSelectZero.selectZero =
      some (SelSup.build b.data.len (positionsT .compl b.data)))
    (hlow : Doc.intVector r' = some ((w, low), rest))
    (hw : w ≤ 63) (hm : P.length < 2 ^ 63) :
    ∃ v, intVecC.load r' = ok (v, rest) ∧ v.WF ∧ v.data.len < 2 ^ 64 ∧
      sparseC.load (lenE :: t) = ok (⟨lenE.toNat, b.enableSelect.enableSelectZero, v⟩, rest) ∧
      (⟨lenE.toNat, b.enableSelect.enableSelectZero, v⟩ : Sparse).Encodes n w P ∧
      v.items = low ∧ H = highBits w (Sparse.getBuckets n w) P := by
  obtain ⟨w', low', hiv, hn, hP, hsl, hzc, hbound, hsorted⟩ := sp_doc_decompose h hbv
  rw [hlow] at hiv
  simp only [Option.some.injEq, Prod.mk.injEq] at hiv
  obtain ⟨⟨hw', hl'⟩, _⟩ := hiv
  subst hw' hl'
  obtain ⟨v, hvload, hvwf, hvlen, hvdl, hvw, hvitems⟩ := Doc.intVector_load hlow
  have hlowlt : ∀ x ∈ low, x < 2 ^ w := by
    intro x hx
    have := IntVec.items_lt hvwf x (by rw [hvitems]; exact hx)
    rwa [hvw] at this
  have hvl : v.len = low.length := by rw [← IntVec.items_length, hvitems]
  -- the mathematical heart
  have hzb : H.count false = Sparse.getBuckets n w := by rw [hzc, Doc.getBuckets_eq_ceil n w hw]
  have hHeq : H = highBits w (Sparse.getBuckets n w) P := by
    rw [hP]; rw [hP] at hbound hsorted
    exact sp_high_eq hw hsl hlowlt hzb hbound hsorted
  obtain ⟨hPl, hPv⟩ := sp_values_facts hsl hlowlt
  rw [← hP] at hPl hPv
  have hcount : H.count true = low.length := by rw [← length_onesPos, hsl]
  have hHlen : H.length = P.length + Sparse.getBuckets n w := by
    rw [length_eq_count_true_add_false H, hPl, hzb]
  have hdlen : b.data.len = H.length := by rw [← RawVec.bits_length, hbbits]
  refine ⟨v, hvload, hvwf, hvdl, ?_, ?_, hvitems, hHeq⟩
  · -- the loader's two sanity checks pass
    have hbload' : bitVectorC.load t = ok (b, r') := hbload
    simp only [sparseC, usizeC, readElem, bind_ok, pure_eq, hbload', hvload]
    rw [if_neg, if_neg]
    · show ¬ (b.enableSelect.enableSelectZero.len ≠ v.len + Sparse.getBuckets lenE.toNat v.width)
      rw [enableSelectZero_len, enableSelect_len]
      show ¬ (b.data.len ≠ _)
      rw [hdlen, hvl, hvw, ← hn, hHlen, hPl, hcount]
      exact fun hne => hne rfl
    · show ¬ (v.len ≠ b.enableSelect.enableSelectZero.ones)
      rw [enableSelectZero_ones, enableSelect_ones, hbones, hvl, hcount]
      exact fun hne => hne rfl
  · -- the loaded vector encodes `(n, P)`
    have hvals : ∀ i (h : i < P.length), (v.getRaw i).toNat = P[i] % 2 ^ w := by
      intro i hi
      obtain ⟨_, h2, _, e⟩ := hPv i hi
      rw [e]
      have := IntVec.items_getElem? v i
      rw [hvitems, if_pos (by rw [hvl]; exact h2), List.getElem?_eq_getElem h2] at this
      exact (Option.some.inj this).symm
    have hd : b.enableSelect.enableSelectZero.data = b.data := by rw [enableSelectZero_data, enableSelect_data]
    refine Sparse.Encodes.of_parts (hvw ▸ hvwf.1) hw (by rw [hn]; exact lenE.isLt) hm hsorted hbound hn.symm hvw
      (by rw [hvl, hPl, hcount]) hvals ?_ ?_ ?_ ?_ ?_ <;> simp only [hd, enableSelectZero_ones, enableSelect_ones]
    · exact hbwf
    · rw [hbbits, hHeq]
    · rw [hbones, hPl]
    · exact hsel
    · exact hselz

/-- **(S1) (←, sparse bitvector, supports of `high` absent).**  `lenE :: onesE :: r` is a file that the
document-level decoder accepts as a sparse bitvector of length `n` with the values `P`; after the raw bitvector `H`
of `high` come three `0` length elements (no rank / select / select_zero structure) and then the integer vector of
the low parts, of width `w`.  If `w ≤ 63` and there are fewer than `2^63` values, the model's loader accepts the
file, leaves the same rest, and the loaded vector `Encodes n w P` — the hypothesis of every query theorem of
C02 / C15.  (Also: the loaded `high` has the bits `H`, which are the unary bucket sequence of `P`; the loaded `low`
has the items `low`.) -/
theorem sparse_doc_load (lenE onesE : Word) (r r' rest : Doc.File) (H : List Bool) (w : Nat) (low : List Nat)
    (n : Nat) (P : List Nat)
    (h : Doc.sparse (lenE :: onesE :: r) = some ((n, P), rest))
    (hraw : Doc.rawBits r = some (H, 0 :: 0 :: 0 :: r'))
    (hlow : Doc.intVector r' = some ((w, low), rest))
    (hw : w ≤ 63) (hm : P.length < 2 ^ 63) :
    ∃ s, sparseC.load (lenE :: onesE :: r) = ok (s, rest) ∧ s.Encodes n w P ∧
      s.high.data.bits = H ∧ s.low.items = low ∧ H = highBits w (Sparse.getBuckets n w) P := by
  have hones := sp_plain_ones h hraw
  obtain ⟨hbv, b, hbload, hbwf, hbbits, hbones, hbr, hbs, hbz, hwf⟩ := Doc.bitVector_load_plain hraw hones
  have hdlt : b.data.len < 2 ^ 64 := hwf.1.2
  obtain ⟨hsel, hselz⟩ := sp_enabled_supports (Or.inl hbs) (Or.inl hbz)
  obtain ⟨v, _, _, _, hload, henc, hitems, hHeq⟩ :=
    sp_load_core lenE (onesE :: r) r' rest H b w low n P h hbv hbload hbwf hdlt hbbits hbones hsel hselz hlow hw hm
  refine ⟨_, hload, henc, ?_, hitems, hHeq⟩
  show b.enableSelect.enableSelectZero.data.bits = H
  rw [enableSelectZero_data, enableSelect_data, hbbits]

/-- (S1) with the width read off the file (used by `C07.sparse_document_file_loads_any_width`).
The decomposition hypotheses say "the three optional structures of `high` are absent". -/
theorem sparse_doc_load_es (es rest : Doc.File) (n : Nat) (P : List Nat)
    (h : Doc.sparse es = some ((n, P), rest))
    (lenE onesE : Word) (r r' : Doc.File) (H : List Bool) (hes : es = lenE :: onesE :: r)
    (hraw : Doc.rawBits r = some (H, 0 :: 0 :: 0 :: r')) :
    ∃ w low, Doc.intVector r' = some ((w, low), rest) ∧ 1 ≤ w ∧ w ≤ 64 ∧
      (w ≤ 63 → P.length < 2 ^ 63 → ∃ s, sparseC.load es = ok (s, rest) ∧ s.Encodes n w P) := by
  subst hes
  have hones := sp_plain_ones h hraw
  have hbv := (Doc.bitVector_load_plain hraw hones).1
  obtain ⟨w, low, hiv, _⟩ := sp_doc_decompose h hbv
  obtain ⟨v, _, hvwf, _, _, hvw, _⟩ := Doc.intVector_load hiv
  refine ⟨w, low, hiv, by rw [← hvw]; exact hvwf.1, by rw [← hvw]; exact hvwf.2.1, fun hw hm => ?_⟩
  obtain ⟨s, hs, henc, _⟩ := sparse_doc_load lenE onesE r r' rest H w low n P h hraw hiv hw hm
  exact ⟨s, hs, henc⟩

/-! ### (S2) the optional structures of `high` present and valid -/

/-- **(S2) (←, sparse bitvector, `high` written by the library with any subset of its support structures).**
The `high` part of the file is the library's serialization of a bitvector `b` (serializable: `bitVectorWF`; stored
number of set bits correct) that carries any rank structure and whose select / select_zero structures, where
present, are the ones the library builds from the bits.  If the document-level decoder accepts the file, the
loader accepts it and the loaded vector `Encodes` what the document reads. -/
theorem sparse_doc_load_supports (lenE : Word) (b : BitVector) (r' rest : Doc.File) (w : Nat) (low : List Nat)
    (n : Nat) (P : List Nat)
    (h : Doc.sparse (lenE :: (bitVectorC.ser b ++ r')) = some ((n, P), rest))
    (hwf : bitVectorWF b) (hones : b.ones = b.data.bits.count true)
    (hsel : b.select = none ∨ b.select = some (SelSup.build b.data.len (positionsT .ident b.data)))
    (hselz : b.selectZero = none ∨ b.selectZero = some (SelSup.build b.data.len (positionsT .compl b.data)))
    (hlow : Doc.intVector r' = some ((w, low), rest))
    (hw : w ≤ 63) (hm : P.length < 2 ^ 63) :
    ∃ s, sparseC.load (lenE :: (bitVectorC.ser b ++ r')) = ok (s, rest) ∧ s.Encodes n w P ∧
      s.high = b.enableSelect.enableSelectZero ∧ s.low.items = low ∧
      b.data.bits = highBits w (Sparse.getBuckets n w) P := by
  have hbv := Doc.bitVector_ser hwf hones r'
  have hbload := (bitVectorC_loads isEof_eof hwf).1 r'
  obtain ⟨hs, hz⟩ := sp_enabled_supports hsel hselz
  obtain ⟨v, _, _, _, hload, henc, hitems, hHeq⟩ :=
    sp_load_core lenE (bitVectorC.ser b ++ r') r' rest b.data.bits b w low n P h hbv hbload hwf.1.1 hwf.1.2 rfl
      hones hs hz hlow hw hm
  exact ⟨_, hload, henc, rfl, hitems, hHeq⟩

/-- a bitvector over the raw vector `v` with a chosen subset of the three support structures, each built by the
library (`enable_rank`, `enable_select`, `enable_select_zero`) -/
def sp_withSupports (v : RawVec) (rk sl sz : Bool) : BitVector :=
  let b := BitVector.ofRaw v
  let b := if rk then b.enableRank else b
  let b := if sl then b.enableSelect else b
  if sz then b.enableSelectZero else b

theorem sp_withSupports_facts {v : RawVec} (hv : v.WF) (hlen : v.len < 2 ^ 63) (rk sl sz : Bool) :
    bitVectorWF (sp_withSupports v rk sl sz) ∧ (sp_withSupports v rk sl sz).data = v ∧
    (sp_withSupports v rk sl sz).ones = v.bits.count true ∧
    ((sp_withSupports v rk sl sz).select = none ∨
      (sp_withSupports v rk sl sz).select = some (SelSup.build v.len (positionsT .ident v))) ∧
    ((sp_withSupports v rk sl sz).selectZero = none ∨
      (sp_withSupports v rk sl sz).selectZero = some (SelSup.build v.len (positionsT .compl v))) := by
  show bitVectorWF (enableSome rk sl sz (BitVector.ofRaw v)) ∧ (enableSome rk sl sz (BitVector.ofRaw v)).data = v ∧
    (enableSome rk sl sz (BitVector.ofRaw v)).ones = _ ∧ _
  refine ⟨enableSome_wf rk sl sz (ofRaw_sound hv hlen) (ofRaw_wf hv hlen), enableSome_data .., ?_, ?_, ?_⟩
  · rw [enableSome_ones]; exact RawVec.countOnes_eq hv
  · cases sl
    · exact Or.inl (by cases rk <;> cases sz <;> rfl)
    · exact Or.inr (by cases rk <;> cases sz <;> rfl)
  · cases sz
    · exact Or.inl (by cases rk <;> cases sl <;> rfl)
    · exact Or.inr (by cases rk <;> cases sl <;> rfl)

/-- (S2), concretely: `high` = the library's serialization of the bits `H` (fewer than `2^63`) with ANY of the
eight subsets of support structures enabled before writing -/
theorem sparse_doc_load_any_supports (lenE : Word) (H : List Bool) (rk sl sz : Bool) (r' rest : Doc.File) (w : Nat)
    (low : List Nat) (n : Nat) (P : List Nat) (hH : H.length < 2 ^ 63)
    (h : Doc.sparse (lenE :: (bitVectorC.ser (sp_withSupports (RawVec.ofBits H) rk sl sz) ++ r')) =
      some ((n, P), rest))
    (hlow : Doc.intVector r' = some ((w, low), rest)) (hw : w ≤ 63) :
    ∃ s, sparseC.load (lenE :: (bitVectorC.ser (sp_withSupports (RawVec.ofBits H) rk sl sz) ++ r')) = ok (s, rest) ∧
      s.Encodes n w P ∧ H = highBits w (Sparse.getBuckets n w) P := by
  have hv := RawVec.ofBits_WF H
  have hl : (RawVec.ofBits H).len < 2 ^ 63 := by rw [← RawVec.bits_length, RawVec.bits_ofBits]; exact hH
  obtain ⟨hwf, hd, ho, hs, hz⟩ := sp_withSupports_facts hv hl rk sl sz
  have hbits : (sp_withSupports (RawVec.ofBits H) rk sl sz).data.bits = H := by rw [hd, RawVec.bits_ofBits]
  have hbv := Doc.bitVector_ser hwf (by rw [ho, hd]) r'
  obtain ⟨_, _, _, _, hP, _, _, _, _⟩ := sp_doc_decompose h hbv
  have hm : P.length < 2 ^ 63 := by
    have hsl : (onesPos H).length ≤ H.length := by rw [length_onesPos]; exact List.count_le_length
    have : P.length ≤ (onesPos H).length := by
      rw [hP, hbits, Doc.sparseValues_length]
      exact Nat.min_le_left _ _
    omega
  obtain ⟨s, h1, h2, _, _, h3⟩ := sparse_doc_load_supports lenE _ r' rest w low n P h hwf (by rw [ho, hd])
    (by rw [hd]; exact hs) (by rw [hd]; exact hz) hlow hw hm
  exact ⟨s, h1, h2, by rw [← hbits]; exact h3⟩

/-! ### (S3) are the hypotheses needed?

`w ≤ 63`.  The document allows `w = 64`: integer vectors have widths "from 1 to 64 bits" and the sparse section
only demands `w >= 1` (it says `w ≈ log2(n) - log2(m)`, which is not a bound).  The file below (n = 5, the single
value 3, low width 64) is accepted by `Doc.sparse` and by the loader — `get_buckets` has a special case for width
64, and `load` does not look at the width.
* `Sparse.Encodes` contains `w ≤ 63`, so without the hypothesis the conclusion of `sparse_doc_load` is false for
  this file (`sp_w64_not_encodes`).
* The model's `Sparse.split` / `Sparse.combine` are the repaired code (both shifts guarded at width 64, F13), and the
  loaded vector answers every query correctly in both modes (`sp_w64_model_answers`).  The code as first written
  shifted a `usize` by `self.low.width()` = 64 — `Sparse.splitOld` / `combineOld`, Proofs/SafeApi §B — and panicked
  (debug build) or answered wrongly (release build) on this file.  `w ≤ 63` remains only because `Sparse.Encodes`
  contains it.

`P.length < 2^63`.  A field of `Sparse.Encodes` (`m_lt`); it is used for `high.len < 2^64` — which holds for every
file — and for the fuel of the model's `find_zero_run`.  A file violating it has at least 2^57 elements; not testable.

`hsel` / `hselz` of (S2): a select structure that is present must be the one the library builds.  The document calls
the support structures implementation-dependent and lets a reader skip them; the loader parses them and only checks
the number of superblocks.  `sp_bad_select_support`: `high` = `100` with the select structure of `010`; the document
reads (8, [1]), the loader accepts, and `select(0)` answers 5 although `get(1)` is true (same on the library). -/

/-- n = 5; high: 1 set bit, 2 bits `10`, no optionals; low: 1 item of width 64 (raw bitvector of 64 bits), value 3 -/
def sp_w64_file : Doc.File := [5, 1, 2, 1, 1, 0, 0, 0, 1, 64, 64, 1, 3]

def sp_w64_vec : Sparse :=
  ⟨5, (BitVector.ofRaw (RawVec.ofBits [true, false])).enableSelect.enableSelectZero, IntVec.ofList 64 [3]⟩

/-- the document accepts the width-64 file: the set `{3}` in a universe of 5 -/
theorem sp_w64_doc_valid : Doc.sparse sp_w64_file = some ((5, [3]), []) := by decide +kernel

/-- the loader accepts it -/
theorem sp_w64_model_loads : sparseC.load sp_w64_file = ok (sp_w64_vec, []) := by decide +kernel

/-- no vector `Encodes` anything at width 64: the conclusion of `sparse_doc_load` fails for `sp_w64_file` -/
theorem sp_w64_not_encodes (s : Sparse) (n : Nat) (P : List Nat) : ¬ s.Encodes n 64 P :=
  fun h => absurd h.w_lt (by decide)

/-- … but the model, like the repaired code (F13), answers correctly on it -/
theorem sp_w64_model_answers :
    (∀ m ∈ [Mode.checked, Mode.wrapping], ∀ i ∈ List.range 7,
      sp_w64_vec.get m i = ok (i == 3) ∧ sp_w64_vec.rank m i = ok (if i ≤ 3 then 0 else 1)) ∧
    (∀ m ∈ [Mode.checked, Mode.wrapping], sp_w64_vec.select m 0 = ok (some 3)) := by decide +kernel

/-- `high` = bits `100` carrying the select structure built for `010` -/
def sp_bad_high : BitVector :=
  { BitVector.ofRaw (RawVec.ofBits [true, false, false]) with
    select := (BitVector.ofRaw (RawVec.ofBits [false, true, false])).enableSelect.select }

/-- the 27 elements `8, 1,3,1,1, 0, 14,(2,1,2,1,3,0,64,0,0,1,1,1,1,0), 0, 1,2,2,1,1` -/
def sp_bad_file : Doc.File := 8 :: (bitVectorC.ser sp_bad_high ++ intVecC.ser (IntVec.ofList 2 [1]))

/-- a present but wrong select structure: valid for the document (which skips it), accepted by the loader, and
`select` answers wrongly in both modes — `hsel` of `sparse_doc_load_supports` cannot be dropped -/
theorem sp_bad_select_support :
    Doc.sparse sp_bad_file = some ((8, [1]), []) ∧
    ∃ s, sparseC.load sp_bad_file = ok (s, []) ∧
      ∀ m ∈ [Mode.checked, Mode.wrapping], s.select m 0 = ok (some 5) ∧ s.get m 1 = ok true := by
  refine ⟨by decide +kernel, ⟨8, sp_bad_high.enableSelect.enableSelectZero, IntVec.ofList 2 [1]⟩,
    by decide +kernel, by decide +kernel⟩

/-- non-vacuity of (S1): a file with width 2 (n = 10, values 0, 5, 9: buckets `10`, `10`, `10`) -/
def sp_small_file : Doc.File := [10, 3, 6, 1, 0b010101, 0, 0, 0, 3, 2, 6, 1, 0b010100]

theorem sp_small_doc_valid : Doc.sparse sp_small_file = some ((10, [0, 5, 9]), []) := by decide +kernel

theorem sp_small_loads : ∃ s, sparseC.load sp_small_file = ok (s, []) ∧ s.Encodes 10 2 [0, 5, 9] := by
  obtain ⟨s, h1, h2, _⟩ := sparse_doc_load 10 3 [6, 1, 0b010101, 0, 0, 0, 3, 2, 6, 1, 0b010100]
    [3, 2, 6, 1, 0b010100] [] [true, false, true, false, true, false] 2 [0, 1, 1] 10 [0, 5, 9]
    sp_small_doc_valid (by decide +kernel) (by decide +kernel) (by decide) (by decide)
  exact ⟨s, h1, h2⟩

end Sds.Format2

/-! ### not proven

1. (←) with optional structures of `high` that are present but not those the library writes is false
   (`sp_bad_select_support`).  (S2) is stated for select / select_zero structures equal to `SelSup.build …` (what
   `enable_select` / `enable_select_zero` produce) and for an arbitrary serializable rank structure (the sparse vector
   never uses the rank structure of `high`).
2. (←) at `w = 64`: not covered (`Sparse.Encodes` requires `w ≤ 63`); the code as first written failed there
   (F13, `splitOld`).
-/
