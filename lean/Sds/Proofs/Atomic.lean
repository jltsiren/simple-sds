/-
Proofs/Atomic: uniqueness of the names handed out by `temp_file_name` under every interleaving,
when the access to the counter is one atomic fetch-and-add; and a duplicating schedule for the
load-then-store variant.
-/
import Sds.Model.Atomic

namespace Sds

/-! ### one step of the single-RMW program -/

/-- every thread is between calls -/
def AllPc0 (s : AtomSt) : Prop := ∀ th ∈ s.threads, th.pc = 0

theorem step_single (k : Nat) (s : AtomSt) (t : Nat) (h : AllPc0 s) :
    stepThread [AOp.fetchAdd k] 0 s t =
      if t < s.threads.length then
        { counter := s.counter + k
          threads := s.threads.set t { pc := 0, reg := s.counter, res := s.counter }
          out := s.out ++ [(t, s.counter)] }
      else s := by
  unfold stepThread
  by_cases ht : t < s.threads.length
  · have hpc : (s.threads[t]).pc = 0 := h _ (List.getElem_mem ht)
    simp [ht, hpc, execOp]
  · simp [ht]

theorem step_single_pc0 (k : Nat) (s : AtomSt) (t : Nat) (h : AllPc0 s) :
    AllPc0 (stepThread [AOp.fetchAdd k] 0 s t) := by
  rw [step_single k s t h]
  split
  · intro th hth
    rcases List.mem_or_eq_of_mem_set hth with h1 | h1
    · exact h th h1
    · subst h1; rfl
  · exact h

theorem step_single_len (k : Nat) (s : AtomSt) (t : Nat) (h : AllPc0 s) :
    (stepThread [AOp.fetchAdd k] 0 s t).threads.length = s.threads.length := by
  rw [step_single k s t h]
  split <;> simp

/-- the invariant: all threads at pc 0, the counter is `k * n` and the names so far are `0, k, …, k*(n-1)` -/
structure Inv (k : Nat) (nthreads : Nat) (n : Nat) (s : AtomSt) : Prop where
  pc0 : AllPc0 s
  len : s.threads.length = nthreads
  ctr : s.counter = k * n
  names : s.out.map (·.2) = (List.range n).map (k * ·)

theorem Inv.step {k nthreads n : Nat} {s : AtomSt} (h : Inv k nthreads n s) (t : Nat) :
    Inv k nthreads (n + if t < nthreads then 1 else 0) (stepThread [AOp.fetchAdd k] 0 s t) := by
  refine ⟨step_single_pc0 k s t h.pc0, ?_, ?_, ?_⟩
  · rw [step_single_len k s t h.pc0, h.len]
  · rw [step_single k s t h.pc0, h.len]
    split
    · simp [h.ctr, Nat.mul_add]
    · simp [h.ctr]
  · rw [step_single k s t h.pc0, h.len]
    split
    · simp [h.names, h.ctr, List.range_succ]
    · simp [h.names]

theorem Inv.run {k nthreads : Nat} (sched : List Nat) {n : Nat} {s : AtomSt} (h : Inv k nthreads n s) :
    Inv k nthreads (n + (sched.filter (· < nthreads)).length)
      (sched.foldl (stepThread [AOp.fetchAdd k] 0) s) := by
  induction sched generalizing n s with
  | nil => simpa using h
  | cons t ts ih =>
    have := ih (h.step t)
    rw [List.foldl_cons]
    by_cases ht : t < nthreads
    · simp only [ht, if_true] at this
      simp only [List.filter_cons, ht, decide_true, if_true, List.length_cons]
      rw [show n + ((ts.filter (· < nthreads)).length + 1) = n + 1 + (ts.filter (· < nthreads)).length by omega]
      exact this
    · simp only [ht, if_false, Nat.add_zero] at this
      simpa [List.filter_cons, ht] using this

theorem Inv.init (k nthreads : Nat) : Inv k nthreads 0 (initAtom nthreads) := by
  refine ⟨?_, by simp [initAtom], by simp [initAtom], by simp [initAtom]⟩
  intro th hth
  simp only [initAtom] at hth
  rw [List.eq_of_mem_replicate hth]

/-- closed form of the names: `0, k, 2k, …`, one per scheduled step of an existing thread -/
theorem namesOf_single (k nthreads : Nat) (sched : List Nat) :
    namesOf [AOp.fetchAdd k] 0 nthreads sched =
      (List.range (sched.filter (· < nthreads)).length).map (k * ·) := by
  have := (Inv.run sched (Inv.init k nthreads)).names
  simpa [namesOf, runSchedule] using this

/-! ### contiguous range, one name per step -/

theorem single_rmw_length (k nthreads : Nat) (sched : List Nat) :
    (namesOf [AOp.fetchAdd k] 0 nthreads sched).length = (sched.filter (· < nthreads)).length := by
  rw [namesOf_single]; simp

theorem single_rmw_get (k nthreads : Nat) (sched : List Nat) (i : Nat)
    (hi : i < (namesOf [AOp.fetchAdd k] 0 nthreads sched).length) :
    (namesOf [AOp.fetchAdd k] 0 nthreads sched)[i]? = some (k * i) := by
  rw [single_rmw_length] at hi
  rw [namesOf_single]
  simp [hi]

/-- the shared counter ends at `k *` (number of names handed out) -/
theorem single_rmw_counter (k nthreads : Nat) (sched : List Nat) :
    (runSchedule [AOp.fetchAdd k] 0 nthreads sched).counter =
      k * (namesOf [AOp.fetchAdd k] 0 nthreads sched).length := by
  rw [single_rmw_length]
  have := (Inv.run sched (Inv.init k nthreads)).ctr
  simpa [runSchedule] using this

/-! ### strictly increasing, no duplicates -/

theorem single_rmw_strictly_increasing (k : Nat) (hk : 0 < k) (nthreads : Nat) (sched : List Nat) :
    (namesOf [AOp.fetchAdd k] 0 nthreads sched).Pairwise (· < ·) := by
  rw [namesOf_single, List.pairwise_map]
  refine List.Pairwise.imp ?_ List.pairwise_lt_range
  intro a b hab
  exact Nat.mul_lt_mul_of_pos_left hab hk

theorem single_rmw_nodup (k : Nat) (hk : 0 < k) (nthreads : Nat) (sched : List Nat) :
    (namesOf [AOp.fetchAdd k] 0 nthreads sched).Nodup := by
  refine List.Pairwise.imp ?_ (single_rmw_strictly_increasing k hk nthreads sched)
  intro a b hab
  exact Nat.ne_of_lt hab

theorem isSingleRMW_elim {prog : List AOp} {r : Nat} (h : isSingleRMW prog (some r) = true) :
    ∃ k, 0 < k ∧ prog = [AOp.fetchAdd k] ∧ r = 0 := by
  unfold isSingleRMW at h
  split at h
  · rename_i k heq
    injection heq with heq
    exact ⟨k, by simpa using h, rfl, heq⟩
  · exact absurd h (by simp)

theorem unique_of_isSingleRMW (prog : List AOp) (r : Nat) (h : isSingleRMW prog (some r) = true) :
    ∀ nthreads sched, (namesOf prog r nthreads sched).Nodup := by
  obtain ⟨k, hk, rfl, rfl⟩ := isSingleRMW_elim h
  exact single_rmw_nodup k hk

theorem increasing_of_isSingleRMW (prog : List AOp) (r : Nat) (h : isSingleRMW prog (some r) = true) :
    ∀ nthreads sched, (namesOf prog r nthreads sched).Pairwise (· < ·) := by
  obtain ⟨k, hk, rfl, rfl⟩ := isSingleRMW_elim h
  exact single_rmw_strictly_increasing k hk

/-- `hasDup` decides `¬ Nodup` -/
theorem hasDup_eq_false_iff (l : List Nat) : hasDup l = false ↔ l.Nodup := by
  induction l with
  | nil => simp [hasDup]
  | cons x xs ih => simp [hasDup, ih, List.nodup_cons]

theorem no_dup_of_isSingleRMW (prog : List AOp) (r : Nat) (h : isSingleRMW prog (some r) = true)
    (nthreads : Nat) (sched : List Nat) : hasDup (namesOf prog r nthreads sched) = false :=
  (hasDup_eq_false_iff _).2 (unique_of_isSingleRMW prog r h nthreads sched)

/-! ### negative witness: load, then store reg+1 -/

theorem load_store_duplicates :
    hasDup (namesOf [.load, .storeRegPlus 1] 0 2 [0, 1, 0, 1]) = true := by decide

theorem load_store_duplicates_names :
    namesOf [.load, .storeRegPlus 1] 0 2 [0, 1, 0, 1] = [0, 0] := by decide

theorem load_store_not_nodup :
    ¬ (namesOf [.load, .storeRegPlus 1] 0 2 [0, 1, 0, 1]).Nodup := by
  rw [← hasDup_eq_false_iff, load_store_duplicates]; simp

end Sds
