/-
Proofs/GenEqSkip: `skip_option` as translated from the source on this run (`Generated/FnsSkip.lean`) is the specified
skip — "move past the optional structure; a stream that ends inside it is an error" — on every stream whose length prefix
is below 2^61 elements (so that `elements * 8` is a `usize`).  Beyond that the source's multiplication overflows: a panic
in the checked build, and in the wrapping build a byte count that is too small, so that the function returns `Ok` without
having skipped anything (`skip_huge_prefix_checked`, `skip_huge_prefix_wrapping`: observation O19 — such a prefix is not a
prefix of the serialization of any structure, which would need 2^64 bytes, so C14 does not speak about it).
-/
import Sds.Generated.FnsSkip
namespace Sds.GenEq
open Sds Outcome Generated

/-- the specified result, in the shape the translated function returns it (`io::Result<()>` plus the reader) -/
def skipSpecR (es : Elems) : Outcome (Unit × Elems) :=
  match skipOptionSpec es with
  | .ok r => ok ((), r)
  | .fault e => fault e

theorem skip_option_eq (m : Mode) (es : Elems) (h : ∀ n r, es = n :: r → n.toNat < 2 ^ 61) :
    gen_skip_option m es = skipSpecR es := by
  cases es with
  | nil => rfl
  | cons n r =>
    have hn := h n r rfl
    unfold gen_skip_option skipSpecR skipOptionSpec
    simp only [usizeC, readElem, bind_ok, pure_eq]
    by_cases h0 : n.toNat = 0
    · simp [h0]
    · have hpos : n.toNat > 0 := Nat.pos_of_ne_zero h0
      have hmul : mulM m n.toNat 8 = ok (n.toNat * 8) := mulM_ok (by simp only [U64]; omega)
      simp only [hpos, decide_true, if_true, hmul, copyTakeSink, bind_ok]
      have hb : (BitVec.ofNat 64 (n.toNat * 8)).toNat = n.toNat * 8 := by
        simp only [BitVec.toNat_ofNat]; exact Nat.mod_eq_of_lt (by omega)
      simp only [hb, Nat.mul_div_cancel _ (by decide : 0 < 8)]
      by_cases hle : n.toNat ≤ r.length
      · have : min n.toNat r.length = n.toNat := Nat.min_eq_left hle
        simp [this, hle, Nat.mul_comm]
      · have hlt : r.length < n.toNat := Nat.lt_of_not_le hle
        have hmin : min n.toNat r.length = r.length := Nat.min_eq_right (Nat.le_of_lt hlt)
        have hne : BitVec.ofNat 64 (8 * r.length) ≠ BitVec.ofNat 64 (n.toNat * 8) := by
          intro heq
          have := congrArg BitVec.toNat heq
          simp only [BitVec.toNat_ofNat] at this
          omega
        simp [hmin, hle, hne]

/-- the prefix 2^61: the checked build panics on `elements * WORD_BYTES` -/
theorem skip_huge_prefix_checked :
    gen_skip_option .checked [BitVec.ofNat 64 (2 ^ 61), 7, 8] = fault (.panic .overflow) := by decide +kernel

/-- … and the wrapping build skips nothing and reports success, where the specification has an error -/
theorem skip_huge_prefix_wrapping :
    gen_skip_option .wrapping [BitVec.ofNat 64 (2 ^ 61), 7, 8] = ok ((), [7, 8]) ∧
    skipSpecR [BitVec.ofNat 64 (2 ^ 61), 7, 8] = fault (.err .eof) := by decide +kernel

/-- the hypothesis is satisfiable and both branches are reached -/
example : gen_skip_option .checked [2, 5, 6, 77] = ok ((), [77]) ∧ gen_skip_option .checked [3, 5, 6] = fault (.err .eof)
    ∧ gen_skip_option .wrapping [0, 9] = ok ((), [9]) ∧ gen_skip_option .checked [] = fault (.err .eof) := by decide +kernel

end Sds.GenEq
