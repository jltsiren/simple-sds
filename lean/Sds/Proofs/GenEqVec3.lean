/-
Proofs/GenEqVec3: `RawVector::reserve`, `IntVector::reserve` and `IntVector::resize`, as TRANSLATED statement by
statement from the source (Generated/FnsVec3.lean), against the hand-written model.  The capacity of the `Vec` is the
arbitrary parameter `cap` of the translated functions; every theorem holds for EVERY `cap`.

* `raw_reserve_eq`: `reserve` returns the vector under `v.len + additional + 63 < U64`
  (`len + additional`, then `bits_to_words`; `words_needed - capacity` is guarded by `words_needed > capacity`).
  The bound is exact: `raw_reserve_ok_iff` (`= ok v ↔ m = .wrapping ∨ bound`), `raw_reserve_wrapping`,
  `raw_reserve_checked_overflow`.
* `int_reserve_eq`: likewise under
  `v.data.len + additional * v.width + 63 < U64` (this contains `additional * width < U64`); no `WF`.  Exact:
  `int_reserve_ok_iff`.  `int_reserve_eq_wf`: `(len + additional) * width + 63 < U64` for a well-formed vector.
* `int_resize_eq`: the model's `resize` under `v.WF` and
  `new_len ≠ v.len → new_len * v.width + 63 < U64` (only the NEW length matters: growing, `reserve` computes
  `bits_to_words(data.len + (new_len - len) * width)` and the last `push` needs the same bound; shrinking,
  `RawVector::resize` computes `bits_to_words(new_len * width)`).  `int_resize_eq_max` is the form with
  `max v.len new_len`.  Branches: `int_resize_same` (no hypothesis), `int_resize_shrink_eq` (no `WF`, the hypothesis of
  `raw_resize_eq`), `int_resize_grow_eq_of` (any invariant of the pushes), `int_resize_eq_w0` (width 0, not `WF`: the
  code and the model still agree).  The `while` goes round `new_len - len` times, below its fuel `new_len + 1`
  (`while_sat`).
  Sharpness (examples at the end): beyond the bound the code
  panics in `reserve` where the total model returns a value; width 65 and a buffer that contradicts
  `data.len = len * width` / the exact word count make the code index out of bounds.
-/
import Sds.Generated.FnsVec3
import Sds.Proofs.GenFns
import Sds.Proofs.GenEqVec
import Sds.Proofs.IntVec
import Sds.Proofs.RawVec


namespace Sds.GenEq
open Sds Outcome Generated

/-! ### `RawVector::reserve` -/

private theorem v3_bind_ok {α β : Type} (a : α) (f : α → Outcome β) : (ok a).bind f = f a := rfl

theorem raw_reserve_eq (m : Mode) (cap : Nat) (v : RawVec) (additional : Nat)
    (h : v.len + additional + 63 < U64) : gen_RawVector_reserve m cap v additional = ok v := by
  unfold gen_RawVector_reserve
  have h1 : v.len + additional < U64 := by omega
  by_cases hc : (v.len + additional + 63) / 64 > cap
  · simp only [gen_simp, h1, bitsToWords_ok m _ h, hc, Nat.le_of_lt hc]
  · simp only [gen_simp, h1, bitsToWords_ok m _ h, hc]


/-- without overflow checks nothing in `reserve` can fail -/
theorem raw_reserve_wrapping (cap : Nat) (v : RawVec) (additional : Nat) :
    gen_RawVector_reserve .wrapping cap v additional = ok v := by
  unfold gen_RawVector_reserve gen_bits_to_words
  obtain ⟨c1, e1⟩ := addM_wrapping_ok v.len additional
  obtain ⟨c2, e2⟩ := addM_wrapping_ok c1 63
  by_cases hc : c2 / 64 > cap
  · simp only [gen_simp, e1, e2, show (64 : Nat) ≠ 0 by decide, hc, Nat.le_of_lt hc]
  · simp only [gen_simp, e1, e2, show (64 : Nat) ≠ 0 by decide, hc]

/-- with overflow checks, beyond the bound `reserve` panics -/
theorem raw_reserve_checked_overflow (cap : Nat) (v : RawVec) (additional : Nat)
    (h : ¬ v.len + additional + 63 < U64) :
    gen_RawVector_reserve .checked cap v additional = fault (.panic .overflow) := by
  unfold gen_RawVector_reserve gen_bits_to_words
  by_cases h1 : v.len + additional < U64
  · simp only [gen_simp, h1, addM_checked_of_le (Nat.le_of_not_lt h)]
  · simp only [gen_simp, addM_checked_of_le (Nat.le_of_not_lt h1)]

/-- an operation that cannot fail without overflow checks, succeeds within a bound `P` and panics beyond it with
them: it succeeds exactly in release builds or within the bound -/
theorem ok_iff_wrapping_or {α : Type} {x : Mode → Outcome α} {a : α} {P : Prop} (hw : x .wrapping = ok a)
    (hc : ¬ P → x .checked = fault (.panic .overflow)) (he : ∀ m, P → x m = ok a) (m : Mode) :
    x m = ok a ↔ (m = .wrapping ∨ P) := by
  constructor
  · intro e
    cases m with
    | wrapping => exact Or.inl rfl
    | checked =>
      refine Or.inr (Classical.byContradiction fun hn => ?_)
      rw [hc hn] at e
      cases e
  · rintro (rfl | h)
    · exact hw
    · exact he m h

theorem raw_reserve_ok_iff (m : Mode) (cap : Nat) (v : RawVec) (additional : Nat) :
    gen_RawVector_reserve m cap v additional = ok v ↔ (m = .wrapping ∨ v.len + additional + 63 < U64) :=
  ok_iff_wrapping_or (raw_reserve_wrapping cap v additional) (raw_reserve_checked_overflow cap v additional)
    (fun m => raw_reserve_eq m cap v additional) m

/-! ### `IntVector::reserve` -/

theorem int_reserve_eq (m : Mode) (cap : Nat) (v : IntVec) (additional : Nat)
    (h : v.data.len + additional * v.width + 63 < U64) : gen_IntVector_reserve m cap v additional = ok v := by
  unfold gen_IntVector_reserve
  simp only [gen_simp, show additional * v.width < U64 by omega, raw_reserve_eq m cap v.data _ h]

theorem int_reserve_wrapping (cap : Nat) (v : IntVec) (additional : Nat) :
    gen_IntVector_reserve .wrapping cap v additional = ok v := by
  unfold gen_IntVector_reserve
  have hm : ∃ c, mulM .wrapping additional v.width = ok c := by
    unfold mulM; split
    · exact ⟨_, rfl⟩
    · exact ⟨_, rfl⟩
  obtain ⟨c, e⟩ := hm
  simp only [gen_simp, e, raw_reserve_wrapping]

theorem int_reserve_checked_overflow (cap : Nat) (v : IntVec) (additional : Nat)
    (h : ¬ v.data.len + additional * v.width + 63 < U64) :
    gen_IntVector_reserve .checked cap v additional = fault (.panic .overflow) := by
  unfold gen_IntVector_reserve
  by_cases h1 : additional * v.width < U64
  · simp only [gen_simp, h1, raw_reserve_checked_overflow cap v.data _ h]
  · simp only [gen_simp, mulM, h1]

theorem int_reserve_ok_iff (m : Mode) (cap : Nat) (v : IntVec) (additional : Nat) :
    gen_IntVector_reserve m cap v additional = ok v ↔
      (m = .wrapping ∨ v.data.len + additional * v.width + 63 < U64) :=
  ok_iff_wrapping_or (int_reserve_wrapping cap v additional) (int_reserve_checked_overflow cap v additional)
    (fun m => int_reserve_eq m cap v additional) m

/-- the hypothesis in terms of the item counts, for a well-formed vector -/
theorem int_reserve_eq_wf (m : Mode) (cap : Nat) (v : IntVec) (additional : Nat) (hwf : v.WF)
    (h : (v.len + additional) * v.width + 63 < U64) : gen_IntVector_reserve m cap v additional = ok v := by
  apply int_reserve_eq
  rw [hwf.2.2.1, ← Nat.add_mul]; exact h


/-! ### `IntVector::resize` -/

/-- `n` pushes of the same value (the model's grow branch) -/
def pushN (v : IntVec) (x : Word) (n : Nat) : IntVec := (List.range n).foldl (fun u _ => u.push x) v

theorem pushN_zero (v : IntVec) (x : Word) : pushN v x 0 = v := rfl

theorem pushN_succ' (v : IntVec) (x : Word) (n : Nat) : pushN v x (n + 1) = (pushN v x n).push x := by
  unfold pushN; rw [List.range_succ, List.foldl_append]; rfl

/-- the three branches of `resize`.  `new_len == len`: nothing is computed -/
theorem int_resize_same (m : Mode) (cap : Nat) (v : IntVec) (value : Word) :
    gen_IntVector_resize m cap v v.len value = ok (v.resize v.len value) := by
  unfold gen_IntVector_resize IntVec.resize
  simp only [gen_simp, Nat.lt_irrefl, gt_iff_lt]

/-- shrink: `new_len * width` and `RawVector::resize` (`bits_to_words(new_len * width)`); `hs` is the hypothesis of
`raw_resize_eq`, vacuous when `new_len * width ≤ data.len` (in particular for a well-formed vector) -/
theorem int_resize_shrink_eq (m : Mode) (cap : Nat) (v : IntVec) (new_len : Nat) (value : Word)
    (hl : new_len < v.len)
    (hs : new_len * v.width > v.data.len → v.data.len % 64 ≠ 0 → v.data.len / 64 < v.data.data.size)
    (hb : new_len * v.width + 63 < U64) :
    gen_IntVector_resize m cap v new_len value = ok (v.resize new_len value) := by
  unfold gen_IntVector_resize IntVec.resize
  simp only [gen_simp, show ¬ new_len > v.len by omega, hl, show new_len * v.width < U64 by omega,
    raw_resize_eq m v.data (new_len * v.width) false hs hb]

/-- grow, general form: `reserve` succeeds (`hr`) and `I` is an invariant of the pushes -/
theorem int_resize_grow_eq_of (m : Mode) (cap : Nat) (v : IntVec) (new_len : Nat) (value : Word)
    (hg : new_len > v.len) (hr : m = .wrapping ∨ v.data.len + (new_len - v.len) * v.width + 63 < U64)
    (I : IntVec → Prop) (hv : I v)
    (hI : ∀ u, I u → u.len < new_len → gen_IntVector_push m u value = ok (u.push value) ∧ I (u.push value)) :
    gen_IntVector_resize m cap v new_len value = ok (v.resize new_len value) := by
  unfold gen_IntVector_resize IntVec.resize
  have hr' : gen_IntVector_reserve m cap ⟨v.len, v.width, v.data⟩ (new_len - v.len) = ok v :=
    (int_reserve_ok_iff m cap v _).2 hr
  simp only [hg, decide_true, if_true, subM_ok (Nat.le_of_lt hg), bind_ok, hr', bind_assoc]
  -- after `j` rounds the state holds the fields of `pushN v value j`
  refine sat_eq.1 (while_sat (fun j s => s = ((pushN v value j).data, (pushN v value j).len, (pushN v value j).width) ∧
      I (pushN v value j) ∧ (pushN v value j).len = v.len + j) (new_len - v.len) _ _ (by omega)
    (fun j s hj ⟨e, hu, hl⟩ => ?_) (fun s ⟨e, _, hl⟩ => ?_) ⟨rfl, hv, rfl⟩ (fun s ⟨e, _⟩ => sat_ok (by rw [e]; rfl)))
  · obtain ⟨hp, hu'⟩ := hI _ hu (by omega)
    rw [e]
    dsimp only
    rw [if_pos (decide_eq_true (by omega)), bind_of_ok _ hp, ← pushN_succ']
    exact sat_next ⟨rfl, pushN_succ' v value j ▸ hu', by rw [pushN_succ', IntVec.len_push, hl]; rfl⟩
  · rw [e]
    exact if_neg (mt of_decide_eq_true (show ¬ (pushN v value (new_len - v.len)).len < new_len by omega))

/-- `IntVector::resize` on a well-formed vector: the only hypothesis is that the bit length of the NEW content,
rounded up to words, is a `usize` (and nothing at all when `new_len = len`) -/
theorem int_resize_eq (m : Mode) (cap : Nat) (v : IntVec) (new_len : Nat) (value : Word) (hwf : v.WF)
    (hb : new_len ≠ v.len → new_len * v.width + 63 < U64) :
    gen_IntVector_resize m cap v new_len value = ok (v.resize new_len value) := by
  by_cases hg : new_len > v.len
  · have hb := hb (by omega)
    apply int_resize_grow_eq_of m cap v new_len value hg _
      (fun u => u.WF ∧ u.width = v.width) ⟨hwf, rfl⟩
    · intro u ⟨huwf, huw⟩ hlt
      have hmul : (u.len + 1) * v.width ≤ new_len * v.width := Nat.mul_le_mul_right _ hlt
      exact ⟨int_push_eq m u value huwf (by rw [huw]; omega), IntVec.push_WF huwf value, huw⟩
    · right
      rw [hwf.2.2.1, ← Nat.add_mul, show v.len + (new_len - v.len) = new_len by omega]; exact hb
  · by_cases hl : new_len < v.len
    · have hle : new_len * v.width ≤ v.data.len := by
        rw [hwf.2.2.1]; exact Nat.mul_le_mul_right _ (Nat.le_of_lt hl)
      exact int_resize_shrink_eq m cap v new_len value hl (by omega) (hb (by omega))
    · obtain rfl : new_len = v.len := by omega
      exact int_resize_same m cap v value

/-- the same under the bound on both lengths -/
theorem int_resize_eq_max (m : Mode) (cap : Nat) (v : IntVec) (new_len : Nat) (value : Word) (hwf : v.WF)
    (hb : max v.len new_len * v.width + 63 < U64) :
    gen_IntVector_resize m cap v new_len value = ok (v.resize new_len value) := by
  apply int_resize_eq m cap v new_len value hwf
  intro _
  have : new_len * v.width ≤ max v.len new_len * v.width := Nat.mul_le_mul_right _ (Nat.le_max_right _ _)
  omega

/-- the result is well-formed again, so the theorem can be chained -/
theorem int_resize_WF (m : Mode) (cap : Nat) (v : IntVec) (new_len : Nat) (value : Word) (hwf : v.WF)
    (hb : new_len ≠ v.len → new_len * v.width + 63 < U64) :
    ∃ r, gen_IntVector_resize m cap v new_len value = ok r ∧ r.WF ∧ r.width = v.width ∧
      r.items = v.items.take new_len ++ List.replicate (new_len - v.len) (value.toNat % 2 ^ v.width) :=
  ⟨_, int_resize_eq m cap v new_len value hwf hb, IntVec.resize_spec hwf new_len value⟩

/-! ### width 0 (not `WF`; no constructor produces it): the code and the model still agree — `push_int(_, 0)` returns
at once in both, only `len + 1` is computed -/

theorem int_push_eq_w0 (m : Mode) (v : IntVec) (x : Word) (hw : v.width = 0) (hl : v.len + 1 < U64) :
    gen_IntVector_push m v x = ok (v.push x) := by
  unfold gen_IntVector_push IntVec.push gen_RawVector_push_int RawVec.pushInt
  simp only [gen_simp, hw, hl]

theorem int_resize_eq_w0 (m : Mode) (cap : Nat) (v : IntVec) (new_len : Nat) (value : Word) (hw : v.width = 0)
    (hn : new_len < U64) (hd : new_len > v.len → m = .wrapping ∨ v.data.len + 63 < U64) :
    gen_IntVector_resize m cap v new_len value = ok (v.resize new_len value) := by
  by_cases hg : new_len > v.len
  · apply int_resize_grow_eq_of m cap v new_len value hg _ (fun u => u.width = 0) hw
    · intro u hu hlt
      exact ⟨int_push_eq_w0 m u value hu (by omega), hu⟩
    · simpa [hw] using hd hg
  · by_cases hl : new_len < v.len
    · exact int_resize_shrink_eq m cap v new_len value hl (by rw [hw]; omega)
        (by rw [hw, Nat.mul_zero]; decide)
    · obtain rfl : new_len = v.len := by omega
      exact int_resize_same m cap v value


/-- `reserve` beyond the bound: panics with overflow checks, succeeds without (the bound is exact) -/
example : gen_RawVector_reserve .checked 0 ⟨0, #[]⟩ (U64 - 63) = fault (.panic .overflow) ∧
    gen_RawVector_reserve .wrapping 0 ⟨0, #[]⟩ (U64 - 63) = ok ⟨0, #[]⟩ ∧
    gen_RawVector_reserve .checked 0 ⟨0, #[]⟩ (U64 - 64) = ok ⟨0, #[]⟩ := by decide
/-- `IntVector::reserve`: the product alone (`2^58 * 64`), and the sum with a product that fits -/
example : gen_IntVector_reserve .checked 0 ⟨0, 64, ⟨0, #[]⟩⟩ (2 ^ 58) = fault (.panic .overflow) ∧
    gen_IntVector_reserve .checked 0 ⟨0, 1, ⟨0, #[]⟩⟩ (U64 - 63) = fault (.panic .overflow) ∧
    gen_IntVector_reserve .checked 0 ⟨0, 64, ⟨0, #[]⟩⟩ (2 ^ 58 - 1) = ok ⟨0, 64, ⟨0, #[]⟩⟩ := by decide
/-- `resize` to a length whose bit length rounded up to words is not a `usize`: the code panics in `reserve`
(the model is total, its value would be a buffer of `2^64` bits) -/
example : gen_IntVector_resize .checked 0 ⟨0, 64, ⟨0, #[]⟩⟩ (2 ^ 58) 0 = fault (.panic .overflow) := by decide
/-- width 65 (not `WF`): the code's `push_int` indexes past the one word it has appended, the model's total
`writeInt` does not fault -/
example : gen_IntVector_resize .checked 0 ⟨0, 65, ⟨0, #[]⟩⟩ 1 0 = fault (.panic .index) ∧
    IntVec.resize ⟨0, 65, ⟨0, #[]⟩⟩ 1 0 = ⟨1, 65, ⟨65, #[0]⟩⟩ := by decide
/-- `data.len = len * width` and the exact word count are needed (grow: a buffer that claims 64 bits and has no
word; shrink below `len` but above `data.len`: `set_unused_bits` indexes the missing word) -/
example : gen_IntVector_resize .checked 0 ⟨0, 8, ⟨64, #[]⟩⟩ 1 0 = fault (.panic .index) ∧
    gen_IntVector_resize .checked 0 ⟨2, 8, ⟨1, #[]⟩⟩ 1 0 = fault (.panic .index) := by decide

end Sds.GenEq
