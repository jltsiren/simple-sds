/-
Proofs/RLPredSucc: the one-iterators returned by `RLVector::predecessor` / `successor` (`rl_vector.rs:1077-1145`)
CONTINUE with the following set bits in rank order, under every forward call history.

Route.  `RLQ.GoodB.successor_from` / `RLQ.GoodB.predecessor_from` (Proofs/RLQueries.lean) show that the loops of
`successor` (`succLoop`) and `predecessor` (`predLoop`: `advance_if` with a closure that may refuse the peeked run,
in which case NOTHING of the iterator — offset, position, limit — is changed) stop in a state from which the
one-iterator delivers the remaining set bits (`RLQ.OneFrom`); `Iter2.RLI.oneFrom_run_bits` gives every call history from
such a state.
-/
import Sds.Proofs.IterRL

namespace Sds.RLPS
open Sds Outcome RunIter RLQ IterProofs Iter2

variable {v : RL}

theorem drop_of_select_none {B : List Bool} {k : Nat} (hs : selectR (maximalRuns B) k = none) :
    (pairs (onesPos B)).drop k = [] := by
  rw [selectR_maximalRuns, selectSpec_eq_onesPos] at hs
  exact List.drop_eq_nil_of_le (by rw [pairs_length]; exact List.getElem?_eq_none_iff.mp hs)

/-- **`successor(x)` in terms of the bit sequence `B`**: the iterator starts at the successor (rank `k`) and continues
with consecutive ranks to the end; it is empty when there is no set bit at or after `x` — every `x`, every forward
call history, both modes, no fault -/
theorem good_successor (m : Mode) (B : List Bool) (hg : Good v (maximalRuns B)) (e2 : v.ones = B.count true)
    (x : Nat) (cs : List FCall) :
    ∃ st, v.successor m x = ok st ∧
      RLI.oneRun m v st cs = ok (dequeRunM
        (match succSpec B x with
         | none => []
         | some (k, _) => (pairs (onesPos B)).drop k) (cs.map FCall.toICall)) := by
  obtain ⟨bl, g, hR⟩ := hg
  obtain ⟨st, h1, h2⟩ := g.successor_from m x
  refine ⟨st, h1, ?_⟩
  rw [RLI.oneFrom_run_bits (hR ▸ g.ones_eq) e2 (hR ▸ h2) cs, ← succR_maximalRuns]
  unfold succR
  cases hs : selectR (maximalRuns B) (rankR (maximalRuns B) x) with
  | none => rw [drop_of_select_none hs]; rfl
  | some p => rfl

/-- **`predecessor(x)` in terms of the bit sequence `B`**: the iterator starts AT the predecessor (its first item is
the nearest set bit at or before `x`, rank `k`) and continues with consecutive ranks to the end; it is empty when
there is no set bit at or before `x` — every `x` (also `x ≥ len`), every forward call history, both modes, no fault -/
theorem good_predecessor (m : Mode) (B : List Bool) (hg : Good v (maximalRuns B)) (e2 : v.ones = B.count true)
    (x : Nat) (cs : List FCall) :
    ∃ st, v.predecessor m x = ok st ∧
      RLI.oneRun m v st cs = ok (dequeRunM
        (match predSpec B x with
         | none => []
         | some (k, _) => (pairs (onesPos B)).drop k) (cs.map FCall.toICall)) := by
  obtain ⟨bl, g, hR⟩ := hg
  obtain ⟨st, h1, h2⟩ := g.predecessor_from m x
  refine ⟨st, h1, ?_⟩
  rw [RLI.oneFrom_run_bits (hR ▸ g.ones_eq) e2 (hR ▸ h2) cs, ← predR_maximalRuns]
  unfold predR predStart
  by_cases c : rankR (maximalRuns B) (x + 1) = 0
  · rw [if_pos c, if_pos c, List.drop_eq_nil_of_le (by
      rw [pairs_length, length_onesPos, ← e2, g.ones_eq, ← hR]; exact Nat.le_refl _)]
  · rw [if_neg c, if_neg c]
    cases hs : selectR (maximalRuns B) (rankR (maximalRuns B) (x + 1) - 1) with
    | none => rw [drop_of_select_none hs]; rfl
    | some p => rfl

end Sds.RLPS
