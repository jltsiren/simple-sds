/-
Proofs/GenEqLoad5: the three composite loaders of Generated/FnsLoad5.lean, in which EVERY inner `T::load` is itself a
translated function (no model codec below):

* `gen_SparseVector_load_full`   = the text of `gen_SparseVector_load` (FnsLoad) over `gen_BitVector_load_full`,
* `gen_WMCore_load_full`         = the text of `gen_WMCore_load` (FnsLoad3) over `gen_BitVector_load_full`,
* `gen_WaveletMatrix_load_full2` = the text of `gen_WaveletMatrix_load_full` (FnsLoad3) over `gen_WMCore_load_full`,

against the model's codecs `sparseC`, `wmCoreC`, `wmC`.

Method: each `_full` function is equal to the GenEqLoad/3 translation as soon as `gen_BitVector_load_full` and
`gen_BitVector_load` agree on every bitvector stream the loader reaches (`bv_load_full_eq_gen_of_BvOk`, GenEqLoad4); the
GenEqLoad/3 equations (`sparse_load_eq`, `wm_core_load_eq`, `wm_load_full_eq`) do the rest.  In `WMCore::load` the
bitvector loader stands inside the level loop: both loops are folds of their bodies (`for_loop_range`; `wmLoadBodyFull`,
`wmLoadBody`), and the folds agree because each step of the second is a step of the model's fold (`l5_fold_eq`).

Hypotheses: the GenEqLoad/3 predicate plus `BvSelOk` (GenEqLoad4: `SelOk` at the two places where `BitVector::load` reads
an optional select support) of every embedded bitvector stream, following the MODEL's control flow:

* `SparseFullOk es  := SparseOk es ∧ (BvSelOk of the stream behind the length word)`
* `WmLevelsSelOk`   : like `WmLevelsOk` (GenEqLoad3), with `BvSelOk` in the place of `BvOk`;
  `WmCoreFullOk es  := WmCoreOk es ∧ (for the width read, if it passes the check, WmLevelsSelOk width #[] of the rest)`
* `WmFull2Ok es     := (WmCoreFullOk of the stream behind the length word) ∧ WmOk es`  (⇒ `WmFullOk`)

Every word below `2^32` implies all of them (`SparseWidthOk` in addition for the sparse vector, as in
`sparse_load_eq_small`).

The GenEqLoad/3 predicates alone do not suffice (`sparse_load_full_ne_select`, `wm_core_load_full_ne_select`,
`wm_load_full2_ne_select`): `l4_cexSel` (GenEqLoad4: the empty bitvector with `sel_load_ne_long` as its select support)
as the embedded bitvector.  Those streams ARE `SparseOk` / `WmCoreOk` / `WmFullOk`, the GenEqLoad/3 translations agree with
the model on them, the `_full` translations panic in the checked build where the model refuses.  This is the divergence
already recorded for `SelectSupport::load` (unchecked `len + 4096` …) seen through the outer loaders; not a new one.
-/
import Sds.Generated.FnsLoad5
import Sds.Proofs.GenEqLoad3
import Sds.Proofs.GenEqLoad4

set_option linter.unusedSimpArgs false
namespace Sds.GenEq
open Sds Outcome Generated
open Sds.Codec2 (lvlStep wmCoreC_load_eq)

private theorem l5_obind_ok {α β : Type} (a : α) (f : α → Outcome β) : (ok a).bind f = f a := rfl

/-! ### SparseVector -/

def SparseFullOk (es : Elems) : Prop :=
  SparseOk es ∧ ∀ len r, usizeC.load es = ok (len, r) → BvSelOk r

/-- the two translations against each other: only the embedded bitvector load matters -/
theorem l5_sparse_full_eq_gen (m : Mode) (es : Elems)
    (h : ∀ len r, usizeC.load es = ok (len, r) → gen_BitVector_load_full m r = gen_BitVector_load m r) :
    gen_SparseVector_load_full m es = gen_SparseVector_load m es := by
  unfold gen_SparseVector_load_full gen_SparseVector_load
  refine same_step h fun len r _ e => ?_
  dsimp only
  rw [e]

theorem sparse_load_full_eq_gen (m : Mode) (es : Elems) (h : SparseFullOk es) :
    gen_SparseVector_load_full m es = gen_SparseVector_load m es :=
  l5_sparse_full_eq_gen m es fun len r h1 => bv_load_full_eq_gen_of_BvOk m r (h.1 len r h1).1 (h.2 len r h1)

theorem sparse_load_full_eq (m : Mode) (es : Elems) (h : SparseFullOk es) :
    gen_SparseVector_load_full m es = sparseC.load es :=
  (sparse_load_full_eq_gen m es h).trans (sparse_load_eq m es h.1)

theorem SparseFullOk_of_small {es : Elems} (hs : Small es) (hw : SparseWidthOk es) : SparseFullOk es :=
  ⟨SparseOk_of_small hs hw, fun _ _ h1 => BvSelOk_of_small (hs.suffix (usizeC_suffix h1))⟩

theorem sparse_load_full_eq_small (m : Mode) (es : Elems) (h : ∀ w ∈ es, w.toNat < 2 ^ 32) (hw : SparseWidthOk es) :
    gen_SparseVector_load_full m es = sparseC.load es := sparse_load_full_eq m es (SparseFullOk_of_small h hw)

/-! ### WMCore: the hypothesis -/

/-- `WmLevelsOk` (GenEqLoad3) with `BvSelOk` in the place of `BvOk` -/
def WmLevelsSelOk : Nat → Array BitVector → Elems → Prop
  | 0, _, _ => True
  | k + 1, acc, es => BvSelOk es ∧ ∀ acc' r, lvlStep (acc, es) 0 = ok (acc', r) → WmLevelsSelOk k acc' r

def WmCoreSelOk (es : Elems) : Prop :=
  ∀ width r, usizeC.load es = ok (width, r) → ¬ (width = 0 ∨ width > 64) → WmLevelsSelOk width #[] r

def WmCoreFullOk (es : Elems) : Prop := WmCoreOk es ∧ WmCoreSelOk es

/-! ### WMCore: the loop -/

/-- the body of `for _ in 0..width` as translated, over the full bitvector loader -/
def wmLoadBodyFull (m : Mode) (s : Option Nat × Array BitVector × Elems) (_ : Nat) :
    Outcome (Option Nat × Array BitVector × Elems) :=
  (gen_BitVector_load_full m s.2.2).bind fun p =>
    (match s.1 with
      | some len_in => if decide (BitVector.len p.1 ≠ len_in) then fault (.err .invalid) else ok s.1
      | none => ok (some (BitVector.len p.1))).bind fun len => ok (len, s.2.1.push p.1, p.2)

theorem l5_body_eq (m : Mode) (s : Option Nat × Array BitVector × Elems) (i : Nat)
    (h : gen_BitVector_load_full m s.2.2 = gen_BitVector_load m s.2.2) :
    wmLoadBodyFull m s i = wmLoadBody m s i := by
  unfold wmLoadBodyFull wmLoadBody
  rw [h]
  rfl

theorem l5_fold_eq (m : Mode) (idx : List Nat) (acc : Array BitVector) (es : Elems)
    (h : WmLevelsOk idx.length acc es) (hs : WmLevelsSelOk idx.length acc es) :
    idx.foldlM (wmLoadBodyFull m) (acc[0]?.map BitVector.len, acc, es) =
      idx.foldlM (wmLoadBody m) (acc[0]?.map BitVector.len, acc, es) := by
  induction idx generalizing acc es with
  | nil => rw [List.foldlM_nil, List.foldlM_nil]
  | cons i idx ih =>
    obtain ⟨hb, hn⟩ := h
    obtain ⟨hsb, hsn⟩ := hs
    rw [List.foldlM_cons, List.foldlM_cons,
      l5_body_eq m (acc[0]?.map BitVector.len, acc, es) i (bv_load_full_eq_gen_of_BvOk m es hb hsb),
      wm_load_step m acc es i hb]
    simp only [Bind.bind]
    cases h1 : lvlStep (acc, es) i with
    | fault f => simp only [obind_fault]
    | ok p => exact ih p.1 p.2 (hn p.1 p.2 h1) (hsn p.1 p.2 h1)

/-! ### `WMCore::load` -/

/-- the two translations against each other: both loops are folds of their bodies (`for_loop_range`), and the folds
agree (`l5_fold_eq`) -/
theorem wm_core_load_full_eq_gen (m : Mode) (es : Elems) (h : WmCoreFullOk es) :
    gen_WMCore_load_full m es = gen_WMCore_load m es := by
  unfold gen_WMCore_load_full gen_WMCore_load
  refine bind_congr_ok ?_
  rintro ⟨width, r⟩ h1
  dsimp only
  refine ite_congr rfl (fun _ => rfl) fun c => ?_
  have c : ¬ (width = 0 ∨ width > 64) := by simpa using c
  rw [for_loop_range (ρ := WMCore × Elems) width (wmLoadBodyFull m) _
      (fun i s hi => by
        obtain ⟨len, lv, rd⟩ := s
        simp only [hi, decide_true, if_true, wmLoadBodyFull, Bind.bind, Pure.pure, obind_assoc, obind_ok']
        cases len <;> rfl)
      (fun i s hi => by simp only [hi, decide_false, Bool.false_eq_true, if_false]; rfl),
    for_loop_range (ρ := WMCore × Elems) width (wmLoadBody m) _
      (fun i s hi => by
        obtain ⟨len, lv, rd⟩ := s
        simp only [hi, decide_true, if_true, wmLoadBody, Bind.bind, Pure.pure, obind_assoc, obind_ok']
        cases len <;> rfl)
      (fun i s hi => by simp only [hi, decide_false, Bool.false_eq_true, if_false]; rfl)]
  exact congrArg (· >>= _) (congrArg (Outcome.bind · _) (l5_fold_eq m (List.range width) #[] r
    (by rw [List.length_range]; exact h.1 width r h1 c) (by rw [List.length_range]; exact h.2 width r h1 c)))

theorem wm_core_load_full_eq (m : Mode) (es : Elems) (h : WmCoreFullOk es) :
    gen_WMCore_load_full m es = wmCoreC.load es :=
  (wm_core_load_full_eq_gen m es h).trans (wm_core_load_eq m es h.1)

/-! ### the hypothesis, restated and derived -/

/-- `WmLevelsSelOk` says: the stream that remains after any number `< n` of successful level loads is `BvSelOk` -/
theorem WmLevelsSelOk_iff : ∀ (n : Nat) (acc : Array BitVector) (es : Elems),
    WmLevelsSelOk n acc es ↔
      ∀ (idx : List Nat), idx.length < n → ∀ lv r, idx.foldlM lvlStep (acc, es) = ok (lv, r) → BvSelOk r :=
  levels_ok_iff (fun _ _ => trivial) fun _ _ _ => Iff.rfl

theorem WmLevelsSelOk_of_small : ∀ (n : Nat) (acc : Array BitVector) {es : Elems}, Small es →
    WmLevelsSelOk n acc es :=
  levels_ok_of_small (fun _ _ => trivial) (fun _ _ _ => Iff.rfl) BvSelOk_of_small

theorem WmCoreSelOk_of_small {es : Elems} (hs : Small es) : WmCoreSelOk es :=
  fun width _ h1 _ => WmLevelsSelOk_of_small width #[] (hs.suffix (usizeC_suffix h1))

theorem WmCoreFullOk_of_small {es : Elems} (hs : Small es) : WmCoreFullOk es :=
  ⟨WmCoreOk_of_small hs, WmCoreSelOk_of_small hs⟩

theorem wm_core_load_full_eq_small (m : Mode) (es : Elems) (h : ∀ w ∈ es, w.toNat < 2 ^ 32) :
    gen_WMCore_load_full m es = wmCoreC.load es := wm_core_load_full_eq m es (WmCoreFullOk_of_small h)

/-! ### `WaveletMatrix::load` over the fully translated core loader -/

def WmFull2Ok (es : Elems) : Prop :=
  (∀ len r, usizeC.load es = ok (len, r) → WmCoreFullOk r) ∧ WmOk es

theorem WmFull2Ok.toFullOk {es : Elems} (h : WmFull2Ok es) : WmFullOk es :=
  ⟨fun len r h1 => (h.1 len r h1).1, h.2⟩

/-- the two translations against each other: only the embedded core load matters -/
theorem l5_wm_full2_eq_gen (m : Mode) (es : Elems)
    (h : ∀ len r, usizeC.load es = ok (len, r) → gen_WMCore_load_full m r = gen_WMCore_load m r) :
    gen_WaveletMatrix_load_full2 m es = gen_WaveletMatrix_load_full m es := by
  unfold gen_WaveletMatrix_load_full2 gen_WaveletMatrix_load_full
  refine same_step h fun len r _ e => ?_
  dsimp only
  rw [e]

theorem wm_load_full2_eq_gen (m : Mode) (es : Elems) (h : WmFull2Ok es) :
    gen_WaveletMatrix_load_full2 m es = gen_WaveletMatrix_load_full m es :=
  l5_wm_full2_eq_gen m es fun len r h1 => wm_core_load_full_eq_gen m r (h.1 len r h1)

theorem wm_load_full2_eq (m : Mode) (es : Elems) (h : WmFull2Ok es) :
    gen_WaveletMatrix_load_full2 m es = wmC.load es :=
  (wm_load_full2_eq_gen m es h).trans (wm_load_full_eq m es h.toFullOk)

theorem WmFull2Ok_of_small {es : Elems} (hs : Small es) : WmFull2Ok es :=
  ⟨fun _ _ h1 => WmCoreFullOk_of_small (hs.suffix (usizeC_suffix h1)), WmOk_of_small hs⟩

theorem wm_load_full2_eq_small (m : Mode) (es : Elems) (h : ∀ w ∈ es, w.toNat < 2 ^ 32) :
    gen_WaveletMatrix_load_full2 m es = wmC.load es := wm_load_full2_eq m es (WmFull2Ok_of_small h)

/-! ### the additional hypothesis is needed

`l4_cexSel` (GenEqLoad4): the empty bitvector, no rank support, `sel_load_ne_long` as its select support.  It is `BvOk`
(`bv_full_cex_BvOk`), the model refuses it, `gen_BitVector_load_full` panics on it in the checked build and accepts it in
the wrapping build. -/

/-- a sparse vector of length 0 whose `high` is `l4_cexSel` -/
def l5_cexSparse : Elems := 0#64 :: l4_cexSel

/-- what the wrapping build makes of `l4_cexSel` (`bv_load_full_ne_select`) -/
def l5_cexBv : BitVector :=
  { ones := 0, data := ⟨0, #[]⟩,
    select := some ⟨⟨0, 0, ⟨0, #[]⟩⟩, ⟨18446744073709551615, 0, ⟨0, #[]⟩⟩, ⟨0, 0, ⟨0, #[]⟩⟩⟩ }

/-- one level, `l4_cexSel` -/
def l5_cexCore : Elems := 1#64 :: l4_cexSel

/-- a wavelet matrix of length 0 over `l5_cexCore` -/
def l5_cexWm : Elems := 0#64 :: l5_cexCore

/-- the checked build panics inside the select support of `high`; the wrapping build loads `high` (with a select
support that has a long array of `2^64 − 1` elements over no data) and then runs out of input in `low`; the model and the
translation over `gen_BitVector_load` refuse at the select support -/
theorem sparse_load_full_ne_select :
    gen_SparseVector_load_full .checked l5_cexSparse = fault (.panic .overflow) ∧
    gen_SparseVector_load_full .wrapping l5_cexSparse = fault (.err .eof) ∧
    gen_SparseVector_load .checked l5_cexSparse = fault (.err .invalid) ∧
    gen_SparseVector_load .wrapping l5_cexSparse = fault (.err .invalid) ∧
    sparseC.load l5_cexSparse = fault (.err .invalid) := by
  decide +kernel

theorem l5_cexSparse_SparseOk : SparseOk l5_cexSparse := by
  intro len r h1
  obtain ⟨_, rfl⟩ := usizeC_cons_inv h1
  refine ⟨bv_full_cex_BvOk.1, fun high r1 h2 => ?_⟩
  rw [bv_load_full_ne_select.2.2.2.2] at h2
  cases h2

theorem sparse_load_full_ne_of_SparseOk :
    ¬ (∀ m es, SparseOk es → gen_SparseVector_load_full m es = sparseC.load es) ∧
    ¬ (∀ m es, SparseOk es → gen_SparseVector_load_full m es = gen_SparseVector_load m es) := by
  refine ⟨fun h => ?_, fun h => ?_⟩
  · have e := h .checked _ l5_cexSparse_SparseOk
    rw [sparse_load_full_ne_select.1, sparse_load_full_ne_select.2.2.2.2] at e
    exact absurd e (by decide)
  · have e := h .checked _ l5_cexSparse_SparseOk
    rw [sparse_load_full_ne_select.1, sparse_load_full_ne_select.2.2.1] at e
    exact absurd e (by decide)

/-- the checked build panics inside the select support of the level; the wrapping build ACCEPTS the level (and goes on
to `init_support`); the model and the translation over `gen_BitVector_load` refuse -/
theorem wm_core_load_full_ne_select :
    gen_WMCore_load_full .checked l5_cexCore = fault (.panic .overflow) ∧
    gen_WMCore_load_full .wrapping l5_cexCore =
      ok (WMCore.initSupport ⟨#[l5_cexBv]⟩, []) ∧
    gen_WMCore_load .checked l5_cexCore = fault (.err .invalid) ∧
    gen_WMCore_load .wrapping l5_cexCore = fault (.err .invalid) ∧
    wmCoreC.load l5_cexCore = fault (.err .invalid) := by
  refine ⟨by decide +kernel, ?_, by decide +kernel, by decide +kernel, by decide +kernel⟩
  unfold gen_WMCore_load_full l5_cexCore
  rw [bind_of_ok _ (usizeC_cons _ _)]
  have e1 : (1#64 : Word).toNat = 1 := rfl
  simp only [e1]
  simp [loopM, bv_load_full_ne_select.2.1, wm_init_support_eq, Pure.pure, l5_cexBv]

theorem l5_cexCore_WmCoreOk : WmCoreOk l5_cexCore := by
  intro width r h1 _
  obtain ⟨rfl, rfl⟩ := usizeC_cons_inv h1
  exact ⟨bv_full_cex_BvOk.1, fun _ _ _ => trivial⟩

theorem wm_core_load_full_ne_of_WmCoreOk :
    ¬ (∀ m es, WmCoreOk es → gen_WMCore_load_full m es = wmCoreC.load es) ∧
    ¬ (∀ m es, WmCoreOk es → gen_WMCore_load_full m es = gen_WMCore_load m es) := by
  refine ⟨fun h => ?_, fun h => ?_⟩
  · have e := h .checked _ l5_cexCore_WmCoreOk
    rw [wm_core_load_full_ne_select.1, wm_core_load_full_ne_select.2.2.2.2] at e
    exact absurd e (by decide)
  · have e := h .checked _ l5_cexCore_WmCoreOk
    rw [wm_core_load_full_ne_select.1, wm_core_load_full_ne_select.2.2.1] at e
    exact absurd e (by decide)

/-- the same one level behind a length word: `WmFullOk` holds, the translation over `gen_WMCore_load` agrees with the
model, the translation over `gen_WMCore_load_full` panics in the checked build -/
theorem wm_load_full2_ne_select :
    gen_WaveletMatrix_load_full2 .checked l5_cexWm = fault (.panic .overflow) ∧
    gen_WaveletMatrix_load_full .checked l5_cexWm = fault (.err .invalid) ∧
    wmC.load l5_cexWm = fault (.err .invalid) := by
  decide +kernel

theorem l5_cexWm_WmFullOk : WmFullOk l5_cexWm := by
  refine ⟨fun len r h1 => ?_, fun len r h1 data r1 h2 _ => ?_⟩
  · obtain ⟨_, rfl⟩ := usizeC_cons_inv h1
    exact l5_cexCore_WmCoreOk
  · obtain ⟨_, rfl⟩ := usizeC_cons_inv h1
    rw [wm_core_load_full_ne_select.2.2.2.2] at h2
    cases h2

theorem wm_load_full2_ne_of_WmFullOk :
    ¬ (∀ m es, WmFullOk es → gen_WaveletMatrix_load_full2 m es = wmC.load es) := by
  intro h
  have e := h .checked _ l5_cexWm_WmFullOk
  rw [wm_load_full2_ne_select.1, wm_load_full2_ne_select.2.2] at e
  exact absurd e (by decide)

end Sds.GenEq
