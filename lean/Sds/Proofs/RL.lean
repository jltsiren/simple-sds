/-
Proofs/RL: the run-length encoded vector (`rl_vector.rs`, `rl_vector/index.rs`).
 1. the variable-length codec on unit lists          (`encodeUnits`, `decodeUnits`)
 2. the codec lifted to `RL.decode`
 3. `SampleIndex.parameters` arithmetic (repaired: no condition on the universe size); defect F8 of the
    code as first written (`parametersOld`)
 4. `SampleIndex.range` contract, `SampleIndex.new` establishes it for non-decreasing values (repaired,
    F10; the code as first written, `consumeOld`, asserted strictly increasing values)
 5. `RL.blockFor` (binary search)
 6. builder invariant `Inv`, preserved by `try_set` and by the repaired `set_len`; defect F9 of the `set_len` as
    first written (`setLenOld`)
 7. `RunIter`: single steps, iteration over a block layout (`Layout`, `collect`)
 7b. what the builder writes: the data-level invariants `DInv` and `PInv` (`PInv` is the stronger one and the one walked
    through `flush`: `flush_step`), the pure flush step `RLCanon.Core` and `RLCanon.Canon` (the builder as a function of
    the described bits), and the invariant of a call history `Hist` = `PInv` + `Canon`
 7c. `From<RLBuilder>` unfolded (`ofBuilder_steps`); prefix sums over block lists; call histories (`runBCalls_hist`);
    the former finding F10 on a concrete history
The `_le` lemmas (`flush_le`, `new_le`, `ofBuilder_le`, …) compare the two arithmetic modes (Proofs/Modes).
Core Lean only.
-/
import Sds.Model.RL
import Sds.Spec.Bits
import Sds.Proofs.IntVec
import Sds.Proofs.Outcome
import Sds.Proofs.Modes

namespace Sds
open Outcome

/-! ## 0. `bitLen` -/

/-- `bit_len` of a 64-bit value: `1 ≤ bitLen ≤ 64`, and for `v ≥ 1` it is the position of the top bit + 1 -/
theorem bitLen_spec_rl (v : Nat) (hv : v < 2 ^ 64) :
    1 ≤ bitLen (BitVec.ofNat 64 v) ∧ bitLen (BitVec.ofNat 64 v) ≤ 64 ∧
    v < 2 ^ bitLen (BitVec.ofNat 64 v) ∧ (1 ≤ v → 2 ^ (bitLen (BitVec.ofNat 64 v) - 1) ≤ v) := by
  have e : (BitVec.ofNat 64 v).toNat = v := by rw [BitVec.toNat_ofNat]; exact Nat.mod_eq_of_lt hv
  obtain ⟨a, b, c, d⟩ := bitLen_spec_int (BitVec.ofNat 64 v)
  rw [e] at c d
  refine ⟨a, b, c, fun h1 => d fun h0 => ?_⟩
  rw [h0] at e; simp at e; omega

/-- a value that fits into `w ≤ 64` bits is stored and read back unchanged -/
theorem toNat_ofNat_mod {x w : Nat} (hw : w ≤ 64) (hx : x < 2 ^ w) :
    (BitVec.ofNat 64 x).toNat % 2 ^ w = x := by
  have : 2 ^ w ≤ 2 ^ 64 := Nat.pow_le_pow_right (by omega) hw
  rw [BitVec.toNat_ofNat, Nat.mod_eq_of_lt (show x < 2 ^ 64 by omega), Nat.mod_eq_of_lt hx]

/-! ## 1. the codec on unit lists -/

namespace RLBuilder

theorem codeLen_bounds (v : Nat) : 1 ≤ codeLen v ∧ codeLen v ≤ 22 := by
  obtain ⟨a, b, _⟩ := bitLen_spec_int (BitVec.ofNat 64 v)
  unfold codeLen; omega

theorem codeLen_pos (v : Nat) : 1 ≤ codeLen v := (codeLen_bounds v).1

/-- holds for every `v` (the argument is truncated to 64 bits) -/
theorem codeLen_le (v : Nat) : codeLen v ≤ 22 := (codeLen_bounds v).2

theorem codeLen_small (v : Nat) (h : v < 8) : codeLen v = 1 := by
  have := bitLen_le_of_lt (BitVec.ofNat 64 v) 3 (by omega) (by rw [BitVec.toNat_ofNat]; omega)
  have := codeLen_pos v
  unfold codeLen at *; omega

/-- dropping the three low bits drops one unit: `v / 8` has exactly three bits fewer than `v` -/
theorem codeLen_step (v : Nat) (hv : v < 2 ^ 64) (h8 : 8 ≤ v) : codeLen v = codeLen (v / 8) + 1 := by
  obtain ⟨_, _, a3, a4⟩ := bitLen_spec_rl v hv
  obtain ⟨b1, _, b3, b4⟩ := bitLen_spec_rl (v / 8) (by omega)
  have a4 := a4 (by omega)
  have b4 := b4 (by omega)
  unfold codeLen
  generalize bitLen (BitVec.ofNat 64 v) = B at *
  generalize bitLen (BitVec.ofNat 64 (v / 8)) = C at *
  have lo : 2 ^ (C - 1 + 3) ≤ v := by rw [Nat.pow_add]; omega
  have hi : v < 2 ^ (C + 3) := by rw [Nat.pow_add]; omega
  have := (Nat.pow_lt_pow_iff_right (a := 2) (by omega)).1 (Nat.lt_of_le_of_lt lo a3)
  have := (Nat.pow_lt_pow_iff_right (a := 2) (by omega)).1 (Nat.lt_of_le_of_lt a4 hi)
  omega

theorem encodeUnits_succ (f v : Nat) :
    encodeUnits (f + 1) v = if v > 7 then (v % 8 + 8) :: encodeUnits f (v / 8) else [v] := rfl

theorem encodeUnits_length_aux (f v : Nat) (h8 : v < 8 ^ (f + 1)) (hv : v < 2 ^ 64) :
    (encodeUnits (f + 1) v).length = codeLen v := by
  induction f generalizing v with
  | zero =>
    rw [encodeUnits_succ, if_neg (by omega), codeLen_small v (by omega)]; rfl
  | succ f ih =>
    rw [encodeUnits_succ]
    by_cases h : v > 7
    · rw [if_pos h, List.length_cons, ih (v / 8) (by rw [Nat.pow_succ] at h8; omega) (by omega),
        codeLen_step v hv (by omega)]
    · rw [if_neg h, codeLen_small v (by omega)]; rfl

theorem lt_8_pow_23 {v : Nat} (hv : v < 2 ^ 64) : v < 8 ^ (22 + 1) :=
  Nat.lt_trans hv (by decide)

/-- the number of units of a code is `code_len` -/
theorem encodeUnits_length (v : Nat) (hv : v < 2 ^ 64) : (encodeUnits 23 v).length = codeLen v :=
  encodeUnits_length_aux 22 v (lt_8_pow_23 hv) hv

/-- the fuel bounds the length of a code, whatever the value -/
theorem encodeUnits_length_bounds (f : Nat) : ∀ v, 1 ≤ (encodeUnits (f + 1) v).length ∧ (encodeUnits (f + 1) v).length ≤ f + 1 := by
  induction f with
  | zero => intro v; rw [encodeUnits_succ]; split <;> simp [encodeUnits]
  | succ f ih =>
    intro v
    rw [encodeUnits_succ]
    split
    · have := ih (v / 8); rw [List.length_cons]; omega
    · simp

/-- shape of a code: continuation units (8..15) followed by exactly one final unit (0..7) -/
theorem encodeUnits_shape_aux (f v : Nat) (h8 : v < 8 ^ (f + 1)) :
    ∃ init last, encodeUnits (f + 1) v = init ++ [last] ∧ last < 8 ∧ ∀ u ∈ init, 8 ≤ u ∧ u < 16 := by
  induction f generalizing v with
  | zero => exact ⟨[], v, by rw [encodeUnits_succ, if_neg (by omega)]; rfl, by omega, by simp⟩
  | succ f ih =>
    rw [encodeUnits_succ]
    by_cases h : v > 7
    · obtain ⟨init, last, e, hl, hi⟩ := ih (v / 8) (by rw [Nat.pow_succ] at h8; omega)
      refine ⟨(v % 8 + 8) :: init, last, by rw [if_pos h, e]; rfl, hl, ?_⟩
      intro u hu
      rcases List.mem_cons.1 hu with rfl | hu
      · omega
      · exact hi u hu
    · exact ⟨[], v, by rw [if_neg h]; rfl, by omega, by simp⟩

theorem encodeUnits_shape (v : Nat) (hv : v < 2 ^ 64) :
    ∃ init last, encodeUnits 23 v = init ++ [last] ∧ last < 8 ∧ ∀ u ∈ init, 8 ≤ u ∧ u < 16 :=
  encodeUnits_shape_aux 22 v (lt_8_pow_23 hv)

theorem encodeUnits_lt_16 (v : Nat) (hv : v < 2 ^ 64) : ∀ u ∈ encodeUnits 23 v, u < 16 := by
  obtain ⟨init, last, e, hl, hi⟩ := encodeUnits_shape v hv
  intro u hu
  rw [e] at hu
  rcases List.mem_append.1 hu with h | h
  · exact (hi u h).2
  · have : u = last := by simpa using h
    omega

/-- list-level mirror of `RL.decodeLoop`: (value, remaining units); `none` = any fault of the model loop
(fuel, end of data, shift ≥ 64, overflow of the accumulated value) -/
def decodeUnitsLoop : Nat → List Nat → Nat → Nat → Option (Nat × List Nat)
  | 0, _, _, _ => none
  | _ + 1, [], _, _ => none
  | fuel + 1, c :: rest, value, shift =>
    if shift ≥ 64 then none
    else if value + (c % 8) * 2 ^ shift ≥ 2 ^ 64 then none
    else if c / 8 % 2 = 0 then some (value + (c % 8) * 2 ^ shift, rest)
    else decodeUnitsLoop fuel rest (value + (c % 8) * 2 ^ shift) (shift + 3)

def decodeUnits (us : List Nat) : Option (Nat × List Nat) := decodeUnitsLoop 23 us 0 0

/-- a final unit (flag clear) ends the code -/
theorem decodeUnitsLoop_final (fuel c acc s : Nat) (rest : List Nat) (hc : c < 8) (hs : s < 64)
    (h : acc + c * 2 ^ s < 2 ^ 64) :
    decodeUnitsLoop (fuel + 1) (c :: rest) acc s = some (acc + c * 2 ^ s, rest) := by
  rw [decodeUnitsLoop, Nat.mod_eq_of_lt hc, if_neg (by omega), if_neg (by omega), if_pos (by omega)]

/-- a continuation unit (flag set) contributes its three bits and moves on -/
theorem decodeUnitsLoop_cont (fuel r acc s : Nat) (rest : List Nat) (hr : r < 8) (hs : s < 64)
    (h : acc + r * 2 ^ s < 2 ^ 64) :
    decodeUnitsLoop (fuel + 1) ((r + 8) :: rest) acc s =
      decodeUnitsLoop fuel rest (acc + r * 2 ^ s) (s + 3) := by
  rw [decodeUnitsLoop, show (r + 8) % 8 = r by omega, if_neg (by omega), if_neg (by omega),
    if_neg (by omega)]

theorem decodeUnitsLoop_encode (f : Nat) : ∀ (v acc s fuel : Nat) (rest : List Nat),
    v < 8 ^ (f + 1) → f + 1 ≤ fuel → s < 64 → acc + v * 2 ^ s < 2 ^ 64 →
    decodeUnitsLoop fuel (encodeUnits (f + 1) v ++ rest) acc s = some (acc + v * 2 ^ s, rest) := by
  induction f with
  | zero =>
    intro v acc s fuel rest h8 hf hs hacc
    obtain ⟨fuel, rfl⟩ : ∃ k, fuel = k + 1 := ⟨fuel - 1, by omega⟩
    rw [encodeUnits_succ, if_neg (by omega)]
    exact decodeUnitsLoop_final fuel v acc s rest (by omega) hs hacc
  | succ f ih =>
    intro v acc s fuel rest h8 hf hs hacc
    obtain ⟨fuel, rfl⟩ : ∃ k, fuel = k + 1 := ⟨fuel - 1, by omega⟩
    rw [encodeUnits_succ]
    by_cases h : v > 7
    · have key : v / 8 * 2 ^ (s + 3) + v % 8 * 2 ^ s = v * 2 ^ s := by
        rw [Nat.pow_add, Nat.mul_comm (2 ^ s), ← Nat.mul_assoc, ← Nat.add_mul, Nat.div_add_mod']
      -- the remaining value is at least 1, so its shifted weight still fits
      have hs3 : s + 3 < 64 := by
        have : 1 * 2 ^ (s + 3) ≤ v / 8 * 2 ^ (s + 3) := Nat.mul_le_mul_right _ (by omega)
        exact (Nat.pow_lt_pow_iff_right (a := 2) (by omega)).1 (show 2 ^ (s + 3) < 2 ^ 64 by omega)
      rw [if_pos h, List.cons_append, decodeUnitsLoop_cont fuel _ acc s _ (by omega) hs (by omega),
        ih (v / 8) _ (s + 3) fuel rest (by rw [Nat.pow_succ] at h8; omega) (by omega) hs3 (by omega),
        Nat.add_assoc, Nat.add_comm (v % 8 * 2 ^ s), key]
    · rw [if_neg h]
      exact decodeUnitsLoop_final fuel v acc s rest (by omega) hs hacc

/-- decode ∘ encode = id, with the rest of the unit stream untouched -/
theorem decodeUnits_encode (v : Nat) (hv : v < 2 ^ 64) (rest : List Nat) :
    decodeUnits (encodeUnits 23 v ++ rest) = some (v, rest) := by
  have := decodeUnitsLoop_encode 22 v 0 0 23 rest (lt_8_pow_23 hv) (by omega) (by omega) (by simpa using hv)
  simpa [decodeUnits] using this

/-- unambiguous decoding: codes are prefix-free and injective -/
theorem encodeUnits_prefix_free (v v' : Nat) (hv : v < 2 ^ 64) (hv' : v' < 2 ^ 64) (r r' : List Nat)
    (h : encodeUnits 23 v ++ r = encodeUnits 23 v' ++ r') : v = v' ∧ r = r' := by
  have a := decodeUnits_encode v hv r
  rw [h, decodeUnits_encode v' hv' r'] at a
  simpa [eq_comm] using a

/-- the padding unit `0` is also the one-unit code of the value 0: padding can only be recognised
from the per-block limit on the number of ones, never from the unit stream itself -/
theorem decodeUnits_padding (rest : List Nat) : decodeUnits (0 :: rest) = some (0, rest) :=
  decodeUnits_encode 0 (by decide) rest

end RLBuilder

namespace RunIter
open RLBuilder

/-- the units of one run whose predecessor ends `gap` bits earlier -/
def runUnits (gap len : Nat) : List Nat := encodeUnits 23 gap ++ encodeUnits 23 (len - 1)

theorem runUnits_length {g l : Nat} (hg : g < 2 ^ 64) (hl : l - 1 < 2 ^ 64) :
    (runUnits g l).length = codeLen g + codeLen (l - 1) := by
  rw [runUnits, List.length_append, encodeUnits_length g hg, encodeUnits_length _ hl]

theorem runUnits_length_pos (g l : Nat) (hg : g < 2 ^ 64) : 1 ≤ (runUnits g l).length := by
  have := codeLen_pos g
  rw [runUnits, List.length_append, encodeUnits_length g hg]; omega

/-- two codes of at most 22 units each: a run always fits into an empty block -/
theorem runUnits_length_le {g l : Nat} (hg : g < 2 ^ 64) (hl : l - 1 < 2 ^ 64) :
    (runUnits g l).length ≤ 64 := by
  have := codeLen_le g
  have := codeLen_le (l - 1)
  rw [runUnits_length hg hl]; omega

/-- at least one unit and at most 23 per code, whatever the arguments -/
theorem runUnits_length_bounds (g l : Nat) : 2 ≤ (runUnits g l).length ∧ (runUnits g l).length ≤ 46 := by
  have a : 1 ≤ (encodeUnits 23 g).length ∧ (encodeUnits 23 g).length ≤ 23 := encodeUnits_length_bounds 22 g
  have c : 1 ≤ (encodeUnits 23 (l - 1)).length ∧ (encodeUnits 23 (l - 1)).length ≤ 23 :=
    encodeUnits_length_bounds 22 (l - 1)
  rw [runUnits, List.length_append]; omega

end RunIter

/-! ## 2. the codec in the model: `RL.decode` -/

namespace IntVec

theorem items_drop_cons {d : IntVec} {o c : Nat} {tl : List Nat} (h : d.items.drop o = c :: tl) :
    o < d.len ∧ (d.getRaw o).toNat = c ∧ d.items.drop (o + 1) = tl := by
  have hlt : o < d.items.length := by
    rcases Nat.lt_or_ge o d.items.length with h' | h'
    · exact h'
    · rw [List.drop_eq_nil_of_le h'] at h; cases h
  rw [List.drop_eq_getElem_cons hlt, items_getElem] at h
  injection h with h1 h2
  exact ⟨by rw [← items_length]; exact hlt, h1, h2⟩

theorem getOr_def (d : IntVec) (i : Nat) (x : Word) :
    d.getOr i x = if i < d.len then d.getRaw i else x := rfl

end IntVec

namespace RL
open RLBuilder

/-- whenever the list-level loop succeeds on the stored units, the model loop returns the same value
(in both arithmetic modes) and the offset just after the consumed units -/
theorem decodeLoop_of_units (m : Mode) (v : RL) : ∀ (fuel o acc s x : Nat) (rest : List Nat),
    decodeUnitsLoop fuel (v.data.items.drop o) acc s = some (x, rest) →
    decodeLoop m v fuel o acc s = ok (x, v.data.len - rest.length) := by
  intro fuel
  induction fuel with
  | zero => intro o acc s x rest h; simp [decodeUnitsLoop] at h
  | succ fuel ih =>
    intro o acc s x rest h
    cases hd : v.data.items.drop o with
    | nil => rw [hd] at h; simp [decodeUnitsLoop] at h
    | cons c tl =>
      rw [hd] at h
      obtain ⟨ho, hc, htl⟩ := IntVec.items_drop_cons hd
      simp only [decodeUnitsLoop] at h
      by_cases hs : s ≥ 64
      · rw [if_pos hs] at h; cases h
      rw [if_neg hs] at h
      by_cases hov : acc + (c % 8) * 2 ^ s ≥ 2 ^ 64
      · rw [if_pos hov] at h; cases h
      rw [if_neg hov] at h
      have hterm : ((c % 8) <<< s) % U64 = (c % 8) * 2 ^ s := by
        rw [Nat.shiftLeft_eq, U64_eq]; exact Nat.mod_eq_of_lt (by omega)
      rw [decodeLoop.eq_def]; simp only []; rw [IntVec.get_ok _ _ ho]
      simp only [bind_ok, hc, if_neg hs, hterm]
      rw [addM_ok (by rw [U64_eq]; omega)]
      simp only [bind_ok]
      by_cases hfin : c / 8 % 2 = 0
      · rw [if_pos hfin] at h
        rw [if_pos hfin]
        injection h with h; injection h with h1 h2
        subst h1 h2
        have : tl.length = v.data.len - (o + 1) := by
          rw [← htl, List.length_drop, IntVec.items_length]
        rw [this]
        simp only [pure_eq]
        congr 2; omega
      · rw [if_neg hfin] at h
        rw [if_neg hfin]
        exact ih (o + 1) _ (s + 3) x rest (by rw [htl]; exact h)

/-- `decode` reads back a code stored at unit offset `o`, in both modes, and returns the offset of the
next code (no overflow, no fuel fault, shift always < 64) -/
theorem decode_encode (m : Mode) (v : RL) (o x : Nat) (rest : List Nat) (hx : x < 2 ^ 64)
    (h : v.data.items.drop o = encodeUnits 23 x ++ rest) :
    v.decode m o = ok (x, o + codeLen x) := by
  have hl := congrArg List.length h
  rw [List.length_drop, IntVec.items_length, List.length_append, encodeUnits_length x hx] at hl
  have hp := codeLen_pos x
  rw [decode, decodeLoop_of_units m v 23 o 0 0 x rest (by rw [h]; exact decodeUnits_encode x hx rest)]
  congr 2; omega

end RL

/-! ## 3. `SampleIndex.parameters` -/

theorem divRoundUp_ok_rl {m : Mode} {value n : Nat} (h : value + n < U64) (hn : 1 ≤ n) :
    divRoundUp m value n = ok ((value + n - 1) / n) := by
  unfold divRoundUp
  rw [addM_ok h]; simp only [bind_ok]
  rw [subM_ok (by omega)]; simp only [bind_ok]
  rw [if_neg (by omega)]; rfl

/-- in checked builds `div_round_up` panics as soon as `value + n` does not fit, whatever the quotient is -/
theorem divRoundUp_checked_overflow {value n : Nat} (h : U64 ≤ value + n) :
    divRoundUp .checked value n = fault (.panic .overflow) := by
  unfold divRoundUp addM
  rw [if_neg (by omega)]; rfl

theorem divRoundUp_le (m : Mode) (v n : Nat) : (divRoundUp .checked v n).Le (divRoundUp m v n) :=
  .bind (addM_le m _ _) fun _ => .bind (subM_le m _ _) fun _ => .refl _

/-- the overflow-free rounding of the repaired `parameters` is the mathematical `⌈value / n⌉`, for every
`value` (no bound at all) -/
theorem ceilDiv_eq (value n : Nat) (hn : 1 ≤ n) :
    value / n + (if value % n ≠ 0 then 1 else 0) = (value + n - 1) / n := by
  have hr : value % n < n := Nat.mod_lt _ (by omega)
  -- split off the whole multiples of `n`: what is left is `(r + n - 1) / n` with `r < n`
  rw [show value + n - 1 = value % n + n - 1 + n * (value / n) by
    have := Nat.mod_add_div value n; omega, Nat.add_mul_div_left _ _ (by omega), Nat.add_comm]
  congr 1
  by_cases h0 : value % n = 0
  · rw [if_neg (by omega), Nat.div_eq_of_lt (by omega)]
  · rw [if_pos h0]
    exact (Nat.div_eq_of_lt_le (by omega) (by omega)).symm

namespace SampleIndex

theorem divRoundUpSafe_ok {value n : Nat} (hn : 1 ≤ n) :
    divRoundUpSafe value n = ok ((value + n - 1) / n) := by
  unfold divRoundUpSafe
  rw [if_neg (by omega), ceilDiv_eq value n hn]

theorem divRoundUpSafe_zero (value : Nat) : divRoundUpSafe value 0 = fault (.panic .other) := rfl

/-- first rounding of `parameters` -/
def ns0 (values : Nat) : Nat := (values + 7) / 8
/-- the divisor computed by `parameters`: `⌈univ / ns0⌉` -/
def div0 (values univ : Nat) : Nat := (univ + ns0 values - 1) / ns0 values
/-- the number of samples computed by `parameters`: `⌈univ / div0⌉` -/
def nsam (values univ : Nat) : Nat := (univ + div0 values univ - 1) / div0 values univ

/-- condition under which the repaired `parameters` does not overflow: only the first rounding
`div_round_up(values, 8)` still adds before dividing; the universe size is unconstrained -/
def NoOverflow (values : Nat) : Prop := values + 8 < U64

instance (values : Nat) : Decidable (NoOverflow values) := by
  unfold NoOverflow; exact inferInstance

/-- exact condition under which none of the three `div_round_up` calls of `parameters` *as first
written* (`parametersOld`, finding F8) overflows -/
def OldNoOverflow (values univ : Nat) : Prop :=
  values + 8 < U64 ∧ univ + ns0 values < U64 ∧ univ + div0 values univ < U64

instance (values univ : Nat) : Decidable (OldNoOverflow values univ) := by
  unfold OldNoOverflow; exact inferInstance

theorem ns0_pos {values : Nat} (h : 1 ≤ values) : 1 ≤ ns0 values := by unfold ns0; omega

theorem div0_pos {values univ : Nat} (hv : 1 ≤ values) (hu : 1 ≤ univ) : 1 ≤ div0 values univ := by
  unfold div0
  have := ns0_pos hv
  rw [Nat.le_div_iff_mul_le (by omega)]; omega

theorem div0_le {values univ : Nat} (hv : 1 ≤ values) : div0 values univ ≤ univ := by
  unfold div0
  have := ns0_pos hv
  apply Nat.le_of_lt_succ
  rw [Nat.div_lt_iff_lt_mul (by omega)]
  have : univ * 1 ≤ univ * ns0 values := Nat.mul_le_mul_left _ this
  rw [Nat.succ_mul]; omega

/-- the number of values is a `usize` that leaves room for the `+ 7` of the first rounding: that is
all the repaired `parameters` needs — nothing relates `univ` to `2^63` any more -/
theorem noOverflow_of_lt {values : Nat} (h1 : values + 8 < 2 ^ 64) : NoOverflow values := by
  unfold NoOverflow; rw [U64_eq]; exact h1

/-- the old sufficient condition (both arguments below `2^63`) for the old function -/
theorem oldNoOverflow_of_lt {values univ : Nat} (hv : 1 ≤ values) (h1 : values < 2 ^ 63) (h2 : univ < 2 ^ 63) :
    OldNoOverflow values univ := by
  have := @div0_le values univ hv
  unfold OldNoOverflow ns0 at *
  rw [U64_eq]; omega

theorem OldNoOverflow.noOverflow {values univ : Nat} (h : OldNoOverflow values univ) : NoOverflow values := h.1

/-- the repaired `parameters` succeeds, in both modes, for **every** universe size `univ ≥ 1`
(any natural number, in particular every `univ < 2^64`) -/
theorem parameters_ok (m : Mode) {values univ : Nat} (hv : 1 ≤ values) (hu : 1 ≤ univ)
    (h : NoOverflow values) :
    parameters m values univ = ok (nsam values univ, div0 values univ) := by
  unfold parameters
  rw [divRoundUp_ok_rl h (by omega)]; simp only [bind_ok]
  rw [show (values + 8 - 1) / 8 = ns0 values by unfold ns0; rfl]
  rw [divRoundUpSafe_ok (ns0_pos hv)]; simp only [bind_ok]
  rw [show (univ + ns0 values - 1) / ns0 values = div0 values univ by rfl]
  rw [divRoundUpSafe_ok (div0_pos hv hu)]; rfl

theorem parameters_le (m : Mode) (values univ : Nat) : (parameters .checked values univ).Le (parameters m values univ) :=
  .bind (divRoundUp_le m _ _) fun _ => .refl _

/-- `values + 8 < 2^64` is exact in checked builds: otherwise the first rounding overflows -/
theorem parameters_checked_ok_iff {values univ : Nat} (hv : 1 ≤ values) (hu : 1 ≤ univ) :
    (∃ r, parameters .checked values univ = ok r) ↔ NoOverflow values := by
  constructor
  · intro ⟨r, hr⟩
    by_cases h : NoOverflow values
    · exact h
    · unfold parameters at hr
      rw [divRoundUp_checked_overflow (by unfold NoOverflow at h; omega)] at hr
      cases hr
  · intro h; exact ⟨_, parameters_ok .checked hv hu h⟩

/-- the function as first written agrees with the repaired one whenever it does not overflow -/
theorem parametersOld_ok (m : Mode) {values univ : Nat} (hv : 1 ≤ values) (hu : 1 ≤ univ)
    (h : OldNoOverflow values univ) :
    parametersOld m values univ = ok (nsam values univ, div0 values univ) := by
  obtain ⟨h1, h2, h3⟩ := h
  unfold parametersOld
  rw [divRoundUp_ok_rl h1 (by omega)]; simp only [bind_ok]
  rw [show (values + 8 - 1) / 8 = ns0 values by unfold ns0; rfl]
  rw [divRoundUp_ok_rl h2 (ns0_pos hv)]; simp only [bind_ok]
  rw [show (univ + ns0 values - 1) / ns0 values = div0 values univ by rfl]
  rw [divRoundUp_ok_rl h3 (div0_pos hv hu)]; rfl

theorem parametersOld_eq_parameters (m : Mode) {values univ : Nat} (hv : 1 ≤ values) (hu : 1 ≤ univ)
    (h : OldNoOverflow values univ) : parametersOld m values univ = parameters m values univ := by
  rw [parametersOld_ok m hv hu h, parameters_ok m hv hu h.1]

/-- (F8, old code) the condition is exact in checked builds -/
theorem parameters_checked_overflow {values univ : Nat} (hv : 1 ≤ values)
    (h : ¬ OldNoOverflow values univ) :
    parametersOld .checked values univ = fault (.panic .overflow) := by
  unfold parametersOld
  by_cases h1 : values + 8 < U64
  · rw [divRoundUp_ok_rl h1 (by omega)]; simp only [bind_ok]
    rw [show (values + 8 - 1) / 8 = ns0 values by unfold ns0; rfl]
    by_cases h2 : univ + ns0 values < U64
    · rw [divRoundUp_ok_rl h2 (ns0_pos hv)]; simp only [bind_ok]
      rw [show (univ + ns0 values - 1) / ns0 values = div0 values univ by rfl]
      have h3 : ¬ univ + div0 values univ < U64 := fun h3 => h ⟨h1, h2, h3⟩
      rw [divRoundUp_checked_overflow (by omega)]; rfl
    · rw [divRoundUp_checked_overflow (by omega)]; rfl
  · rw [divRoundUp_checked_overflow (by omega)]; rfl

/-- (F8, old code) -/
theorem parameters_checked_iff {values univ : Nat} (hv : 1 ≤ values) (hu : 1 ≤ univ) :
    (∃ r, parametersOld .checked values univ = ok r) ↔ OldNoOverflow values univ := by
  constructor
  · intro ⟨r, hr⟩
    by_cases h : OldNoOverflow values univ
    · exact h
    · rw [parameters_checked_overflow hv h] at hr; cases hr
  · intro h; exact ⟨_, parametersOld_ok .checked hv hu h⟩

/-- arithmetic facts about the result: `ns` samples with spacing `d` cover exactly `0 .. univ-1`.
Pure arithmetic: holds for every `values ≥ 1` and every `univ ≥ 1`. -/
theorem parameters_spec {values univ : Nat} (hv : 1 ≤ values) (hu : 1 ≤ univ) :
    1 ≤ div0 values univ ∧
    (nsam values univ - 1) * div0 values univ < univ ∧
    univ ≤ nsam values univ * div0 values univ ∧
    (univ - 1) / div0 values univ = nsam values univ - 1 ∧
    1 ≤ nsam values univ := by
  have hd := div0_pos hv hu
  generalize hdd : div0 values univ = d at *
  have hns : nsam values univ = (univ - 1) / d + 1 := by
    unfold nsam; rw [hdd, show univ + d - 1 = univ - 1 + d by omega, Nat.add_div_right _ (by omega)]
  rw [hns]
  have a : (univ - 1) / d * d ≤ univ - 1 := Nat.div_mul_le_self _ _
  have b : univ - 1 < d * ((univ - 1) / d + 1) := Nat.lt_mul_div_succ _ (by omega)
  rw [Nat.mul_comm] at b
  rw [Nat.add_sub_cancel]
  generalize hu' : univ - 1 = u at *
  generalize hq : u / d = q at *
  rw [Nat.succ_mul] at b ⊢
  exact ⟨hd, by omega, by omega, rfl, by omega⟩

/-- the repaired `parameters` returns, in both modes and for
every universe size (no relation between `univ` and `2^63`, indeed no bound on `univ` at all), a pair
`(ns, d)` with `1 ≤ d`, `(ns − 1) * d < univ ≤ ns * d`, `(univ − 1) / d = ns − 1`, `1 ≤ ns` -/
theorem parameters_contract (m : Mode) {values univ : Nat} (hv : 1 ≤ values) (hu : 1 ≤ univ)
    (h : values + 8 < U64) :
    ∃ ns d, parameters m values univ = ok (ns, d) ∧ 1 ≤ d ∧ (ns - 1) * d < univ ∧ univ ≤ ns * d ∧
      (univ - 1) / d = ns - 1 ∧ 1 ≤ ns := by
  obtain ⟨a, b, c, d, e⟩ := parameters_spec hv hu
  exact ⟨_, _, parameters_ok m hv hu h, a, b, c, d, e⟩

/-- in particular for every `usize` universe -/
theorem parameters_contract_usize (m : Mode) {values univ : Nat} (hv : 1 ≤ values) (hu : 1 ≤ univ)
    (h : values + 8 < U64) (_hu64 : univ < 2 ^ 64) :
    ∃ ns d, parameters m values univ = ok (ns, d) ∧ 1 ≤ d ∧ (ns - 1) * d < univ ∧ univ ≤ ns * d ∧
      (univ - 1) / d = ns - 1 ∧ 1 ≤ ns ∧ ns < 2 ^ 64 ∧ d < 2 ^ 64 := by
  obtain ⟨ns, d, e, h1, h2, h3, h4, h5⟩ := parameters_contract m hv hu h
  refine ⟨ns, d, e, h1, h2, h3, h4, h5, ?_, ?_⟩
  · -- ns - 1 ≤ (ns - 1) * d < univ
    have : (ns - 1) * 1 ≤ (ns - 1) * d := Nat.mul_le_mul_left _ h1
    omega
  · -- d = div0 ≤ univ
    rw [parameters_ok m hv hu h] at e
    injection e with e; injection e with e1 e2
    have := @div0_le values univ hv
    omega

/-- **Defect F8** (code as first written, `parametersOld`). `values = 1`, `univ = 2^63`: every quantity
involved fits in 64 bits (`ns = 1`, `divisor = 2^63`), yet the old `parameters` panics in checked builds
because `div_round_up(univ, divisor)` computes `univ + divisor = 2^64` before subtracting 1. -/
theorem F8_parameters_overflow :
    parametersOld .checked 1 (2 ^ 63) = fault (.panic .overflow) ∧
    nsam 1 (2 ^ 63) = 1 ∧ div0 1 (2 ^ 63) = 2 ^ 63 ∧ 2 ^ 63 < U64 := by decide

/-- in release builds the same call of the old function returns the right answer only by accident:
`univ + divisor` wraps to 0, `0 - 1` wraps to `2^64 - 1`, and `(2^64 - 1) / 2^63 = 1` -/
theorem F8_parameters_wrapping :
    parametersOld .wrapping 1 (2 ^ 63) = ok (1, 2 ^ 63) := by decide

/-- **F8 repaired.** The same call, and the largest `usize` universe, succeed in checked builds (and
in release builds, without any wrap-around) -/
theorem F8_parameters_fixed :
    parameters .checked 1 (2 ^ 63) = ok (1, 2 ^ 63) ∧
    parameters .wrapping 1 (2 ^ 63) = ok (1, 2 ^ 63) ∧
    parameters .checked 1 (2 ^ 64 - 1) = ok (1, 2 ^ 64 - 1) ∧
    parameters .wrapping 1 (2 ^ 64 - 1) = ok (1, 2 ^ 64 - 1) ∧
    parameters .checked 9 (2 ^ 64 - 1) = ok (2, 2 ^ 63) ∧
    parametersOld .checked 1 (2 ^ 64 - 1) = fault (.panic .overflow) := by decide

end SampleIndex

/-! ## 4. `SampleIndex` : `range` contract and `new` -/

namespace IntVec

theorem set_spec {d : IntVec} (h : d.WF) (i : Nat) (hi : i < d.len) (x : Word) :
    ∃ d', d.set i x = ok d' ∧ d'.WF ∧ d'.len = d.len ∧ d'.width = d.width ∧
      (d'.getRaw i).toNat = x.toNat % 2 ^ d.width ∧
      ∀ j, j < d.len → j ≠ i → d'.getRaw j = d.getRaw j := by
  refine ⟨_, set_ok d i x hi, set_WF h i hi x, rfl, rfl, ?_, fun j _ hne => ?_⟩
  · rw [getRaw_set h i hi x i, if_pos rfl, toNat_and_lowSet _ _ h.2.1]
  · rw [getRaw_set h i hi x j, if_neg hne]

theorem withLen_spec_rl (n w : Nat) (x : Word) (h1 : 1 ≤ w) (h2 : w ≤ 64) :
    ∃ d, withLen n w x = ok d ∧ d.WF ∧ d.len = n ∧ d.width = w ∧
      d.items = List.replicate n (x.toNat % 2 ^ w) := by
  obtain ⟨d, e, a, b, c, f⟩ := withLen_spec n w x h1 h2
  exact ⟨d, e, a, c, b, f⟩

theorem getRaw_of_items {d : IntVec} {i : Nat} (hi : i < d.len) {c : Nat}
    (h : d.items = List.replicate d.len c) : (d.getRaw i).toNat = c := by
  have hl : i < d.items.length := by rw [items_length]; exact hi
  have := items_getElem d i hl
  rw [← this]; simp [h]

end IntVec

namespace SampleIndex

/-- `k` is the index of the last element of `values` that is `≤ T` (meaningful with duplicates: of several
equal values `≤ T` it is the last one) -/
def LastLE (values : List Nat) (T k : Nat) : Prop :=
  ∃ hk : k < values.length, values[k] ≤ T ∧ ∀ j (hj : j < values.length), k < j → T < values[j]

/-- index-based strict monotonicity (what `SampleIndex::new` asserted as first written, finding F10) -/
def StrictInc (values : List Nat) : Prop :=
  ∀ i j (_ : i < j) (hj : j < values.length), values[i]'(by omega) < values[j]

/-- index-based monotonicity: non-decreasing values, duplicates allowed (what the repaired
`SampleIndex::new` asserts) -/
def NonDec (values : List Nat) : Prop :=
  ∀ i j (_ : i ≤ j) (hj : j < values.length), values[i]'(by omega) ≤ values[j]

theorem strictInc_iff_pairwise (values : List Nat) : StrictInc values ↔ List.Pairwise (· < ·) values := by
  rw [List.pairwise_iff_getElem]
  constructor
  · intro h i j hi hj hij; exact h i j hij hj
  · intro h i j hij hj; exact h i j (by omega) hj hij

theorem nonDec_iff_pairwise (values : List Nat) : NonDec values ↔ List.Pairwise (· ≤ ·) values := by
  rw [List.pairwise_iff_getElem]
  constructor
  · intro h i j hi hj hij; exact h i j (by omega) hj
  · intro h i j hij hj
    rcases Nat.eq_or_lt_of_le hij with heq | hlt
    · subst heq; exact Nat.le_refl _
    · exact h i j (by omega) hj hlt

theorem StrictInc.nonDec {values : List Nat} (h : StrictInc values) : NonDec values := by
  intro i j hij hj
  rcases Nat.eq_or_lt_of_le hij with heq | hlt
  · subst heq; exact Nat.le_refl _
  · exact Nat.le_of_lt (h i j hlt hj)

/-- what `new` establishes and `range` relies on: sample `i ≥ 1` holds the index of the last value
`≤ i * divisor`; sample 0 (which `new` never writes: it stays 0, the index of the first value, which is 0)
holds the index of *a* value `≤ 0` — with duplicates of the value 0 it is the first of them, not the last
(see `Valid.sample_strict` for the strictly increasing case); the samples cover `0 .. univ-1` -/
structure Valid (s : SampleIndex) (values : List Nat) (univ : Nat) : Prop where
  numValues : s.numValues = values.length
  numValues_lt : values.length < U64
  divisor_pos : 1 ≤ s.divisor
  len_eq : s.samples.len = (univ - 1) / s.divisor + 1
  sample_zero : ∃ hk : (s.samples.getRaw 0).toNat < values.length, values[(s.samples.getRaw 0).toNat] ≤ 0
  sample : ∀ i, 1 ≤ i → i < s.samples.len → LastLE values (i * s.divisor) (s.samples.getRaw i).toNat

/-- every sample points to a value `≤ i * divisor` -/
theorem Valid.sample_le {s : SampleIndex} {values : List Nat} {univ : Nat} (hv : s.Valid values univ)
    (i : Nat) (hi : i < s.samples.len) :
    ∃ hk : (s.samples.getRaw i).toNat < values.length, values[(s.samples.getRaw i).toNat] ≤ i * s.divisor := by
  by_cases h0 : i = 0
  · subst h0
    obtain ⟨hk, hle⟩ := hv.sample_zero
    exact ⟨hk, by omega⟩
  · obtain ⟨hk, hle, _⟩ := hv.sample i (by omega) hi
    exact ⟨hk, hle⟩

/-- on strictly increasing values (the case of the code as first written) *every* sample, including sample
0, is the index of the last value `≤ i * divisor` -/
theorem Valid.sample_strict {s : SampleIndex} {values : List Nat} {univ : Nat} (hv : s.Valid values univ)
    (hs : StrictInc values) (i : Nat) (hi : i < s.samples.len) :
    LastLE values (i * s.divisor) (s.samples.getRaw i).toNat := by
  by_cases h0 : i = 0
  · subst h0
    obtain ⟨hk, hle⟩ := hv.sample_zero
    generalize (s.samples.getRaw 0).toNat = k at *
    have hk0 : k = 0 := by
      rcases Nat.eq_zero_or_pos k with h | h
      · exact h
      · have := hs 0 k h hk; omega
    subst hk0
    refine ⟨hk, by omega, ?_⟩
    intro j hj hj0
    have := hs 0 j hj0 hj
    omega
  · exact hv.sample i (by omega) hi

/-- the contract in the doc comment of `range`, which `block_for` relies on: a non-empty index range
`lo..hi` with `values[lo] ≤ x` and `x < values[hi]` (or `hi` = number of values) -/
theorem range_spec {s : SampleIndex} {values : List Nat} {univ : Nat} (hv : s.Valid values univ)
    (x : Nat) (hx : x < univ) :
    ∃ lo hi, s.range x = ok (lo, hi) ∧ lo < hi ∧ hi ≤ values.length ∧
      (∃ h : lo < values.length, values[lo] ≤ x) ∧
      (hi = values.length ∨ ∃ h : hi < values.length, x < values[hi]) := by
  have hsle := hv.sample_le
  obtain ⟨v1, v2, v3, v4, _, v5⟩ := hv
  generalize hd : s.divisor = d at *
  have ho : x / d < s.samples.len := by
    have : x / d ≤ (univ - 1) / d := Nat.div_le_div_right (by omega)
    omega
  have hlow : x / d * d ≤ x := Nat.div_mul_le_self _ _
  have hup : x < (x / d + 1) * d := by
    have := Nat.lt_mul_div_succ x (show 0 < d by omega)
    rw [Nat.mul_comm] at this; exact this
  have hstep : (x / d + 1) * d = x / d * d + d := Nat.succ_mul _ _
  obtain ⟨k0lt, k0le⟩ := hsle _ ho
  unfold range
  rw [hd, if_neg (by omega)]
  simp only [IntVec.getOr_def, if_pos ho]
  by_cases h1 : x / d + 1 < s.samples.len
  · obtain ⟨k1lt, k1le, k1gt⟩ := v5 (x / d + 1) (Nat.le_add_left 1 _) h1
    simp only [if_pos h1, v1, if_pos k1lt]
    generalize (s.samples.getRaw (x / d)).toNat = k0 at *
    generalize (s.samples.getRaw (x / d + 1)).toNat = k1 at *
    refine ⟨k0, k1 + 1, rfl, ?_, by omega, ⟨k0lt, by omega⟩, ?_⟩
    · rcases Nat.lt_or_ge k1 k0 with hlt | hge
      · have := k1gt k0 k0lt hlt; omega
      · omega
    · by_cases hlast : k1 + 1 = values.length
      · exact Or.inl hlast
      · right
        have hh : k1 + 1 < values.length := by omega
        exact ⟨hh, by have := k1gt (k1 + 1) hh (by omega); omega⟩
  · have : (BitVec.ofNat 64 values.length).toNat = values.length := by
      rw [BitVec.toNat_ofNat]; exact Nat.mod_eq_of_lt (by rw [← U64_eq]; exact v2)
    simp only [if_neg h1, v1, this, Nat.lt_irrefl, if_false]
    exact ⟨_, _, rfl, k0lt, Nat.le_refl _, ⟨k0lt, by omega⟩, Or.inl rfl⟩

/-- the inner `while` of the repaired `new` on a **non-decreasing** list (duplicates allowed): never asserts,
never runs out of fuel, stops at the last value `≤ threshold` -/
theorem consume_spec {values : List Nat} (hs : NonDec values) (T : Nat) :
    ∀ (fuel offset : Nat) (ho : offset < values.length), values.length - (offset + 1) < fuel →
      ∃ o', ∃ ho' : o' < values.length,
        consume T fuel offset values[offset] (values.drop (offset + 1)) =
          ok (o', values[o'], values.drop (o' + 1)) ∧ offset ≤ o' ∧
        (∀ j (hj : j < values.length), offset < j → j ≤ o' → values[j] ≤ T) ∧
        (∀ hn : o' + 1 < values.length, T < values[o' + 1]) := by
  intro fuel
  induction fuel with
  | zero => intro offset ho hf; omega
  | succ fuel ih =>
    intro offset ho hf
    by_cases hend : offset + 1 < values.length
    · rw [List.drop_eq_getElem_cons hend, consume]
      by_cases hgt : values[offset + 1] > T
      · rw [if_pos hgt]
        exact ⟨offset, ho, by rw [List.drop_eq_getElem_cons hend], Nat.le_refl _,
          fun j hj h1 h2 => by omega, fun _ => hgt⟩
      · rw [if_neg hgt, if_pos (hs offset (offset + 1) (by omega) hend)]
        obtain ⟨o', ho', e, h1, h2, h3⟩ := ih (offset + 1) hend (by omega)
        refine ⟨o', ho', e, by omega, ?_, h3⟩
        intro j hj hj1 hj2
        by_cases hj' : j = offset + 1
        · subst hj'; omega
        · exact h2 j hj (by omega) hj2
    · rw [List.drop_eq_nil_of_le (show values.length ≤ offset + 1 by omega)]
      refine ⟨offset, ho, ?_, Nat.le_refl _, fun j hj h1 h2 => by omega, fun hn => by omega⟩
      simp [consume]; omega

/-- the strict case as a corollary -/
theorem consume_spec_strict {values : List Nat} (hs : StrictInc values) (T : Nat)
    (fuel offset : Nat) (ho : offset < values.length) (hf : values.length - (offset + 1) < fuel) :
    ∃ o', ∃ ho' : o' < values.length,
      consume T fuel offset values[offset] (values.drop (offset + 1)) =
        ok (o', values[o'], values.drop (o' + 1)) ∧ offset ≤ o' ∧
      (∀ j (hj : j < values.length), offset < j → j ≤ o' → values[j] ≤ T) ∧
      (∀ hn : o' + 1 < values.length, T < values[o' + 1]) :=
  consume_spec hs.nonDec T fuel offset ho hf

/-- on strictly increasing input the loop as first written (`consumeOld`, strict assertion) and the repaired
loop agree: the repair only *adds* accepted inputs -/
theorem consumeOld_eq_consume_of_strict {values : List Nat} (hs : StrictInc values) (T : Nat) :
    ∀ (fuel offset : Nat) (ho : offset < values.length),
      consumeOld T fuel offset values[offset] (values.drop (offset + 1)) =
        consume T fuel offset values[offset] (values.drop (offset + 1)) := by
  intro fuel
  induction fuel with
  | zero => intro offset ho; rfl
  | succ fuel ih =>
    intro offset ho
    by_cases hend : offset + 1 < values.length
    · rw [List.drop_eq_getElem_cons hend, consume, consumeOld]
      by_cases hgt : values[offset + 1] > T
      · rw [if_pos hgt, if_pos hgt]
      · have hlt := hs offset (offset + 1) (by omega) hend
        rw [if_neg hgt, if_neg hgt, if_pos hlt, if_pos (Nat.le_of_lt hlt)]
        exact ih (offset + 1) hend
    · rw [List.drop_eq_nil_of_le (show values.length ≤ offset + 1 by omega)]
      simp [consume, consumeOld]

/-- **F10, minimal witness**: a duplicate value below the threshold made the loop as first written panic on
its strict-monotonicity assertion; the repaired loop consumes it -/
theorem F10_consume_duplicate :
    consumeOld 5 3 0 0 [0, 7] = fault (.panic .assert) ∧
    consume 5 3 0 0 [0, 7] = ok (1, 0, [7]) := by decide

/-- a *decreasing* pair is still rejected by the repaired loop -/
theorem consume_decreasing_panics : consume 5 3 0 3 [2, 7] = fault (.panic .assert) := by decide

/-- one round of the outer loop of `new`: sample `i` is set to the index of the last value `≤ i * d`, the
other samples are left alone, and the loop goes on from that value -/
theorem fill_step (m : Mode) {values : List Nat} (hs : NonDec values) (d i w : Nat) (more : List Nat)
    (hw : values.length - 1 < 2 ^ w) (hw64 : w ≤ 64) (hmul : i * d < U64) (offset : Nat) (smp : IntVec)
    (ho : offset < values.length) (hle : values[offset] ≤ i * d) (hwf : smp.WF) (hi : i < smp.len)
    (hwid : smp.width = w) :
    ∃ smp' o', ∃ ho' : o' < values.length,
      fill m d (i :: more) offset values[offset] (values.drop (offset + 1)) smp =
        fill m d more o' values[o'] (values.drop (o' + 1)) smp' ∧
      smp'.WF ∧ smp'.len = smp.len ∧ smp'.width = w ∧ values[o'] ≤ i * d ∧
      LastLE values (i * d) (smp'.getRaw i).toNat ∧
      ∀ t, t < smp.len → t ≠ i → smp'.getRaw t = smp.getRaw t := by
  obtain ⟨o', ho', e, h1, h2, h3⟩ := consume_spec hs (i * d) ((values.drop (offset + 1)).length + 1)
    offset ho (by rw [List.length_drop]; omega)
  obtain ⟨smp', e', s1, s2, s3, s4, s5⟩ := IntVec.set_spec hwf i hi (BitVec.ofNat 64 o')
  -- the index fits into a sample
  have ho'' : (BitVec.ofNat 64 o').toNat % 2 ^ smp.width = o' :=
    hwid ▸ toNat_ofNat_mod hw64 (by omega)
  have hle' : values[o'] ≤ i * d := by
    rcases Nat.eq_or_lt_of_le h1 with heq | hlt
    · subst heq; exact hle
    · exact h2 o' ho' hlt (Nat.le_refl _)
  refine ⟨smp', o', ho', ?_, s1, s2, s3.trans hwid, hle', ?_, s5⟩
  · rw [fill, mulM_ok hmul, bind_ok, e, bind_ok]
    show (smp.set i (BitVec.ofNat 64 o') >>= _) = _
    rw [e', bind_ok]
  · rw [s4, ho'']
    refine ⟨ho', hle', fun j hj hjo => ?_⟩
    have a := h3 (by omega)
    have := hs (o' + 1) j (by omega) hj
    omega

/-- the outer loop of `new`: samples `i, i+1, …, ns-1` are set to the index of the last value
`≤ sample * divisor`; the samples before `i` are left alone -/
theorem fill_spec (m : Mode) {values : List Nat} (hs : NonDec values) (d ns w : Nat)
    (hw : values.length - 1 < 2 ^ w) (hw64 : w ≤ 64) (hmul : (ns - 1) * d < U64) :
    ∀ (n i offset : Nat) (smp : IntVec) (ho : offset < values.length), i + n = ns →
      values[offset] ≤ i * d → smp.WF → smp.len = ns → smp.width = w →
      ∃ smp' o', ∃ ho' : o' < values.length,
        fill m d (List.range' i n) offset values[offset] (values.drop (offset + 1)) smp =
          ok (smp', values[o']) ∧ smp'.len = ns ∧
        (∀ t, t < i → smp'.getRaw t = smp.getRaw t) ∧
        ∀ t, i ≤ t → t < ns → LastLE values (t * d) (smp'.getRaw t).toNat := by
  intro n
  induction n with
  | zero =>
    intro i offset smp ho hi hle hwf hlen hwid
    exact ⟨smp, offset, ho, rfl, hlen, fun _ _ => rfl, fun t ht ht' => by omega⟩
  | succ n ih =>
    intro i offset smp ho hi hle hwf hlen hwid
    have hid : i * d ≤ (ns - 1) * d := Nat.mul_le_mul_right _ (by omega)
    obtain ⟨smp1, o1, ho1, e1, w1, l1, wd1, le1, last1, keep1⟩ :=
      fill_step m hs d i w (List.range' (i + 1) n) hw hw64 (by omega) offset smp ho hle hwf (by omega) hwid
    obtain ⟨smp2, o2, ho2, e2, l2, q2, p2⟩ := ih (i + 1) o1 smp1 ho1 (by omega)
      (by rw [Nat.succ_mul]; omega) w1 (by omega) wd1
    refine ⟨smp2, o2, ho2, by rw [List.range'_succ, e1, e2], l2, fun t ht => ?_, fun t hti htn => ?_⟩
    · rw [q2 t (by omega), keep1 t (by omega) (by omega)]
    · by_cases hte : t = i
      · subst hte; rw [q2 t (by omega)]; exact last1
      · exact p2 t (by omega) htn

/-- the repaired `SampleIndex::new` on a **non-decreasing** list (duplicates allowed) that starts with 0 and
stays below the universe: succeeds in both modes and establishes `Valid`; sample 0 is 0.  The only size
conditions left are that of the first rounding, `values.length + 8 < 2^64`, and that the universe size is
a `usize` (any `univ < 2^64`: nothing relates it to `2^63` any more). -/
theorem new_valid (m : Mode) (rest : List Nat) (univ : Nat)
    (hs : NonDec (0 :: rest)) (hall : ∀ v ∈ (0 :: rest), v < univ)
    (hno : NoOverflow (0 :: rest).length) (hu64 : univ < U64) :
    ∃ s, SampleIndex.new m (0 :: rest) univ = ok s ∧ s.Valid (0 :: rest) univ ∧
      (s.samples.getRaw 0).toNat = 0 := by
  generalize hvals : (0 :: rest) = values at *
  have hlen1 : 1 ≤ values.length := by rw [← hvals]; simp
  have hu : 1 ≤ univ := by have := hall 0 (by rw [← hvals]; simp); omega
  obtain ⟨p1, p2, p3, p4, p5⟩ := parameters_spec hlen1 hu
  have n1 : values.length + 8 < U64 := hno
  have hll : values.length - 1 < 2 ^ 64 := by rw [← U64_eq]; omega
  obtain ⟨b1, b2, b3, _⟩ := bitLen_spec_rl (values.length - 1) hll
  obtain ⟨smp, es, w1, w2, w3, w4⟩ := IntVec.withLen_spec_rl (nsam values.length univ)
    (bitLen (BitVec.ofNat 64 (values.length - 1))) 0 b1 b2
  have h0 : ∀ h : 0 < values.length, values[0] = 0 := by intro h; subst hvals; rfl
  have hfill := fill_spec m hs (div0 values.length univ) (nsam values.length univ) _ b3 b2 (by omega)
    (nsam values.length univ - 1) 1 0 smp hlen1 (by omega) (by rw [h0]; omega) w1 w2 w3
  obtain ⟨smp', o', ho', ef, l1, qf, pf⟩ := hfill
  have hrange : (List.range (nsam values.length univ)).drop 1 = List.range' 1 (nsam values.length univ - 1) := by
    rw [List.range_eq_range', List.drop_range']
  have hprev : values[o'] < univ := hall _ (List.getElem_mem _)
  have hz : (smp'.getRaw 0).toNat = 0 := by
    have z : ∀ k, (0 : Word).toNat % 2 ^ k = 0 := fun k => Nat.zero_mod _
    rw [qf 0 (by omega), IntVec.getRaw_of_items (by omega) (by rw [w4, w2]), z]
  refine ⟨⟨values.length, div0 values.length univ, smp'⟩, ?_,
    ⟨rfl, by omega, p1, by rw [l1]; show _ = (univ - 1) / div0 values.length univ + 1; omega, ?_, ?_⟩, hz⟩
  · subst hvals
    unfold SampleIndex.new
    simp only []
    rw [if_neg (by omega), parameters_ok m hlen1 hu n1]
    simp only [bind_ok]
    rw [es]
    simp only [bind_ok, ne_eq, not_true_eq_false, if_false]
    rw [hrange]
    rw [show fill m (div0 (0 :: rest).length univ) (List.range' 1 (nsam (0 :: rest).length univ - 1)) 0 0 rest smp =
      ok (smp', (0 :: rest)[o']) from ef]
    simp only [bind_ok]
    rw [if_pos hprev]; rfl
  · show ∃ hk : (smp'.getRaw 0).toNat < values.length, values[(smp'.getRaw 0).toNat] ≤ 0
    have hk : (smp'.getRaw 0).toNat < values.length := by rw [hz]; exact hlen1
    refine ⟨hk, ?_⟩
    have : values[(smp'.getRaw 0).toNat] = values[0] := by congr 1
    rw [this, h0]; exact Nat.le_refl _
  · intro i hi1 hi
    exact pf i hi1 (by rw [← l1]; exact hi)

/-- the strictly increasing case (all the code as first written accepted) as a corollary: then *every*
sample is the index of the last value `≤ i * divisor` -/
theorem new_valid_strict (m : Mode) (rest : List Nat) (univ : Nat)
    (hs : StrictInc (0 :: rest)) (hall : ∀ v ∈ (0 :: rest), v < univ)
    (hno : NoOverflow (0 :: rest).length) (hu64 : univ < U64) :
    ∃ s, SampleIndex.new m (0 :: rest) univ = ok s ∧ s.Valid (0 :: rest) univ ∧
      ∀ i, i < s.samples.len → LastLE (0 :: rest) (i * s.divisor) (s.samples.getRaw i).toNat := by
  obtain ⟨s, e, hv, _⟩ := new_valid m rest univ hs.nonDec hall hno hu64
  exact ⟨s, e, hv, fun i hi => hv.sample_strict hs i hi⟩

/-- `new` followed by `range`: for **non-decreasing** `values` with `values[0] = 0`, all `< univ`, the
contract holds for every `x` below the universe: `range s x = ok (lo, hi)`, `lo < hi ≤ values.length`,
`values[lo] ≤ x`, and `hi = values.length ∨ x < values[hi]` -/
theorem new_range (m : Mode) (rest : List Nat) (univ : Nat)
    (hs : NonDec (0 :: rest)) (hall : ∀ v ∈ (0 :: rest), v < univ)
    (hno : NoOverflow (0 :: rest).length) (hu64 : univ < U64) :
    ∃ s, SampleIndex.new m (0 :: rest) univ = ok s ∧ ∀ x, x < univ →
      ∃ lo hi, s.range x = ok (lo, hi) ∧ lo < hi ∧ hi ≤ (0 :: rest).length ∧
        (∃ h : lo < (0 :: rest).length, (0 :: rest)[lo] ≤ x) ∧
        (hi = (0 :: rest).length ∨ ∃ h : hi < (0 :: rest).length, x < (0 :: rest)[hi]) := by
  obtain ⟨s, e, hv, _⟩ := new_valid m rest univ hs hall hno hu64
  exact ⟨s, e, fun x hx => range_spec hv x hx⟩

/-- the strict version as a corollary -/
theorem new_range_strict (m : Mode) (rest : List Nat) (univ : Nat)
    (hs : StrictInc (0 :: rest)) (hall : ∀ v ∈ (0 :: rest), v < univ)
    (hno : NoOverflow (0 :: rest).length) (hu64 : univ < U64) :
    ∃ s, SampleIndex.new m (0 :: rest) univ = ok s ∧ ∀ x, x < univ →
      ∃ lo hi, s.range x = ok (lo, hi) ∧ lo < hi ∧ hi ≤ (0 :: rest).length ∧
        (∃ h : lo < (0 :: rest).length, (0 :: rest)[lo] ≤ x) ∧
        (hi = (0 :: rest).length ∨ ∃ h : hi < (0 :: rest).length, x < (0 :: rest)[hi]) :=
  new_range m rest univ hs.nonDec hall hno hu64

theorem new_nil_ok (m : Mode) (univ : Nat) : ∃ s, SampleIndex.new m [] univ = ok s := by
  obtain ⟨d, hd, _⟩ := IntVec.withLen_spec_rl 1 1 0 (by decide) (by decide)
  exact ⟨_, by unfold SampleIndex.new; rw [hd]; rfl⟩

theorem new_univ_zero_ok (m : Mode) (values : List Nat) : ∃ s, SampleIndex.new m values 0 = ok s := by
  obtain ⟨d, hd, _⟩ := IntVec.withLen_spec_rl 1 1 0 (by decide) (by decide)
  cases values with
  | nil => exact new_nil_ok m 0
  | cons a t => exact ⟨_, by unfold SampleIndex.new; simp only [if_pos]; rw [hd]; rfl⟩

theorem fill_le (m : Mode) (d : Nat) : ∀ (samples : List Nat) (offset prev : Nat) (vals : List Nat) (smp : IntVec),
    (fill .checked d samples offset prev vals smp).Le (fill m d samples offset prev vals smp)
  | [], _, _, _, _ => .refl _
  | _ :: more, _, _, _, _ =>
    .bind (mulM_le m _ _) fun _ => .bind (.refl _) fun _ => .bind (.refl _) fun _ => fill_le m d more _ _ _ _

theorem new_le (m : Mode) (values : List Nat) (univ : Nat) : (new .checked values univ).Le (new m values univ) := by
  unfold new
  split
  · exact .refl _
  · exact .ite (.refl _) (.bind (parameters_le m _ _) fun _ => .bind (.refl _) fun _ => .ite (.refl _)
      (.bind (fill_le m _ _ _ _ _ _) fun _ => .refl _))

/-- a concrete index over values with duplicates (which the code as first written rejected): `new`
succeeds in both modes and `range` brackets the probes -/
theorem new_duplicates_example :
    (do let s ← SampleIndex.new .checked [0, 0, 3, 3, 3, 9, 9, 20, 20] 21
        let r0 ← s.range 0
        let r1 ← s.range 5
        let r2 ← s.range 20
        return (s.divisor, s.samples.items, r0, r1, r2)) = ok (11, [0, 6], (0, 7), (0, 7), (6, 9)) := by
  decide

end SampleIndex

/-! ## 5. `block_for` : binary search for the last block whose sample is ≤ value -/

namespace RL

theorem blockFor_spec (f : Nat → Outcome Nat) (g : Nat → Nat) (value : Nat) :
    ∀ (n lo hi : Nat), lo < hi → hi - lo ≤ 2 ^ n →
      (∀ i, lo ≤ i → i < hi → f i = ok (g i)) →
      (∀ i j, lo ≤ i → i ≤ j → j < hi → g i ≤ g j) →
      g lo ≤ value →
      ∃ b, blockFor f value (n + 1) lo hi = ok b ∧ lo ≤ b ∧ b < hi ∧ g b ≤ value ∧
        ∀ j, b < j → j < hi → value < g j := by
  intro n
  induction n with
  | zero =>
    intro lo hi hlt hsz hf hmono hlo
    refine ⟨lo, ?_, Nat.le_refl _, hlt, hlo, ?_⟩
    · unfold blockFor; rw [if_neg (by simp at hsz; omega)]
    · intro j h1 h2; simp at hsz; omega
  | succ n ih =>
    intro lo hi hlt hsz hf hmono hlo
    by_cases hbig : hi - lo > 1
    · have hp : 2 ^ (n + 1) = 2 * 2 ^ n := by rw [Nat.pow_succ]; omega
      have hmid1 : lo < lo + (hi - lo) / 2 := by omega
      have hmid2 : lo + (hi - lo) / 2 < hi := by omega
      unfold blockFor
      rw [if_pos hbig]
      simp only [hf _ (Nat.le_of_lt hmid1) hmid2, bind_ok]
      generalize hmid : lo + (hi - lo) / 2 = mid at *
      by_cases hc : g mid ≤ value
      · rw [if_pos hc]
        obtain ⟨b, hb, b1, b2, b3, b4⟩ := ih mid hi hmid2 (by omega)
          (fun i h1 h2 => hf i (by omega) h2) (fun i j h1 h2 h3 => hmono i j (by omega) h2 h3) hc
        exact ⟨b, hb, by omega, b2, b3, b4⟩
      · rw [if_neg hc]
        obtain ⟨b, hb, b1, b2, b3, b4⟩ := ih lo mid hmid1 (by omega)
          (fun i h1 h2 => hf i h1 (by omega)) (fun i j h1 h2 h3 => hmono i j h1 h2 (by omega)) hlo
        refine ⟨b, hb, b1, by omega, b3, ?_⟩
        intro j h1 h2
        by_cases hj : j < mid
        · exact b4 j h1 hj
        · have := hmono mid j (by omega) (by omega) h2
          omega
    · refine ⟨lo, ?_, Nat.le_refl _, hlt, hlo, ?_⟩
      · unfold blockFor; rw [if_neg hbig]
      · intro j h1 h2; omega

/-- the fuel 70 used by the queries is enough for every range below 2^64 (indeed below 2^69) -/
theorem blockFor_70 (f : Nat → Outcome Nat) (g : Nat → Nat) (value lo hi : Nat) (hlt : lo < hi)
    (hsz : hi - lo ≤ 2 ^ 64)
    (hf : ∀ i, lo ≤ i → i < hi → f i = ok (g i))
    (hmono : ∀ i j, lo ≤ i → i ≤ j → j < hi → g i ≤ g j) (hlo : g lo ≤ value) :
    ∃ b, blockFor f value 70 lo hi = ok b ∧ lo ≤ b ∧ b < hi ∧ g b ≤ value ∧
      ∀ j, b < j → j < hi → value < g j :=
  blockFor_spec f g value 69 lo hi hlt (Nat.le_trans hsz (by decide)) hf hmono hlo

end RL

/-! ## 6. the builder -/

namespace RLCanon

/-- the part of the builder that `flush` writes: end of the last encoded run, ones in encoded runs, block
samples, encoded data -/
structure Core where
  tail : Nat
  ones : Nat
  samples : Array (Nat × Nat)
  data : IntVec
  deriving DecidableEq, Repr

/-- the core of `RLBuilder::default()` -/
def Core.empty : Core := ⟨0, 0, #[], ⟨0, 4, RawVec.empty⟩⟩

/-- `flush` of the run `r = (start, len)` as a pure function on the core (mirrors `RLBuilder.flush`): open a new
block (pad with zeros, sample `(ones, tail)`) when the two codes do not fit, append the codes of the gap and of
`len - 1` -/
def Core.push (c : Core) (r : Nat × Nat) : Core :=
  let c1 : Core :=
    if c.data.len + (RLBuilder.codeLen (r.1 - c.tail) + RLBuilder.codeLen (r.2 - 1)) > c.samples.size * 64 then
      { c with data := c.data.resize (c.samples.size * 64) 0, samples := c.samples.push (c.ones, c.tail) }
    else c
  { c1 with data := RLBuilder.encode (RLBuilder.encode c1.data (r.1 - c.tail)) (r.2 - 1),
            tail := r.1 + r.2, ones := c.ones + r.2 }

/-- the core after flushing the runs `R` (absolute `(start, len)`) in order -/
def Core.ofRuns (R : List (Nat × Nat)) : Core := R.foldl Core.push Core.empty

theorem Core.ofRuns_concat (R : List (Nat × Nat)) (r : Nat × Nat) :
    Core.ofRuns (R ++ [r]) = (Core.ofRuns R).push r := by
  unfold Core.ofRuns; rw [List.foldl_append]; rfl

/-- the core of a builder: the flushed ones are `ones` minus the pending run -/
def coreOf (b : RLBuilder) : Core := ⟨b.tail, b.ones - b.run.2, b.samples, b.data⟩

/-- the core does not change when only `len`, `ones`, `run` change with `ones - run.2` fixed -/
theorem coreOf_congr {b b' : RLBuilder} (h1 : b'.samples = b.samples) (h2 : b'.data = b.data)
    (h3 : b'.ones - b'.run.2 = b.ones - b.run.2) (h4 : b'.tail = b.tail) : coreOf b' = coreOf b := by
  unfold coreOf; rw [h1, h2, h3, h4]

end RLCanon

namespace RLBuilder
open RunIter

/-- `encode` appends exactly the units of the code -/
theorem encode_spec {d : IntVec} (h : d.WF) (hw : d.width = 4) (v : Nat) (hv : v < 2 ^ 64) :
    (encode d v).WF ∧ (encode d v).width = 4 ∧ (encode d v).items = d.items ++ encodeUnits 23 v := by
  obtain ⟨a, b, e⟩ := IntVec.extend_spec h ((encodeUnits 23 v).map (BitVec.ofNat 64))
  refine ⟨a, b.trans hw, ?_⟩
  show (d.extend _).items = _
  -- every unit is below 16, so storing it in 4 bits loses nothing
  rw [e, hw, List.map_map, List.map_congr_left (g := id), List.map_id]
  intro u hu
  have := encodeUnits_lt_16 v hv u hu
  simp only [Function.comp_apply, BitVec.toNat_ofNat, id]; omega

theorem encode_run {d : IntVec} (h : d.WF) (hw : d.width = 4) {g l : Nat} (hg : g < 2 ^ 64)
    (hl : l - 1 < 2 ^ 64) :
    (encode (encode d g) (l - 1)).WF ∧ (encode (encode d g) (l - 1)).width = 4 ∧
    (encode (encode d g) (l - 1)).items = d.items ++ runUnits g l := by
  obtain ⟨e1, e2, e3⟩ := encode_spec h hw g hg
  obtain ⟨f1, f2, f3⟩ := encode_spec e1 e2 (l - 1) hl
  exact ⟨f1, f2, by rw [f3, e3, List.append_assoc]; rfl⟩

/-- §2 in the form "what `encode` wrote, `decode` reads": for a well-formed width-4 vector `d`, any
vector whose data is `encode d x` followed by anything decodes `x` at offset `d.len` -/
theorem decode_after_encode (m : Mode) (v : RL) {d : IntVec} (h : d.WF) (hw : d.width = 4) (x : Nat)
    (hx : x < 2 ^ 64) (rest : List Nat) (hv : v.data.items = (encode d x).items ++ rest) :
    v.decode m d.len = ok (x, d.len + codeLen x) := by
  apply RL.decode_encode m v d.len x rest hx
  rw [hv, (encode_spec h hw x hx).2.2, List.append_assoc, List.drop_left' (IntVec.items_length d)]

/-- representation invariant of the builder between calls of `try_set` and of the repaired `set_len`
(the `set_len` as first written broke it, see F9) -/
structure Inv (b : RLBuilder) : Prop where
  /-- the pending run starts at or after the end of the last flushed run -/
  tail_le : b.tail ≤ b.run.1
  /-- the pending run (possibly empty) ends at `len` -/
  run_end : b.run.1 + b.run.2 = b.len
  /-- `ones` = ones of the flushed runs + the pending run … -/
  run_le_ones : b.run.2 ≤ b.ones
  /-- … and the flushed ones all lie before `tail` -/
  flushed_le : b.ones - b.run.2 ≤ b.tail
  len_lt : b.len < U64
  /-- the data never extends past the last block that has a sample -/
  data_le : b.data.len ≤ 64 * b.samples.size
  data_wf : b.data.WF
  data_w : b.data.width = 4

theorem Inv.ones_le {b : RLBuilder} (h : b.Inv) : b.ones ≤ b.len := by
  have := h.tail_le; have := h.run_end; have := h.run_le_ones; have := h.flushed_le; omega

theorem inv_empty : ({} : RLBuilder).Inv := by
  refine ⟨by decide, by decide, by decide, by decide, by decide, by decide, by decide, by decide⟩

/-- `try_set` and `set_len` change `len`, `ones` and the pending run only: what is left to check -/
theorem Inv.set_run {b : RLBuilder} (h : b.Inv) {l o s k : Nat} (h1 : b.tail ≤ s) (h2 : s + k = l)
    (h3 : k ≤ o) (h4 : o - k ≤ b.tail) (h5 : l < U64) :
    ({ b with len := l, ones := o, run := (s, k) } : RLBuilder).Inv :=
  ⟨h1, h2, h3, h4, h5, h.data_le, h.data_wf, h.data_w⟩

theorem Inv.gap_lt {b : RLBuilder} (h : b.Inv) : b.run.1 - b.tail < 2 ^ 64 := by
  have := h.run_end; have := h.len_lt; rw [← U64_eq]; omega

theorem Inv.runLen_lt {b : RLBuilder} (h : b.Inv) : b.run.2 - 1 < 2 ^ 64 := by
  have := h.run_end; have := h.len_lt; rw [← U64_eq]; omega

/-- a non-trivial `flush` under the invariant: the codes of the pending run are appended to the data, after
padding the current block and recording a sample for the new one if they do not fit; on the `IntVec` level this is
`Core.push` -/
theorem flush_run (m : Mode) {b : RLBuilder} (h : b.Inv) (hr : b.run.2 ≠ 0) :
    ∃ b', b.flush m = ok b' ∧ b'.len = b.len ∧ b'.ones = b.ones ∧ b'.run = (b.len, 0) ∧
      b'.tail = b.run.1 + b.run.2 ∧ b'.data.WF ∧ b'.data.width = 4 ∧ RLCanon.coreOf b' = (RLCanon.coreOf b).push b.run ∧
      ((b.data.len + (runUnits (b.run.1 - b.tail) b.run.2).length ≤ b.samples.size * 64 ∧
          b'.samples = b.samples ∧
          b'.data.items = b.data.items ++ runUnits (b.run.1 - b.tail) b.run.2) ∨
       (b.samples.size * 64 < b.data.len + (runUnits (b.run.1 - b.tail) b.run.2).length ∧
          b'.samples = b.samples.push (b.ones - b.run.2, b.tail) ∧
          b'.data.items = b.data.items ++ List.replicate (b.samples.size * 64 - b.data.len) 0 ++
            runUnits (b.run.1 - b.tail) b.run.2)) := by
  have hg := h.gap_lt
  have hl := h.runLen_lt
  have hro := h.run_le_ones
  unfold flush
  rw [if_neg hr, subM_ok h.tail_le]
  simp only [bind_ok, pure_eq]
  by_cases hfit : b.data.len + (codeLen (b.run.1 - b.tail) + codeLen (b.run.2 - 1)) > b.samples.size * 64
  · rw [if_pos hfit]
    obtain ⟨a1, a2, a3⟩ := IntVec.resize_spec h.data_wf (b.samples.size * 64) 0
    obtain ⟨f1, f2, f3⟩ := encode_run a1 (a2.trans h.data_w) hg hl
    refine ⟨_, rfl, rfl, rfl, rfl, rfl, f1, f2, ?_, Or.inr ⟨by rw [runUnits_length hg hl]; exact hfit, rfl, ?_⟩⟩
    · unfold RLCanon.coreOf RLCanon.Core.push
      simp only [hfit, ↓reduceIte]
      rw [show b.ones - 0 = b.ones - b.run.2 + b.run.2 by omega]
    · have hle := h.data_le
      show (encode (encode (b.data.resize (b.samples.size * 64) 0) _) _).items = _
      rw [f3, a3, List.take_of_length_le (by rw [IntVec.items_length]; omega)]
      rfl
  · rw [if_neg hfit]
    obtain ⟨f1, f2, f3⟩ := encode_run h.data_wf h.data_w hg hl
    refine ⟨_, rfl, rfl, rfl, rfl, rfl, f1, f2, ?_, Or.inl ⟨by rw [runUnits_length hg hl]; omega, rfl, f3⟩⟩
    unfold RLCanon.coreOf RLCanon.Core.push
    simp only [hfit, ↓reduceIte]
    rw [show b.ones - 0 = b.ones - b.run.2 + b.run.2 by omega]

/-- `flush` never fails under the invariant (in both modes) and re-establishes it with an empty pending
run positioned at `len` -/
theorem flush_spec (m : Mode) {b : RLBuilder} (h : b.Inv) :
    ∃ b', b.flush m = ok b' ∧ b'.Inv ∧ b'.len = b.len ∧ b'.ones = b.ones ∧ b'.run = (b.len, 0) := by
  have hol := h.ones_le
  have hre := h.run_end
  by_cases hr : b.run.2 = 0
  · exact ⟨b, by rw [flush, if_pos hr], h, rfl, rfl, Prod.ext (by show b.run.1 = b.len; omega) hr⟩
  · obtain ⟨b', e, l1, l2, l3, l4, wf, w4, _, hc⟩ := flush_run m h hr
    have r1 : b'.run.1 = b.len := by rw [l3]
    have r2 : b'.run.2 = 0 := by rw [l3]
    have hU := runUnits_length_le h.gap_lt h.runLen_lt
    have hle := h.data_le
    have hdata : b'.data.len ≤ 64 * b'.samples.size := by
      rw [← IntVec.items_length]
      rcases hc with ⟨c1, c2, c3⟩ | ⟨c1, c2, c3⟩
      · rw [c3, c2, List.length_append, IntVec.items_length]; omega
      · rw [c3, c2, Array.size_push, List.length_append, List.length_append, List.length_replicate,
          IntVec.items_length]; omega
    have := h.len_lt
    exact ⟨b', e, ⟨by omega, by omega, by omega, by omega, by omega, hdata, wf, w4⟩, l1, l2, l3⟩

theorem flush_inv (m : Mode) {b b' : RLBuilder} (h : b.Inv) (hf : b.flush m = ok b') : b'.Inv := by
  obtain ⟨b'', e, i, _⟩ := flush_spec m h
  rw [e] at hf; injection hf with hf; subst hf; exact i

/-- `flush` on the `IntVec` level: the core becomes the old core with the pending run (if non-empty) pushed -/
theorem flush_core' (m : Mode) {b : RLBuilder} (h : b.Inv) :
    ∃ b', b.flush m = ok b' ∧ b'.len = b.len ∧ b'.ones = b.ones ∧ b'.run = (b.len, 0) ∧
      RLCanon.coreOf b' = (if b.run.2 = 0 then RLCanon.coreOf b else (RLCanon.coreOf b).push b.run) := by
  by_cases hr : b.run.2 = 0
  · have hre := h.run_end
    exact ⟨b, by rw [flush, if_pos hr], rfl, rfl, Prod.ext (by show b.run.1 = b.len; omega) hr, by rw [if_pos hr]⟩
  · obtain ⟨b', e, l1, l2, l3, _, _, _, hc, _⟩ := flush_run m h hr
    exact ⟨b', e, l1, l2, l3, by rw [if_neg hr]; exact hc⟩

/-- `set_len` **as first written** (`setLenOld`, finding F9) does not preserve the invariant: it flushes
(which parks the empty pending run at the old `len`) and then moves `len` without moving the pending run. -/
theorem setLen_breaks_inv (m : Mode) {b : RLBuilder} (h : b.Inv) (n : Nat) (hn : b.len < n) :
    ∃ b', b.setLenOld m n = ok b' ∧ b'.len = n ∧ b'.run = (b.len, 0) ∧ b'.run.1 + b'.run.2 ≠ b'.len ∧
      ¬ b'.Inv := by
  obtain ⟨b1, e, i, l1, l2, l3⟩ := flush_spec m h
  have hne : b1.run.1 + b1.run.2 ≠ n := by rw [l3]; simp; omega
  unfold setLenOld
  rw [if_pos hn, e]
  exact ⟨_, rfl, rfl, l3, hne, fun hi => hne hi.run_end⟩

/-- the repaired `set_len` (the model's `setLen`) **preserves the invariant** and never faults under it,
in both modes (`n < 2^64`: the argument is a `usize`); it never decreases `len`, keeps `ones`, and when
it extends the vector the empty pending run is parked at the new length -/
theorem setLen_spec (m : Mode) {b : RLBuilder} (h : b.Inv) (n : Nat) (hn : n < U64) :
    ∃ b', b.setLen m n = ok b' ∧ b'.Inv ∧ b'.len = max b.len n ∧ b'.ones = b.ones ∧
      (n ≤ b.len → b' = b) ∧ (b.len < n → b'.run = (n, 0)) := by
  unfold setLen
  by_cases hc : n > b.len
  · obtain ⟨b1, e, i, l1, l2, l3⟩ := flush_spec m h
    have r1 : b1.run.1 = b.len := by rw [l3]
    have r2 : b1.run.2 = 0 := by rw [l3]
    have := i.tail_le
    have := i.flushed_le
    rw [if_pos hc, e]
    exact ⟨_, rfl, i.set_run (by omega) rfl (by omega) (by omega) hn, by show n = max b.len n; omega, l2,
      fun c => absurd c (by omega), fun _ => rfl⟩
  · rw [if_neg hc]
    exact ⟨b, rfl, h, by omega, rfl, fun _ => rfl, fun c => absurd c hc⟩

theorem setLen_inv (m : Mode) {b b' : RLBuilder} (h : b.Inv) (n : Nat) (hn : n < U64)
    (hs : b.setLen m n = ok b') : b'.Inv := by
  obtain ⟨b'', e, i, _⟩ := setLen_spec m h n hn
  rw [e] at hs; injection hs with hs; subst hs; exact i

theorem setLen_no_fault (m : Mode) {b : RLBuilder} (h : b.Inv) (n : Nat) (hn : n < U64) (e : Fault) :
    b.setLen m n ≠ fault e := by
  obtain ⟨b', e', _⟩ := setLen_spec m h n hn
  rw [e']; intro hc; cases hc

/-! `try_set`: the two rejections, the empty run, a run adjacent to the pending one, and a run after a gap — or any
accepted run — as `set_len(start)` followed by an adjacent run -/

theorem trySet_reject (m : Mode) (b : RLBuilder) {start len : Nat}
    (hc : start < b.len ∨ U64 - 1 - len < start) : b.trySet m start len = fault (.err .other) := by
  unfold trySet
  by_cases h1 : start < b.len
  · rw [if_pos h1]
  · rw [if_neg h1, if_pos (by omega)]

theorem trySet_zero (m : Mode) (b : RLBuilder) {start : Nat}
    (hc : ¬ (start < b.len ∨ U64 - 1 - 0 < start)) : b.trySet m start 0 = ok b := by
  unfold trySet
  rw [if_neg (by omega), if_neg (by omega)]; rfl

/-- a run starting at `len`: nothing overflows as soon as the counters are ordered -/
theorem trySet_at_len (m : Mode) (b : RLBuilder) {len : Nat} (hz : len ≠ 0) (hfit : b.len + len < U64)
    (hol : b.ones ≤ b.len) (hro : b.run.2 ≤ b.ones) :
    b.trySet m b.len len =
      ok { b with len := b.len + len, ones := b.ones + len, run := (b.run.1, b.run.2 + len) } := by
  unfold trySet
  rw [if_neg (Nat.lt_irrefl _), if_neg (by omega)]
  unfold setRunUnchecked
  rw [if_neg hz, if_pos rfl, addM_ok hfit, bind_ok, addM_ok (by omega), bind_ok, addM_ok (by omega),
    bind_ok]
  rfl

theorem trySet_adjacent (m : Mode) {b : RLBuilder} (h : b.Inv) {start len : Nat} (hs : start = b.len)
    (hz : len ≠ 0) (hfit : start + len < U64) :
    b.trySet m start len =
      ok { b with len := b.len + len, ones := b.ones + len, run := (b.run.1, b.run.2 + len) } := by
  subst hs
  exact trySet_at_len m b hz hfit h.ones_le h.run_le_ones

theorem trySet_gap (m : Mode) (b : RLBuilder) {start len : Nat} (hgap : b.len < start) (hz : len ≠ 0)
    (hfit : start + len < U64) :
    b.trySet m start len = b.setLen m start >>= fun b1 => b1.trySet m start len := by
  unfold trySet setLen
  rw [if_neg (by omega), if_neg (by omega), if_pos hgap]
  unfold setRunUnchecked
  rw [if_neg hz, if_neg (by omega)]
  cases b.flush m with
  | fault e => rfl
  | ok b1 =>
    simp only [bind_ok, pure_eq]
    rw [if_pos trivial, addM_ok (show 0 + len < U64 by omega)]
    simp only [bind_ok, Nat.zero_add]
    rw [if_neg (Nat.lt_irrefl _), if_neg (by omega), if_neg hz]

/-- every accepted non-empty run is `set_len(start)` followed by a run adjacent to the pending one (`set_len(start)` does
nothing when `start = len`) -/
theorem trySet_setLen (m : Mode) (b : RLBuilder) {start len : Nat} (hge : b.len ≤ start) (hz : len ≠ 0)
    (hfit : start + len < U64) :
    b.trySet m start len = b.setLen m start >>= fun b1 => b1.trySet m start len := by
  rcases Nat.eq_or_lt_of_le hge with h | h
  · rw [setLen, if_neg (by omega)]; rfl
  · exact trySet_gap m b h hz hfit

/-- `try_set` under the invariant: rejected exactly when the run starts before `len` or would end past
`usize::MAX`; otherwise it succeeds in both modes and the invariant is preserved.
(`len < 2^64`: the argument is a `usize`.) -/
theorem trySet_spec (m : Mode) {b : RLBuilder} (h : b.Inv) (start len : Nat) (hlen : len < U64) :
    (start < b.len ∨ U64 - 1 - len < start → b.trySet m start len = fault (.err .other)) ∧
    (¬ (start < b.len ∨ U64 - 1 - len < start) →
      ∃ b', b.trySet m start len = ok b' ∧ b'.Inv ∧
        (len = 0 → b' = b) ∧
        (len ≠ 0 → b'.len = start + len ∧ b'.ones = b.ones + len ∧
          b'.run = (if start = b.len then (b.run.1, b.run.2 + len) else (start, len)))) := by
  refine ⟨trySet_reject m b, fun hc => ?_⟩
  by_cases hz : len = 0
  · subst hz
    exact ⟨b, trySet_zero m b hc, h, fun _ => rfl, fun c => absurd rfl c⟩
  -- `set_len(start)`, then the run adjacent to the pending one
  obtain ⟨b1, e1, i1, k1, k2, k3, k4⟩ := setLen_spec m h start (by omega)
  have hs : start = b1.len := by rw [k1]; omega
  clear k1
  have := i1.ones_le; have := i1.run_end; have := i1.run_le_ones; have := i1.flushed_le
  refine ⟨_, by rw [trySet_setLen m b (by omega) hz (by omega), e1]; exact trySet_adjacent m i1 hs hz (by omega),
    i1.set_run i1.tail_le (by omega) (by omega) (by omega) (by omega), fun c => absurd c hz,
    fun _ => ⟨by rw [hs], by rw [k2], ?_⟩⟩
  split
  · rw [k3 (by omega)]
  · rw [k4 (by omega), Nat.zero_add]

theorem trySet_inv (m : Mode) {b b' : RLBuilder} (h : b.Inv) (start len : Nat) (hlen : len < U64)
    (hs : b.trySet m start len = ok b') : b'.Inv := by
  obtain ⟨f, g⟩ := trySet_spec m h start len hlen
  by_cases hc : start < b.len ∨ U64 - 1 - len < start
  · rw [f hc] at hs; cases hs
  · obtain ⟨b'', e, i, _⟩ := g hc
    rw [e] at hs; injection hs with hs; subst hs; exact i

/-- a rejected call returns `Err` and (by construction: the builder is passed by
value through `Outcome`) leaves no modified builder behind; it is rejected exactly in the two documented
cases -/
theorem trySet_fault_iff (m : Mode) {b : RLBuilder} (h : b.Inv) (start len : Nat) (hlen : len < U64) :
    (∃ e, b.trySet m start len = fault e) ↔ (start < b.len ∨ U64 - 1 - len < start) := by
  obtain ⟨f, g⟩ := trySet_spec m h start len hlen
  constructor
  · intro ⟨e, he⟩
    by_cases hc : start < b.len ∨ U64 - 1 - len < start
    · exact hc
    · obtain ⟨b', e', _⟩ := g hc
      rw [e'] at he; cases he
  · intro hc; exact ⟨_, f hc⟩

theorem trySet_fault_kind (m : Mode) {b : RLBuilder} (h : b.Inv) (start len : Nat) (hlen : len < U64)
    (e : Fault) (he : b.trySet m start len = fault e) : e = .err .other := by
  have hc := (trySet_fault_iff m h start len hlen).1 ⟨e, he⟩
  rw [trySet_reject m b hc] at he; injection he with he; exact he.symm

/-- **Defect F9** (code as first written). From the empty builder, the old `set_len(10)` followed by
`try_set(10, 5)` is accepted and produces the pending run `(0, 5)` instead of `(10, 5)`: the new run is
*merged* with the stale empty run parked at position 0, because `start == self.len` is taken to mean
"adjacent to the pending run". -/
theorem F9_setLen_then_adjacent_run :
    (do let b ← ({} : RLBuilder).setLenOld .checked 10
        let b ← b.trySet .checked 10 5
        return (b.run, b.len, b.ones, b.tail)) = ok ((0, 5), 15, 5, 0) := by decide

/-- **F9 repaired**: with the model's `setLen` the same two calls give `run = (10, 5)`, `len = 15`,
`ones = 5` -/
theorem F9_fixed :
    (do let b ← ({} : RLBuilder).setLen .checked 10
        let b ← b.trySet .checked 10 5
        return (b.run, b.len, b.ones, b.tail)) = ok ((10, 5), 15, 5, 0) ∧
    (do let b ← ({} : RLBuilder).setLen .wrapping 10
        let b ← b.trySet .wrapping 10 5
        return (b.run, b.len, b.ones, b.tail)) = ok ((10, 5), 15, 5, 0) := by decide

/-- without the `set_len`, `try_set(10, 5)` alone gives the right run -/
theorem F9_reference :
    (do let b ← ({} : RLBuilder).trySet .checked 10 5
        return (b.run, b.len, b.ones, b.tail)) = ok ((10, 5), 15, 5, 0) := by decide

/-- F9, what reached the encoded data with the old `set_len`: gap 0 and length 5 (units `[0, 4]`), i.e. the
bits 0..4 are set and the bits 10..14 are not, although `len = 15` and `ones = 5` are those of the intended
vector … -/
theorem F9_encoded :
    (do let b ← ({} : RLBuilder).setLenOld .checked 10
        let b ← b.trySet .checked 10 5
        let b ← b.flush .checked
        return (b.data.items, b.samples.toList, b.len, b.ones)) = ok ([0, 4], [(0, 0)], 15, 5) := by decide

/-- … whereas the intended run `(10, 5)` is encoded as gap 10 = `[2+8, 1]`, length-1 = `[4]` -/
theorem F9_encoded_reference :
    (do let b ← ({} : RLBuilder).trySet .checked 10 5
        let b ← b.flush .checked
        return (b.data.items, b.samples.toList, b.len, b.ones)) = ok ([10, 1, 4], [(0, 0)], 15, 5) := by decide

/-- … and that is what the repaired `set_len` now produces -/
theorem F9_encoded_fixed :
    (do let b ← ({} : RLBuilder).setLen .checked 10
        let b ← b.trySet .checked 10 5
        let b ← b.flush .checked
        return (b.data.items, b.samples.toList, b.len, b.ones)) = ok ([10, 1, 4], [(0, 0)], 15, 5) := by decide

theorem flush_le (m : Mode) (b : RLBuilder) : (b.flush .checked).Le (b.flush m) :=
  .ite (.refl _) (.bind (subM_le m _ _) fun _ => .refl _)

theorem trySet_le (m : Mode) (b : RLBuilder) (start len : Nat) :
    (b.trySet .checked start len).Le (b.trySet m start len) := by
  unfold trySet setRunUnchecked
  refine .ite (.refl _) (.ite (.refl _) (.ite (.refl _) (.ite ?_ ?_)))
  · exact .bind (addM_le m _ _) fun _ => .bind (addM_le m _ _) fun _ => .bind (addM_le m _ _) fun _ => .refl _
  · exact .bind (flush_le m b) fun _ => .bind (addM_le m _ _) fun _ => .bind (addM_le m _ _) fun _ => .refl _

end RLBuilder

/-! ## 7. `RunIter` : single steps -/

namespace RunIter
open RLBuilder

/-- the part of `advance_if` after the block switch: decode gap and length at `offset` -/
def readRun (m : Mode) (v : RL) (it : RunIter) (offset limit : Nat) : Outcome Peek := do
  let (gap, offset) ← v.decode m offset
  let start ← addM m it.offsetBits gap
  let (len, offset) ← v.decode m offset
  let len1 ← addM m len 1
  let r ← addM m it.pos.1 len1
  let e ← addM m start len1
  return .run start len1 ⟨offset, (r, e), limit⟩

theorem readRun_ok (m : Mode) (v : RL) (it : RunIter) (offset limit gap len : Nat) (rest : List Nat)
    (hg : gap < 2 ^ 64) (hl : 1 ≤ len) (he : it.pos.2 + gap + len < U64) (hr : it.pos.1 + len < U64)
    (hd : v.data.items.drop offset = runUnits gap len ++ rest) :
    readRun m v it offset limit =
      ok (.run (it.pos.2 + gap) len
        ⟨offset + codeLen gap + codeLen (len - 1), (it.pos.1 + len, it.pos.2 + gap + len), limit⟩) := by
  have hl' : len - 1 < 2 ^ 64 := by rw [← U64_eq]; omega
  unfold runUnits at hd
  rw [List.append_assoc] at hd
  have hd2 : v.data.items.drop (offset + codeLen gap) = encodeUnits 23 (len - 1) ++ rest := by
    rw [← List.drop_drop, hd, ← encodeUnits_length gap hg, List.drop_left]
  unfold readRun
  rw [RL.decode_encode m v offset gap _ hg hd]
  simp only [bind_ok, offsetBits]
  rw [addM_ok (by omega)]
  simp only [bind_ok]
  rw [RL.decode_encode m v _ (len - 1) _ hl' hd2]
  simp only [bind_ok]
  rw [addM_ok (by omega), bind_ok, show len - 1 + 1 = len by omega, addM_ok (by omega), bind_ok,
    addM_ok (by omega), bind_ok]
  rfl

theorem peek_atEnd (m : Mode) (v : RL) (it : RunIter) (h : v.data.len ≤ it.offset) :
    peek m v it = ok .atEnd := by
  unfold peek; rw [if_pos h]

/-- inside a block (`rank < limit`): the next run is decoded at the current offset -/
theorem peek_inBlock (m : Mode) (v : RL) (it : RunIter) (h : it.offset < v.data.len)
    (hr : it.pos.1 < it.limit) : peek m v it = readRun m v it it.offset it.limit := by
  unfold peek readRun
  rw [if_neg (by omega)]
  simp only [rank, if_neg (show ¬ it.pos.1 ≥ it.limit by omega), pure_eq, bind_ok]
  rfl

/-- at the end of a block (`rank ≥ limit`) with a following block: skip the padding, load the new limit -/
theorem peek_nextBlock (m : Mode) (v : RL) (it : RunIter) (h : it.offset < v.data.len)
    (hr : it.limit ≤ it.pos.1) (hb : (it.offset + 63) / 64 < v.blocks) (l : Nat)
    (hl : v.onesAfter ((it.offset + 63) / 64) = ok l) :
    peek m v it = readRun m v it ((it.offset + 63) / 64 * 64) l := by
  unfold peek readRun
  rw [if_neg (by omega)]
  simp only [rank, if_pos (show it.pos.1 ≥ it.limit from hr), if_neg (show ¬ (it.offset + 63) / 64 ≥ v.blocks by omega),
    hl, pure_eq, bind_ok]
  rfl

theorem peek_noMoreBlocks (m : Mode) (v : RL) (it : RunIter) (h : it.offset < v.data.len)
    (hr : it.limit ≤ it.pos.1) (hb : v.blocks ≤ (it.offset + 63) / 64) :
    peek m v it = ok (.noMoreBlocks ((it.offset + 63) / 64 * 64)) := by
  unfold peek
  rw [if_neg (by omega)]
  simp only [rank, if_pos (show it.pos.1 ≥ it.limit from hr), if_pos (show (it.offset + 63) / 64 ≥ v.blocks from hb),
    pure_eq, bind_ok]
  rfl

theorem nextQ_of_peek_run (m : Mode) (v : RL) (it : RunIter) (s l : Nat) (adv : RunIter)
    (h : peek m v it = ok (.run s l adv)) : nextQ m v it = ok (some (s, l), adv) := by
  unfold nextQ; rw [h]; rfl

theorem nextQ_atEnd (m : Mode) (v : RL) (it : RunIter) (h : v.data.len ≤ it.offset) :
    nextQ m v it = ok (none, it) := by
  unfold nextQ; rw [peek_atEnd m v it h]; rfl

theorem nextQ_inBlock (m : Mode) (v : RL) (it : RunIter) (gap len : Nat) (rest : List Nat)
    (hr : it.pos.1 < it.limit)
    (hg : gap < 2 ^ 64) (hl : 1 ≤ len) (he : it.pos.2 + gap + len < U64) (hr' : it.pos.1 + len < U64)
    (hd : v.data.items.drop it.offset = runUnits gap len ++ rest) :
    nextQ m v it = ok (some (it.pos.2 + gap, len),
      ⟨it.offset + codeLen gap + codeLen (len - 1), (it.pos.1 + len, it.pos.2 + gap + len), it.limit⟩) := by
  have hlt : it.offset < v.data.len := by
    rcases Nat.lt_or_ge it.offset v.data.len with h | h
    · exact h
    · rw [List.drop_eq_nil_of_le (by rw [IntVec.items_length]; exact h)] at hd
      have h1 := congrArg List.length hd
      have h2 := codeLen_pos gap
      rw [runUnits, List.length_append, List.length_append, encodeUnits_length gap hg, List.length_nil] at h1
      omega
  apply nextQ_of_peek_run
  rw [peek_inBlock m v it hlt hr, readRun_ok m v it _ _ gap len rest hg hl he hr' hd]

theorem nextQ_nextBlock (m : Mode) (v : RL) (it : RunIter) (gap len l : Nat) (rest : List Nat)
    (h : it.offset < v.data.len) (hr : it.limit ≤ it.pos.1) (hb : (it.offset + 63) / 64 < v.blocks)
    (hl : v.onesAfter ((it.offset + 63) / 64) = ok l)
    (hg : gap < 2 ^ 64) (hl1 : 1 ≤ len) (he : it.pos.2 + gap + len < U64) (hr' : it.pos.1 + len < U64)
    (hd : v.data.items.drop ((it.offset + 63) / 64 * 64) = runUnits gap len ++ rest) :
    nextQ m v it = ok (some (it.pos.2 + gap, len),
      ⟨(it.offset + 63) / 64 * 64 + codeLen gap + codeLen (len - 1),
        (it.pos.1 + len, it.pos.2 + gap + len), l⟩) := by
  apply nextQ_of_peek_run
  rw [peek_nextBlock m v it h hr hb l hl, readRun_ok m v it _ _ gap len rest hg hl1 he hr' hd]

/-! ### iterating over a whole vector with a given block layout -/

/-- all runs produced by repeated `next()`, each with the iterator position `(rank, index)` right after
it, and the iterator after the final `None` -/
def collect (m : Mode) (v : RL) : Nat → RunIter → Outcome (List ((Nat × Nat) × (Nat × Nat)) × RunIter)
  | 0, _ => fault .fuel
  | fuel + 1, it => do
    let (o, it') ← it.nextQ m v
    match o with
    | none => return ([], it')
    | some r => do
      let (rs, e) ← collect m v fuel it'
      return ((r, it'.pos) :: rs, e)

theorem collect_none (m : Mode) (v : RL) (fuel : Nat) (it it' : RunIter)
    (h : nextQ m v it = ok (none, it')) : collect m v (fuel + 1) it = ok ([], it') := by
  rw [collect, h]; rfl

theorem collect_some (m : Mode) (v : RL) (fuel : Nat) (it it' e : RunIter) (r : Nat × Nat)
    (out : List ((Nat × Nat) × (Nat × Nat))) (h : nextQ m v it = ok (some r, it'))
    (hc : collect m v fuel it' = ok (out, e)) :
    collect m v (fuel + 1) it = ok ((r, it'.pos) :: out, e) := by
  rw [collect, h]; simp only [bind_ok]; rw [hc]; rfl

/-- runs are described relative to their predecessor: `(gap, len)` -/
def lens : List (Nat × Nat) → Nat
  | [] => 0
  | p :: rs => p.2 + lens rs

def span : List (Nat × Nat) → Nat
  | [] => 0
  | p :: rs => p.1 + p.2 + span rs

def unitsOf : List (Nat × Nat) → List Nat
  | [] => []
  | p :: rs => runUnits p.1 p.2 ++ unitsOf rs

/-- absolute `(start, len)` of relative runs, the previous run ending at `pos` -/
def absRuns : Nat → List (Nat × Nat) → List (Nat × Nat)
  | _, [] => []
  | pos, p :: rs => (pos + p.1, p.2) :: absRuns (pos + p.1 + p.2) rs

theorem lens_append (a b : List (Nat × Nat)) : lens (a ++ b) = lens a + lens b := by
  induction a with
  | nil => simp [lens]
  | cons p a ih => simp [lens, ih]; omega

theorem span_append (a b : List (Nat × Nat)) : span (a ++ b) = span a + span b := by
  induction a with
  | nil => simp [span]
  | cons p a ih => simp [span, ih]; omega

theorem absRuns_append (pos : Nat) (a b : List (Nat × Nat)) :
    absRuns pos (a ++ b) = absRuns pos a ++ absRuns (pos + span a) b := by
  induction a generalizing pos with
  | nil => simp [absRuns, span]
  | cons p a ih =>
    simp only [List.cons_append, absRuns, span, ih]
    rw [show pos + p.1 + p.2 + span a = pos + (p.1 + p.2 + span a) by omega]

/-- absolute runs `(start, len)` annotated with the expected iterator position after each:
(ones up to and including the run, end of the run) -/
def withPos : Nat → List (Nat × Nat) → List ((Nat × Nat) × (Nat × Nat))
  | _, [] => []
  | rank, r :: rs => (r, (rank + r.2, r.1 + r.2)) :: withPos (rank + r.2) rs

def lensAbs : List (Nat × Nat) → Nat
  | [] => 0
  | r :: rs => r.2 + lensAbs rs

theorem withPos_append (rank : Nat) (a b : List (Nat × Nat)) :
    withPos rank (a ++ b) = withPos rank a ++ withPos (rank + lensAbs a) b := by
  induction a generalizing rank with
  | nil => simp [withPos, lensAbs]
  | cons r a ih =>
    simp only [List.cons_append, withPos, lensAbs, ih]
    rw [show rank + r.2 + lensAbs a = rank + (r.2 + lensAbs a) by omega]

theorem lensAbs_absRuns (pos : Nat) (rs : List (Nat × Nat)) : lensAbs (absRuns pos rs) = lens rs := by
  induction rs generalizing pos with
  | nil => rfl
  | cons p rs ih => simp only [absRuns, lensAbs, lens, ih]

theorem withPos_map_fst (rank : Nat) (rs : List (Nat × Nat)) : (withPos rank rs).map (·.1) = rs := by
  induction rs generalizing rank with
  | nil => rfl
  | cons r rs ih => simp [withPos, ih]

theorem collect_inBlock (m : Mode) (v : RL) (limit : Nat) (hlim : limit < U64) (fuel : Nat)
    (out : List ((Nat × Nat) × (Nat × Nat))) (e : RunIter) :
    ∀ (rs : List (Nat × Nat)) (off rank pos : Nat) (tail : List Nat),
      (∀ p ∈ rs, p.1 < 2 ^ 64 ∧ 1 ≤ p.2) →
      v.data.items.drop off = unitsOf rs ++ tail →
      rank + lens rs ≤ limit → pos + span rs < U64 →
      collect m v fuel ⟨off + (unitsOf rs).length, (rank + lens rs, pos + span rs), limit⟩ = ok (out, e) →
      collect m v (rs.length + fuel) ⟨off, (rank, pos), limit⟩ =
        ok (withPos rank (absRuns pos rs) ++ out, e) := by
  intro rs
  induction rs with
  | nil =>
    intro off rank pos tail _ _ _ _ hc
    simpa [unitsOf, lens, span, absRuns, withPos] using hc
  | cons p rs ih =>
    intro off rank pos tail hp hd hr hs hc
    obtain ⟨hg, hl⟩ := hp p (by simp)
    simp only [unitsOf, lens, span] at hd hr hs hc
    rw [List.append_assoc] at hd
    have hstep := nextQ_inBlock m v ⟨off, (rank, pos), limit⟩ p.1 p.2 _ (by show rank < limit; omega) hg hl
      (by show pos + p.1 + p.2 < U64; omega) (by show rank + p.2 < U64; omega) hd
    have hl' : p.2 - 1 < 2 ^ 64 := by rw [← U64_eq]; omega
    have hd' : v.data.items.drop (off + codeLen p.1 + codeLen (p.2 - 1)) = unitsOf rs ++ tail := by
      rw [Nat.add_assoc, ← runUnits_length hg hl', ← List.drop_drop, hd, List.drop_left]
    have := ih (off + codeLen p.1 + codeLen (p.2 - 1)) (rank + p.2) (pos + p.1 + p.2) tail
      (fun q hq => hp q (by simp [hq])) hd' (by omega) (by omega) (by
        rw [← hc, List.length_append, runUnits_length hg hl']
        congr 2
        · omega
        · congr 1 <;> omega)
    rw [show (p :: rs).length + fuel = (rs.length + fuel) + 1 by simp; omega]
    exact collect_some m v _ _ _ e _ _ hstep this

theorem nextQ_noMoreBlocks (m : Mode) (v : RL) (it : RunIter) (h : it.offset < v.data.len)
    (hr : it.limit ≤ it.pos.1) (hb : v.blocks ≤ (it.offset + 63) / 64) :
    nextQ m v it = ok (none, { it with offset := (it.offset + 63) / 64 * 64 }) := by
  unfold nextQ; rw [peek_noMoreBlocks m v it h hr hb]; rfl

/-- `Layout v b rank bl`: the blocks `b, b+1, …` of `v` are exactly `bl` (runs as `(gap, len)` relative to
their predecessor), `rank` ones precede block `b`.  Each block is non-empty, fits in 64 units, starts at
unit `64 * b` (whatever follows its codes inside the block is never read), and `onesAfter` reports
the number of ones up to its end. -/
def Layout (v : RL) : Nat → Nat → List (List (Nat × Nat)) → Prop
  | b, rank, [] => v.blocks = b ∧ v.ones = rank ∧ v.data.len ≤ 64 * b
  | b, rank, blk :: more =>
      blk ≠ [] ∧ (∀ p ∈ blk, p.1 < 2 ^ 64 ∧ 1 ≤ p.2) ∧ (unitsOf blk).length ≤ 64 ∧
      (∃ tail, v.data.items.drop (64 * b) = unitsOf blk ++ tail) ∧
      v.onesAfter b = ok (rank + lens blk) ∧ Layout v (b + 1) (rank + lens blk) more

theorem Layout.blocks_eq {v : RL} : ∀ {bl : List (List (Nat × Nat))} {b rank : Nat},
    Layout v b rank bl → v.blocks = b + bl.length := by
  intro bl
  induction bl with
  | nil => intro b rank h; exact h.1
  | cons blk more ih =>
    intro b rank h
    have := ih h.2.2.2.2.2
    rw [this, List.length_cons]; omega

theorem Layout.valid {v : RL} : ∀ {bl : List (List (Nat × Nat))} {b rank : Nat}, Layout v b rank bl →
    ∀ blk ∈ bl, blk ≠ [] ∧ ∀ p ∈ blk, p.1 < 2 ^ 64 ∧ 1 ≤ p.2 := by
  intro bl
  induction bl with
  | nil => intro b rank _ blk hm; cases hm
  | cons blk more ih =>
    intro b rank h blk' hm
    rcases List.mem_cons.1 hm with rfl | hm
    · exact ⟨h.1, h.2.1⟩
    · exact ih h.2.2.2.2.2 blk' hm

theorem unitsOf_length_pos {blk : List (Nat × Nat)} (hne : blk ≠ [])
    (hp : ∀ p ∈ blk, p.1 < 2 ^ 64 ∧ 1 ≤ p.2) : 1 ≤ (unitsOf blk).length := by
  cases blk with
  | nil => exact absurd rfl hne
  | cons p rs =>
    have := runUnits_length_pos p.1 p.2 (hp p (by simp)).1
    rw [unitsOf, List.length_append]; omega

theorem Layout.data_len_gt {v : RL} {blk : List (Nat × Nat)} {more : List (List (Nat × Nat))} {b rank : Nat}
    (h : Layout v b rank (blk :: more)) : 64 * b + (unitsOf blk).length ≤ v.data.len := by
  obtain ⟨h1, h2, h3, ⟨tail, h4⟩, _⟩ := h
  have := congrArg List.length h4
  rw [List.length_drop, IntVec.items_length, List.length_append] at this
  have := unitsOf_length_pos h1 h2
  omega

/-- how the iterator stands before block `b`: its next `peek` reads the first run of that block (either
because it is the initial iterator, or because it sits at the end of block `b - 1`), or — after the last
block — its next `next()` returns `None` -/
def Entry (m : Mode) (v : RL) (it : RunIter) (b rank : Nat) : List (List (Nat × Nat)) → Prop
  | [] => ∃ it', nextQ m v it = ok (none, it') ∧ it'.pos = it.pos
  | blk :: _ => peek m v it = readRun m v it (64 * b) (rank + lens blk)

/-- a whole block entered as `Entry` describes: its first run is read at `off` under the limit `lim` of
the block, the others follow inside the block -/
theorem collect_block (m : Mode) (v : RL) (off0 lim0 rank pos off lim fuel : Nat) (hlim : lim < U64)
    (out : List ((Nat × Nat) × (Nat × Nat))) (e : RunIter) (p : Nat × Nat) (rs : List (Nat × Nat))
    (tail : List Nat)
    (hE : peek m v ⟨off0, (rank, pos), lim0⟩ = readRun m v ⟨off0, (rank, pos), lim0⟩ off lim)
    (hp : ∀ q ∈ p :: rs, q.1 < 2 ^ 64 ∧ 1 ≤ q.2)
    (hd : v.data.items.drop off = unitsOf (p :: rs) ++ tail)
    (hr : rank + lens (p :: rs) ≤ lim) (hs : pos + span (p :: rs) < U64)
    (hc : collect m v fuel
      ⟨off + (unitsOf (p :: rs)).length, (rank + lens (p :: rs), pos + span (p :: rs)), lim⟩ = ok (out, e)) :
    collect m v ((p :: rs).length + fuel) ⟨off0, (rank, pos), lim0⟩ =
      ok (withPos rank (absRuns pos (p :: rs)) ++ out, e) := by
  obtain ⟨hg, hl⟩ := hp p (by simp)
  simp only [unitsOf, lens, span, List.append_assoc] at hd hr hs hc
  have hl' : p.2 - 1 < 2 ^ 64 := by rw [← U64_eq]; omega
  have hstep := nextQ_of_peek_run m v _ _ _ _ (hE.trans
    (readRun_ok m v ⟨off0, (rank, pos), lim0⟩ off lim p.1 p.2 _ hg hl
      (by show pos + p.1 + p.2 < U64; omega) (by show rank + p.2 < U64; omega) hd))
  have hd' : v.data.items.drop (off + codeLen p.1 + codeLen (p.2 - 1)) = unitsOf rs ++ tail := by
    rw [Nat.add_assoc, ← runUnits_length hg hl', ← List.drop_drop, hd, List.drop_left]
  have hin := collect_inBlock m v lim hlim fuel out e rs (off + codeLen p.1 + codeLen (p.2 - 1))
    (rank + p.2) (pos + p.1 + p.2) tail (fun q hq => hp q (List.mem_cons_of_mem _ hq)) hd' (by omega)
    (by omega) (by
      rw [← hc, List.length_append, runUnits_length hg hl']
      congr 2
      · omega
      · congr 1 <;> omega)
  rw [show (p :: rs).length + fuel = rs.length + fuel + 1 by rw [List.length_cons]; omega]
  exact collect_some m v _ _ _ e _ _ hstep hin

/-- the iterator that has just read the last run of block `b` stands before block `b + 1` as `Entry`
requires -/
theorem entry_next (m : Mode) (v : RL) {b rank : Nat} {more : List (List (Nat × Nat))}
    (hmore : Layout v (b + 1) rank more) (it : RunIter) (hr : it.limit ≤ it.pos.1)
    (h1 : 64 * b < it.offset) (h2 : it.offset ≤ 64 * (b + 1)) : Entry m v it (b + 1) rank more := by
  have hblk : (it.offset + 63) / 64 = b + 1 := by omega
  cases more with
  | nil =>
    obtain ⟨k1, -, -⟩ := hmore
    rcases Nat.lt_or_ge it.offset v.data.len with hlt | hge
    · exact ⟨_, nextQ_noMoreBlocks m v _ hlt hr (by omega), rfl⟩
    · exact ⟨_, nextQ_atEnd m v _ hge, rfl⟩
  | cons blk' more' =>
    have hb := Layout.blocks_eq hmore
    have hgt := Layout.data_len_gt hmore
    have hup := unitsOf_length_pos hmore.1 hmore.2.1
    show peek m v _ = readRun m v _ (64 * (b + 1)) _
    rw [peek_nextBlock m v it (by omega) hr (by rw [hb, hblk, List.length_cons]; omega)
      (rank + lens blk') (by rw [hblk]; exact hmore.2.2.2.2.1), hblk, Nat.mul_comm]

theorem collect_layout (m : Mode) (v : RL) :
    ∀ (bl : List (List (Nat × Nat))) (b rank pos : Nat) (it : RunIter),
      Layout v b rank bl → it.pos = (rank, pos) → Entry m v it b rank bl →
      rank + lens bl.flatten < U64 → pos + span bl.flatten < U64 →
      ∃ e, collect m v (bl.flatten.length + 1) it = ok (withPos rank (absRuns pos bl.flatten), e) ∧
        e.pos = (rank + lens bl.flatten, pos + span bl.flatten) := by
  intro bl
  induction bl with
  | nil =>
    intro b rank pos it _ hpos hE _ _
    obtain ⟨it', h1, h2⟩ := hE
    refine ⟨it', ?_, ?_⟩
    · simpa [absRuns, withPos] using collect_none m v 0 it it' h1
    · rw [h2, hpos]; simp [lens, span]
  | cons blk more ih =>
    intro b rank pos it hL hpos hE hrk hsp
    obtain ⟨off, ⟨rank', pos'⟩, lim⟩ := it
    simp only [Prod.mk.injEq] at hpos
    obtain ⟨rfl, rfl⟩ := hpos
    obtain ⟨hne, hp, h64, ⟨tail, hd⟩, -, hmore⟩ := hL
    have hupos := unitsOf_length_pos hne hp
    cases blk with
    | nil => exact absurd rfl hne
    | cons p rs =>
    simp only [List.flatten_cons, lens_append, span_append] at hrk hsp ⊢
    -- the rest of the vector, from the iterator at the end of this block
    obtain ⟨e, he, hepos⟩ := ih (b + 1) (rank' + lens (p :: rs)) (pos' + span (p :: rs))
      ⟨64 * b + (unitsOf (p :: rs)).length, (rank' + lens (p :: rs), pos' + span (p :: rs)),
        rank' + lens (p :: rs)⟩ hmore rfl
      (entry_next m v hmore _ (Nat.le_refl _) (by show 64 * b < 64 * b + _; omega)
        (by show 64 * b + _ ≤ 64 * (b + 1); omega)) (by omega) (by omega)
    have hblk := collect_block m v off lim rank' pos' (64 * b) (rank' + lens (p :: rs))
      (more.flatten.length + 1) (by omega) _ e p rs tail hE hp hd (Nat.le_refl _) (by omega) he
    refine ⟨e, ?_, by rw [hepos, Nat.add_assoc, Nat.add_assoc]⟩
    rw [List.length_append, Nat.add_assoc, hblk, absRuns_append, withPos_append, lensAbs_absRuns]

theorem lens_pos {blk : List (Nat × Nat)} (hne : blk ≠ []) (hp : ∀ p ∈ blk, p.1 < 2 ^ 64 ∧ 1 ≤ p.2) :
    1 ≤ lens blk := by
  cases blk with
  | nil => exact absurd rfl hne
  | cons p rs => have := (hp p (by simp)).2; simp only [lens]; omega

/-- **iteration theorem**: on a vector with block layout `bl`, `run_iter()` followed by `next()` until
`None` yields exactly the runs of `bl` (as absolute `(start, len)`), in both arithmetic modes, and the
iterator ends at `pos = (ones, end of the last run)` -/
theorem runIter_collect (m : Mode) (v : RL) (bl : List (List (Nat × Nat)))
    (hL : Layout v 0 0 bl) (hrk : lens bl.flatten < U64) (hsp : span bl.flatten < U64) :
    ∃ it0 e, v.runIter = ok it0 ∧
      collect m v (bl.flatten.length + 1) it0 = ok (withPos 0 (absRuns 0 bl.flatten), e) ∧
      e.pos = (lens bl.flatten, span bl.flatten) := by
  cases bl with
  | nil =>
    obtain ⟨k1, k2, k3⟩ := hL
    have hr : v.runIter = ok ⟨0, (0, 0), v.ones⟩ := by
      unfold RL.runIter RL.onesAfter; rw [if_neg (by omega)]; rfl
    obtain ⟨e, h1, h2⟩ := collect_layout m v [] 0 0 0 ⟨0, (0, 0), v.ones⟩ ⟨k1, k2, k3⟩ rfl
      ⟨_, nextQ_atEnd m v _ (by show v.data.len ≤ 0; omega), rfl⟩ (by simpa using hrk) (by simpa using hsp)
    exact ⟨_, e, hr, h1, by simpa using h2⟩
  | cons blk more =>
    have hgt := Layout.data_len_gt hL
    have hup := unitsOf_length_pos hL.1 hL.2.1
    have hlp := lens_pos hL.1 hL.2.1
    have hr : v.runIter = ok ⟨0, (0, 0), 0 + lens blk⟩ := by
      unfold RL.runIter; rw [hL.2.2.2.2.1]; rfl
    obtain ⟨e, h1, h2⟩ := collect_layout m v (blk :: more) 0 0 0 ⟨0, (0, 0), 0 + lens blk⟩ hL rfl
      (by
        show peek m v _ = readRun m v _ (64 * 0) (0 + lens blk)
        rw [peek_inBlock m v _ (by show 0 < v.data.len; omega) (by show 0 < 0 + lens blk; omega)])
      (by simpa using hrk) (by simpa using hsp)
    exact ⟨_, e, hr, h1, by simpa using h2⟩

end RunIter

/-! ### runs of a bit sequence built by appending zeros and ones -/

theorem runsOf_false_none (k : Nat) (bs : List Bool) (i : Nat) :
    runsOf (List.replicate k false ++ bs) i none = runsOf bs (i + k) none := by
  induction k generalizing i with
  | zero => rfl
  | succ k ih =>
    rw [List.replicate_succ, List.cons_append, runsOf, ih]; congr 1; omega

theorem runsOf_true_some (k : Nat) (bs : List Bool) (i s l : Nat) :
    runsOf (List.replicate k true ++ bs) i (some (s, l)) = runsOf bs (i + k) (some (s, l + k)) := by
  induction k generalizing i l with
  | zero => rfl
  | succ k ih =>
    rw [List.replicate_succ, List.cons_append, runsOf, ih,
      show i + 1 + k = i + (k + 1) by omega, show l + 1 + k = l + (k + 1) by omega]

theorem runsOf_true_none (k : Nat) (hk : 1 ≤ k) (bs : List Bool) (i : Nat) :
    runsOf (List.replicate k true ++ bs) i none = runsOf bs (i + k) (some (i, k)) := by
  obtain ⟨k, rfl⟩ : ∃ j, k = j + 1 := ⟨k - 1, by omega⟩
  rw [List.replicate_succ, List.cons_append, runsOf, runsOf_true_some,
    show i + 1 + k = i + (k + 1) by omega, show 1 + k = k + 1 by omega]

theorem runsOf_nil (i : Nat) (o : Option (Nat × Nat)) : runsOf [] i o = o.toList := by
  cases o <;> rfl

/-- at least one zero closes the open run, if there is one -/
theorem runsOf_false (k : Nat) (hk : 1 ≤ k) (bs : List Bool) (i : Nat) (o : Option (Nat × Nat)) :
    runsOf (List.replicate k false ++ bs) i o = o.toList ++ runsOf bs (i + k) none := by
  cases o with
  | none => exact runsOf_false_none k bs i
  | some r =>
    obtain ⟨k, rfl⟩ : ∃ j, k = j + 1 := ⟨k - 1, by omega⟩
    rw [List.replicate_succ, List.cons_append, runsOf, runsOf_false_none]
    show r :: _ = r :: _
    congr 2; omega

/-! ## 7b. what the builder writes -/

namespace RunIter

theorem unitsOf_append (a b : List (Nat × Nat)) : unitsOf (a ++ b) = unitsOf a ++ unitsOf b := by
  induction a with
  | nil => rfl
  | cons p a ih => simp [unitsOf, ih]

theorem lens_le_span (a : List (Nat × Nat)) : lens a ≤ span a := by
  induction a with
  | nil => simp [lens, span]
  | cons p a ih => simp only [lens, span]; omega

end RunIter

namespace RLBuilder
open RunIter

/-- validity of a block: every run has a 64-bit gap and a positive length, the codes fit in 64 units -/
def BlockOK (blk : List (Nat × Nat)) : Prop :=
  (∀ p ∈ blk, p.1 < 2 ^ 64 ∧ 1 ≤ p.2) ∧ (unitsOf blk).length ≤ 64

/-- data-level invariant with ghost state: `done` = the completed (padded) blocks, `cur` = the runs of the
block being filled (empty only before the first flush); runs are `(gap, len)` -/
structure DInv (b : RLBuilder) (done : List (List (Nat × Nat))) (cur : List (Nat × Nat)) : Prop where
  valid_done : ∀ blk ∈ done, blk ≠ [] ∧ BlockOK blk
  valid_cur : BlockOK cur
  start : cur = [] → done = []
  size : b.samples.size = done.length + (if cur = [] then 0 else 1)
  done_units : ∀ i (h : i < done.length), ∃ tail, b.data.items.drop (64 * i) = unitsOf done[i] ++ tail
  cur_units : b.data.items.drop (64 * done.length) = unitsOf cur
  data_len : b.data.len = 64 * done.length + (unitsOf cur).length
  samples : ∀ i (h : i < b.samples.size),
    b.samples[i] = (lens (done.take i).flatten, span (done.take i).flatten)
  ones : b.ones - b.run.2 = lens done.flatten + lens cur
  tail : b.tail = span done.flatten + span cur

theorem unitsOf_single (p : Nat × Nat) : unitsOf [p] = runUnits p.1 p.2 := by simp [unitsOf]

theorem blockOK_single {p : Nat × Nat} (hp : p.1 < 2 ^ 64 ∧ 1 ≤ p.2) (hU : (runUnits p.1 p.2).length ≤ 64) :
    BlockOK [p] :=
  ⟨fun q hq => by rw [List.mem_singleton.1 hq]; exact hp, by rw [unitsOf_single]; exact hU⟩

end RLBuilder

/-! ### the data-level invariant that is walked through `flush`

`PInv` says everything `DInv` says and, beyond it, what the data are EXACTLY: the completed blocks, each padded with `0`
units to 64 units, followed by the codes of `cur`; and that a new block was only started when the next run did not fit
(`NoFit`).  `DInv` is a projection (`PInv.dinv`). -/

namespace Format2
open RunIter RLBuilder

abbrev Blocks := List (List (Nat × Nat))

/-- a completed block: its codes, padded with `0` to 64 units -/
def padBlk (blk : List (Nat × Nat)) : List Nat :=
  unitsOf blk ++ List.replicate (64 - (unitsOf blk).length) 0

def padAll : Blocks → List Nat
  | [] => []
  | blk :: more => padBlk blk ++ padAll more

/-- the first run of every block but the first did not fit into the preceding block -/
def NoFit : Blocks → Prop
  | [] => True
  | [_] => True
  | a :: b :: rest =>
    (∃ p rs, b = p :: rs ∧ 64 < (unitsOf a).length + (runUnits p.1 p.2).length) ∧ NoFit (b :: rest)

theorem padBlk_length {blk : List (Nat × Nat)} (h : (unitsOf blk).length ≤ 64) : (padBlk blk).length = 64 := by
  unfold padBlk; rw [List.length_append, List.length_replicate]; omega

theorem padAll_length : ∀ (done : Blocks), (∀ blk ∈ done, (unitsOf blk).length ≤ 64) →
    (padAll done).length = 64 * done.length
  | [], _ => rfl
  | blk :: more, h => by
    rw [padAll, List.length_append, padBlk_length (h blk (by simp)),
      padAll_length more (fun x hx => h x (by simp [hx])), List.length_cons]
    omega

theorem padAll_append (a b : Blocks) : padAll (a ++ b) = padAll a ++ padAll b := by
  induction a with
  | nil => rfl
  | cons x a ih => simp only [List.cons_append, padAll, ih, List.append_assoc]

theorem noFit_snoc : ∀ (l : Blocks) (a b : List (Nat × Nat)), NoFit (l ++ [a]) →
    (∃ p rs, b = p :: rs ∧ 64 < (unitsOf a).length + (runUnits p.1 p.2).length) → NoFit (l ++ [a] ++ [b])
  | [], _, _, _, hc => ⟨hc, trivial⟩
  | [_], _, _, h, hc => ⟨h.1, hc, trivial⟩
  | _ :: y :: l, a, b, h, hc => ⟨h.1, noFit_snoc (y :: l) a b h.2 hc⟩

/-- appending a run to the last (non-empty) block keeps `NoFit`: only the head of the last block matters -/
theorem noFit_last : ∀ (l : Blocks) (p q : Nat × Nat) (rs : List (Nat × Nat)), NoFit (l ++ [p :: rs]) →
    NoFit (l ++ [p :: (rs ++ [q])])
  | [], _, _, _, _ => trivial
  | [x], p, q, rs, h => by
    obtain ⟨⟨p', rs', e, hlt⟩, _⟩ := h
    injection e with e1 e2
    exact ⟨⟨p, rs ++ [q], rfl, by rw [e1]; exact hlt⟩, trivial⟩
  | x :: y :: l, p, q, rs, h => ⟨h.1, noFit_last (y :: l) p q rs h.2⟩

structure PInv (b : RLBuilder) (done : Blocks) (cur : List (Nat × Nat)) : Prop where
  valid_done : ∀ blk ∈ done, blk ≠ [] ∧ BlockOK blk
  valid_cur : BlockOK cur
  start : cur = [] → done = []
  size : b.samples.size = done.length + (if cur = [] then 0 else 1)
  items : b.data.items = padAll done ++ unitsOf cur
  samples : ∀ i (h : i < b.samples.size),
    b.samples[i] = (lens (done.take i).flatten, span (done.take i).flatten)
  ones : b.ones - b.run.2 = lens done.flatten + lens cur
  tail : b.tail = span done.flatten + span cur
  nofit : NoFit (done ++ [cur])

theorem pinv_empty : PInv {} [] [] := by
  refine ⟨by simp, ⟨by simp, by simp [unitsOf]⟩, fun _ => rfl, rfl, by decide, ?_, rfl, rfl, trivial⟩
  intro i h; exact absurd h (Nat.not_lt_zero _)

theorem PInv.data_len {b : RLBuilder} {done : Blocks} {cur : List (Nat × Nat)} (h : PInv b done cur) :
    b.data.len = 64 * done.length + (unitsOf cur).length := by
  rw [← IntVec.items_length, h.items, List.length_append,
    padAll_length done (fun blk hb => (h.valid_done blk hb).2.2)]

theorem pinv_congr {b b' : RLBuilder} {done : Blocks} {cur : List (Nat × Nat)}
    (h : PInv b done cur) (h1 : b'.samples = b.samples) (h2 : b'.data = b.data)
    (h3 : b'.ones - b'.run.2 = b.ones - b.run.2) (h4 : b'.tail = b.tail) : PInv b' done cur := by
  obtain ⟨d1, d2, d3, d4, d5, d6, d7, d8, d9⟩ := h
  refine ⟨d1, d2, d3, by rw [h1]; exact d4, by rw [h2]; exact d5, ?_, by rw [h3]; exact d7,
    by rw [h4]; exact d8, d9⟩
  intro i hi
  have hi' : i < b.samples.size := by rw [← h1]; exact hi
  rw [← d6 i hi']; simp [h1]

theorem blockOK_snoc {cur : List (Nat × Nat)} {p : Nat × Nat} (hc : BlockOK cur) (hp : p.1 < 2 ^ 64 ∧ 1 ≤ p.2)
    (hfit : (unitsOf cur).length + (runUnits p.1 p.2).length ≤ 64) : BlockOK (cur ++ [p]) := by
  refine ⟨fun q hq => ?_, by rw [unitsOf_append, unitsOf_single, List.length_append]; exact hfit⟩
  rcases List.mem_append.1 hq with hq | hq
  · exact hc.1 q hq
  · rw [List.mem_singleton.1 hq]; exact hp

/-- the samples after a `push`, when the old ones and the new one follow the same rule `f` -/
theorem samples_push {S S' : Array (Nat × Nat)} {x : Nat × Nat} {f : Nat → Nat × Nat} (hs : S' = S.push x)
    (h : ∀ i (hi : i < S.size), S[i] = f i) (hx : x = f S.size) : ∀ i (hi : i < S'.size), S'[i] = f i := by
  subst hs
  intro i hi
  rw [Array.getElem_push]
  split
  · exact h i _
  · rw [hx, show i = S.size by rw [Array.size_push] at hi; omega]

/-- the run `p` is appended to the current block: its code fits below the end of the last sampled block -/
theorem PInv.append_run {b b' : RLBuilder} {done : Blocks} {cur : List (Nat × Nat)} {p : Nat × Nat}
    (h : PInv b done cur) (hp : p.1 < 2 ^ 64 ∧ 1 ≤ p.2)
    (hfit : b.data.len + (runUnits p.1 p.2).length ≤ b.samples.size * 64)
    (hs : b'.samples = b.samples) (hi : b'.data.items = b.data.items ++ runUnits p.1 p.2)
    (ho : b'.ones - b'.run.2 = b.ones - b.run.2 + p.2) (ht : b'.tail = b.tail + p.1 + p.2) :
    PInv b' done (cur ++ [p]) := by
  have hdl := h.data_len
  have hsz := h.size
  have hru := runUnits_length_bounds p.1 p.2
  have hcur : cur ≠ [] := by
    intro hc
    rw [if_pos hc] at hsz
    rw [h.start hc] at hsz hdl
    simp only [List.length_nil] at hsz hdl
    omega
  rw [if_neg hcur] at hsz
  have hne : cur ++ [p] ≠ [] := by simp
  refine ⟨h.valid_done, blockOK_snoc h.valid_cur hp (by omega), fun hc => absurd hc hne, ?_, ?_, ?_, ?_, ?_, ?_⟩
  · rw [hs, if_neg hne, hsz]
  · rw [hi, h.items, unitsOf_append, unitsOf_single, List.append_assoc]
  · intro i hi'
    rw [getElem_congr_coll hs]
    exact h.samples i (hs ▸ hi')
  · rw [ho, h.ones, lens_append]; simp only [lens]; omega
  · rw [ht, h.tail, span_append]; simp only [span]; omega
  · obtain ⟨q, rs, rfl⟩ := List.exists_cons_of_ne_nil hcur
    exact noFit_last done q p rs h.nofit

/-- the completed blocks once the current one is closed (there is nothing to close before the first flush) -/
def closed (done : Blocks) (cur : List (Nat × Nat)) : Blocks := if cur = [] then done else done ++ [cur]

theorem closed_flatten (done : Blocks) (cur : List (Nat × Nat)) : (closed done cur).flatten = done.flatten ++ cur := by
  unfold closed; split
  · next h => rw [h, List.append_nil]
  · simp

theorem closed_take (done : Blocks) (cur : List (Nat × Nat)) {i : Nat} (hi : i ≤ done.length) :
    (closed done cur).take i = done.take i := by
  unfold closed; split
  · rfl
  · rw [List.take_append_of_le_length hi]

theorem PInv.closed_valid {b : RLBuilder} {done : Blocks} {cur : List (Nat × Nat)} (h : PInv b done cur) :
    ∀ blk ∈ closed done cur, blk ≠ [] ∧ BlockOK blk := by
  intro blk hb
  unfold closed at hb
  split at hb
  · exact h.valid_done blk hb
  · next hcur =>
    rcases List.mem_append.1 hb with hb | hb
    · exact h.valid_done blk hb
    · rw [List.mem_singleton.1 hb]; exact ⟨hcur, h.valid_cur⟩

/-- what a new block starts from: the data padded up to the end of the last sampled block are the closed blocks, and the
sample pushed for it counts them -/
theorem PInv.close {b : RLBuilder} {done : Blocks} {cur : List (Nat × Nat)} (h : PInv b done cur) :
    b.samples.size = (closed done cur).length ∧
    b.data.items ++ List.replicate (b.samples.size * 64 - b.data.len) 0 = padAll (closed done cur) ∧
    (b.ones - b.run.2, b.tail) = (lens (closed done cur).flatten, span (closed done cur).flatten) := by
  have hdl := h.data_len
  have hsz := h.size
  refine ⟨?_, ?_, by rw [closed_flatten, lens_append, span_append, h.ones, h.tail]⟩
  · unfold closed; split <;> simp_all
  · unfold closed
    by_cases hcur : cur = []
    · have hdn := h.start hcur
      subst hcur hdn
      rw [if_pos rfl, h.items, show b.samples.size = 0 from hsz]; simp [padAll, unitsOf]
    · rw [if_neg hcur] at hsz ⊢
      rw [show b.samples.size * 64 - b.data.len = 64 - (unitsOf cur).length by omega, h.items, padAll_append]
      simp only [padAll, padBlk, List.append_nil, List.append_assoc]

/-- the run `p` starts a block: its code does not fit below the end of the last sampled block, the data is padded
up to there and the sample of the new block is pushed -/
theorem PInv.new_block {b b' : RLBuilder} {done : Blocks} {cur : List (Nat × Nat)} {p : Nat × Nat}
    (h : PInv b done cur) (hp : p.1 < 2 ^ 64 ∧ 1 ≤ p.2)
    (hnofit : b.samples.size * 64 < b.data.len + (runUnits p.1 p.2).length)
    (hs : b'.samples = b.samples.push (b.ones - b.run.2, b.tail))
    (hi : b'.data.items =
      b.data.items ++ List.replicate (b.samples.size * 64 - b.data.len) 0 ++ runUnits p.1 p.2)
    (ho : b'.ones - b'.run.2 = b.ones - b.run.2 + p.2) (ht : b'.tail = b.tail + p.1 + p.2) :
    PInv b' (closed done cur) [p] := by
  obtain ⟨csz, cpad, ccum⟩ := h.close
  have hdl := h.data_len
  have hsz := h.size
  have hru := runUnits_length_bounds p.1 p.2
  have hcl := closed_flatten done cur
  refine ⟨h.closed_valid, blockOK_single hp (by omega), fun hc => absurd hc (List.cons_ne_nil _ _), ?_, ?_, ?_, ?_,
    ?_, ?_⟩
  · rw [hs, Array.size_push, csz]; simp
  · rw [hi, cpad, unitsOf_single]
  · refine samples_push hs (fun i hi => ?_) (by rw [ccum, csz, List.take_of_length_le (Nat.le_refl _)])
    rw [h.samples i hi, closed_take done cur (by split at hsz <;> omega)]
  · rw [ho, h.ones, hcl, lens_append]; rfl
  · rw [ht, h.tail, hcl, span_append]; simp only [span]; omega
  · unfold closed
    by_cases hcur : cur = []
    · rw [if_pos hcur, h.start hcur]; trivial
    · rw [if_neg hcur] at hsz ⊢
      exact noFit_snoc done cur [p] h.nofit ⟨p, [], rfl, by omega⟩

theorem padAll_drop : ∀ (done : Blocks) (i : Nat) (hi : i < done.length), (∀ blk ∈ done, (unitsOf blk).length ≤ 64) →
    ∀ rest, ∃ tail, (padAll done ++ rest).drop (64 * i) = unitsOf done[i] ++ tail
  | blk :: more, 0, _, _, rest => ⟨_, by simp only [padAll, padBlk, List.append_assoc]; rfl⟩
  | blk :: more, i + 1, hi, hv, rest => by
    obtain ⟨tail, ht⟩ := padAll_drop more i (by simpa using hi) (fun x hx => hv x (by simp [hx])) rest
    refine ⟨tail, ?_⟩
    rw [show 64 * (i + 1) = 64 + 64 * i by omega, ← List.drop_drop, padAll, List.append_assoc,
      List.drop_left' (padBlk_length (hv blk (by simp)))]
    simpa using ht

theorem PInv.dinv {b : RLBuilder} {done : Blocks} {cur : List (Nat × Nat)} (h : PInv b done cur) : DInv b done cur := by
  have h64 : ∀ blk ∈ done, (unitsOf blk).length ≤ 64 := fun blk hb => (h.valid_done blk hb).2.2
  refine ⟨h.valid_done, h.valid_cur, h.start, h.size, fun i hi => ?_, ?_, h.data_len, h.samples, h.ones, h.tail⟩
  · rw [h.items]; exact padAll_drop done i hi h64 _
  · rw [h.items, List.drop_left' (padAll_length done h64)]

theorem _root_.Sds.RLBuilder.dinv_empty : DInv {} [] [] := pinv_empty.dinv

/-- the data of a finished vector: every block but the last padded to 64 units, the last one not padded -/
def padLast : Blocks → List Nat
  | [] => []
  | [a] => unitsOf a
  | a :: b :: r => padBlk a ++ padLast (b :: r)

theorem padLast_snoc : ∀ (d : Blocks) (c : List (Nat × Nat)), padLast (d ++ [c]) = padAll d ++ unitsOf c
  | [], c => rfl
  | [a], c => by simp [padLast, padAll]
  | a :: b :: r, c => by
    have := padLast_snoc (b :: r) c
    simp only [List.cons_append, padLast, padAll, List.append_assoc] at this ⊢
    rw [this]

theorem padLast_cons_units (a : List (Nat × Nat)) (r : Blocks) : ∃ rest, padLast (a :: r) = unitsOf a ++ rest := by
  cases r with
  | nil => exact ⟨[], by simp [padLast]⟩
  | cons b r => exact ⟨_, by simp only [padLast, padBlk, List.append_assoc]; rfl⟩

theorem padLast_drop : ∀ (bl : Blocks) (i : Nat), (∀ blk ∈ bl, (unitsOf blk).length ≤ 64) → i ≤ bl.length →
    (padLast bl).drop (64 * i) = padLast (bl.drop i)
  | bl, 0, _, _ => by simp
  | [], i + 1, _, h => by simp at h
  | [a], i + 1, hv, h => by
    have hi : i = 0 := by simpa using h
    subst hi
    simp only [padLast, List.drop_succ_cons, List.drop_zero]
    exact List.drop_eq_nil_of_le (by have := hv a (by simp); omega)
  | a :: b :: r, i + 1, hv, h => by
    have hl := padBlk_length (hv a (by simp))
    simp only [padLast, List.drop_succ_cons]
    rw [show 64 * (i + 1) = 64 + 64 * i by omega, ← List.drop_drop, List.drop_left' hl]
    exact padLast_drop (b :: r) i (fun x hx => hv x (by simp [hx])) (by simpa using h)

theorem padLast_length_le (bl : Blocks) (hv : ∀ blk ∈ bl, (unitsOf blk).length ≤ 64) :
    (padLast bl).length ≤ 64 * bl.length := by
  have := padLast_drop bl bl.length hv (Nat.le_refl _)
  rw [List.drop_length] at this
  exact List.drop_eq_nil_iff.mp this


theorem padLast_units (bl : Blocks) (h64 : ∀ blk ∈ bl, (unitsOf blk).length ≤ 64) (i : Nat) (hi : i < bl.length) :
    ∃ tail, (padLast bl).drop (64 * i) = unitsOf bl[i] ++ tail := by
  obtain ⟨rest, hrest⟩ := padLast_cons_units bl[i] (bl.drop (i + 1))
  exact ⟨rest, by rw [padLast_drop bl i h64 (Nat.le_of_lt hi), List.drop_eq_getElem_cons hi, hrest]⟩

/-- the blocks of a builder without pending run are `closed done cur`: the samples are their prefix sums `(ones, bits)`,
the data are the blocks, all but the last padded -/
theorem PInv.flushed {b : RLBuilder} {done : Blocks} {cur : List (Nat × Nat)} (h : PInv b done cur) (hr : b.run.2 = 0) :
    b.samples.toList = (List.range (closed done cur).length).map
      (fun i => (lens ((closed done cur).take i).flatten, span ((closed done cur).take i).flatten)) ∧
    b.data.items = padLast (closed done cur) ∧ NoFit (closed done cur) ∧
    b.ones = lens (closed done cur).flatten ∧ b.tail = span (closed done cur).flatten := by
  obtain ⟨csz, _, ccum⟩ := h.close
  have hsz := h.size
  rw [hr] at ccum
  injection ccum with c1 c2
  refine ⟨?_, ?_, ?_, c1, c2⟩
  · apply List.ext_getElem
    · rw [Array.length_toList, csz, List.length_map, List.length_range]
    · intro i h1 _
      have hi : i < b.samples.size := by simpa using h1
      rw [Array.getElem_toList, h.samples i hi, List.getElem_map, List.getElem_range,
        closed_take done cur (by split at hsz <;> omega)]
  · unfold closed
    by_cases hcur : cur = []
    · rw [if_pos hcur, h.items, h.start hcur, hcur]; rfl
    · rw [if_neg hcur, padLast_snoc, h.items]
  · unfold closed
    split
    · next hcur => rw [h.start hcur]; trivial
    · exact h.nofit

end Format2

namespace RLBuilder
open RunIter Format2 RLCanon

/-- the pending run of a builder in the relative encoding -/
def pendRel (b : RLBuilder) : List (Nat × Nat) := if b.run.2 = 0 then [] else [(b.run.1 - b.tail, b.run.2)]

/-- **`flush` under the invariants** (both modes): it succeeds, keeps `Inv`, parks the empty pending run at `len`, and the
pending run — relative to the last flushed one — goes to the current block or starts a new one; on the `IntVec` level the
core is the old one with the pending run pushed -/
theorem flush_step (m : Mode) {b : RLBuilder} {done : Format2.Blocks} {cur : List (Nat × Nat)} (h : b.Inv)
    (hd : PInv b done cur) :
    ∃ b' done' cur', b.flush m = ok b' ∧ b'.Inv ∧ PInv b' done' cur' ∧
      b'.len = b.len ∧ b'.ones = b.ones ∧ b'.run = (b.len, 0) ∧
      done'.flatten ++ cur' = done.flatten ++ cur ++ pendRel b ∧
      coreOf b' = (if b.run.2 = 0 then coreOf b else (coreOf b).push b.run) := by
  have hre := h.run_end
  unfold pendRel
  by_cases hr : b.run.2 = 0
  · have e : b.flush m = ok b := by unfold flush; rw [if_pos hr]
    exact ⟨b, done, cur, e, h, hd, rfl, rfl, Prod.ext (by show b.run.1 = b.len; omega) hr, by simp [hr],
      by rw [if_pos hr]⟩
  obtain ⟨b', e, l1, l2, l3, l4, _, _, hcore, hcase⟩ := flush_run m h hr
  have hi' := flush_inv m h e
  have hp : b.run.1 - b.tail < 2 ^ 64 ∧ 1 ≤ b.run.2 := ⟨h.gap_lt, by omega⟩
  have ho : b'.ones - b'.run.2 = b.ones - b.run.2 + b.run.2 := by
    have := h.run_le_ones; rw [l3, l2]; show b.ones - 0 = _; omega
  have ht : b'.tail = b.tail + (b.run.1 - b.tail) + b.run.2 := by have := h.tail_le; omega
  rw [if_neg hr]
  rcases hcase with ⟨c1, c2, c3⟩ | ⟨c1, c2, c3⟩
  · exact ⟨b', done, cur ++ [(b.run.1 - b.tail, b.run.2)], e, hi', hd.append_run hp c1 c2 c3 ho ht, l1, l2, l3,
      by rw [List.append_assoc], by rw [if_neg hr]; exact hcore⟩
  · exact ⟨b', closed done cur, [_], e, hi', hd.new_block (p := (b.run.1 - b.tail, b.run.2)) hp c1 c2 c3 ho ht,
      l1, l2, l3, by rw [closed_flatten], by rw [if_neg hr]; exact hcore⟩

/-- **the last `flush` of a builder**: the flushed builder is ONE list of blocks `bl`, the flushed runs followed by the
pending one; the samples are the prefix sums `(ones, bits)` of `bl`, the data its codes, every block but the last padded -/
theorem flush_blocks (m : Mode) {b : RLBuilder} {done : Format2.Blocks} {cur : List (Nat × Nat)} (h : b.Inv)
    (hd : PInv b done cur) :
    ∃ b' bl, b.flush m = ok b' ∧ b'.Inv ∧ b'.len = b.len ∧ b'.ones = b.ones ∧
      bl.flatten = done.flatten ++ cur ++ pendRel b ∧ (∀ blk ∈ bl, blk ≠ [] ∧ BlockOK blk) ∧ NoFit bl ∧
      b'.samples.toList = (List.range bl.length).map
        (fun i => (lens (bl.take i).flatten, span (bl.take i).flatten)) ∧
      b'.data.items = padLast bl ∧ b'.ones = lens bl.flatten ∧ span bl.flatten ≤ b'.len := by
  obtain ⟨b', done', cur', e, hi', hd', l1, l2, l3, hfl, _⟩ := flush_step m h hd
  obtain ⟨hsl, hitems, hnf, hones, htail⟩ := hd'.flushed (by rw [l3])
  have := hi'.tail_le; have := hi'.run_end
  exact ⟨b', closed done' cur', e, hi', l1, l2, by rw [closed_flatten, hfl], hd'.closed_valid, hnf, hsl, hitems, hones,
    by omega⟩

/-- the pending run as the open run of `runsOf` -/
def pend (b : RLBuilder) : Option (Nat × Nat) := if b.run.2 = 0 then none else some b.run

/-- the runs a `flush` has written, as absolute runs: the earlier ones and the pending one -/
theorem absRuns_pend {b : RLBuilder} {done : Format2.Blocks} {cur : List (Nat × Nat)}
    (hi : b.Inv) (hd : PInv b done cur) :
    absRuns 0 (done.flatten ++ cur ++ pendRel b) = absRuns 0 (done.flatten ++ cur) ++ (pend b).toList := by
  unfold pend pendRel
  by_cases hr0 : b.run.2 = 0
  · rw [if_pos hr0, if_pos hr0, Option.toList_none, List.append_nil, List.append_nil]
  · have := hi.tail_le
    rw [if_neg hr0, if_neg hr0, absRuns_append, span_append, ← hd.tail]
    simp only [absRuns]
    rw [show 0 + b.tail + (b.run.1 - b.tail) = b.run.1 by omega]; rfl

/-- ones appended right at `len` extend the pending run, or open it -/
theorem runsOf_true_pend {b : RLBuilder} (hi : b.Inv) (k : Nat) (hk : 1 ≤ k) (bs : List Bool) :
    runsOf (List.replicate k true ++ bs) b.len (pend b) =
      runsOf bs (b.len + k) (some (b.run.1, b.run.2 + k)) := by
  unfold pend
  by_cases hr0 : b.run.2 = 0
  · have := hi.run_end
    rw [if_pos hr0, runsOf_true_none k hk, hr0, Nat.zero_add, show b.run.1 = b.len by omega]
  · rw [if_neg hr0, show b.run = (b.run.1, b.run.2) from rfl, runsOf_true_some]

/-- the bits appended by `set_len(n)`: zeros up to the new length (nothing when `n ≤ len`) -/
def setLenBits (b : RLBuilder) (n : Nat) : List Bool := List.replicate (n - b.len) false

end RLBuilder

namespace RLCanon
open RLBuilder

/-- flushed runs after `flush`: the pending run, if any, is appended -/
def flushedAfter (b : RLBuilder) (F : List (Nat × Nat)) : List (Nat × Nat) :=
  F ++ (pend b).toList

theorem core_flushedAfter {b : RLBuilder} {F : List (Nat × Nat)} (hc : coreOf b = Core.ofRuns F) :
    (if b.run.2 = 0 then coreOf b else (coreOf b).push b.run) = Core.ofRuns (flushedAfter b F) := by
  unfold flushedAfter pend
  split
  · rw [hc, Option.toList_none, List.append_nil]
  · rw [Option.toList_some, Core.ofRuns_concat, hc]

/-- **the builder is determined by the described bits.**  `B` = the bit sequence described so far, `F` = the runs
flushed so far (absolute): the core of the builder is the pure fold over `F`, and the maximal runs of `B`, however `B`
is continued, are `F` followed by the pending run, which is still open -/
structure Canon (b : RLBuilder) (B : List Bool) (F : List (Nat × Nat)) : Prop where
  inv : b.Inv
  len : B.length = b.len
  ones : B.count true = b.ones
  core : coreOf b = Core.ofRuns F
  runs : ∀ bs, runsOf (B ++ bs) 0 none = F ++ runsOf bs b.len (pend b)

/-- a run adjacent to the pending one extends it: no run is closed, nothing is flushed -/
theorem Canon.adjacent {b : RLBuilder} {B : List Bool} {F : List (Nat × Nat)} (h : Canon b B F) {len : Nat}
    (hz : len ≠ 0) (hfit : b.len + len < U64) :
    Canon { b with len := b.len + len, ones := b.ones + len, run := (b.run.1, b.run.2 + len) }
      (B ++ List.replicate len true) F := by
  have hi := h.inv
  have := hi.ones_le; have := hi.run_end; have := hi.run_le_ones; have := hi.flushed_le
  refine ⟨hi.set_run hi.tail_le (by omega) (by omega) (by omega) hfit, ?_, ?_,
    h.core ▸ coreOf_congr rfl rfl (by show b.ones + len - (b.run.2 + len) = _; omega) rfl, fun bs => ?_⟩
  · rw [List.length_append, h.len, List.length_replicate]
  · rw [List.count_append, h.ones, List.count_replicate]; rfl
  · rw [List.append_assoc, h.runs, runsOf_true_pend hi len (by omega)]
    unfold pend
    rw [if_neg (show ¬ b.run.2 + len = 0 by omega)]

/-- `set_len` beyond `len`, given what `flush` returned (`b1`): the zeros close the pending run -/
theorem Canon.zeros {b b1 : RLBuilder} {B : List Bool} {F : List (Nat × Nat)} (h : Canon b B F) {n : Nat}
    (hc : b.len < n) (l2 : b1.ones = b.ones) (l3 : b1.run.2 = 0)
    (hcore : coreOf b1 = (if b.run.2 = 0 then coreOf b else (coreOf b).push b.run))
    (hinv : ({ b1 with len := n, run := (n, 0) } : RLBuilder).Inv) :
    Canon { b1 with len := n, run := (n, 0) } (B ++ setLenBits b n) (flushedAfter b F) := by
  refine ⟨hinv, ?_, ?_, ?_, fun bs => ?_⟩
  · rw [List.length_append, h.len, setLenBits, List.length_replicate]
    show b.len + (n - b.len) = n; omega
  · rw [List.count_append, h.ones, setLenBits, List.count_replicate]; exact l2.symm
  · rw [coreOf_congr (b := b1) (b' := { b1 with len := n, run := (n, 0) }) rfl rfl
      (by show b1.ones - 0 = b1.ones - b1.run.2; omega) rfl, hcore, core_flushedAfter h.core]
  · rw [setLenBits, List.append_assoc, h.runs, runsOf_false _ (by omega), ← List.append_assoc,
      show b.len + (n - b.len) = n by omega]
    rfl

end RLCanon

namespace RLBuilder
open RunIter Format2 RLCanon

/-- **everything that is known about a builder reached by accepted calls.**  `B` = the bits described so far; `done`,
`cur` = the blocks of runs `(gap, len)` flushed so far, the last one still open.  The data are exactly these blocks
(`PInv`), and the flushed runs, as absolute runs, determine the builder (`Canon`, which also holds `Inv`). -/
structure Hist (b : RLBuilder) (B : List Bool) (done : Format2.Blocks) (cur : List (Nat × Nat)) : Prop where
  pinv : PInv b done cur
  canon : Canon b B (absRuns 0 (done.flatten ++ cur))

theorem hist_empty : Hist {} [] [] [] :=
  ⟨pinv_empty, inv_empty, rfl, rfl, rfl, fun bs => by simp [absRuns, pend]⟩

theorem Hist.inv {b : RLBuilder} {B : List Bool} {done : Format2.Blocks} {cur : List (Nat × Nat)}
    (h : Hist b B done cur) : b.Inv := h.canon.inv

theorem Hist.maximalRuns_eq {b : RLBuilder} {B : List Bool} {done : Format2.Blocks} {cur : List (Nat × Nat)}
    (h : Hist b B done cur) : absRuns 0 (done.flatten ++ cur ++ pendRel b) = maximalRuns B := by
  have := h.canon.runs []
  rw [List.append_nil, runsOf_nil] at this
  rw [maximalRuns, this, absRuns_pend h.inv h.pinv]

/-- a run adjacent to the pending one: nothing is flushed -/
theorem Hist.adjacent {b : RLBuilder} {B : List Bool} {done : Format2.Blocks} {cur : List (Nat × Nat)}
    (h : Hist b B done cur) {len : Nat} (hz : len ≠ 0) (hfit : b.len + len < U64) :
    Hist { b with len := b.len + len, ones := b.ones + len, run := (b.run.1, b.run.2 + len) }
      (B ++ List.replicate len true) done cur := by
  have := h.inv.run_le_ones
  exact ⟨pinv_congr h.pinv rfl rfl (by show b.ones + len - (b.run.2 + len) = _; omega) rfl, h.canon.adjacent hz hfit⟩

/-- the repaired `set_len` appends zeros to the described bits; the pending run, if any, is flushed -/
theorem Hist.setLen (m : Mode) {b b' : RLBuilder} {B : List Bool} {done : Format2.Blocks} {cur : List (Nat × Nat)}
    (h : Hist b B done cur) (n : Nat) (hn : n < U64) (hs : b.setLen m n = ok b') :
    ∃ done' cur', Hist b' (B ++ setLenBits b n) done' cur' := by
  have hinv' := setLen_inv m h.inv n hn hs
  unfold RLBuilder.setLen at hs
  by_cases hc : n > b.len
  · obtain ⟨b1, done', cur', e, _, hd1, _, l2, l3, hfl, hc1⟩ := flush_step m h.inv h.pinv
    have r2 : b1.run.2 = 0 := by rw [l3]
    rw [if_pos hc, e, bind_ok] at hs
    cases hs
    have d := h.canon.zeros hc l2 r2 hc1 hinv'
    rw [flushedAfter, ← absRuns_pend h.inv h.pinv, ← hfl] at d
    exact ⟨done', cur', pinv_congr hd1 rfl rfl (by show b1.ones - 0 = b1.ones - b1.run.2; omega) rfl, d⟩
  · rw [if_neg hc] at hs; cases hs
    rw [setLenBits, show n - b.len = 0 by omega, List.replicate_zero, List.append_nil]
    exact ⟨done, cur, h⟩

/-- the bits appended by an accepted `try_set(start, len)` -/
def setBits (b : RLBuilder) (start len : Nat) : List Bool :=
  if len = 0 then [] else List.replicate (start - b.len) false ++ List.replicate len true

/-- an accepted `try_set` appends its bits: it is `set_len(start)` followed by a run adjacent to the pending one -/
theorem Hist.trySet (m : Mode) {b b' : RLBuilder} {B : List Bool} {done : Format2.Blocks} {cur : List (Nat × Nat)}
    (h : Hist b B done cur) (start len : Nat) (hlen : len < U64) (hs : b.trySet m start len = ok b') :
    ∃ done' cur', Hist b' (B ++ setBits b start len) done' cur' := by
  by_cases hc : start < b.len ∨ U64 - 1 - len < start
  · rw [trySet_reject m b hc] at hs; cases hs
  by_cases hz : len = 0
  · subst hz
    rw [trySet_zero m b hc] at hs; cases hs
    rw [setBits, if_pos rfl, List.append_nil]; exact ⟨done, cur, h⟩
  rw [setBits, if_neg hz, trySet_setLen m b (by omega) hz (by omega)] at *
  obtain ⟨b1, e1, hs⟩ := Outcome.bind_eq_ok hs
  obtain ⟨done1, cur1, h1⟩ := h.setLen m start (by omega) e1
  have hl1 : start = b1.len := by
    rw [← h1.canon.len, List.length_append, h.canon.len, setLenBits, List.length_replicate]; omega
  rw [trySet_adjacent m h1.inv hl1 hz (by omega)] at hs; cases hs
  rw [← List.append_assoc]
  exact ⟨done1, cur1, h1.adjacent hz (by omega)⟩

end RLBuilder

/-! ## 7c. `From<RLBuilder>` and the layout of the result -/

namespace IntVec

/-- flattened (ones, bits) samples as stored (`w` = item width) -/
def pairsFlat (w : Nat) : List (Nat × Nat) → List Nat
  | [] => []
  | p :: r => (BitVec.ofNat 64 p.1).toNat % 2 ^ w :: (BitVec.ofNat 64 p.2).toNat % 2 ^ w :: pairsFlat w r

theorem push2_spec (sl : List (Nat × Nat)) : ∀ {s0 : IntVec}, s0.WF →
    let s := sl.foldl (fun s p => (s.push (BitVec.ofNat 64 p.1)).push (BitVec.ofNat 64 p.2)) s0
    s.WF ∧ s.width = s0.width ∧ s.len = s0.len + 2 * sl.length ∧
      s.items = s0.items ++ pairsFlat s0.width sl := by
  induction sl with
  | nil => intro s0 h; simp [h, pairsFlat]
  | cons p r ih =>
    intro s0 h
    have h1 := push_WF h (BitVec.ofNat 64 p.1)
    have h2 := push_WF h1 (BitVec.ofNat 64 p.2)
    obtain ⟨a, b, c, e⟩ := ih h2
    simp only [List.foldl_cons]
    refine ⟨a, by rw [b]; rfl, by rw [c]; simp; omega, ?_⟩
    rw [e, items_push h1, items_push h]
    simp [pairsFlat]

theorem pairsFlat_getElem? (w : Nat) : ∀ (sl : List (Nat × Nat)) (i : Nat) (h : i < sl.length),
    (pairsFlat w sl)[2 * i]? = some ((BitVec.ofNat 64 sl[i].1).toNat % 2 ^ w) ∧
    (pairsFlat w sl)[2 * i + 1]? = some ((BitVec.ofNat 64 sl[i].2).toNat % 2 ^ w) := by
  intro sl
  induction sl with
  | nil => intro i h; simp at h
  | cons p r ih =>
    intro i h
    cases i with
    | zero => simp [pairsFlat]
    | succ i =>
      have := ih i (by simpa using h)
      simp only [pairsFlat, show 2 * (i + 1) = 2 * i + 1 + 1 by omega, List.getElem?_cons_succ,
        List.getElem_cons_succ]
      exact this

end IntVec

namespace RL
open RunIter RLBuilder

/-- everything `From<RLBuilder>` computes, whenever it succeeds -/
theorem ofBuilder_steps (m : Mode) {b : RLBuilder} {v : RL} (h : ofBuilder m b = ok v) :
    ∃ b' w zs zeros, b.flush m = ok b' ∧ v.len = b'.len ∧ v.ones = b'.ones ∧ v.data = b'.data ∧
      1 ≤ w ∧ w ≤ 64 ∧
      w = bitLen (BitVec.ofNat 64 ((b'.samples.toList.getLast?.map (·.2)).getD 0)) ∧
      v.samples = b'.samples.toList.foldl
        (fun s p => (s.push (BitVec.ofNat 64 p.1)).push (BitVec.ofNat 64 p.2)) ⟨0, w, RawVec.empty⟩ ∧
      SampleIndex.new m (b'.samples.toList.map (·.2)) b'.len = ok v.rankIndex ∧
      SampleIndex.new m (b'.samples.toList.map (·.1)) b'.ones = ok v.selectIndex ∧
      subM m b'.len b'.ones = ok zeros ∧
      b'.samples.toList.mapM (fun p => subM m p.2 p.1) = ok zs ∧
      SampleIndex.new m zs zeros = ok v.selectZeroIndex := by
  unfold ofBuilder at h
  obtain ⟨b', hb', h⟩ := Outcome.bind_eq_ok h
  obtain ⟨ri, hri, h⟩ := Outcome.bind_eq_ok h
  obtain ⟨si, hsi, h⟩ := Outcome.bind_eq_ok h
  obtain ⟨zeros, hz, h⟩ := Outcome.bind_eq_ok h
  obtain ⟨zs, hzs, h⟩ := Outcome.bind_eq_ok h
  obtain ⟨zi, hzi, h⟩ := Outcome.bind_eq_ok h
  obtain ⟨smp0, h0, h⟩ := Outcome.bind_eq_ok h
  obtain ⟨x, hx, h0⟩ : ∃ x, x = (b'.samples.toList.getLast?.map (·.2)).getD 0 ∧
      IntVec.withCapacity (2 * b'.samples.toList.length) (bitLen (BitVec.ofNat 64 x)) = ok smp0 := by
    cases hgl : b'.samples.toList.getLast? <;> simp only [hgl] at h0 <;> exact ⟨_, rfl, h0⟩
  subst hx
  unfold IntVec.withCapacity IntVec.new at h0
  split at h0
  · cases h0
  · injection h0 with h0; subst h0
    injection h with h; subst h
    exact ⟨b', _, zs, zeros, hb', rfl, rfl, rfl, by omega, by omega, rfl, rfl, hri, hsi, hz, hzs, hzi⟩

theorem cum_succ (bl : List (List (Nat × Nat))) (i : Nat) (h : i < bl.length) :
    lens (bl.take (i + 1)).flatten = lens (bl.take i).flatten + lens bl[i] := by
  rw [List.take_add_one, List.getElem?_eq_getElem h]
  rw [Option.toList_some, List.flatten_append, lens_append]
  simp only [List.flatten_cons, List.flatten_nil, List.append_nil]

/-! Prefix sums `(lens, span)` over a block list and the count of its blocks: the three sample tables are monotone and
stay below their totals, and a block list whose runs are separated has at most `(span + 1) / 2` blocks. -/

theorem span_take_mono (L : List (List (Nat × Nat))) (j k : Nat) (h : j ≤ k) :
    span (L.take j).flatten ≤ span (L.take k).flatten := by
  rw [show k = j + (k - j) by omega, List.take_add, List.flatten_append, span_append]; omega

theorem lens_take_mono (L : List (List (Nat × Nat))) (j k : Nat) (h : j ≤ k) :
    lens (L.take j).flatten ≤ lens (L.take k).flatten := by
  rw [show k = j + (k - j) by omega, List.take_add, List.flatten_append, lens_append]; omega

/-- zeros before block `i` are non-decreasing in `i` -/
theorem zeros_take_mono (L : List (List (Nat × Nat))) (j k : Nat) (h : j ≤ k) :
    span (L.take j).flatten - lens (L.take j).flatten ≤ span (L.take k).flatten - lens (L.take k).flatten := by
  rw [show k = j + (k - j) by omega, List.take_add, List.flatten_append, span_append, lens_append]
  have a := lens_le_span (L.take j).flatten
  have c := lens_le_span ((L.drop j).take (k - j)).flatten
  omega

theorem span_ge_of_gaps : ∀ (blk : List (Nat × Nat)), (∀ p ∈ blk, 1 ≤ p.1) → lens blk + blk.length ≤ span blk := by
  intro blk
  induction blk with
  | nil => intro _; simp [lens, span]
  | cons p rs ih =>
    intro h
    have := ih (fun q hq => h q (List.mem_cons_of_mem _ hq))
    have := h p (by simp)
    simp only [lens, span, List.length_cons]; omega

theorem two_runs_le_span (rel : List (Nat × Nat)) (hl : ∀ p ∈ rel, 1 ≤ p.2) (hg : ∀ p ∈ rel.tail, 1 ≤ p.1) :
    2 * rel.length ≤ span rel + 1 := by
  cases rel with
  | nil => simp
  | cons q rs =>
    have h1 := span_ge_of_gaps rs hg
    have h2 : rs.length ≤ lens rs := by
      clear h1 hg
      induction rs with
      | nil => simp
      | cons r rs ih =>
        have := ih (fun p hp => hl p (by
          rcases List.mem_cons.mp hp with rfl | hp
          · simp
          · exact List.mem_cons_of_mem _ (List.mem_cons_of_mem _ hp)))
        have := hl r (by simp)
        simp only [lens, List.length_cons]; omega
    have := hl q (by simp)
    simp only [span, List.length_cons]; omega

theorem length_le_flatten (bl : List (List (Nat × Nat))) (h0 : ∀ blk ∈ bl, blk ≠ []) :
    bl.length ≤ bl.flatten.length := by
  induction bl with
  | nil => simp
  | cons b rest ih =>
    have := ih (fun blk hb => h0 blk (List.mem_cons_of_mem _ hb))
    have hb : 1 ≤ b.length := by
      cases b with
      | nil => exact absurd rfl (h0 [] (by simp))
      | cons _ _ => simp
    simp only [List.flatten_cons, List.length_append, List.length_cons]; omega

/-- the block count of such a list: every block holds a run, every run but the first follows an unset bit -/
theorem two_blocks_le_span {bl : List (List (Nat × Nat))}
    (hblk : ∀ blk ∈ bl, blk ≠ [] ∧ ∀ p ∈ blk, p.1 < 2 ^ 64 ∧ 1 ≤ p.2)
    (hgaps : ∀ p ∈ bl.flatten.tail, 1 ≤ p.1) : 2 * bl.length ≤ span bl.flatten + 1 := by
  have h1 := length_le_flatten bl (fun blk hb => (hblk blk hb).1)
  have h2 := two_runs_le_span bl.flatten
    (fun p hp => by
      obtain ⟨blk, hb, hp⟩ := List.mem_flatten.mp hp
      exact ((hblk blk hb).2 p hp).2)
    hgaps
  omega

/-- reading the samples of block `j` back from the packed sample vector: each of the two entries that fits
into the width -/
theorem samples_pairs {sl : List (Nat × Nat)} {w : Nat} (h1 : 1 ≤ w) (h2 : w ≤ 64) :
    let s := sl.foldl (fun s p => (s.push (BitVec.ofNat 64 p.1)).push (BitVec.ofNat 64 p.2))
      (⟨0, w, RawVec.empty⟩ : IntVec)
    s.len = 2 * sl.length ∧
    ∀ j (h : j < sl.length), (sl[j].1 < 2 ^ w → (s.getRaw (2 * j)).toNat = sl[j].1) ∧
      (sl[j].2 < 2 ^ w → (s.getRaw (2 * j + 1)).toNat = sl[j].2) := by
  obtain ⟨-, -, c, e⟩ := IntVec.push2_spec sl (IntVec.empty_WF w h1 h2)
  intro s
  have c' : s.len = 2 * sl.length := by rw [c]; simp
  have he : s.items = IntVec.pairsFlat w sl := by rw [e]; simp [IntVec.items]
  refine ⟨c', fun j hj => ?_⟩
  obtain ⟨p0, p1⟩ := IntVec.pairsFlat_getElem? w sl j hj
  rw [← he, IntVec.items_getElem?, if_pos (by omega)] at p0 p1
  injection p0 with p0
  injection p1 with p1
  exact ⟨fun h => by rw [p0, toNat_ofNat_mod h2 h], fun h => by rw [p1, toNat_ofNat_mod h2 h]⟩

theorem layout_of_blocks (v : RL) (bl : List (List (Nat × Nat))) (cum : Nat → Nat)
    (hb : v.blocks = bl.length) (hones : v.ones = cum bl.length) (hlen : v.data.len ≤ 64 * bl.length)
    (hblk : ∀ i (h : i < bl.length), bl[i] ≠ [] ∧ BlockOK bl[i] ∧
      (∃ tail, v.data.items.drop (64 * i) = unitsOf bl[i] ++ tail) ∧
      v.onesAfter i = ok (cum i + lens bl[i]) ∧ cum (i + 1) = cum i + lens bl[i]) :
    ∀ k, k ≤ bl.length → Layout v (bl.length - k) (cum (bl.length - k)) (bl.drop (bl.length - k)) := by
  intro k
  induction k with
  | zero =>
    intro _
    rw [Nat.sub_zero, List.drop_length]
    exact ⟨hb, hones, hlen⟩
  | succ k ih =>
    intro hk
    have hi : bl.length - (k + 1) < bl.length := by omega
    obtain ⟨a1, a2, a3, a4, a5⟩ := hblk _ hi
    rw [List.drop_eq_getElem_cons hi]
    refine ⟨a1, a2.1, a2.2, a3, a4, ?_⟩
    rw [← a5, show bl.length - (k + 1) + 1 = bl.length - k by omega]
    exact ih (by omega)

theorem absRuns_length (pos : Nat) (l : List (Nat × Nat)) : (absRuns pos l).length = l.length := by
  induction l generalizing pos with
  | nil => rfl
  | cons p l ih => simp [absRuns, ih]

/-- the bits described by a sequence of accepted `try_set(start, len)` calls -/
def specStep (B : List Bool) (c : Nat × Nat) : List Bool :=
  B ++ (if c.2 = 0 then [] else List.replicate (c.1 - B.length) false ++ List.replicate c.2 true)

def runCalls (m : Mode) : List (Nat × Nat) → RLBuilder → Outcome RLBuilder
  | [], b => ok b
  | c :: cs, b => do let b ← b.trySet m c.1 c.2; runCalls m cs b

/-! ### call histories with `try_set`, `set_len` and `set_bit`

The repaired `set_len` keeps `Inv` (the one as first written did not, F9), so the round trip holds for all three
kinds of calls. -/

/-- one builder call (`bit i` is `try_set(i, 1)`) -/
def applyCall (m : Mode) (b : RLBuilder) : BCall → Outcome RLBuilder
  | .set start len => b.trySet m start len
  | .setLen n => b.setLen m n
  | .bit i => b.trySet m i 1

/-- the bits described after an accepted call: `try_set(start, len)` appends zeros up to `start` and `len`
ones, `set_len(n)` appends zeros up to `n`, `set_bit(i)` appends zeros up to `i` and a one -/
def specCall (B : List Bool) : BCall → List Bool
  | .set start len => specStep B (start, len)
  | .setLen n => B ++ List.replicate (n - B.length) false
  | .bit i => specStep B (i, 1)

/-- the arguments are `usize` values -/
def callArgsOk : BCall → Prop
  | .set _ len => len < U64
  | .setLen n => n < U64
  | .bit _ => True

def runBCalls (m : Mode) : List BCall → RLBuilder → Outcome RLBuilder
  | [], b => ok b
  | c :: cs, b => do let b ← applyCall m b c; runBCalls m cs b

/-- every accepted call keeps `Hist` and appends the bits it describes -/
theorem hist_runBCalls (m : Mode) : ∀ (calls : List BCall) {b b' : RLBuilder} {B : List Bool} {done : Format2.Blocks}
    {cur : List (Nat × Nat)}, (∀ c ∈ calls, callArgsOk c) → Hist b B done cur → runBCalls m calls b = ok b' →
    ∃ done' cur', Hist b' (calls.foldl specCall B) done' cur'
  | [], _, _, _, done, cur, _, h, e => by cases e; exact ⟨done, cur, h⟩
  | c :: cs, b, _, B, _, _, hc, h, e => by
    obtain ⟨b1, e1, e2⟩ := Outcome.bind_eq_ok e
    have hB := h.canon.len
    have hcc := hc c (List.mem_cons_self ..)
    -- `setBits` / `setLenBits` speak of `b.len`, `specCall` of `|B|`
    obtain ⟨d1, c1, h1⟩ : ∃ d1 c1, Hist b1 (specCall B c) d1 c1 := by
      cases c with
      | set start len => unfold specCall specStep; rw [hB]; exact h.trySet m start len hcc e1
      | setLen n => unfold specCall; rw [hB]; exact h.setLen m n hcc e1
      | bit i => unfold specCall specStep; rw [hB]; exact h.trySet m i 1 (by decide) e1
    exact hist_runBCalls m cs (fun c' hc' => hc c' (List.mem_cons_of_mem _ hc')) h1 e2

/-- **every accepted call history from the empty builder keeps `Hist`** -/
theorem runBCalls_hist (m : Mode) (calls : List BCall) (hc : ∀ c ∈ calls, callArgsOk c)
    (b : RLBuilder) (hb : runBCalls m calls {} = ok b) : ∃ done cur, Hist b (calls.foldl specCall []) done cur :=
  hist_runBCalls m calls hc hist_empty hb

/-- a history of `try_set` calls is a history of calls -/
theorem runCalls_eq (m : Mode) : ∀ (calls : List (Nat × Nat)) (b : RLBuilder),
    runCalls m calls b = runBCalls m (calls.map fun c => .set c.1 c.2) b
  | [], _ => rfl
  | c :: cs, b => by
    show (b.trySet m c.1 c.2 >>= _) = (b.trySet m c.1 c.2 >>= _)
    congr 1; funext b1; exact runCalls_eq m cs b1

theorem runCalls_le (m : Mode) : ∀ (calls : List (Nat × Nat)) (b : RLBuilder),
    (runCalls .checked calls b).Le (runCalls m calls b)
  | [], _ => .refl _
  | _ :: cs, b => .bind (RLBuilder.trySet_le m b _ _) fun _ => runCalls_le m cs _

theorem ofBuilder_le (m : Mode) (b : RLBuilder) : (ofBuilder .checked b).Le (ofBuilder m b) := by
  unfold ofBuilder
  refine .bind (RLBuilder.flush_le m b) fun _ => ?_
  refine .bind (SampleIndex.new_le m _ _) fun _ => ?_
  refine .bind (SampleIndex.new_le m _ _) fun _ => ?_
  refine .bind (subM_le m _ _) fun _ => ?_
  refine .bind (.mapM (fun _ => subM_le m _ _) _) fun _ => ?_
  exact .bind (SampleIndex.new_le m _ _) fun _ => .refl _

/-- F9 end to end: `set_len(10)`, `try_set(10, 5)`, convert, iterate.  With the repaired `set_len` the
vector has length 15 and its only run is `(10, 5)` (the old code produced the run `(0, 5)`) -/
theorem F9_fixed_roundtrip :
    (do let b ← runBCalls .checked [.setLen 10, .set 10 5] {}
        let v ← ofBuilder .checked b
        let it ← v.runIter
        let (rs, _) ← collect .checked v 2 it
        return (v.len, v.ones, rs.map (·.1))) = ok (15, 5, [(10, 5)]) := by decide +kernel

/-! ### a former finding (F10): `From<RLBuilder>` used to panic on a valid builder

`build_iterate` takes the success of the conversion as a hypothesis.  With the code as first written the
conversion did not always succeed: the select-zero index is built from `bits - ones` at the start of each block, and `SampleIndex::new`
asserted that its input is *strictly* increasing (`consumeOld`).  Block 0 always has 0 zeros before it;
block 1 also has 0 zeros before it when block 0 holds nothing but a run starting at bit 0.  That needs a
second run whose two codes do not fit into the remaining 42 units (gap ≥ 2^63: 22 units, length > 2^60:
21 units), and the assertion is only evaluated when there are at least 9 blocks (so that `parameters` asks
for 2 samples).  All calls below are accepted, every quantity fits in 64 bits (`len < 2^64`), and the rank
and select indexes are built without complaint.  The repaired `SampleIndex::new` asserts non-decreasing
values (`consume`), and the same builder now converts successfully. -/

def zeroIdxCalls : List (Nat × Nat) :=
  (0, 2 ^ 60 + 1) :: (2 ^ 60 + 1 + 2 ^ 63, 2 ^ 60 + 1) ::
    (List.range 203).map fun i => (2 ^ 60 + 1 + 2 ^ 63 + 2 ^ 60 + 1 + 1 + 2 * i, 1)

/-- One kernel evaluation of `x` serves every decidable fact about its result. -/
theorem exists_ok_of_decide {α} {x : Outcome α} {p : α → Prop} [inst : DecidablePred p]
    (h : (match x with | ok a => decide (p a) | fault _ => false) = true) : ∃ a, x = ok a ∧ p a := by
  cases x with
  | ok a => exact ⟨a, rfl, of_decide_eq_true h⟩
  | fault f => cases h

/-- Everything the statements below say about the history with overflow checks on, in the form "after the 205 calls
the builder `b` …".  Running the history is by far the expensive part of each of them for the kernel, so it is
evaluated once, here. -/
theorem zeroIdx_checked : ∃ b, runCalls .checked zeroIdxCalls {} = ok b ∧
    (do let b ← b.flush .checked
        return (b.len < U64, b.samples.size, (b.samples.toList.map (fun p => p.2 - p.1)).take 3)) =
      ok (true, 9, [0, 0, 2 ^ 63 + 10]) ∧
    (do let v ← ofBuilder .checked b
        return (v.len, v.ones, v.blocks, v.selectZeroIndex.divisor, v.selectZeroIndex.samples.items)) =
      ok (2 ^ 63 + 2 ^ 61 + 408, 2 ^ 61 + 205, 9, 2 ^ 62 + 102, [0, 1]) ∧
    (do let b ← b.flush .checked
        let sl := b.samples.toList
        let zs ← sl.mapM (fun p => subM .checked p.2 p.1)
        let z ← b.countZeros .checked
        return ((SampleIndex.new .checked (sl.map (·.2)) b.len).isOk,
                (SampleIndex.new .checked (sl.map (·.1)) b.ones).isOk,
                (SampleIndex.new .checked zs z).isOk)) = ok (true, true, true) ∧
    (do let b ← b.flush .checked
        let zs ← b.samples.toList.mapM (fun p => subM .checked p.2 p.1)
        let z ← b.countZeros .checked
        let (ns, d) ← SampleIndex.parameters .checked zs.length z
        return (zs.take 3, ns, d)) = ok ([0, 0, 2 ^ 63 + 10], 2, 2 ^ 62 + 102) ∧
    (do let b ← b.flush .checked
        let zs ← b.samples.toList.mapM (fun p => subM .checked p.2 p.1)
        let r ← SampleIndex.consumeOld (2 ^ 62 + 102) zs.length 0 0 (zs.drop 1)
        return r.1) = fault (.panic .assert) ∧
    (do let b ← b.flush .checked
        let zs ← b.samples.toList.mapM (fun p => subM .checked p.2 p.1)
        let r ← SampleIndex.consume (2 ^ 62 + 102) zs.length 0 0 (zs.drop 1)
        return (r.1, r.2.1, r.2.2.length)) = ok (1, 0, 7) := by
  -- the instance for all six conjuncts at once is larger than instance search allows: split off the first
  refine exists_ok_of_decide (inst := fun _ => instDecidableAnd) ?_
  decide +kernel

/-- the builder accepts all 205 runs; it ends with 9 blocks, and blocks 0 and 1 both start with 0 zeros -/
theorem zeroIdx_builder_ok :
    (do let b ← runCalls .checked zeroIdxCalls {}
        let b ← b.flush .checked
        return (b.len < U64, b.samples.size, (b.samples.toList.map (fun p => p.2 - p.1)).take 3)) =
      ok (true, 9, [0, 0, 2 ^ 63 + 10]) := by
  obtain ⟨b, hb, h, _⟩ := zeroIdx_checked
  rw [hb]; exact h

/-- … and with the repaired `SampleIndex::new` the conversion now **succeeds**, in both modes (it used to
panic on the strict-monotonicity assertion): the vector has the builder's `len` and `ones`, 9 blocks, and a
select-zero index with two samples -/
theorem zeroIdx_ofBuilder_ok :
    (do let b ← runCalls .checked zeroIdxCalls {}
        let v ← ofBuilder .checked b
        return (v.len, v.ones, v.blocks, v.selectZeroIndex.divisor, v.selectZeroIndex.samples.items)) =
      ok (2 ^ 63 + 2 ^ 61 + 408, 2 ^ 61 + 205, 9, 2 ^ 62 + 102, [0, 1]) ∧
    (do let b ← runCalls .wrapping zeroIdxCalls {}
        let v ← ofBuilder .wrapping b
        return (v.len, v.ones, v.blocks, v.selectZeroIndex.divisor, v.selectZeroIndex.samples.items)) =
      ok (2 ^ 63 + 2 ^ 61 + 408, 2 ^ 61 + 205, 9, 2 ^ 62 + 102, [0, 1]) := by
  obtain ⟨b, hb, _, h, _⟩ := zeroIdx_checked
  suffices h1 : _ from
    ⟨h1, Outcome.Le.bind (runCalls_le .wrapping _ _) (fun b => .bind (ofBuilder_le .wrapping b) fun _ => .refl _) _ h1⟩
  rw [hb]; exact h

/-- all three sample indexes are built now -/
theorem zeroIdx_which :
    (do let b ← runCalls .checked zeroIdxCalls {}
        let b ← b.flush .checked
        let sl := b.samples.toList
        let zs ← sl.mapM (fun p => subM .checked p.2 p.1)
        let z ← b.countZeros .checked
        return ((SampleIndex.new .checked (sl.map (·.2)) b.len).isOk,
                (SampleIndex.new .checked (sl.map (·.1)) b.ones).isOk,
                (SampleIndex.new .checked zs z).isOk)) = ok (true, true, true) := by
  obtain ⟨b, hb, _, _, h, _⟩ := zeroIdx_checked
  rw [hb]; exact h

/-- what went wrong with the code as first written, on the very same data: the zero counts at the block
starts are `0, 0, 2^63 + 10, …` (non-decreasing, not strictly increasing); `parameters` asks for 2 samples
with divisor `2^62 + 102`; the inner loop of `new` for sample 1 meets the duplicate `0` below the threshold:
the old loop (`consumeOld`, strict assertion) panics, the repaired loop consumes it and stops at index 1 -/
theorem zeroIdx_old_loop_panics :
    (do let b ← runCalls .checked zeroIdxCalls {}
        let b ← b.flush .checked
        let zs ← b.samples.toList.mapM (fun p => subM .checked p.2 p.1)
        let z ← b.countZeros .checked
        let (ns, d) ← SampleIndex.parameters .checked zs.length z
        return (zs.take 3, ns, d)) = ok ([0, 0, 2 ^ 63 + 10], 2, 2 ^ 62 + 102) ∧
    (do let b ← runCalls .checked zeroIdxCalls {}
        let b ← b.flush .checked
        let zs ← b.samples.toList.mapM (fun p => subM .checked p.2 p.1)
        let r ← SampleIndex.consumeOld (2 ^ 62 + 102) zs.length 0 0 (zs.drop 1)
        return r.1) = fault (.panic .assert) ∧
    (do let b ← runCalls .checked zeroIdxCalls {}
        let b ← b.flush .checked
        let zs ← b.samples.toList.mapM (fun p => subM .checked p.2 p.1)
        let r ← SampleIndex.consume (2 ^ 62 + 102) zs.length 0 0 (zs.drop 1)
        return (r.1, r.2.1, r.2.2.length)) = ok (1, 0, 7) := by
  obtain ⟨b, hb, _, _, _, h1, h2, h3⟩ := zeroIdx_checked
  rw [hb]; exact ⟨h1, h2, h3⟩

end RL

end Sds
