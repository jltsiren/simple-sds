/-
C15 — Sparse vectors built as multisets answer present-value queries naturally.

Property theorems only (helper lemmas live in Proofs/).  Quantifiers: every universe size `n < 2^64`, every
non-decreasing list `P` of values below `n` with `|P| < 2^63` — duplicates allowed, even more values than the
universe has elements (`|P| > n`) —, every low-part width `w` in `1..63` (the `f64` width rule of the code is
a parameter of the model: the theorems hold for every `w`, nothing is assumed about the rule), every query
argument, both arithmetic modes `m : Mode`.

Reference semantics (Sds/Spec/Bits.lean) on the sorted list `P` (a multiset):
  `selectSet P i = P[i]?` (the `i`-th value), `rankSet P i = |{p ∈ P : p < i}|` (with multiplicity),
  `getSet P i = P.contains i`, `succSet P x` = `(rank, value)` of the *first* occurrence of the least value
  `≥ x`, `predSet P x` = `(rank, value)` of the *last* occurrence of the greatest value `≤ x`.

`try_from_iter` (the `FromIterator`-style constructor) computes the universe as `last value + 1` and takes the
number of values from `size_hint`, then runs the very builder modelled by `Sparse.ofValues w (last + 1) true P`.
`from_iter_universe` below states what that call does; that the Rust code passes exactly these arguments
is `try_from_iter_as_translated_from_source`.  Only the `f64` width rule is a named parameter.
`select_zero` / `zero_iter` are not claimed in multiset mode (the property does not ask for them).
-/
import Sds.Proofs.Glue2
import Sds.Proofs.GenEqSpMisc
import Sds.Proofs.PropsAux

namespace Sds.C15
open Sds Outcome

/-! ### the builder -/

/-- every non-decreasing list below the universe size is accepted — no bound relating `|P|` and `n` -/
theorem build_succeeds (w n : Nat) (P : List Nat) (hw1 : 1 ≤ w) (hw : w ≤ 63) (hn : n < 2 ^ 64)
    (hm : P.length < 2 ^ 63) (hsorted : sortedLe P = true) (hbound : ∀ p ∈ P, p < n) :
    ∃ s, Sparse.ofValues w n true P = ok s :=
  let ⟨s, h, _⟩ := ofValues_multi_ok w n P hw1 hw hn hm hsorted hbound
  ⟨s, h⟩

/-- everything else is refused with an error: a descent, or a value `≥ n` -/
theorem build_rejects (w n : Nat) (P : List Nat) (hw1 : 1 ≤ w) (hw : w ≤ 63)
    (hbad : ¬ (sortedLe P = true ∧ ∀ p ∈ P, p < n)) :
    Sparse.ofValues w n true P = fault (.err .other) :=
  ofValues_multi_reject w n P hw1 hw hbad

/-- **accepts exactly the non-decreasing sequences** (below the universe size) -/
theorem build_accepts_iff (w n : Nat) (P : List Nat) (hw1 : 1 ≤ w) (hw : w ≤ 63) (hn : n < 2 ^ 64)
    (hm : P.length < 2 ^ 63) :
    (∃ s, Sparse.ofValues w n true P = ok s) ↔ (sortedLe P = true ∧ ∀ p ∈ P, p < n) :=
  Outcome.ok_iff_of_reject (build_rejects w n P hw1 hw) fun ⟨h1, h2⟩ => build_succeeds w n P hw1 hw hn hm h1 h2

/-- with the universe sized to `last + 1` (what `try_from_iter` passes: `try_from_iter_as_translated_from_source`) the bound on
the values is automatic: a non-empty sequence is accepted iff it is non-decreasing -/
theorem from_iter_universe (w : Nat) (P : List Nat) (hne : P ≠ []) (hw1 : 1 ≤ w) (hw : w ≤ 63)
    (hn : P.getLast hne + 1 < 2 ^ 64) (hm : P.length < 2 ^ 63) :
    (∃ s, Sparse.ofValues w (P.getLast hne + 1) true P = ok s) ↔ sortedLe P = true := by
  rw [build_accepts_iff w _ P hw1 hw hn hm]
  constructor
  · exact fun h => h.1
  · intro h
    exact ⟨h, fun p hp => Nat.lt_succ_of_le (sortedLe_le_getLast P h hne p hp)⟩

/-! ### counts -/

/-- `len` = universe size, `count_ones` = number of values (with multiplicity), `count_zeros` saturates at 0
when there are at least as many values as positions -/
theorem len_and_counts (w n : Nat) (P : List Nat) (s : Sparse) (hw1 : 1 ≤ w) (hw : w ≤ 63)
    (hn : n < 2 ^ 64) (hm : P.length < 2 ^ 63) (hsorted : sortedLe P = true)
    (hbound : ∀ p ∈ P, p < n) (hs : Sparse.ofValues w n true P = ok s) :
    s.len = n ∧ s.countOnes = P.length ∧
    s.countZeros = (if P.length ≥ n then 0 else n - P.length) := by
  have he := ofValues_multi_encodes hw1 hw hn hm hsorted hbound hs
  refine ⟨he.len_eq, he.low_len, ?_⟩
  unfold Sparse.countZeros Sparse.countOnes
  rw [he.low_len, he.len_eq]

/-! ### queries -/

/-- `select(i)` = the `i`-th value (`None` from `count_ones` on) -/
theorem select_exact (w n : Nat) (P : List Nat) (s : Sparse) (hw1 : 1 ≤ w) (hw : w ≤ 63)
    (hn : n < 2 ^ 64) (hm : P.length < 2 ^ 63) (hsorted : sortedLe P = true)
    (hbound : ∀ p ∈ P, p < n) (hs : Sparse.ofValues w n true P = ok s)
    (m : Mode) (i : Nat) : s.select m i = ok (P[i]?) :=
  select_ok (ofValues_multi_encodes hw1 hw hn hm hsorted hbound hs) m i

/-- `rank(i)` = the number of values below `i`, counted with multiplicity, for every `i` -/
theorem rank_exact (w n : Nat) (P : List Nat) (s : Sparse) (hw1 : 1 ≤ w) (hw : w ≤ 63)
    (hn : n < 2 ^ 64) (hm : P.length < 2 ^ 63) (hsorted : sortedLe P = true)
    (hbound : ∀ p ∈ P, p < n) (hs : Sparse.ofValues w n true P = ok s)
    (m : Mode) (i : Nat) : s.rank m i = ok (P.filter (· < i)).length :=
  rank_ok (ofValues_multi_encodes hw1 hw hn hm hsorted hbound hs) m i

/-- `get(i)` = whether `i` occurs, for every `i` below the universe size -/
theorem get_exact (w n : Nat) (P : List Nat) (s : Sparse) (hw1 : 1 ≤ w) (hw : w ≤ 63)
    (hn : n < 2 ^ 64) (hm : P.length < 2 ^ 63) (hsorted : sortedLe P = true)
    (hbound : ∀ p ∈ P, p < n) (hs : Sparse.ofValues w n true P = ok s)
    (m : Mode) (i : Nat) (hi : i < n) : s.get m i = ok (P.contains i) :=
  get_ok (ofValues_multi_encodes hw1 hw hn hm hsorted hbound hs) m i hi

/-- `successor(x)`, every `x`: empty iterator when no value is `≥ x` (in particular for `x ≥ n`); otherwise
the iterator `select_iter(k)` at `(k, v) = succSet P x` — the **first** occurrence of the least value `≥ x` —
whose first item is `(k, v)` and which goes on to deliver `(i, P[i])` for `k ≤ i < |P|` -/
theorem successor_exact (w n : Nat) (P : List Nat) (s : Sparse) (hw1 : 1 ≤ w) (hw : w ≤ 63)
    (hn : n < 2 ^ 64) (hm : P.length < 2 ^ 63) (hsorted : sortedLe P = true)
    (hbound : ∀ p ∈ P, p < n) (hs : Sparse.ofValues w n true P = ok s)
    (m : Mode) (x : Nat) :
    match succSet P x with
    | none => s.successor m x = ok (SpOneIter.emptyIter s) ∧
        SpOneIter.nextQ m s (SpOneIter.emptyIter s) = ok (none, SpOneIter.emptyIter s)
    | some kv => ∃ it it', s.successor m x = ok it ∧ s.selectIter m kv.1 = ok it ∧
        SpOneIter.nextQ m s it = ok (some kv, it') ∧
        drain m s (P.length + 1) it = ok (itemsFrom P kv.1) :=
  succ_exact (ofValues_multi_encodes hw1 hw hn hm hsorted hbound hs) m x

/-- `predecessor(x)`, every `x` (also `x ≥ n`): empty iterator when no value is `≤ x`; otherwise the iterator
`select_iter(k)` at `(k, v) = predSet P x` — the **last** occurrence of the greatest value `≤ x` -/
theorem predecessor_exact (w n : Nat) (P : List Nat) (s : Sparse) (hw1 : 1 ≤ w) (hw : w ≤ 63)
    (hn : n < 2 ^ 64) (hm : P.length < 2 ^ 63) (hsorted : sortedLe P = true)
    (hbound : ∀ p ∈ P, p < n) (hs : Sparse.ofValues w n true P = ok s)
    (m : Mode) (x : Nat) :
    match predSet P x with
    | none => s.predecessor m x = ok (SpOneIter.emptyIter s) ∧
        SpOneIter.nextQ m s (SpOneIter.emptyIter s) = ok (none, SpOneIter.emptyIter s)
    | some kv => ∃ it it', s.predecessor m x = ok it ∧ s.selectIter m kv.1 = ok it ∧
        SpOneIter.nextQ m s it = ok (some kv, it') ∧
        drain m s (P.length + 1) it = ok (itemsFrom P kv.1) :=
  pred_exact (ofValues_multi_encodes hw1 hw hn hm hsorted hbound hs) m x

/-- the specification pairs are what the property says: `succSet` is the first occurrence (its rank is the
number of values `< x`), `predSet` the last one (its rank is the number of values `≤ x`, minus one) -/
theorem succSet_first_occurrence (P : List Nat) (x : Nat) (kv : Nat × Nat) (h : succSet P x = some kv) :
    ∃ (hk : kv.1 < P.length), kv.1 = (P.filter (· < x)).length ∧ kv.2 = P[kv.1] :=
  succSet_spec x kv h

theorem predSet_last_occurrence (P : List Nat) (hsorted : sortedLe P = true) (x : Nat) (kv : Nat × Nat)
    (h : predSet P x = some kv) :
    kv.1 = (P.filter (· ≤ x)).length - 1 ∧ ∃ (hk : kv.1 < P.length), kv.2 = P[kv.1] := by
  refine ⟨?_, predSet_spec (sortedLe_pairwise P hsorted) x kv h⟩
  unfold predSet at h
  simp only [] at h
  split at h
  · cases h
  · cases h; rfl

/-- **Headline.**  One value, all queries, all arguments, both modes. -/
theorem all_queries_exact (w n : Nat) (P : List Nat) (hw1 : 1 ≤ w) (hw : w ≤ 63) (hn : n < 2 ^ 64)
    (hm : P.length < 2 ^ 63) (hsorted : sortedLe P = true) (hbound : ∀ p ∈ P, p < n) :
    ∃ s, Sparse.ofValues w n true P = ok s ∧
      s.len = n ∧ s.countOnes = P.length ∧
      (∀ (m : Mode) (i : Nat), s.select m i = ok (P[i]?)) ∧
      (∀ (m : Mode) (i : Nat), s.rank m i = ok (rankSet P i)) ∧
      (∀ (m : Mode) (i : Nat), i < n → s.get m i = ok (getSet P i)) ∧
      (∀ (m : Mode) (x : Nat), s.predecessor m x = ok (match predSet P x with
          | none => SpOneIter.emptyIter s
          | some kv => s.iterAt w P kv.1)) ∧
      (∀ (m : Mode) (x : Nat), s.successor m x = ok (match succSet P x with
          | none => SpOneIter.emptyIter s
          | some kv => s.iterAt w P kv.1)) ∧
      (∀ (m : Mode) (r : Nat), s.selectIter m r = ok (s.iterAt w P r)) := by
  obtain ⟨s, hs, he⟩ := ofValues_multi_ok w n P hw1 hw hn hm hsorted hbound
  exact ⟨s, hs, he.len_eq, he.low_len, fun m r => select_ok he m r, fun m i => rank_ok he m i,
    fun m i hi => get_ok he m i hi, fun m x => pred_ok he m x, fun m x => succ_ok he m x,
    fun m r => selectIter_ok he m r⟩

/-! ### `rank_zero` on a multiset: `index - rank(index)`, which can underflow when values repeat -/

/-- in general `rank_zero(i)` is the mode-checked subtraction `i - rank(i)` … -/
theorem rank_zero_is_sub (w n : Nat) (P : List Nat) (s : Sparse) (hw1 : 1 ≤ w) (hw : w ≤ 63)
    (hn : n < 2 ^ 64) (hm : P.length < 2 ^ 63) (hsorted : sortedLe P = true)
    (hbound : ∀ p ∈ P, p < n) (hs : Sparse.ofValues w n true P = ok s)
    (m : Mode) (i : Nat) : s.rankZero m i = subM m i (rankSet P i) :=
  rankZero_eq (ofValues_multi_encodes hw1 hw hn hm hsorted hbound hs) m i

/-- … so it is exact whenever at most `i` values lie below `i` … -/
theorem rank_zero_exact_when_defined (w n : Nat) (P : List Nat) (s : Sparse) (hw1 : 1 ≤ w) (hw : w ≤ 63)
    (hn : n < 2 ^ 64) (hm : P.length < 2 ^ 63) (hsorted : sortedLe P = true)
    (hbound : ∀ p ∈ P, p < n) (hs : Sparse.ofValues w n true P = ok s)
    (m : Mode) (i : Nat) (hle : rankSet P i ≤ i) : s.rankZero m i = ok (i - rankSet P i) := by
  rw [rankZero_eq (ofValues_multi_encodes hw1 hw hn hm hsorted hbound hs) m i, subM_ok hle]

/-- … and when more than `i` values lie below `i` (possible only with duplicates) the checked build panics
with an arithmetic overflow and the release build returns the wrapped difference -/
theorem rank_zero_overfull (w n : Nat) (P : List Nat) (s : Sparse) (hw1 : 1 ≤ w) (hw : w ≤ 63)
    (hn : n < 2 ^ 64) (hm : P.length < 2 ^ 63) (hsorted : sortedLe P = true)
    (hbound : ∀ p ∈ P, p < n) (hs : Sparse.ofValues w n true P = ok s)
    (i : Nat) (hlt : i < rankSet P i) :
    s.rankZero .checked i = fault (.panic .overflow) ∧
    s.rankZero .wrapping i = ok ((i + U64 - rankSet P i) % U64) :=
  have he := ofValues_multi_encodes hw1 hw hn hm hsorted hbound hs
  ⟨rankZero_multiset_checked he i hlt, rankZero_multiset_wrapping he i hlt⟩

/-! ### iterators -/

/-- the set-bit iterator lists the values with their ranks, duplicates included -/
theorem one_iter_lists_values (w n : Nat) (P : List Nat) (s : Sparse) (hw1 : 1 ≤ w) (hw : w ≤ 63)
    (hn : n < 2 ^ 64) (hm : P.length < 2 ^ 63) (hsorted : sortedLe P = true)
    (hbound : ∀ p ∈ P, p < n) (hs : Sparse.ofValues w n true P = ok s) (m : Mode) :
    drain m s (P.length + 1) (SpOneIter.full s) = ok (itemsFrom P 0) :=
  drain_full (ofValues_multi_encodes hw1 hw hn hm hsorted hbound hs) m

/-- … in both directions: any interleaving of `next` / `next_back` answers exactly like the same calls on
the deque `[(0, P[0]), …, (|P|-1, P[|P|-1])]` -/
theorem one_iter_two_ended (w n : Nat) (P : List Nat) (s : Sparse) (hw1 : 1 ≤ w) (hw : w ≤ 63)
    (hn : n < 2 ^ 64) (hm : P.length < 2 ^ 63) (hsorted : sortedLe P = true)
    (hbound : ∀ p ∈ P, p < n) (hs : Sparse.ofValues w n true P = ok s) (m : Mode)
    (calls : List Sparse2.End) :
    ∃ it' r' R', Sparse2.runCalls m s calls (SpOneIter.full s) =
        ok ((Sparse2.runDeque calls (itemsFrom P 0)).1, it') ∧
      (Sparse2.runDeque calls (itemsFrom P 0)).2 = Sparse2.itemsBetween P r' R' ∧
      it'.remaining = R' - r' :=
  Sparse2.runCalls_full_remaining (ofValues_multi_encodes hw1 hw hn hm hsorted hbound hs) m calls

/-- the all-bits iterator (both directions) lists the `n` membership bits — one bit per *distinct* position,
duplicates skipped: any interleaving of `next` / `next_back` answers like the deque
`[P.contains 0, …, P.contains (n-1)]` -/
theorem bit_iter_lists_distinct_positions (w n : Nat) (P : List Nat) (s : Sparse) (hw1 : 1 ≤ w)
    (hw : w ≤ 63) (hn : n < 2 ^ 64) (hm : P.length < 2 ^ 63) (hsorted : sortedLe P = true)
    (hbound : ∀ p ∈ P, p < n) (hs : Sparse.ofValues w n true P = ok s) (m : Mode)
    (calls : List Sparse2.End) :
    ∃ it it', s.iter m = ok it ∧
      Sparse2.runSpCalls m s calls it =
        ok ((Sparse2.runDeque calls ((List.range n).map fun i => P.contains i)).1, it') :=
  Sparse2.iter_runSpCalls (ofValues_multi_encodes hw1 hw hn hm hsorted hbound hs) m calls

/-! ### non-vacuity: an overfull multiset (5 values in a universe of 3), duplicates at both ends -/

example : (1 ≤ 1 ∧ 1 ≤ 63 ∧ 3 < 2 ^ 64 ∧ [0, 0, 1, 2, 2].length < 2 ^ 63 ∧ sortedLe [0, 0, 1, 2, 2] = true ∧
    (∀ p ∈ [0, 0, 1, 2, 2], p < 3) ∧ [0, 0, 1, 2, 2].length > 3) := by decide
example : ∃ s, Sparse.ofValues 1 3 true [0, 0, 1, 2, 2] = ok s :=
  build_succeeds 1 3 [0, 0, 1, 2, 2] (by decide) (by decide) (by decide) (by decide) (by decide) (by decide)
/-- the hypothesis of `rank_zero_overfull` is met there: 2 values lie below 1 -/
example : (1 : Nat) < rankSet [0, 0, 1, 2, 2] 1 := by decide
/-- the reference answers on that instance: first / last occurrences, values with multiplicity, distinct bits -/
example : (succSet [0, 0, 1, 2, 2] 2 = some (3, 2) ∧ predSet [0, 0, 1, 2, 2] 2 = some (4, 2) ∧
    predSet [0, 0, 1, 2, 2] 0 = some (1, 0) ∧ rankSet [0, 0, 1, 2, 2] 2 = 3 ∧
    itemsFrom [0, 0, 1, 2, 2] 0 = [(0, 0), (1, 0), (2, 1), (3, 2), (4, 2)] ∧
    bitsOfSet [0, 0, 1, 2, 2] 3 = [true, true, true] ∧ bitsOfSet [1, 1] 3 = [false, true, false]) := by decide
example : ([1, 1, 4].getLast (by decide) + 1 = 5 ∧ sortedLe [1, 1, 4] = true ∧ sortedLe [1, 4, 1] = false) := by
  decide

/-! **`SparseVector::try_from_iter` and `is_multiset` as translated from the source on this run**
(`Generated/FnsSpMisc2.lean`, `FnsSpMisc.lean`): `try_from_iter` takes `size_hint`, removes the LAST item with `next_back`
(universe = last + 1, or 0 for an empty iterator), builds a multiset builder, `try_set`s the remaining items in order and
then `universe - 1`, and converts — equal to the model's `Sparse.ofValues … true vals` (multiset mode) that the
theorems above start from, for every width the float rule can choose.  `is_multiset` walks the one-iterator with the
previous position (initially `len`, which no item equals) and returns at the first repetition. -/
theorem try_from_iter_as_translated_from_source (m : Mode) (fw : Nat) (vals : List Nat) (hfw1 : 1 ≤ fw) (hfw2 : fw ≤ 64)
    (hu : GenEq.tfiUniv vals < U64)
    (hh : vals.length + Sparse.getBuckets (GenEq.tfiUniv vals) (GenEq.spWidth fw (GenEq.tfiUniv vals) vals.length) + 63 < U64)
    (hl : vals.length * GenEq.spWidth fw (GenEq.tfiUniv vals) vals.length + 63 < U64) :
    Generated.gen_SparseVector_try_from_iter m fw vals =
      Sparse.ofValues (GenEq.spWidth fw (GenEq.tfiUniv vals) vals.length) (GenEq.tfiUniv vals) true vals :=
  GenEq.sp_try_from_iter_eq m fw vals hfw1 hfw2 hu hh hl

theorem is_multiset_as_translated_from_source (m : Mode) (items : List (Nat × Nat)) (s : Sparse) :
    Generated.gen_SparseVector_is_multiset m items s = ok (GenEq.isMultisetList s.len (items.map (·.2))) ∧
    (∀ n (l : List Nat), GenEq.isMultisetList n l = true ↔
        (l.head? = some n ∨ ∃ i, l[i]? = l[i + 1]? ∧ i + 1 < l.length)) :=
  ⟨GenEq.sp_is_multiset_eq m items s, fun n l => GenEq.isMultisetList_iff n l⟩

end Sds.C15
