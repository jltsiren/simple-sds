/-
C09 — Queries are total: out-of-range and extreme arguments give the documented answer.

Property theorems only (helper lemmas live in Proofs/).

Quantifiers.  Arguments are `Nat`, so a statement "for every `i` with `i ≥ len`" covers `len`, `len + 1`, `2 len`,
`2^63`, `usize::MAX - 1`, `usize::MAX` and every other `usize` value at once; nothing below is restricted to a
list of sample values.  Both arithmetic modes `m : Mode` throughout; `= ok …` says in particular that the call
does not panic (no overflow in a checked build, no failed assertion, no `unwrap` of a missing support) and
reads nothing out of bounds.

Several of the documented answers do not even depend on the supports or on well-formedness — they are decided
by the first comparison in the code — and are stated for EVERY `b : BitVector` (`…_any_bitvector`); the
statements that identify the answer with the specification then use the C01 hypotheses.

Scope of this file.  Covered, each with a structure-level summary theorem for EVERY argument and both modes:
  * the plain bitvector (`plain_bitvector_total`): rank, rank_zero, select, select_zero, select_iter,
    predecessor, successor; the iterators `OneIter<T>` and the two-cursor iterators with arbitrary `nth` /
    `nth_back` arguments; the integer-vector constructors;
  * the sparse (Elias–Fano) bitvector (`sparse_total`, set mode; `sparse_multiset_total`), for every vector
    satisfying the encoding relation — every built one (`sparse_built_total`) and every loaded one;
  * the run-length bitvector (`run_length_total`), for every accepted builder call history;
  * the wavelet matrix and its core mapping (`wavelet_matrix_total`, `wavelet_matrix_built_total`): index past
    the end, rank beyond the occurrences, absent value, value outside the alphabet;
  * agreement of the three bitvector types on a common bit sequence, for every argument
    (`three_bitvector_types_agree`).
In each summary the four documented answers are explicit: `rank` clamps to `count_ones` at `index ≥ len`;
`select(r)` / `select_zero(r)` are `None` for `r ≥ count`, with empty iterators; `successor` at `≥ len` is
empty; `predecessor` at `≥ len` behaves as at `len − 1` (empty when there is no set bit).

PARTIAL.  What is NOT claimed:
  * `Iterator::nth` / `nth_back` "beyond the remainder" is proven for the plain bitvector's `OneIter<T>` and the
    two-cursor iterators only; the sparse and run-length iterators use the default `nth` (repeated `next`), and
    for them only "the exhausted / empty iterator answers `None`" is stated here (every call
    history, default `nth` included: C10);
  * run-length `select_zero_iter(r)`, `r < count_zeros`: start position only (C03); sparse
    `select_zero_iter(r)`, `r < count_zeros`: success only;
  * sparse `get(i)`, `i ≥ len`, and wavelet-matrix `get(i)`, `i ≥ len`, are outside the documented domain
    (the library documents "may panic"): `get` past the end of the wavelet matrix IS the `unwrap` panic, in both
    modes (stated), for the sparse vector see C08 (`never out of bounds`);
  * multiset-mode sparse vectors: `rank_zero` / `select_zero` are not defined by the library there (C15).
-/
import Sds.Proofs.Rank
import Sds.Proofs.Select
import Sds.Proofs.Iter
import Sds.Proofs.IntVec
import Sds.Proofs.Glue
import Sds.Proofs.Glue2
import Sds.Proofs.Glue5
import Sds.Proofs.RLBuilt
import Sds.Proofs.PropsAux

namespace Sds.C09
open Sds Outcome IterProofs

/-! ### rank(i ≥ len) = count_ones -/

/-- for EVERY bitvector (supports present or not): `rank(i) = count_ones` as soon as `i ≥ len` -/
theorem rank_past_end_any_bitvector (b : BitVector) (i : Nat) (hi : b.len ≤ i) : b.rankQ i = ok b.countOnes := by
  unfold BitVector.rankQ; rw [if_pos hi]

/-- … which is the number of set bits of the sequence, and is what the specification says -/
theorem rank_past_end (v : RawVec) (hv : v.WF) (hlen : v.len < 2 ^ 64) (i : Nat) (hi : v.len ≤ i) :
    (BitVector.ofRaw v).enableAll.rankQ i = ok (v.bits.count true) ∧ rankSpec v.bits i = v.bits.count true := by
  have hs := rankSpec_of_ge v.bits i (by rw [RawVec.bits_length]; exact hi)
  refine ⟨?_, hs⟩
  rw [rankQ_build hv hlen rfl rfl (countOnes_eq v hv) i, hs]

/-- `rank_zero(i ≥ len) = i - count_ones` in both modes: no underflow, no panic -/
theorem rank_zero_past_end (v : RawVec) (hv : v.WF) (hlen : v.len < 2 ^ 64) (m : Mode) (i : Nat)
    (hi : v.len ≤ i) :
    (BitVector.ofRaw v).enableAll.rankZeroQ m i = ok (i - v.bits.count true) := by
  rw [rankZeroQ_build hv hlen rfl rfl (countOnes_eq v hv) m i,
    rankSpec_of_ge v.bits i (by rw [RawVec.bits_length]; exact hi)]

/-- `rank` / `rank_zero` for EVERY argument (C01) -/
theorem rank_every_argument (v : RawVec) (hv : v.WF) (hlen : v.len < 2 ^ 64) (m : Mode) (i : Nat) :
    (BitVector.ofRaw v).enableAll.rankQ i = ok (rankSpec v.bits i) ∧
    (BitVector.ofRaw v).enableAll.rankZeroQ m i = ok (i - rankSpec v.bits i) :=
  ⟨rankQ_build hv hlen rfl rfl (countOnes_eq v hv) i, rankZeroQ_build hv hlen rfl rfl (countOnes_eq v hv) m i⟩

/-! ### select / select_zero (r ≥ count) = None, with empty iterators -/

/-- for EVERY bitvector, `select` (`tr = .ident`) and `select_zero` (`tr = .compl`), both modes: `None` as soon
as `r ≥ count`, and `select_iter` / `select_zero_iter` return the empty iterator -/
theorem select_past_count_any_bitvector (b : BitVector) (tr : Tr) (m : Mode) (r : Nat) (hr : b.countT tr ≤ r) :
    b.selectT tr m r = ok none ∧ b.selectIterT tr m r = ok (OneIterSt.emptyIter tr b) := by
  constructor
  · unfold BitVector.selectT; rw [if_pos hr]
  · unfold BitVector.selectIterT; rw [if_pos hr]

/-- in terms of the sequence: `select(r)` is `None` EXACTLY when `r ≥ count_ones`, `select_zero(r)` EXACTLY when
`r ≥ count_zeros`, for every `r` -/
theorem select_none_exactly_past_count (v : RawVec) (hv : v.WF) (hlen : v.len < 2 ^ 64) (m : Mode) (r : Nat) :
    ((BitVector.ofRaw v).enableAll.selectQ m r = ok none ↔ v.bits.count true ≤ r) ∧
    ((BitVector.ofRaw v).enableAll.selectZeroQ m r = ok none ↔ v.bits.count false ≤ r) := by
  rw [selectQ_enableAll hv hlen m r, selectZeroQ_enableAll hv hlen m r, Outcome.ok.injEq, Outcome.ok.injEq]
  exact ⟨selectSpec_eq_none_iff _ r, selectZeroSpec_eq_none_iff _ r⟩

/-- the empty iterator IS empty: under every call history (any `next` / `next_back` / `nth k` / `nth_back k` /
`len`) it answers only `None` resp. length 0, without fault -/
theorem empty_iterator_yields_nothing (b : BitVector) (v : RawVec) (hv : v.WF) (hlen : v.len < 2 ^ 64)
    (hdata : b.data = v) (hones : b.ones = v.bits.count true) (tr : Tr) (m : Mode) (calls : List ICall) :
    ∃ os, oneRun tr m b (OneIterSt.emptyIter tr b) calls = ok os ∧ ∀ o, o ∈ os → IsEmptyOut o :=
  oneRun_exhausted ⟨hv, hlen, hdata, hones⟩ tr m calls (Rel_empty ⟨hv, hlen, hdata, hones⟩ tr) (Nat.le_refl _)

/-! ### successor(x ≥ len) is empty; predecessor(x ≥ len) = predecessor(len - 1) -/

/-- for EVERY bitvector and both modes: `successor(x)` with `x ≥ len` is the empty iterator -/
theorem successor_past_end_any_bitvector (b : BitVector) (m : Mode) (x : Nat) (hx : b.len ≤ x) :
    b.successorQ m x = ok (OneIterSt.emptyIter .ident b) := by
  unfold BitVector.successorQ
  rw [rank_past_end_any_bitvector b x hx]
  simp

/-- for EVERY bitvector of `usize` length and both modes: `predecessor(x)` with `x ≥ len` — up to and including
`usize::MAX`, where the repaired code saturates `x + 1` — is `predecessor(len - 1)`.
(For `len = 0` the right-hand side reads `predecessor(0)`; both sides are then the empty iterator.) -/
theorem predecessor_past_end_any_bitvector (b : BitVector) (hlen : b.len < 2 ^ 64) (m : Mode) (x : Nat)
    (hx : b.len ≤ x) : b.predecessorQ m x = b.predecessorQ m (b.len - 1) := by
  have h : ∀ y, b.len ≤ y + 1 → b.rankQ (BitVector.satAdd y 1) = ok b.countOnes := fun y hy =>
    rank_past_end_any_bitvector b _ (by unfold BitVector.satAdd U64; rw [Nat.min_def]; split <;> omega)
  unfold BitVector.predecessorQ
  simp only [h x (by omega), h (b.len - 1) (by omega)]

/-- and what that common answer is (any valid supports): the iterator whose first item is the LAST set bit with
its rank `count_ones - 1` — `predSpec B x` for every such `x` is `predSpec B (len - 1)` — or the empty iterator
when there is no set bit -/
theorem predecessor_past_end (b : BitVector) (v : RawVec) (rs : RankSup) (s : SelSup) (hv : v.WF)
    (hlen : v.len < 2 ^ 64) (hdata : b.data = v) (hones : b.ones = v.bits.count true)
    (hrank : b.rank = some rs) (hrs : rs.Valid v) (hsel : b.select = some s) (hs : s.Valid .ident v)
    (m : Mode) (x : Nat) (hx : v.len ≤ x) :
    predSpec v.bits x = predSpec v.bits (v.len - 1) ∧
    match predSpec v.bits (v.len - 1) with
    | none => b.predecessorQ m x = ok (OneIterSt.emptyIter .ident b)
    | some (k, p) => (onesPos v.bits)[k]? = some p ∧ k + 1 = v.bits.count true ∧
        b.predecessorQ m x = ok ⟨(k, p), (b.countT .ident, b.len)⟩ := by
  have C : Ctx b v := ⟨hv, hlen, hdata, hones⟩
  have hx' : v.bits.length ≤ x := by rw [RawVec.bits_length]; exact hx
  have e : predSpec v.bits x = predSpec v.bits (v.len - 1) := by
    rw [Glue5.predSpec_clamp v.bits x hx', RawVec.bits_length]
  refine ⟨e, ?_⟩
  rw [← e, Glue5.predSpec_of_ge v.bits x (by omega), predecessorQ_eq_selectIter C hrank hrs,
    predRank_of_ge v.bits x (by omega)]
  by_cases h0 : v.bits.count true = 0
  · rw [if_pos h0, if_pos h0]
    exact (Rel_selectIter C .ident m hsel hs 0).2 (by rw [bitsT_ident, length_onesPos, h0]; exact Nat.le_refl _)
  · rw [if_neg h0, if_neg h0]
    obtain ⟨p, hp, hit, _⟩ := (Rel_selectIter C .ident m hsel hs (v.bits.count true - 1)).1
      (by rw [bitsT_ident, length_onesPos]; omega)
    rw [bitsT_ident] at hp
    rw [hp]
    exact ⟨hp, by omega, hit⟩

/-- `predecessor` and `successor` for EVERY `x` (C01): the call succeeds in both modes and the first item of the
returned iterator is the specified `(rank, position)`, or the iterator is empty -/
theorem predecessor_successor_every_argument (v : RawVec) (hv : v.WF) (hlen : v.len < 2 ^ 64) (m : Mode) (x : Nat) :
    (∃ it it', (BitVector.ofRaw v).enableAll.predecessorQ m x = ok it ∧
      OneIterSt.nextQ .ident m (BitVector.ofRaw v).enableAll it = ok (predSpec v.bits x, it')) ∧
    (∃ it it', (BitVector.ofRaw v).enableAll.successorQ m x = ok it ∧
      OneIterSt.nextQ .ident m (BitVector.ofRaw v).enableAll it = ok (succSpec v.bits x, it')) := by
  have C : Ctx (BitVector.ofRaw v).enableAll v := ctx_enableAll hv hlen
  have hs := SelSup.build_valid hv hlen .ident
  obtain ⟨it, h, ⟨it', h1⟩, _⟩ := selectIterT_at C .ident m rfl hs (predRank v.bits x)
  obtain ⟨jt, g, ⟨jt', g1⟩, _⟩ := selectIterT_at C .ident m rfl hs (rankSpec v.bits x)
  exact ⟨⟨it, it', (predecessorQ_eq_selectIter C rfl (build_valid hv hlen) m x).trans h, pairs_predRank v.bits x ▸ h1⟩,
    ⟨jt, jt', (successorQ_eq_selectIter C rfl (build_valid hv hlen) m x).trans g, pairs_succRank v.bits x ▸ g1⟩⟩

/-! ### F2 (repaired by a `fix:` commit): `predecessor(usize::MAX)`

As first written, `predecessor(value)` computed `rank(value + 1)` with a plain `+`. -/

/-- original code, checked build: `predecessor(usize::MAX)` panics on EVERY bitvector -/
theorem F2_checked_counterexample (b : BitVector) :
    b.predecessorQOld .checked (2 ^ 64 - 1) = fault (.panic .overflow) :=
  F2_checked b

/-- original code, optimised build, on the vector `11`: the sum wraps to 0 and the answer is the EMPTY iterator,
although the specification says rank 1 at position 1 -/
theorem F2_wrapping_counterexample :
    (BitVector.ofRaw (RawVec.ofBits [true, true])).enableAll.predecessorQOld .wrapping (2 ^ 64 - 1) =
      ok (OneIterSt.emptyIter .ident (BitVector.ofRaw (RawVec.ofBits [true, true])).enableAll) ∧
    predSpec (RawVec.ofBits [true, true]).bits (2 ^ 64 - 1) = some (1, 1) :=
  ⟨F2_wrapping, F2_reference⟩

/-- repaired code (`saturating_add`), both builds, same input: the iterator at rank 1, position 1 -/
theorem F2_repaired (m : Mode) :
    (BitVector.ofRaw (RawVec.ofBits [true, true])).enableAll.predecessorQ m (2 ^ 64 - 1) = ok ⟨(1, 1), (2, 2)⟩ :=
  F2_fixed m

/-! ### Iterator::nth / nth_back beyond the remainder = None, and the iterator is exhausted -/

/-- `OneIter<T>::nth(n)` for EVERY `n` at least the number of remaining items (ranks `[r, R)`), both modes:
`None`, the iterator is exhausted (`next := limit`, standing for the empty interval `[R, R)`), no panic -/
theorem one_iter_nth_beyond (b : BitVector) (tr : Tr) (m : Mode) (v : RawVec) (it : OneIterSt) (r R : Nat)
    (hrel : Rel tr v it r R) (n : Nat) (hn : R - r ≤ n) :
    OneIterSt.nthQ tr m b it n = ok (none, { it with next := it.limit }) ∧
      Rel tr v { it with next := it.limit } R R :=
  nthQ_none tr m hrel n (by have := hrel.le; omega)

/-- `OneIter<T>::nth_back(k)` (the default: repeated `next_back`) for EVERY such `k`: `None`, exhausted -/
theorem one_iter_nth_back_beyond (b : BitVector) (v : RawVec) (hv : v.WF) (hlen : v.len < 2 ^ 64)
    (hdata : b.data = v) (hones : b.ones = v.bits.count true) (tr : Tr) (m : Mode) (it : OneIterSt) (r R : Nat)
    (hrel : Rel tr v it r R) (k : Nat) (hk : R - r ≤ k) :
    ∃ it', nthBackQ tr m b k it = ok (none, it') ∧ Rel tr v it' r r :=
  nthBackQ_none ⟨hv, hlen, hdata, hones⟩ tr m k hrel (by have := hrel.le; omega)

/-- … and an exhausted `OneIter<T>` stays exhausted under every further call history -/
theorem one_iter_exhausted_stays (b : BitVector) (v : RawVec) (hv : v.WF) (hlen : v.len < 2 ^ 64)
    (hdata : b.data = v) (hones : b.ones = v.bits.count true) (tr : Tr) (m : Mode) (calls : List ICall)
    (it : OneIterSt) (r : Nat) (hrel : Rel tr v it r r) :
    ∃ os, oneRun tr m b it calls = ok os ∧ ∀ o, o ∈ os → IsEmptyOut o :=
  oneRun_exhausted ⟨hv, hlen, hdata, hones⟩ tr m calls hrel (Nat.le_refl _)

/-- F1 repaired (see C08 for the defect): `nth(usize::MAX)` in the middle of a run answers `None` in both builds -/
theorem F1_repaired (m : Mode) :
    OneIterSt.nthQ .ident m (BitVector.ofRaw (RawVec.ofBits [true, true])).enableAll
      ⟨(1, 1), (2, 2)⟩ (2 ^ 64 - 1) = ok (none, ⟨(2, 2), (2, 2)⟩) := by
  cases m
  · exact F1_fixed_checked
  · exact F1_fixed_wrapping

/-- two-cursor iterators (`AccessIter`, `bit_vector::Iter`): `nth(k)` / `nth_back(k)` for EVERY `k` at least the
remainder answer `None` and leave the iterator exhausted (the `min` clamp keeps the cursor sum from overflowing) -/
theorem two_cursor_nth_beyond {α} (get : Nat → α) (c : Cursor) (k : Nat) (hk : c.limit - c.next ≤ k) :
    ((cursorStep get c (.nth k)).1 = .none ∧ Exhausted (cursorStep get c (.nth k)).2) ∧
    ((cursorStep get c (.nthBack k)).1 = .none ∧ Exhausted (cursorStep get c (.nthBack k)).2) := by
  have hmin : min k (c.limit - c.next) = c.limit - c.next := Nat.min_eq_right hk
  constructor
  · have h : (cursorStep get c (.nth k)).1 = .none := by
      simp only [cursorStep, hmin]
      rw [if_pos (by omega)]
    exact ⟨h, none_exhausted get c (.nth k) (by intro h; cases h) h⟩
  · have h : (cursorStep get c (.nthBack k)).1 = .none := by
      simp only [cursorStep, hmin]
      rw [if_pos (by omega)]
    exact ⟨h, none_exhausted get c (.nthBack k) (by intro h; cases h) h⟩

/-- … and with ARBITRARY arguments in an arbitrary call history they answer as the reference queue does
(`drop k` of a shorter list is empty), staying `None` once exhausted -/
theorem two_cursor_every_argument {α} (xs : List α) (get : Nat → α)
    (hx : ∀ i, i < xs.length → xs[i]? = some (get i)) (calls : List ICall) :
    cursorRun get ⟨0, xs.length⟩ calls = dequeRunM xs calls ∧
    ∀ (c : Cursor) (call : ICall), call ≠ .len → (cursorStep get c call).1 = .none →
      ∀ o, o ∈ cursorRun get (cursorStep get c call).2 calls → IsEmptyOut o :=
  ⟨cursorRun_eq xs get hx calls, fun c call hcall h => none_absorbing get c call hcall h calls⟩

/-! ### constructors reject invalid widths with an error -/

/-- `IntVector::new`, `with_len`, `with_capacity`: width 0 and every width above 64 (up to `usize::MAX`) is
refused with an error — not a panic — and every width 1..64 is accepted -/
theorem intvec_constructors_validate (w n c : Nat) (x : Word) :
    ((w = 0 ∨ 64 < w) → IntVec.new w = fault (.err .other) ∧ IntVec.withLen n w x = fault (.err .other) ∧
      IntVec.withCapacity c w = fault (.err .other)) ∧
    ((1 ≤ w ∧ w ≤ 64) → (∃ v, IntVec.new w = ok v ∧ v.WF ∧ v.width = w ∧ v.items = []) ∧
      (∃ v, IntVec.withLen n w x = ok v ∧ v.WF ∧ v.width = w ∧ v.len = n ∧
        v.items = List.replicate n (x.toNat % 2 ^ w)) ∧
      IntVec.withCapacity c w = ok ⟨0, w, RawVec.empty⟩) :=
  ⟨fun h => ⟨IntVec.new_reject w h, IntVec.withLen_reject n w x h, IntVec.withCapacity_reject c w h⟩,
    fun h => ⟨IntVec.new_ok_spec w h.1 h.2, IntVec.withLen_spec n w x h.1 h.2, IntVec.withCapacity_ok c w h.1 h.2⟩⟩

/-! ### summary for the plain bitvector -/

/-- **C09 for the plain bitvector.**  For every well-formed raw vector of `usize` length with all supports
enabled, both modes, and EVERY argument: each query returns its documented answer — none panics.
(The other structures: `sparse_total`, `run_length_total`, `wavelet_matrix_total` below.) -/
theorem plain_bitvector_total (v : RawVec) (hv : v.WF) (hlen : v.len < 2 ^ 64) (m : Mode) :
    (∀ i, v.len ≤ i → (BitVector.ofRaw v).enableAll.rankQ i = ok (v.bits.count true)) ∧
    (∀ i, v.len ≤ i → (BitVector.ofRaw v).enableAll.rankZeroQ m i = ok (i - v.bits.count true)) ∧
    (∀ r, v.bits.count true ≤ r → (BitVector.ofRaw v).enableAll.selectQ m r = ok none ∧
      (BitVector.ofRaw v).enableAll.selectIterT .ident m r =
        ok (OneIterSt.emptyIter .ident (BitVector.ofRaw v).enableAll)) ∧
    (∀ r, v.bits.count false ≤ r → (BitVector.ofRaw v).enableAll.selectZeroQ m r = ok none ∧
      (BitVector.ofRaw v).enableAll.selectIterT .compl m r =
        ok (OneIterSt.emptyIter .compl (BitVector.ofRaw v).enableAll)) ∧
    (∀ x, v.len ≤ x → (BitVector.ofRaw v).enableAll.successorQ m x =
      ok (OneIterSt.emptyIter .ident (BitVector.ofRaw v).enableAll)) ∧
    (∀ x, v.len ≤ x → (BitVector.ofRaw v).enableAll.predecessorQ m x =
      (BitVector.ofRaw v).enableAll.predecessorQ m (v.len - 1)) ∧
    (∀ tr calls, ∃ os, oneRun tr m (BitVector.ofRaw v).enableAll
      (OneIterSt.emptyIter tr (BitVector.ofRaw v).enableAll) calls = ok os ∧ ∀ o, o ∈ os → IsEmptyOut o) ∧
    (∀ i r x, (∃ a, (BitVector.ofRaw v).enableAll.rankQ i = ok a) ∧
      (∃ a, (BitVector.ofRaw v).enableAll.rankZeroQ m i = ok a) ∧
      (∃ a, (BitVector.ofRaw v).enableAll.selectQ m r = ok a) ∧
      (∃ a, (BitVector.ofRaw v).enableAll.selectZeroQ m r = ok a) ∧
      (∃ a, (BitVector.ofRaw v).enableAll.predecessorQ m x = ok a) ∧
      (∃ a, (BitVector.ofRaw v).enableAll.successorQ m x = ok a)) := by
  have hones : (BitVector.ofRaw v).enableAll.ones = v.bits.count true := countOnes_eq v hv
  have hc1 : (BitVector.ofRaw v).enableAll.countT .ident = v.bits.count true := hones
  have hc0 : (BitVector.ofRaw v).enableAll.countT .compl = v.bits.count false := by
    rw [countT_eq (b := (BitVector.ofRaw v).enableAll) (v := v) rfl hones .compl]
    exact Glue.count_true_map_not v.bits
  refine ⟨fun i hi => (rank_past_end v hv hlen i hi).1, fun i hi => rank_zero_past_end v hv hlen m i hi,
    ?_, ?_, ?_, ?_, ?_, ?_⟩
  · intro r hr
    exact select_past_count_any_bitvector _ .ident m r (by rw [hc1]; exact hr)
  · intro r hr
    exact select_past_count_any_bitvector _ .compl m r (by rw [hc0]; exact hr)
  · intro x hx; exact successor_past_end_any_bitvector _ m x hx
  · intro x hx; exact predecessor_past_end_any_bitvector (BitVector.ofRaw v).enableAll hlen m x hx
  · intro tr calls; exact empty_iterator_yields_nothing _ v hv hlen rfl hones tr m calls
  · intro i r x
    obtain ⟨⟨it, _, hp, _⟩, ⟨it2, _, hs, _⟩⟩ := predecessor_successor_every_argument v hv hlen m x
    exact ⟨⟨_, (rank_every_argument v hv hlen m i).1⟩, ⟨_, (rank_every_argument v hv hlen m i).2⟩,
      ⟨_, selectQ_enableAll hv hlen m r⟩, ⟨_, selectZeroQ_enableAll hv hlen m r⟩, ⟨it, hp⟩, ⟨it2, hs⟩⟩

/-! ### summary for the sparse (Elias–Fano) bitvector -/

/-- **C09 for the sparse bitvector, set mode.**  For EVERY vector `s` that encodes a strictly increasing list
`P` of positions below `n` (`Sparse.Encodes`: every built vector — `sparse_built_total` — and every loaded
one), both modes, EVERY argument (`Nat`: every `usize` incl. `usize::MAX`):
`rank(i ≥ len) = count_ones`; `rank_zero(i ≥ len) = i − count_ones`; `select(r ≥ count_ones) = None` with the
empty iterator, whose `next` is `None`; `select_zero(r ≥ count_zeros) = None` with the empty iterator;
`successor(x ≥ len)` is the empty iterator; `predecessor(x ≥ len) = predecessor(len − 1)`, the empty iterator
when there is no set bit; and every query returns (no panic) the set-level reference answer. -/
theorem sparse_total (s : Sparse) (n w : Nat) (P : List Nat) (hs : s.Encodes n w P)
    (hstrict : sortedStrict P = true) (m : Mode) :
    (s.len = n ∧ s.countOnes = P.length ∧ s.countZeros = n - P.length) ∧
    (∀ i, n ≤ i → s.rank m i = ok P.length) ∧
    (∀ i, n ≤ i → s.rankZero m i = ok (i - P.length)) ∧
    (∀ r, P.length ≤ r → s.select m r = ok none ∧ s.selectIter m r = ok (SpOneIter.emptyIter s) ∧
      SpOneIter.nextQ m s (SpOneIter.emptyIter s) = ok (none, SpOneIter.emptyIter s)) ∧
    (∀ r, n - P.length ≤ r → s.selectZero m r = ok none ∧
      s.selectZeroIter m r = ok (SpZeroIter.emptyIter s) ∧
      SpZeroIter.nextQ m s (SpZeroIter.emptyIter s) = ok (none, SpZeroIter.emptyIter s)) ∧
    (∀ x, n ≤ x → s.successor m x = ok (SpOneIter.emptyIter s)) ∧
    (∀ x, n ≤ x → s.predecessor m x = s.predecessor m (n - 1) ∧ predSet P x = predSet P (n - 1)) ∧
    (P = [] → ∀ x, s.predecessor m x = ok (SpOneIter.emptyIter s)) ∧
    (∀ i r x, s.rank m i = ok (rankSet P i) ∧ s.rankZero m i = ok (i - rankSet P i) ∧
      s.select m r = ok (selectSet P r) ∧ s.selectZero m r = ok (selectZeroSet P n r) ∧
      (∃ it it', s.predecessor m x = ok it ∧ SpOneIter.nextQ m s it = ok (predSet P x, it')) ∧
      (∃ it it', s.successor m x = ok it ∧ SpOneIter.nextQ m s it = ok (succSet P x, it')) ∧
      s.selectIter m r = ok (s.iterAt w P r) ∧ (∃ z, s.selectZeroIter m r = ok z)) :=
  ⟨Glue5.sparse_counts hs, fun i hi => Glue5.sparse_rank_past hs m i hi,
    fun i hi => Glue5.sparse_rankZero_past hs hstrict m i hi,
    fun r hr => Glue5.sparse_select_past hs m r hr,
    fun r hr => ⟨(Glue5.sparse_selectZero_past hs hstrict m r hr).1,
      (Glue5.sparse_selectZero_past hs hstrict m r hr).2, Glue5.sparse_zeroEmpty_next m s⟩,
    fun x hx => Glue5.sparse_successor_past hs m x hx,
    fun x hx => Glue5.sparse_predecessor_clamp hs m x hx,
    fun hP x => Glue5.sparse_predecessor_empty hs hP m x,
    fun i r x => ⟨rank_ok hs m i, rankZero_ok hs hstrict m i, select_ok hs m r,
      Sparse2.selectZero_spec hs hstrict m r, Glue5.sparse_pred_first_item hs m x,
      Glue5.sparse_succ_first_item hs m x, selectIter_ok hs m r,
      Glue5.sparse_selectZeroIter_ok hs hstrict m r⟩⟩

/-- **multiset mode** (non-decreasing `P`, duplicates allowed): the same for `rank`, `select`, `successor`,
`predecessor`, for every argument (`rank_zero` / `select_zero` are not defined by the library there) -/
theorem sparse_multiset_total (s : Sparse) (n w : Nat) (P : List Nat) (hs : s.Encodes n w P) (m : Mode) :
    (s.len = n ∧ s.countOnes = P.length) ∧
    (∀ i, n ≤ i → s.rank m i = ok P.length) ∧
    (∀ r, P.length ≤ r → s.select m r = ok none ∧ s.selectIter m r = ok (SpOneIter.emptyIter s) ∧
      SpOneIter.nextQ m s (SpOneIter.emptyIter s) = ok (none, SpOneIter.emptyIter s)) ∧
    (∀ x, n ≤ x → s.successor m x = ok (SpOneIter.emptyIter s)) ∧
    (∀ x, n ≤ x → s.predecessor m x = s.predecessor m (n - 1) ∧ predSet P x = predSet P (n - 1)) ∧
    (P = [] → ∀ x, s.predecessor m x = ok (SpOneIter.emptyIter s)) ∧
    (∀ i r x, s.rank m i = ok (rankSet P i) ∧ s.select m r = ok (selectSet P r) ∧
      (∃ it it', s.predecessor m x = ok it ∧ SpOneIter.nextQ m s it = ok (predSet P x, it')) ∧
      (∃ it it', s.successor m x = ok it ∧ SpOneIter.nextQ m s it = ok (succSet P x, it'))) :=
  ⟨⟨(Glue5.sparse_counts hs).1, (Glue5.sparse_counts hs).2.1⟩, fun i hi => Glue5.sparse_rank_past hs m i hi,
    fun r hr => Glue5.sparse_select_past hs m r hr,
    fun x hx => Glue5.sparse_successor_past hs m x hx,
    fun x hx => Glue5.sparse_predecessor_clamp hs m x hx,
    fun hP x => Glue5.sparse_predecessor_empty hs hP m x,
    fun i r x => ⟨rank_ok hs m i, select_ok hs m r, Glue5.sparse_pred_first_item hs m x,
      Glue5.sparse_succ_first_item hs m x⟩⟩

/-- the hypothesis of `sparse_total` holds of every built vector: every admissible low width `1..63`, every
universe `n < 2^64`, every strictly increasing list of fewer than 2^63 positions below `n` -/
theorem sparse_built_total (w n : Nat) (P : List Nat) (hw1 : 1 ≤ w) (hw : w ≤ 63) (hn : n < 2 ^ 64)
    (hm : P.length < 2 ^ 63) (hsorted : sortedStrict P = true) (hbound : ∀ p ∈ P, p < n) (m : Mode) :
    ∃ s, Sparse.ofValues w n false P = ok s ∧ s.Encodes n w P ∧
      (∀ i, n ≤ i → s.rank m i = ok s.countOnes) ∧
      (∀ r, s.countOnes ≤ r → s.select m r = ok none) ∧
      (∀ r, s.countZeros ≤ r → s.selectZero m r = ok none) ∧
      (∀ x, n ≤ x → s.successor m x = ok (SpOneIter.emptyIter s)) ∧
      (∀ x, n ≤ x → s.predecessor m x = s.predecessor m (n - 1)) := by
  obtain ⟨s, h1, hs⟩ := ofValues_set_ok w n P hw1 hw hn hm hsorted hbound
  obtain ⟨_, c1, c0⟩ := Glue5.sparse_counts hs
  exact ⟨s, h1, hs, fun i hi => by rw [c1]; exact Glue5.sparse_rank_past hs m i hi,
    fun r hr => (Glue5.sparse_select_past hs m r (by rw [← c1]; exact hr)).1,
    fun r hr => (Glue5.sparse_selectZero_past hs hsorted m r (by rw [← c0]; exact hr)).1,
    fun x hx => Glue5.sparse_successor_past hs m x hx,
    fun x hx => (Glue5.sparse_predecessor_clamp hs m x hx).1⟩

/-! ### summary for the run-length bitvector -/

/-- **C09 for the run-length bitvector.**  For EVERY accepted builder call history (`try_set` / `set_len` /
`set_bit`, `usize` arguments) describing the bit sequence `B`, the converted vector, both modes, EVERY argument
(also `≥ len`, `usize::MAX = 2^64 − 1` and beyond): `rank(i ≥ len) = count_ones`;
`rank_zero(i ≥ len) = i − count_ones`; `get(i ≥ len) = false` (no panic); `select(r ≥ count_ones) = None` with
the empty iterator, whose `next` is `None`; `select_zero(r ≥ count_zeros) = None` with the empty iterator;
`successor(x ≥ len)` is the empty iterator; `predecessor(x ≥ len)` is the computation of
`predecessor(len − 1)`, whose first item is the last set bit with rank `count_ones − 1`, or nothing when there is
no set bit; and every query returns (no panic, no overflow in the checked build) the list-level answer. -/
theorem run_length_total (m : Mode) (calls : List RL.BCall) (hc : ∀ c ∈ calls, RL.callArgsOk c)
    (b : RLBuilder) (hb : RL.runBCalls m calls {} = ok b) (v : RL) (hv : RL.ofBuilder m b = ok v)
    (B : List Bool) (hB : calls.foldl RL.specCall [] = B) :
    (v.len = B.length ∧ v.ones = B.count true ∧ v.countZeros = B.count false) ∧
    (∀ i, B.length ≤ i → v.rank m i = ok (B.count true)) ∧
    (∀ i, B.length ≤ i → v.rankZero m i = ok (i - B.count true)) ∧
    (∀ i, B.length ≤ i → v.get m i = ok false) ∧
    (∀ r, B.count true ≤ r → v.select m r = ok none ∧ v.selectIter m r = ok (RLOneIter.emptyIter v) ∧
      (RLOneIter.emptyIter v).nextQ m v = ok (none, RLOneIter.emptyIter v)) ∧
    (∀ r, B.count false ≤ r → v.selectZero m r = ok none ∧ v.selectZeroIter m r = ok (Glue5.rlZeroEnd v) ∧
      (Glue5.rlZeroEnd v).nextQ m v = ok (none, Glue5.rlZeroEnd v)) ∧
    (∀ x, B.length ≤ x → v.successor m x = ok (RLOneIter.emptyIter v)) ∧
    (∀ x, B.length ≤ x → v.predecessor m x = v.predecessor m (B.length - 1) ∧
      predSpec B x = predSpec B (B.length - 1) ∧
      predSpec B x = if B.count true = 0 then none
        else some (B.count true - 1, (onesPos B)[B.count true - 1]?.getD 0)) ∧
    (∀ i r x, v.rank m i = ok (rankSpec B i) ∧ v.rankZero m i = ok (i - rankSpec B i) ∧
      v.select m r = ok (selectSpec B r) ∧ v.selectZero m r = ok (selectZeroSpec B r) ∧
      (∃ oi oi', v.predecessor m x = ok oi ∧ oi.nextQ m v = ok (predSpec B x, oi')) ∧
      (∃ oi oi', v.successor m x = ok oi ∧ oi.nextQ m v = ok (succSpec B x, oi')) ∧
      (∃ st, v.selectIter m r = ok st) ∧ (∃ z, v.selectZeroIter m r = ok z)) := by
  subst hB
  have H := RLQ.built_of m hc hb hv
  refine ⟨⟨H.len, H.ones, H.zeros⟩, fun i hi => by rw [H.rank m i, rankSpec_of_ge _ i hi],
    fun i hi => by rw [H.rankZero m i, rankSpec_of_ge _ i hi],
    fun i hi => by rw [H.get m i, Glue5.getSpec_ge _ i hi],
    fun r hr => ⟨(Glue5.rl_select_past m v r (by rw [H.ones]; exact hr)).1,
      (Glue5.rl_select_past m v r (by rw [H.ones]; exact hr)).2, RLQ.oneIter_nextQ_empty m v⟩,
    fun r hr => ⟨(Glue5.rl_selectZero_past m v r (by rw [H.zeros]; exact hr)).1,
      (Glue5.rl_selectZero_past m v r (by rw [H.zeros]; exact hr)).2,
      Glue5.rl_zeroEnd_next m v (by rw [H.len, H.ones]; exact List.count_le_length)⟩,
    fun x hx => Glue5.rl_successor_past m v x (by rw [H.len]; exact hx),
    fun x hx => ⟨by rw [← H.len]; exact (Glue5.rl_predecessor_clamp m v x (by rw [H.len]; exact hx)).1,
      Glue5.predSpec_clamp _ x hx, Glue5.predSpec_of_ge _ x (by omega)⟩,
    fun i r x => ⟨H.rank m i, H.rankZero m i, H.select m r, H.selectZero m r, H.predecessor m x, H.successor m x,
      ?_, ?_⟩⟩
  · obtain ⟨st, _, h, _⟩ := Glue5.rl_selectIter_drain m _ H.good H.ones r _ (Nat.le_refl _)
    exact ⟨st, h⟩
  · obtain ⟨z, hz, _⟩ := Glue5.rl_selectZeroIter_ok m H.good r
    exact ⟨z, hz⟩

/-! ### summary for the wavelet matrix and its core mapping -/

/-- **C09 for the wavelet matrix.**  For EVERY matrix satisfying the invariant `WM.Ok` (the built one:
`wavelet_matrix_built_total`; any loaded one), both modes, EVERY index, rank and value (`Nat`): with an index
`≥ len`, `rank` clamps to the number of occurrences, `successor` likewise, `inverse_select` is `None`, `get` is
the documented `unwrap` panic (never a wrong value), `predecessor` behaves as at `len − 1`;
`select(r, v)` with `r ≥` the occurrences of `v` is `None` and the value iterator ends; a value that does not
occur — in particular every value outside the alphabet, `v ≥ 2^width` — has `contains = false`, `rank = 0`,
`select = None`, the empty `predecessor` (`len`) and `successor` rank 0; the core mappings `map_down_with`,
`map_up_with` return for every position and value; and every query returns the list-level answer. -/
theorem wavelet_matrix_total (w : WM) (V : List Nat) (width : Nat) (hw : w.Ok V width) (m : Mode) :
    (∀ i v, V.length ≤ i → w.rank m i v = ok (V.count v) ∧ w.successor m i v = ok (V.count v)) ∧
    (∀ r v, V.count v ≤ r → w.select m r v = ok none ∧ ∃ st, w.valueIterNext m v r = ok (none, st)) ∧
    (∀ i, V.length ≤ i → w.inverseSelect m i = ok none ∧ w.get m i = fault (.panic .unwrap)) ∧
    (∀ i v, V.length ≤ i → w.predecessor m i v = w.predecessor m (V.length - 1) v ∧
      w.predecessor m i v = ok (if V.count v > 0 then V.count v - 1 else V.length)) ∧
    (∀ v, (v ∉ V ∨ 2 ^ width ≤ v) → w.contains v = ok false ∧ (∀ i, w.rank m i v = ok 0) ∧
      (∀ r, w.select m r v = ok none) ∧ (∀ i, w.predecessor m i v = ok V.length) ∧
      (∀ i, w.successor m i v = ok 0)) ∧
    (∀ i r v, w.rank m i v = ok ((V.take i).count v) ∧ w.select m r v = ok (selectVal V v r) ∧
      w.contains v = ok (decide (v ∈ V)) ∧
      w.predecessor m i v =
        ok (if (V.take (i + 1)).count v > 0 then (V.take (i + 1)).count v - 1 else V.length) ∧
      w.successor m i v = ok ((V.take i).count v) ∧
      (∃ o, w.inverseSelect m i = ok o) ∧
      w.data.mapDownWith m i v = ok (firstPos width V v + (V.take i).count (v % 2 ^ width)) ∧
      w.data.mapUpWith m i v = ok (if i < firstPos width V v then none
        else selectVal V (v % 2 ^ width) (i - firstPos width V v))) := by
  have hpast : ∀ i v, V.length ≤ i + 1 →
      w.predecessor m i v = ok (if V.count v > 0 then V.count v - 1 else V.length) := fun i v hi => by
    rw [predecessor_ok hw, List.take_of_length_le hi]
  refine ⟨fun i v hi => ?_,
    fun r v hr => ⟨by rw [select_ok_wm hw, (selectVal_eq_none V v r).mpr hr], valueIterNext_none hw m v r hr⟩,
    fun i hi => ⟨inverseSelect_none hw m i hi, get_panic hw m i hi⟩,
    fun i v hi => ⟨by rw [hpast i v (by omega), hpast (V.length - 1) v (by omega)], hpast i v (by omega)⟩,
    fun v hv => absent_ok hw m (hv.elim id (not_mem_of_ge hw.core)),
    fun i r v => ⟨rank_ok_wm hw m i v, select_ok_wm hw m r v, contains_ok hw v, predecessor_ok hw m i v,
      successor_ok hw m i v, ?_, mapDownWith_ok' hw.core m i v, mapUpWith_total hw.core m i v⟩⟩
  · rw [successor_ok hw, rank_ok_wm hw, List.take_of_length_le hi]; exact ⟨rfl, rfl⟩
  by_cases h : i < V.length
  · exact ⟨_, inverseSelect_ok hw m i h⟩
  · exact ⟨_, inverseSelect_none hw m i (Nat.le_of_not_lt h)⟩

/-- the hypothesis of `wavelet_matrix_total` holds of every built matrix: every list of `u64` values shorter
than 2^63 (with the four documented out-of-range answers spelled out for it) -/
theorem wavelet_matrix_built_total (V : List Nat) (hV : ∀ v, v ∈ V → v < 2 ^ 64) (hlen : V.length < 2 ^ 63)
    (m : Mode) :
    (WM.ofValues V).Ok V (widthOf V) ∧
    (∀ i v, V.length ≤ i → (WM.ofValues V).rank m i v = ok (V.count v)) ∧
    (∀ r v, V.count v ≤ r → (WM.ofValues V).select m r v = ok none) ∧
    (∀ i, V.length ≤ i → (WM.ofValues V).inverseSelect m i = ok none) ∧
    (∀ i v, V.length ≤ i →
      (WM.ofValues V).predecessor m i v = (WM.ofValues V).predecessor m (V.length - 1) v) :=
  have hw := WM.ofValues_ok_full V hV hlen
  have ⟨a, b, c, d, _⟩ := wavelet_matrix_total _ V _ hw m
  ⟨hw, fun i v hi => (a i v hi).1, fun r v hr => (b r v hr).1, fun i hi => (c i hi).1, fun i v hi => (d i v hi).1⟩

/-! ### the three bitvector types agree -/

/-- **the three bitvector types agree with each other**, for every bit sequence `B` of `usize` length with
fewer than 2^63 set bits (the sparse builder's bound), every admissible low width, both modes, EVERY argument:
the plain bitvector built from `B`, the sparse vector built from the set positions of `B` over the universe
`|B|`, and the run-length vector converted after ANY accepted call history describing `B` return the same
`rank`, `rank_zero`, `select`, `select_zero`, and the same first item for `predecessor` and `successor` —
namely the list-level answers on `B` — in-range and out-of-range alike. -/
theorem three_bitvector_types_agree (B : List Bool) (hB : B.length < 2 ^ 64) (hones : B.count true < 2 ^ 63)
    (w : Nat) (hw1 : 1 ≤ w) (hw : w ≤ 63) (m : Mode)
    (calls : List RL.BCall) (hc : ∀ c ∈ calls, RL.callArgsOk c) (hspec : calls.foldl RL.specCall [] = B)
    (b : RLBuilder) (hb : RL.runBCalls m calls {} = ok b) :
    ∃ s v, Sparse.ofValues w B.length false (onesPos B) = ok s ∧ RL.ofBuilder m b = ok v ∧
      (∀ i, (BitVector.ofRaw (RawVec.ofBits B)).enableAll.rankQ i = ok (rankSpec B i) ∧
        s.rank m i = ok (rankSpec B i) ∧ v.rank m i = ok (rankSpec B i)) ∧
      (∀ i, (BitVector.ofRaw (RawVec.ofBits B)).enableAll.rankZeroQ m i = ok (i - rankSpec B i) ∧
        s.rankZero m i = ok (i - rankSpec B i) ∧ v.rankZero m i = ok (i - rankSpec B i)) ∧
      (∀ r, (BitVector.ofRaw (RawVec.ofBits B)).enableAll.selectQ m r = ok (selectSpec B r) ∧
        s.select m r = ok (selectSpec B r) ∧ v.select m r = ok (selectSpec B r)) ∧
      (∀ r, (BitVector.ofRaw (RawVec.ofBits B)).enableAll.selectZeroQ m r = ok (selectZeroSpec B r) ∧
        s.selectZero m r = ok (selectZeroSpec B r) ∧ v.selectZero m r = ok (selectZeroSpec B r)) ∧
      (∀ x, (∃ it it', (BitVector.ofRaw (RawVec.ofBits B)).enableAll.predecessorQ m x = ok it ∧
          OneIterSt.nextQ .ident m (BitVector.ofRaw (RawVec.ofBits B)).enableAll it = ok (predSpec B x, it')) ∧
        (∃ it it', s.predecessor m x = ok it ∧ SpOneIter.nextQ m s it = ok (predSpec B x, it')) ∧
        (∃ oi oi', v.predecessor m x = ok oi ∧ oi.nextQ m v = ok (predSpec B x, oi'))) ∧
      (∀ x, (∃ it it', (BitVector.ofRaw (RawVec.ofBits B)).enableAll.successorQ m x = ok it ∧
          OneIterSt.nextQ .ident m (BitVector.ofRaw (RawVec.ofBits B)).enableAll it = ok (succSpec B x, it')) ∧
        (∃ it it', s.successor m x = ok it ∧ SpOneIter.nextQ m s it = ok (succSpec B x, it')) ∧
        (∃ oi oi', v.successor m x = ok oi ∧ oi.nextQ m v = ok (succSpec B x, oi'))) := by
  subst hspec
  obtain ⟨hst, hbd, hl⟩ := Glue5.onesPos_admissible (calls.foldl RL.specCall [])
  obtain ⟨s, hs1, hs⟩ := ofValues_set_ok w _ _ hw1 hw hB (by rw [hl]; exact hones) hst hbd
  obtain ⟨v, hv, H⟩ := RLQ.built m hc hb
  obtain ⟨r1, r2, r3, r4⟩ := Glue5.set_specs_onesPos (calls.foldl RL.specCall [])
  have hwf := RawVec.ofBits_WF (calls.foldl RL.specCall [])
  have hbits := RawVec.bits_ofBits (calls.foldl RL.specCall [])
  have hlen : (RawVec.ofBits (calls.foldl RL.specCall [])).len < 2 ^ 64 := by
    rw [← RawVec.bits_length, hbits]; exact hB
  have hplain := fun x => predecessor_successor_every_argument _ hwf hlen m x
  have hrk := fun i => rank_every_argument _ hwf hlen m i
  simp only [hbits] at hplain hrk
  refine ⟨s, v, hs1, hv, fun i => ⟨(hrk i).1, by rw [rank_ok hs m i, r1], H.rank m i⟩,
    fun i => ⟨(hrk i).2, by rw [rankZero_ok hs hst m i, r1], H.rankZero m i⟩,
    fun r => ⟨by rw [selectQ_enableAll hwf hlen m r, hbits], by rw [select_ok hs m r, r2], H.select m r⟩,
    fun r => ⟨by rw [selectZeroQ_enableAll hwf hlen m r, hbits],
      by rw [Sparse2.selectZero_spec hs hst m r, Glue5.selectZeroSet_onesPos], H.selectZero m r⟩,
    fun x => ⟨(hplain x).1, by rw [← r3 x]; exact Glue5.sparse_pred_first_item hs m x, H.predecessor m x⟩,
    fun x => ⟨(hplain x).2, by rw [← r4 x]; exact Glue5.sparse_succ_first_item hs m x, H.successor m x⟩⟩

/-! ### non-vacuity -/

example : (RawVec.ofBits [true, false, true]).WF ∧ (RawVec.ofBits [true, false, true]).len < 2 ^ 64 := by decide
example : (BitVector.ofRaw (RawVec.ofBits [true, false, true])).enableAll.rankQ (2 ^ 64 - 1) = ok 2 := by decide
example : (BitVector.ofRaw (RawVec.ofBits [true, false, true])).enableAll.selectQ .checked (2 ^ 64 - 1) = ok none := by
  decide
/-- a legitimate mid-run iterator state (ranks `[1, 2)` of `11`) for the `nth` theorems -/
example : Rel .ident (RawVec.ofBits [true, true]) ⟨(1, 1), (2, 2)⟩ 1 2 := F1_state_rel
example : IntVec.new 0 = fault (.err .other) ∧ IntVec.new 65 = fault (.err .other) ∧
    IntVec.new (2 ^ 64 - 1) = fault (.err .other) := by decide

/-- sparse: an encoded vector exists (built from `[0, 5, 9]` over the universe 10, low width 2), and the
reference answers at out-of-range arguments -/
example : ∃ s, Sparse.ofValues 2 10 false [0, 5, 9] = ok s ∧ s.Encodes 10 2 [0, 5, 9] :=
  ofValues_set_ok 2 10 [0, 5, 9] (by decide) (by decide) (by decide) (by decide) (by decide) (by decide)
example : rankSet [0, 5, 9] (2 ^ 64 - 1) = 3 ∧ selectSet [0, 5, 9] 3 = none ∧ succSet [0, 5, 9] 10 = none ∧
    predSet [0, 5, 9] (2 ^ 64 - 1) = some (2, 9) ∧ predSet [0, 5, 9] 9 = some (2, 9) := by decide
/-- run-length: an accepted call history, converted, queried at `usize::MAX` in both modes -/
example :
    (do let b ← RL.runBCalls .checked [.set 0 2, .bit 4, .set 5 3, .setLen 12] {}
        let v ← RL.ofBuilder .checked b
        let r ← v.rank .checked (2 ^ 64 - 1)
        let s ← v.select .checked (2 ^ 64 - 1)
        let p ← v.predecessor .checked (2 ^ 64 - 1)
        let (pi, _) ← p.nextQ .checked v
        return (v.len, r, s, pi)) = ok (12, 6, none, some (5, 7)) := by
  decide +kernel
example :
    (do let b ← RL.runBCalls .wrapping [.set 0 2, .bit 4, .set 5 3, .setLen 12] {}
        let v ← RL.ofBuilder .wrapping b
        let r ← v.rank .wrapping (2 ^ 64 - 1)
        let s ← v.successor .wrapping (2 ^ 64 - 1)
        let (si, _) ← s.nextQ .wrapping v
        return (v.len, r, si)) = ok (12, 6, none) := by
  decide +kernel
example : ∀ c ∈ [RL.BCall.set 0 2, .bit 4, .set 5 3, .setLen 12], RL.callArgsOk c := by
  intro c hc
  simp only [List.mem_cons, List.mem_nil_iff, or_false] at hc
  rcases hc with rfl | rfl | rfl | rfl <;> first | trivial | (show _ < U64; decide)
/-- wavelet matrix: the invariant holds of the matrix built from `[3, 1, 3, 0]` -/
example : (WM.ofValues [3, 1, 3, 0]).Ok [3, 1, 3, 0] (widthOf [3, 1, 3, 0]) :=
  WM.ofValues_ok_full _ (by decide) (by decide)

end Sds.C09
