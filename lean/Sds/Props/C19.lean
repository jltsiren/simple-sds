/-
C19 — Support structures are optional, rebuildable and never change answers.

Property theorems only (helper lemmas live in Proofs/).  Quantifiers: every plain bitvector
`BitVector::from(raw)` (`raw` any well-formed raw vector, i.e. exactly ⌈len/64⌉ words with a zero tail, of
fewer than 2^62 bits) × all 8 subsets `(r, s, z)` of its rank / select / select-zero supports present at
write time × every sequence of `enable_*` calls (`steps : List (Bool × Bool × Bool)`, each step enabling any
subset, the empty subset included) interleaved with serialize / load × every query argument × both
arithmetic modes.  `SupportProofs.enableSome r s z b` is `b` after `enable_rank` (if `r`), `enable_select`
(if `s`), `enable_select_zero` (if `z`).

Embedded bitvectors: the sparse vector and the wavelet matrix (and its core) are proven to load from files
in which the embedded bitvectors carry **any** subset of their supports — none in particular — and the loaded
value is *equal* to the built one, so every query theorem of C02 / C15 / C04 applies to it verbatim.  The
run-length vector embeds no plain bitvector.  Side conditions: the parts fit a `usize`-addressed file.

`skip_option` is the checked version (`skip_option_is_checked` ties this to the current source).
-/
import Sds.Proofs.Codec
import Sds.Proofs.Supports
import Sds.Proofs.Glue2
import Sds.Proofs.Codec2
import Sds.Generated.SerConsts
import Sds.Proofs.GenEqEnable
import Sds.Proofs.GenEqLoad
import Sds.Proofs.GenEqIdx
import Sds.Proofs.GenEqSkip
import Sds.Proofs.PropsAux

namespace Sds.C19
open Sds Outcome SupportProofs

/-- regenerated from `serialize.rs` on every run: `skip_option` verifies the number of bytes skipped -/
theorem skip_option_is_checked : Generated.SKIP_OPTION_CHECKED = true := by decide

/-! ### optional: any subset can be written; loading reports exactly that subset -/

/-- for each of the 8 subsets: the vector is serializable, loading succeeds, consumes exactly the
serialization, and the loaded vector reports exactly the subset that was enabled, with the original bits and
count; enabling everything on it gives the same value as enabling everything on the original -/
theorem load_reports_exactly_the_written_subset (v : RawVec) (hv : v.WF) (hlen : v.len < 2 ^ 62)
    (r s z : Bool) (rest : Elems) :
    ∃ b', bitVectorC.load (bitVectorC.ser (enableSome r s z (BitVector.ofRaw v)) ++ rest) = ok (b', rest) ∧
      b'.rank.isSome = r ∧ b'.select.isSome = s ∧ b'.selectZero.isSome = z ∧
      b'.data = v ∧ b'.ones = v.countOnes ∧
      b'.enableAll = (BitVector.ofRaw v).enableAll ∧
      b'.enableAll = (enableSome r s z (BitVector.ofRaw v)).enableAll :=
  ofRaw_enableSome_load hv hlen r s z rest

/-- without its support a query is the documented `unwrap` panic (outside the ranges answered from the
counters alone) — never a wrong answer; `get` needs no support -/
theorem query_without_support (b : BitVector) (m : Mode) (i : Nat) :
    (b.rank = none → b.rankQ i = if i ≥ b.len then ok b.ones else fault (.panic .unwrap)) ∧
    (b.select = none → b.selectQ m i = if i ≥ b.ones then ok none else fault (.panic .unwrap)) ∧
    (b.selectZero = none →
      b.selectZeroQ m i = if i ≥ b.len - b.ones then ok none else fault (.panic .unwrap)) ∧
    (∀ r s z, (enableSome r s z b).get i = b.get i) :=
  ⟨fun h => rankQ_absent h i, fun h => selectQ_absent h m i, fun h => selectZeroQ_absent h m i,
    fun r s z => enableSome_get r s z b i⟩

/-! ### rebuildable: enabling the rest gives the fully enabled original; idempotence; order -/

/-- whatever subset was enabled first (or loaded), enabling everything gives the fully enabled original -/
theorem enabling_the_rest_gives_full (r s z : Bool) (b : BitVector) :
    (enableSome r s z b).enableAll = b.enableAll ∧ enableSome true true true b = b.enableAll :=
  ⟨enableSome_enableAll r s z b, rfl⟩

/-- enabling is idempotent — each call, all three together, and any call after `enable_all` -/
theorem enabling_is_idempotent (b : BitVector) :
    b.enableRank.enableRank = b.enableRank ∧ b.enableSelect.enableSelect = b.enableSelect ∧
    b.enableSelectZero.enableSelectZero = b.enableSelectZero ∧ b.enableAll.enableAll = b.enableAll ∧
    b.enableAll.enableRank = b.enableAll ∧ b.enableAll.enableSelect = b.enableAll ∧
    b.enableAll.enableSelectZero = b.enableAll ∧
    (b.rank.isSome → b.enableRank = b) ∧ (b.select.isSome → b.enableSelect = b) ∧
    (b.selectZero.isSome → b.enableSelectZero = b) :=
  ⟨enableRank_idem b, enableSelect_idem b, enableSelectZero_idem b, enableAll_idem b,
    enableAll_enableRank b, enableAll_enableSelect b, enableAll_enableSelectZero b,
    fun h => enableRank_of_some h, fun h => enableSelect_of_some h, fun h => enableSelectZero_of_some h⟩

/-- all six orders of the three calls give the same value (and the calls commute pairwise) -/
theorem all_orders_agree (b : BitVector) :
    b.enableRank.enableSelect.enableSelectZero = b.enableAll ∧
    b.enableRank.enableSelectZero.enableSelect = b.enableAll ∧
    b.enableSelect.enableRank.enableSelectZero = b.enableAll ∧
    b.enableSelect.enableSelectZero.enableRank = b.enableAll ∧
    b.enableSelectZero.enableRank.enableSelect = b.enableAll ∧
    b.enableSelectZero.enableSelect.enableRank = b.enableAll ∧
    b.enableRank.enableSelect = b.enableSelect.enableRank ∧
    b.enableRank.enableSelectZero = b.enableSelectZero.enableRank ∧
    b.enableSelect.enableSelectZero = b.enableSelectZero.enableSelect :=
  ⟨order_rsz b, order_rzs b, order_srz b, order_szr b, order_zrs b, order_zsr b,
    enableRank_enableSelect b, enableRank_enableSelectZero b, enableSelect_enableSelectZero b⟩

/-- no call changes the bits, the count or the length -/
theorem enabling_never_touches_the_bits (r s z : Bool) (b : BitVector) :
    (enableSome r s z b).data = b.data ∧ (enableSome r s z b).ones = b.ones ∧
    b.enableAll.data = b.data ∧ b.enableAll.ones = b.ones ∧ b.enableAll.len = b.len :=
  ⟨enableSome_data r s z b, enableSome_ones r s z b, enableAll_data b, enableAll_ones b, enableAll_len b⟩

/-! ### never change answers -/

/-- a query looks only at its own support: enabling the others changes no answer -/
theorem enabling_other_supports_changes_no_answer (b : BitVector) (m : Mode) (i : Nat) :
    b.enableSelect.rankQ i = b.rankQ i ∧ b.enableSelectZero.rankQ i = b.rankQ i ∧
    b.enableRank.selectQ m i = b.selectQ m i ∧ b.enableSelectZero.selectQ m i = b.selectQ m i ∧
    b.enableRank.selectZeroQ m i = b.selectZeroQ m i ∧ b.enableSelect.selectZeroQ m i = b.selectZeroQ m i :=
  ⟨enableSelect_rankQ b i, enableSelectZero_rankQ b i, enableRank_selectQ m b i,
    enableSelectZero_selectQ m b i, enableRank_selectZeroQ m b i, enableSelect_selectZeroQ m b i⟩

/-- for **every** subset of supports containing the one a query needs, the answer is the list-level
specification of the bits — so it cannot depend on which other supports are present, nor on the mode -/
theorem answers_are_the_specification (v : RawVec) (hv : v.WF) (hlen : v.len < 2 ^ 63)
    (r s z : Bool) (m : Mode) (i : Nat) :
    (enableSome true s z (BitVector.ofRaw v)).rankQ i = ok (rankSpec v.bits i) ∧
    (enableSome r true z (BitVector.ofRaw v)).selectQ m i = ok (selectSpec v.bits i) ∧
    (enableSome r s true (BitVector.ofRaw v)).selectZeroQ m i = ok (selectZeroSpec v.bits i) :=
  ⟨ofRaw_rankQ hv hlen s z i, ofRaw_selectQ hv hlen r z m i, ofRaw_selectZeroQ hv hlen r s m i⟩

/-- general form: two bitvectors over the same data — whatever other supports each carries and however its
supports were obtained (built before or after a load, in any order), as long as they are valid — give the
same answers to every query, in any pair of modes (`Sound` = well-formed data and correct count,
`SupValid` = every support present describes the data; both are established by `BitVector::from` and kept by
every `enable_*`, see `any_history_keeps_answers`) -/
theorem supports_never_change_answers (b1 b2 : BitVector) (hd : b1.data = b2.data)
    (s1 : Sound b1) (s2 : Sound b2) (v1 : SupValid b1) (v2 : SupValid b2) (m1 m2 : Mode) (i : Nat) :
    (b1.rank.isSome → b2.rank.isSome → b1.rankQ i = b2.rankQ i ∧ b1.rankZeroQ m1 i = b2.rankZeroQ m2 i) ∧
    (b1.select.isSome → b2.select.isSome → b1.selectQ m1 i = b2.selectQ m2 i) ∧
    (b1.selectZero.isSome → b2.selectZero.isSome → b1.selectZeroQ m1 i = b2.selectZeroQ m2 i) :=
  ⟨fun p1 p2 => ⟨rankQ_coincide hd s1 s2 v1 v2 p1 p2 i, rankZeroQ_coincide hd s1 s2 v1 v2 p1 p2 m1 m2 i⟩,
    fun p1 p2 => selectQ_coincide hd s1 s2 v1 v2 p1 p2 m1 m2 i,
    fun p1 p2 => selectZeroQ_coincide hd s1 s2 v1 v2 p1 p2 m1 m2 i⟩

/-! ### all orders of `enable_*` calls interleaved with serialize / load -/

/-- **Histories.**  Start from `BitVector::from(raw)` and perform any sequence of steps, each enabling any
subset of the supports and then writing the vector and loading it back.  No load fails; every load returns
the value that was written, so the history equals the history of the `enable_*` calls alone. -/
theorem save_load_never_disturbs_a_history (v : RawVec) (hv : v.WF) (hlen : v.len < 2 ^ 62)
    (steps : List (Bool × Bool × Bool)) :
    steps.foldlM (fun b t => do
        let p ← bitVectorC.load (bitVectorC.ser (enableSome t.1 t.2.1 t.2.2 b))
        pure p.1) (BitVector.ofRaw v) =
      ok (steps.foldl (fun b t => enableSome t.1 t.2.1 t.2.2 b) (BitVector.ofRaw v)) :=
  enable_reload_history steps _ (ofRaw_sound hv (by omega)) (ofRaw_wf hv (by omega)) (ofRaw_supValid v)

/-- … and after any such history: the bits and the count are the original ones, a support is present iff
some step enabled it, the vector can be written and loaded back, enabling the rest gives the fully enabled
original, and every query whose support is present answers by the specification of the bits -/
theorem any_history_keeps_answers (v : RawVec) (hv : v.WF) (hlen : v.len < 2 ^ 62)
    (steps : List (Bool × Bool × Bool)) (rest : Elems) (m : Mode) (i : Nat) :
    (steps.foldl (fun b t => enableSome t.1 t.2.1 t.2.2 b) (BitVector.ofRaw v)).data = v ∧
    (steps.foldl (fun b t => enableSome t.1 t.2.1 t.2.2 b) (BitVector.ofRaw v)).ones = v.countOnes ∧
    (steps.foldl (fun b t => enableSome t.1 t.2.1 t.2.2 b) (BitVector.ofRaw v)).rank.isSome =
      steps.any (fun t => t.1) ∧
    (steps.foldl (fun b t => enableSome t.1 t.2.1 t.2.2 b) (BitVector.ofRaw v)).select.isSome =
      steps.any (fun t => t.2.1) ∧
    (steps.foldl (fun b t => enableSome t.1 t.2.1 t.2.2 b) (BitVector.ofRaw v)).selectZero.isSome =
      steps.any (fun t => t.2.2) ∧
    bitVectorC.load (bitVectorC.ser
        (steps.foldl (fun b t => enableSome t.1 t.2.1 t.2.2 b) (BitVector.ofRaw v)) ++ rest) =
      ok (steps.foldl (fun b t => enableSome t.1 t.2.1 t.2.2 b) (BitVector.ofRaw v), rest) ∧
    (steps.foldl (fun b t => enableSome t.1 t.2.1 t.2.2 b) (BitVector.ofRaw v)).enableAll =
      (BitVector.ofRaw v).enableAll ∧
    (∀ t, t ∈ steps → t.1 = true →
      (steps.foldl (fun b t => enableSome t.1 t.2.1 t.2.2 b) (BitVector.ofRaw v)).rankQ i =
        ok (rankSpec v.bits i) ∧
      (steps.foldl (fun b t => enableSome t.1 t.2.1 t.2.2 b) (BitVector.ofRaw v)).rankZeroQ m i =
        ok (i - rankSpec v.bits i)) ∧
    (∀ t, t ∈ steps → t.2.1 = true →
      (steps.foldl (fun b t => enableSome t.1 t.2.1 t.2.2 b) (BitVector.ofRaw v)).selectQ m i =
        ok (selectSpec v.bits i)) ∧
    (∀ t, t ∈ steps → t.2.2 = true →
      (steps.foldl (fun b t => enableSome t.1 t.2.1 t.2.2 b) (BitVector.ofRaw v)).selectZeroQ m i =
        ok (selectZeroSpec v.bits i)) := by
  obtain ⟨a1, a2, a3, a4, a5, a6, a7, a8, a9⟩ := enable_history_inv steps (BitVector.ofRaw v)
    (ofRaw_sound hv (by omega)) (ofRaw_wf hv (by omega)) (ofRaw_supValid v)
  have hd : (BitVector.ofRaw v).data = v := rfl
  have r0 : (BitVector.ofRaw v).rank.isSome = false := rfl
  have s0 : (BitVector.ofRaw v).select.isSome = false := rfl
  have z0 : (BitVector.ofRaw v).selectZero.isSome = false := rfl
  rw [hd] at a4
  rw [r0, Bool.false_or] at a7
  rw [s0, Bool.false_or] at a8
  rw [z0, Bool.false_or] at a9
  refine ⟨a4, a5, a7, a8, a9,
    bitVectorC_lawful.roundtrip _ rest a2, a6, ?_, ?_, ?_⟩
  · intro t ht h1
    have hp : (steps.foldl (fun b t => enableSome t.1 t.2.1 t.2.2 b) (BitVector.ofRaw v)).rank.isSome := by
      rw [a7]; exact List.any_eq_true.mpr ⟨t, ht, h1⟩
    have h1 := rankQ_spec a1 a3 hp i
    have h2 := rankZeroQ_spec a1 a3 hp m i
    rw [a4] at h1 h2
    exact ⟨h1, h2⟩
  · intro t ht h1
    have hp : (steps.foldl (fun b t => enableSome t.1 t.2.1 t.2.2 b) (BitVector.ofRaw v)).select.isSome := by
      rw [a8]; exact List.any_eq_true.mpr ⟨t, ht, h1⟩
    have h1 := selectQ_spec a1 a3 hp m i
    rw [a4] at h1
    exact h1
  · intro t ht h1
    have hp :
        (steps.foldl (fun b t => enableSome t.1 t.2.1 t.2.2 b) (BitVector.ofRaw v)).selectZero.isSome := by
      rw [a9]; exact List.any_eq_true.mpr ⟨t, ht, h1⟩
    have h1 := selectZeroQ_spec a1 a3 hp m i
    rw [a4] at h1
    exact h1

/-- one save / load cycle, spelled out: the loaded vector answers as the original does, for each support
that was present when it was written -/
theorem loaded_vector_answers_as_original (v : RawVec) (hv : v.WF) (hlen : v.len < 2 ^ 62) (r s z : Bool)
    (rest : Elems) :
    ∃ b', bitVectorC.load (bitVectorC.ser (enableSome r s z (BitVector.ofRaw v)) ++ rest) = ok (b', rest) ∧
      (r = true → ∀ i, b'.rankQ i = ok (rankSpec v.bits i)) ∧
      (s = true → ∀ (m : Mode) k, b'.selectQ m k = ok (selectSpec v.bits k)) ∧
      (z = true → ∀ (m : Mode) k, b'.selectZeroQ m k = ok (selectZeroSpec v.bits k)) := by
  obtain ⟨b', h1, _, _, h2, h3, h4⟩ := loaded_answers hv hlen r s z rest
  exact ⟨b', h1, h2, h3, h4⟩

/-! ### structures that embed plain bitvectors load from files without support structures -/

/-- **Sparse vector** (set or multiset mode, every admissible low width): whichever subset of the select /
select-zero supports the embedded `high` bitvector carries in the file — none in particular — loading succeeds
and returns exactly the vector the builder produced; hence it answers every query as proven in C02 / C15 -/
theorem sparse_vector_loads_without_supports (w n : Nat) (multi : Bool) (P : List Nat) (hw1 : 1 ≤ w)
    (hw : w ≤ 63) (hn : n < 2 ^ 64) (hm : P.length < 2 ^ 63)
    (hsorted : if multi then sortedLe P = true else sortedStrict P = true) (hbound : ∀ p ∈ P, p < n)
    (hhigh : P.length + Sparse.getBuckets n w < 2 ^ 63) (hlow : P.length * w < 2 ^ 64) :
    ∃ s, Sparse.ofValues w n multi P = ok s ∧
      (∀ (sel selz : Bool) (rest : Elems),
        sparseC.load (BitVec.ofNat 64 n ::
          (bitVectorC.ser (enableSome false sel selz (BitVector.ofRaw s.high.data)) ++
            intVecC.ser s.low) ++ rest) = ok (s, rest)) ∧
      (∀ (m : Mode) (r : Nat), s.select m r = ok (selectSet P r)) ∧
      (∀ (m : Mode) (i : Nat), s.rank m i = ok (rankSet P i)) := by
  obtain ⟨s, h1, he, h2⟩ := sparse_load_any_supports w n multi P hw1 hw hn hm hsorted hbound hhigh hlow
  exact ⟨s, h1, h2, fun m r => select_ok he m r, fun m i => rank_ok he m i⟩

/-- **Wavelet-matrix core**: `f l` selects the subset of supports level `l` carries in the file (any subset,
none in particular, independently per level); loading returns exactly the built core -/
theorem wavelet_matrix_core_loads_without_supports (V : List Nat) (hlen : V.length < 2 ^ 63)
    (f : Nat → Bool × Bool × Bool) (rest : Elems) :
    wmCoreC.load (BitVec.ofNat 64 (widthOf V) :: ((List.range (widthOf V)).map fun l =>
          enableSome (f l).1 (f l).2.1 (f l).2.2
            (BitVector.ofRaw (RawVec.ofBits (col (widthOf V) V l)))).flatMap bitVectorC.ser ++ rest) =
      ok (WMCore.ofValues V, rest) :=
  wmCore_load_any_supports V hlen f rest

/-- **Wavelet matrix**: the same for the whole structure; the loaded value is the built one, so it answers
every query as proven in C04 (two of them restated) -/
theorem wavelet_matrix_loads_without_supports (V : List Nat) (hV : ∀ v, v ∈ V → v < 2 ^ 64)
    (hlen : V.length < 2 ^ 63) (hfirst : (V.foldl max 0 + 1) * 64 < 2 ^ 64)
    (f : Nat → Bool × Bool × Bool) (rest : Elems) :
    ∃ w, wmC.load (BitVec.ofNat 64 V.length ::
        (BitVec.ofNat 64 (widthOf V) :: ((List.range (widthOf V)).map fun l =>
            enableSome (f l).1 (f l).2.1 (f l).2.2
              (BitVector.ofRaw (RawVec.ofBits (col (widthOf V) V l)))).flatMap bitVectorC.ser) ++
          intVecC.ser (WM.ofValues V).first ++ rest) = ok (w, rest) ∧
      w = WM.ofValues V ∧
      (∀ (m : Mode) (i : Nat) (hi : i < V.length), w.get m i = ok V[i]) ∧
      (∀ (m : Mode) (i v : Nat), w.rank m i v = ok ((V.take i).count v)) := by
  have hw := WM.ofValues_ok_full V hV hlen
  exact ⟨_, wm_load_any_supports V hV hlen hfirst f rest, rfl, fun m i hi => get_ok_wm hw m i hi,
    fun m i v => rank_ok_wm hw m i v⟩

/-- the levels written in the theorems above are the levels of the built matrix with their supports
stripped and the chosen subset re-enabled: with all three flags set at every level the file is the
serialization of the built core itself -/
theorem full_flags_give_the_serialization (V : List Nat) :
    wmCoreC.ser (WMCore.ofValues V) = BitVec.ofNat 64 (widthOf V) :: ((List.range (widthOf V)).map fun l =>
      enableSome true true true (BitVector.ofRaw (RawVec.ofBits (col (widthOf V) V l)))).flatMap
        bitVectorC.ser :=
  wmCoreC_ser_ofValues V

/-! ### skipping an optional structure moves the reader exactly past it, whatever it contains -/

/-- element level and byte level: after `skip_option` on a serialized `Option<T>` (absent or present, any `T`,
any content) followed by anything, exactly what followed is left -/
theorem skip_option_moves_exactly_past {α} (c : Codec α) (W : α → Prop) (o : Option α)
    (ho : match o with
      | none => True
      | some x => W x ∧ 0 < (c.ser x).length ∧ (c.ser x).length < 2 ^ 64) (rest : Elems) :
    skipOptionSpec ((optionC c).ser o ++ rest) = ok rest ∧
    skipOptionSpec (ofBytes (toBytes ((optionC c).ser o) ++ toBytes rest)) = ok rest ∧
    (toBytes ((optionC c).ser o)).length = 8 * (optionC c).size o := by
  have ho' : optWF c W o := by cases o <;> exact ho
  refine ⟨skipOptionSpec_ser c W o rest ho', ?_, length_toBytes _⟩
  rw [← toBytes_append, ofBytes_toBytes]
  exact skipOptionSpec_ser c W o rest ho'

/-- in particular the three optional supports of a serialized bitvector can each be skipped -/
theorem skip_each_support (b : BitVector) (hb : bitVectorWF b) (rest : Elems) :
    skipOptionSpec ((optionC rankSupC).ser b.rank ++ rest) = ok rest ∧
    skipOptionSpec ((optionC selSupC).ser b.select ++ rest) = ok rest ∧
    skipOptionSpec ((optionC selSupC).ser b.selectZero ++ rest) = ok rest := by
  obtain ⟨_, _, _, h4, h5, h6⟩ := hb
  exact ⟨skipOptionSpec_ser rankSupC rankSupWF b.rank rest
      (optWF_of_clause rankSupC_ser_pos fun s hr => ⟨(h4 s hr).1, (h4 s hr).2.2⟩),
    skipOptionSpec_ser selSupC selSupWF b.select rest
      (optWF_of_clause selSupC_ser_pos fun s hr => ⟨(h5 s hr).1, (h5 s hr).2.2⟩),
    skipOptionSpec_ser selSupC selSupWF b.selectZero rest
      (optWF_of_clause selSupC_ser_pos fun s hr => ⟨(h6 s hr).1, (h6 s hr).2.2⟩)⟩

/-! ### non-vacuity -/

example : (RawVec.ofBits [true, false, true, true]).WF ∧ (RawVec.ofBits [true, false, true, true]).len < 2 ^ 62 := by
  decide
/-- a history: enable select, reload, reload, enable rank and select-zero, reload, reload -/
example : ([(false, true, false), (false, false, false), (true, false, true), (false, false, false)] :
    List (Bool × Bool × Bool)).any (fun t => t.1) = true := by decide
example : (1 ≤ 2 ∧ 2 ≤ 63 ∧ 10 < 2 ^ 64 ∧ sortedStrict [0, 5, 9] = true ∧ (∀ p ∈ [0, 5, 9], p < 10) ∧
    [0, 5, 9].length + Sparse.getBuckets 10 2 < 2 ^ 63 ∧ [0, 5, 9].length * 2 < 2 ^ 64) := by decide
example : (([5, 0, 5, 9, 0] : List Nat).foldl max 0 + 1) * 64 < 2 ^ 64 := by decide

/-! **`supports_*` / `enable_*` as translated from the source on this run** (`Generated/FnsEnable.lean`): the four tests and
the four enabling methods of `BitVector` — the guard `!self.supports_x()`, which field is assigned, and that
`enable_pred_succ` is `enable_rank` then `enable_select`.  Unconditionally the model functions whose idempotence and
commutation the theorems above state (the support constructors themselves are loops over the whole vector and are named
by their model functions). -/
theorem enable_methods_as_translated_from_source (m : Mode) (b : BitVector) :
    Generated.gen_BitVector_supports_rank m b = ok b.rank.isSome ∧
    Generated.gen_BitVector_supports_select m b = ok b.select.isSome ∧
    Generated.gen_BitVector_supports_select_zero m b = ok b.selectZero.isSome ∧
    Generated.gen_BitVector_supports_pred_succ m b = ok (b.rank.isSome && b.select.isSome) ∧
    Generated.gen_BitVector_enable_rank m b = ok b.enableRank ∧
    Generated.gen_BitVector_enable_select m b = ok b.enableSelect ∧
    Generated.gen_BitVector_enable_select_zero m b = ok b.enableSelectZero ∧
    Generated.gen_BitVector_enable_pred_succ m b = ok b.enableRank.enableSelect :=
  ⟨GenEq.supports_rank_eq m b, GenEq.supports_select_eq m b, GenEq.supports_select_zero_eq m b,
   GenEq.supports_pred_succ_eq m b, GenEq.enable_rank_eq m b, GenEq.enable_select_eq m b,
   GenEq.enable_select_zero_eq m b, GenEq.enable_pred_succ_eq m b⟩

/-! **Loading composite structures whose embedded bitvectors carry no supports, as translated from the source on this
run**: `SparseVector::load` and `WaveletMatrix::load` (`Generated/FnsLoad.lean`, with the `enable_select` /
`enable_select_zero` after a sparse load and the sanity check `high.len() != low.len() + get_buckets(len, low.width())`)
are the `load` of the model codecs, and `SparseBuilder::get_buckets` — the bucket count that check relies on — is the
model's on EVERY low width the file format admits (`1..=64`, not only the widths the crate's own builder chooses: at
width 64 the guarded shift contributes 0), so a file written by anyone following the format loads whatever supports
its `high` carries. -/
theorem composite_loaders_as_translated_from_source (m : Mode) (es : Elems) (univ w : Nat) :
    (GenEq.SparseOk es → Generated.gen_SparseVector_load m es = sparseC.load es) ∧
    (GenEq.WmOk es → Generated.gen_WaveletMatrix_load m es = wmC.load es) ∧
    (GenEq.BvOk es → Generated.gen_BitVector_load m es = bitVectorC.load es) ∧
    (w ≤ 64 → univ < U64 → Generated.gen_SparseBuilder_get_buckets m univ w = ok (Sparse.getBuckets univ w)) :=
  ⟨GenEq.sparse_load_eq m es, GenEq.wm_load_eq m es, GenEq.bv_load_eq m es, fun hw hu => GenEq.get_buckets_eq m univ w hw hu⟩

/-- the translated `get_buckets` at low width 64 (a width the format admits and the crate's builder never chooses) -/
example : Generated.gen_SparseBuilder_get_buckets .checked 1000 64 = ok 1 ∧
    Generated.gen_SparseBuilder_get_buckets .wrapping 1000 64 = ok 1 ∧
    Generated.gen_SparseBuilder_get_buckets .checked 0 64 = ok 0 := by decide

/-- **`skip_option` as translated from the source on this run**: after a successful skip the reader stands exactly behind
the optional structure (`n` elements after the prefix), whatever the structure contains -/
theorem skip_option_as_translated_moves_exactly_past (m : Mode) (n : Word) (body rest : Elems) (hn : n.toNat < 2 ^ 61)
    (hb : body.length = n.toNat) : Generated.gen_skip_option m (n :: (body ++ rest)) = ok ((), rest) := by
  rw [GenEq.skip_option_eq m _ (by intro n' r' h; cases h; exact hn)]
  simp [GenEq.skipSpecR, skipOptionSpec, readElem, ← hb]

end Sds.C19
