/-
C04 — Wavelet matrix reproduces the vector and answers rank/select-type queries.

Property theorems only (helper lemmas live in Proofs/).  Quantifiers: every list `V` of `u64` values
(`∀ v ∈ V, v < 2^64`: this covers all five source item types, which are converted to `u64` before the
builder runs) of length `< 2^63` (0 and 1 included), every index / rank / value argument — also indices
past the end, ranks `≥ 2^63`, values absent from `V` and values `≥ 2^width` — and both arithmetic modes.

**Unconditional.**  `Proofs/WM` proves the queries of every matrix that satisfies the invariant `WM.Ok` (each
level answers get / rank / rank_zero / select / select_zero as the bit column it stands for, `LevelOk`; `first`
holds the start offsets), and that the builder establishes the invariant (`WM.ofValues_ok_full`) from the
plain-bitvector and integer-vector theorems (`levelOk_ofBits`, `intVec_ofList_pack_get`), so nothing is
assumed below.

List-level vocabulary used in the statements (definitions in Proofs/WM.lean, all elementary):
  `widthOf V = bit_len(max V)` (1 for the empty vector);
  `selectVal V v r` = index of the `r`-th occurrence of `v` in `V` — characterised in `select_exact`;
  `firstPos w V v = |{u ∈ V : key u < key v}|`, where the key is the reversal of the low `w` bits —
    for `v < 2^w` this is `|{u ∈ V : reverse_bits u < reverse_bits v}|` (`first_is_reverse_bits_count`);
  `S w V w` = the sequence stored (conceptually) below the last level.
-/
import Sds.Proofs.Glue2
import Sds.Proofs.GenEqIdx
import Sds.Proofs.GenEqLoop4
import Sds.Proofs.GenEqWM
import Sds.Proofs.GenEqConstr5
import Sds.Proofs.GenEqWMNew

namespace Sds.C04
open Sds Outcome

/-! ### shape: length and minimal width -/

/-- the matrix has the length of `V`, and its width is the least width `≥ 1` in which every value fits
(so between 1 and 64) -/
theorem length_and_minimal_width (V : List Nat) (hV : ∀ v, v ∈ V → v < 2 ^ 64) (hlen : V.length < 2 ^ 63) :
    (WM.ofValues V).len = V.length ∧
    (WM.ofValues V).data.len = ok V.length ∧
    (WM.ofValues V).data.width = bitLen (BitVec.ofNat 64 (V.foldl max 0)) ∧
    1 ≤ (WM.ofValues V).data.width ∧ (WM.ofValues V).data.width ≤ 64 ∧
    (∀ v, v ∈ V → v < 2 ^ (WM.ofValues V).data.width) ∧
    (∀ w', 1 ≤ w' → (∀ v, v ∈ V → v < 2 ^ w') → (WM.ofValues V).data.width ≤ w') := by
  have hw := WM.ofValues_ok_full V hV hlen
  have hwd : (WM.ofValues V).data.width = widthOf V := hw.core.width_eq
  rw [hwd]
  exact ⟨hw.len, len_ok hw.core, rfl, widthOf_pos V, widthOf_le V, lt_two_pow_widthOf V hV,
    fun w' h1 h2 => widthOf_minimal V w' h1 h2⟩

/-! ### the queries -/

/-- `get(i) = V[i]` for every index in range … -/
theorem get_exact (V : List Nat) (hV : ∀ v, v ∈ V → v < 2 ^ 64) (hlen : V.length < 2 ^ 63)
    (m : Mode) (i : Nat) (hi : i < V.length) : (WM.ofValues V).get m i = ok V[i] :=
  get_ok_wm (WM.ofValues_ok_full V hV hlen) m i hi

/-- … and past the end it is the documented `unwrap` panic of the library (never a wrong value) -/
theorem get_out_of_range (V : List Nat) (hV : ∀ v, v ∈ V → v < 2 ^ 64) (hlen : V.length < 2 ^ 63)
    (m : Mode) (i : Nat) (hi : V.length ≤ i) : (WM.ofValues V).get m i = fault (.panic .unwrap) :=
  get_panic (WM.ofValues_ok_full V hV hlen) m i hi

/-- `rank(i, v)` = occurrences of `v` before `i`, for every index (clamped past the end) and every value -/
theorem rank_exact (V : List Nat) (hV : ∀ v, v ∈ V → v < 2 ^ 64) (hlen : V.length < 2 ^ 63)
    (m : Mode) (i v : Nat) : (WM.ofValues V).rank m i v = ok ((V.take i).count v) :=
  rank_ok_wm (WM.ofValues_ok_full V hV hlen) m i v

/-- `select(r, v)` = index of the `r`-th occurrence of `v`, or `None` when `v` has at most `r` occurrences,
for every rank (also `r ≥ 2^63`, where `start + rank` would overflow) and every value -/
theorem select_exact (V : List Nat) (hV : ∀ v, v ∈ V → v < 2 ^ 64) (hlen : V.length < 2 ^ 63)
    (m : Mode) (r v : Nat) :
    (WM.ofValues V).select m r v = ok (selectVal V v r) ∧
    (∀ i, selectVal V v r = some i ↔ (V[i]? = some v ∧ (V.take i).count v = r)) ∧
    (selectVal V v r = none ↔ V.count v ≤ r) :=
  ⟨select_ok_wm (WM.ofValues_ok_full V hV hlen) m r v, fun i => selectVal_eq_some V v r i,
    selectVal_eq_none V v r⟩

/-- `inverse_select(i)` = `(rank of V[i] among its occurrences, V[i])`, `None` past the end -/
theorem inverse_select_exact (V : List Nat) (hV : ∀ v, v ∈ V → v < 2 ^ 64) (hlen : V.length < 2 ^ 63)
    (m : Mode) (i : Nat) :
    (WM.ofValues V).inverseSelect m i =
      ok (if h : i < V.length then some ((V.take i).count V[i], V[i]) else none) := by
  have hw := WM.ofValues_ok_full V hV hlen
  by_cases h : i < V.length
  · rw [dif_pos h]; exact inverseSelect_ok hw m i h
  · rw [dif_neg h]; exact inverseSelect_none hw m i (Nat.le_of_not_lt h)

/-- `contains(v)` for every value -/
theorem contains_exact (V : List Nat) (hV : ∀ v, v ∈ V → v < 2 ^ 64) (hlen : V.length < 2 ^ 63)
    (v : Nat) : (WM.ofValues V).contains v = ok (decide (v ∈ V)) :=
  contains_ok (WM.ofValues_ok_full V hV hlen) v

/-- `value_iter(v)` / `select_iter`: from state `r` (the next rank) the iterator yields
`(r, index of the r-th occurrence)` and moves to `r + 1`, and ends (for good) when there is none -/
theorem value_iter_exact (V : List Nat) (hV : ∀ v, v ∈ V → v < 2 ^ 64) (hlen : V.length < 2 ^ 63)
    (m : Mode) (v r : Nat) :
    (WM.ofValues V).valueIterNext m v r = ok (if r ≥ V.length then (none, r) else
      match selectVal V v r with
      | some idx => (some (r, idx), r + 1)
      | none => (none, V.length)) :=
  valueIterNext_ok (WM.ofValues_ok_full V hV hlen) m v r

/-- `predecessor(i, v)` (default method, starting rank of the returned value iterator): the rank of the
last occurrence of `v` at or before `i`, or `len` (empty iterator) when there is none — every `i`, also
`usize::MAX` -/
theorem predecessor_exact (V : List Nat) (hV : ∀ v, v ∈ V → v < 2 ^ 64) (hlen : V.length < 2 ^ 63)
    (m : Mode) (i v : Nat) :
    (WM.ofValues V).predecessor m i v =
      ok (if (V.take (i + 1)).count v > 0 then (V.take (i + 1)).count v - 1 else V.length) :=
  predecessor_ok (WM.ofValues_ok_full V hV hlen) m i v

/-- `successor(i, v)` (default method): the rank of the first occurrence of `v` at or after `i`, i.e. the
number of occurrences before `i` (the value iterator is empty from that rank on when there is none) -/
theorem successor_exact (V : List Nat) (hV : ∀ v, v ∈ V → v < 2 ^ 64) (hlen : V.length < 2 ^ 63)
    (m : Mode) (i v : Nat) : (WM.ofValues V).successor m i v = ok ((V.take i).count v) :=
  successor_ok (WM.ofValues_ok_full V hV hlen) m i v

/-- values that are absent — in particular all values outside the alphabet, `v ≥ 2^width` — have no
occurrences: `contains` is false, every `rank` is 0, every `select` is `None`, the value iterator is empty,
`predecessor` gives the empty iterator, `successor` rank 0 (where `select` is `None`) -/
theorem absent_values_have_no_occurrences (V : List Nat) (hV : ∀ v, v ∈ V → v < 2 ^ 64)
    (hlen : V.length < 2 ^ 63) (m : Mode) (v : Nat)
    (habs : v ∉ V ∨ v ≥ 2 ^ (WM.ofValues V).data.width) :
    (WM.ofValues V).contains v = ok false ∧
    (∀ i, (WM.ofValues V).rank m i v = ok 0) ∧
    (∀ r, (WM.ofValues V).select m r v = ok none) ∧
    (∀ r, ((WM.ofValues V).valueIterNext m v r).toOption.map (·.1) = some none) ∧
    (∀ i, (WM.ofValues V).predecessor m i v = ok V.length) ∧
    (∀ i, (WM.ofValues V).successor m i v = ok 0) := by
  have hw := WM.ofValues_ok_full V hV hlen
  have hnot : v ∉ V := habs.elim id fun h => not_mem_of_ge hw.core (hw.core.width_eq ▸ h)
  obtain ⟨h1, h2, h3, h4, h5⟩ := absent_ok hw m hnot
  refine ⟨h1, h2, h3, fun r => ?_, h4, h5⟩
  obtain ⟨st, h⟩ := valueIterNext_none hw m v r (by rw [List.count_eq_zero.mpr hnot]; exact Nat.zero_le _)
  rw [h]; rfl

/-! ### the core mapping -/

/-- `first`: for a value inside the alphabet the number of elements with a smaller key is the number of
elements whose 64-bit reversal is smaller -/
theorem first_is_reverse_bits_count (V : List Nat) (hV : ∀ v, v ∈ V → v < 2 ^ 64) (hlen : V.length < 2 ^ 63)
    (v : Nat) (hv : v < 2 ^ (WM.ofValues V).data.width) :
    firstPos (WM.ofValues V).data.width V v = V.countP (fun u => decide (rev64 u < rev64 v)) := by
  have hw := WM.ofValues_ok_full V hV hlen
  rw [hw.core.width_eq] at hv ⊢
  exact firstPos_eq_rev64 _ V hw.core.width_pos hw.core.width_le hw.core.bound v hv

/-- **`map_down`** sends position `i` to the position of `V[i]` in the stable sort of `V` by reversed bit
representation: there is a list `L` (the sequence below the last level) that is a permutation of `V`, sorted
by `reverse_bits`, and `map_down(i) = (p, V[i])` where `L[p] = V[i]` and
`p = |{u ∈ V : reverse_bits u < reverse_bits V[i]}| + |{j < i : V[j] = V[i]}|` — smaller keys first, equal
elements in their original order (stability).  Past the end the answer is `None`. -/
theorem map_down_is_stable_sort_position (V : List Nat) (hV : ∀ v, v ∈ V → v < 2 ^ 64)
    (hlen : V.length < 2 ^ 63) (m : Mode) :
    ∃ L : List Nat, L.Perm V ∧ L.Pairwise (fun a b => rev64 a ≤ rev64 b) ∧
      (∀ i (hi : i < V.length),
        (WM.ofValues V).data.mapDown m i =
          ok (some (V.countP (fun u => decide (rev64 u < rev64 V[i])) + (V.take i).count V[i], V[i])) ∧
        L[V.countP (fun u => decide (rev64 u < rev64 V[i])) + (V.take i).count V[i]]? = some V[i]) ∧
      (∀ i, V.length ≤ i → (WM.ofValues V).data.mapDown m i = ok none) := by
  have hw := WM.ofValues_ok_full V hV hlen
  have hc := hw.core
  refine ⟨S (widthOf V) V (widthOf V), S_perm _ _ _,
    S_sorted_rev64 _ V hc.width_pos hc.width_le hc.bound, ?_, fun i hi => mapDown_none hc m i hi⟩
  intro i hi
  have h := mapDown_ok hc m i hi
  have hf := firstPos_eq_rev64 _ V hc.width_pos hc.width_le hc.bound V[i] (hc.bound _ (List.getElem_mem hi))
  unfold finalPos at h
  rw [hf] at h
  exact h

/-- **`map_down_with(i, v)`**, every index (clamped) and every value: `first v` plus the number of
occurrences of `v` before `i`; only the low `width` bits of `v` are looked at -/
theorem map_down_with_exact (V : List Nat) (hV : ∀ v, v ∈ V → v < 2 ^ 64) (hlen : V.length < 2 ^ 63)
    (m : Mode) (i v : Nat) :
    (WM.ofValues V).data.mapDownWith m i v =
      ok (firstPos (WM.ofValues V).data.width V v +
          (V.take i).count (v % 2 ^ (WM.ofValues V).data.width)) ∧
    (WM.ofValues V).data.mapDownWith m i v =
      (WM.ofValues V).data.mapDownWith m i (v % 2 ^ (WM.ofValues V).data.width) := by
  have hw := WM.ofValues_ok_full V hV hlen
  rw [hw.core.width_eq]
  exact ⟨mapDownWith_ok' hw.core m i v, mapDownWith_mod hw.core m i v⟩

/-- **`map_up_with(p, v)`**, every position and every value, both modes, never a fault: `None` below
`first v`, and at `first v + r` the index of the `r`-th occurrence of `v` -/
theorem map_up_with_exact (V : List Nat) (hV : ∀ v, v ∈ V → v < 2 ^ 64) (hlen : V.length < 2 ^ 63)
    (m : Mode) (p v : Nat) :
    (WM.ofValues V).data.mapUpWith m p v =
      ok (if p < firstPos (WM.ofValues V).data.width V v then none
          else selectVal V (v % 2 ^ (WM.ofValues V).data.width)
                 (p - firstPos (WM.ofValues V).data.width V v)) := by
  have hw := WM.ofValues_ok_full V hV hlen
  rw [hw.core.width_eq]
  exact mapUpWith_total hw.core m p v

/-- **mapping up inverts mapping down**: from the position `map_down` returns for `i`, and from the one
`map_down_with(i, V[i])` returns, `map_up_with` comes back to `i` -/
theorem map_up_inverts_map_down (V : List Nat) (hV : ∀ v, v ∈ V → v < 2 ^ 64) (hlen : V.length < 2 ^ 63)
    (m : Mode) (i : Nat) (hi : i < V.length) :
    (∃ p, (WM.ofValues V).data.mapDown m i = ok (some (p, V[i])) ∧
      (WM.ofValues V).data.mapUpWith m p V[i] = ok (some i)) ∧
    ((WM.ofValues V).data.mapDownWith m i V[i] >>= fun d => (WM.ofValues V).data.mapUpWith m d V[i]) =
      ok (some i) := by
  have hc := (WM.ofValues_ok_full V hV hlen).core
  exact ⟨⟨_, (mapDown_ok hc m i hi).1, mapUpWith_finalPos hc m i hi⟩, mapUpWith_mapDownWith hc m i hi⟩

/-! ### every structure satisfying the invariant (e.g. a loaded one) answers the same way

The theorems above are instances of theorems about any `w : WM` with `w.Ok V width` (the levels hold the bit
columns of `V` and `first` holds the start offsets); the builder establishes that invariant: -/

theorem builder_establishes_invariant (V : List Nat) (hV : ∀ v, v ∈ V → v < 2 ^ 64)
    (hlen : V.length < 2 ^ 63) : (WM.ofValues V).Ok V (bitLen (BitVec.ofNat 64 (V.foldl max 0))) :=
  WM.ofValues_ok_full V hV hlen

/-! ### defects of the code as first written (documentation; the `…Old` definitions model the code before
the `fix:` commits, the theorems above are about the repaired code) -/

/-- F3: the default `predecessor(usize::MAX, _)` overflowed `index + 1` in checked builds, on every
structure … -/
theorem F3_predecessor_old_panics (w : WM) (v : Nat) :
    WM.predecessorOld .checked w (2 ^ 64 - 1) v = fault (.panic .overflow) :=
  F3_predecessorOld_checked w v

/-- … where the repaired method (`saturating_add`) answers -/
theorem F3_predecessor_repaired (V : List Nat) (hV : ∀ v, v ∈ V → v < 2 ^ 64) (hlen : V.length < 2 ^ 63)
    (m : Mode) (v : Nat) :
    (WM.ofValues V).predecessor m (2 ^ 64 - 1) v = ok (if V.count v > 0 then V.count v - 1 else V.length) :=
  F3_predecessor_ok (WM.ofValues_ok_full V hV hlen) m v

/-- F4: `map_up_one` computed `index - zeros` unchecked, and `select` computed `start + rank` unchecked: on
`V = [0, 1]` the checked build panicked (the release build happened to answer `None`) … -/
theorem F4_old_code_panics :
    mapUpWithOld .checked (WMCore.ofValues [0, 1]) 0 1 = fault (.panic .overflow) ∧
    mapUpWithOld .wrapping (WMCore.ofValues [0, 1]) 0 1 = ok none ∧
    (WM.ofValues [0, 1]).selectOld .checked (2 ^ 64 - 1) 1 = fault (.panic .overflow) ∧
    (WM.ofValues [0, 1]).selectOld .wrapping (2 ^ 64 - 1) 1 = ok none :=
  ⟨F4_mapUpWith_checked, F4_mapUpWith_wrapping, F4_select_checked, F4_select_wrapping⟩

/-- … where the repaired code answers `None` in both builds -/
theorem F4_repaired :
    (WMCore.ofValues [0, 1]).mapUpWith .checked 0 1 = ok none ∧
    (WMCore.ofValues [0, 1]).mapUpWith .wrapping 0 1 = ok none ∧
    (WM.ofValues [0, 1]).select .checked (2 ^ 64 - 1) 1 = ok none ∧
    (WM.ofValues [0, 1]).select .wrapping (2 ^ 64 - 1) 1 = ok none :=
  ⟨F4_mapUpWith_repaired_checked, F4_mapUpWith_repaired_wrapping, F4_select_repaired_checked,
    F4_select_repaired_wrapping⟩

/-! ### non-vacuity: concrete vectors meeting the hypotheses (sparse alphabet with missing values, the empty
vector, a vector holding `u64::MAX`), and the reference answers on one of them -/

example : (∀ v, v ∈ [5, 0, 5, 9, 0] → v < 2 ^ 64) ∧ [5, 0, 5, 9, 0].length < 2 ^ 63 := by decide
example : (∀ v, v ∈ ([] : List Nat) → v < 2 ^ 64) ∧ ([] : List Nat).length < 2 ^ 63 := by decide
example : (∀ v, v ∈ [2 ^ 64 - 1, 0] → v < 2 ^ 64) ∧ [2 ^ 64 - 1, 0].length < 2 ^ 63 := by decide
example : (([5, 0, 5, 9, 0].take 3).count 5 = 2 ∧ selectVal [5, 0, 5, 9, 0] 5 1 = some 2 ∧
    selectVal [5, 0, 5, 9, 0] 5 2 = none ∧ selectVal [5, 0, 5, 9, 0] 7 0 = none ∧
    bitLen (BitVec.ofNat 64 ([5, 0, 5, 9, 0].foldl max 0)) = 4 ∧
    bitLen (BitVec.ofNat 64 (([] : List Nat).foldl max 0)) = 1) := by decide
/-- the hypothesis of `absent_values_have_no_occurrences` is met by a missing value and by one outside the
alphabet -/
example : (7 ∉ [5, 0, 5, 9, 0]) ∧ (16 ∉ [5, 0, 5, 9, 0]) := by decide

/-! **The level steps of `wm_core.rs` as translated from the source on this run** (`Generated/FnsIdx.lean`):
`bit_value`, `map_down_one`, `map_down_zero`, `map_up_one` (with the `checked_sub` of the repair of F4) and `map_up_zero`.
The code as it is NOW is the model function the theorems above are about; `map_down_one` adds in `usize`, which cannot
overflow on a level shorter than 2^64 bits (`zeros + rank ≤ len`). -/
theorem wm_level_steps_as_translated_from_source (m : Mode) (c : WMCore) (i l : Nat) :
    (l < c.width → c.width ≤ 64 → Generated.gen_WMCore_bit_value m c l = ok (BitVec.ofNat 64 (c.bitValue l))) ∧
    ((∀ b r, c.level l = ok b → b.rankQ i = ok r → b.countZeros + r < U64) →
      Generated.gen_WMCore_map_down_one m c i l = c.mapDownOne i l) ∧
    Generated.gen_WMCore_map_down_zero m c i l = c.mapDownZero m i l ∧
    Generated.gen_WMCore_map_up_one m c i l = c.mapUpOne m i l ∧
    Generated.gen_WMCore_map_up_zero m c i l = c.mapUpZero m i l :=
  ⟨fun h1 h2 => GenEq.wm_bit_value_eq m c l h1 h2, fun hs => GenEq.wm_map_down_one_eq_model m c i l hs,
   GenEq.wm_map_down_zero_eq m c i l, GenEq.wm_map_up_one_eq m c i l, GenEq.wm_map_up_zero_eq m c i l⟩

/-- the translated `map_up_one` below the zero count answers `None` (finding F4) instead of wrapping around -/
example : Generated.gen_WMCore_map_up_one .checked (WMCore.ofValues [0, 1]) 0 0 = ok none := by decide +kernel

/-! **The level loops of `wm_core.rs` as translated from the source on this run** (`Generated/FnsLoop.lean`): `map_down`,
`map_down_with`, `map_down_with_two_positions` (`for level in 0..width`) and `map_up_with` (`for level in
(0..width).rev()` with `?` inside).  Each `for` becomes `loopM` over a counter and the variables the body assigns; a `?` in
a branch makes the branch yield an `Option` that is matched after it.  On every core that encodes a vector (`Encodes`, the
predicate the construction provably establishes), for every index and value and both build modes, the code as it is NOW
is the model fold the theorems above are about — the bit test `value & bit_value(level) != 0` being the model's
`(value / 2^(width-1-level)) % 2 = 1` for every natural `value`, and the `u64` accumulation in `map_down` never
overflowing.  The two-position variant equals running `map_down_with` twice. -/
theorem wm_level_loops_as_translated_from_source {c : WMCore} {V : List Nat} {width : Nat} (hc : c.Encodes V width)
    (m : Mode) (index second value : Nat) :
    Generated.gen_WMCore_map_down_with m c index (BitVec.ofNat 64 value) = c.mapDownWith m index value ∧
    Generated.gen_WMCore_map_up_with m c index (BitVec.ofNat 64 value) = c.mapUpWith m index value ∧
    Generated.gen_WMCore_map_down m c index =
      (c.mapDown m index).bind (fun r => ok (r.map (fun p => (p.1, BitVec.ofNat 64 p.2)))) ∧
    Generated.gen_WMCore_map_down_with_two_positions m c index second (BitVec.ofNat 64 value) =
      (do let a ← c.mapDownWith m index value; let b ← c.mapDownWith m second value; pure (a, b)) :=
  ⟨GenEq.wm_map_down_with_eq m c index value (GenEq.width_le_of_encodes hc) (GenEq.hs_of_encodes hc),
   GenEq.wm_map_up_with_eq m c index value (GenEq.width_le_of_encodes hc),
   GenEq.wm_map_down_eq m c index (GenEq.width_le_of_encodes hc) (GenEq.hs_of_encodes hc),
   GenEq.wm_map_down_two_eq_of_encodes hc m index second value⟩

/-! **The queries of `WaveletMatrix` as translated from the source on this run** (`Generated/FnsWM.lean`): `start`,
`contains` (with its short-circuit `&&`), `rank`, `inverse_select` (the closure of `Option::map` included), `select` (the
`checked_add` of the repair of F4), `get`, `ValueIter::next`, and the default `predecessor` / `successor` of
`ops::VectorIndex` (the `saturating_add` of the repair of F3).  On every matrix whose core encodes a vector, for every
index, rank and 64-bit value and both build modes, the code as it is NOW is the model function the theorems above are
about (items are `u64` words in the code and naturals in the model). -/
theorem wavelet_matrix_queries_as_translated_from_source {w : WM} {V : List Nat} {width : Nat} (hc : w.data.Encodes V width)
    (m : Mode) (index rank value : Nat) (hv : value < U64) (hlen : w.len < U64) :
    Generated.gen_WaveletMatrix_start m w (BitVec.ofNat 64 value) = w.start value ∧
    Generated.gen_WaveletMatrix_contains m w (BitVec.ofNat 64 value) = w.contains value ∧
    Generated.gen_WaveletMatrix_rank m w index (BitVec.ofNat 64 value) = w.rank m index value ∧
    Generated.gen_WaveletMatrix_select m w rank (BitVec.ofNat 64 value) = w.select m rank value ∧
    Generated.gen_WaveletMatrix_inverse_select m w index =
      (w.inverseSelect m index).bind (fun r => ok (r.map (fun p => (p.1, BitVec.ofNat 64 p.2)))) ∧
    Generated.gen_WaveletMatrix_get m w index = (w.get m index).bind (fun v => ok (BitVec.ofNat 64 v)) ∧
    Generated.gen_ValueIter_next m w (BitVec.ofNat 64 value, rank) =
      (w.valueIterNext m value rank).bind (fun r => ok (r.1, (BitVec.ofNat 64 value, r.2))) ∧
    Generated.gen_VectorIndex_predecessor m w index (BitVec.ofNat 64 value) = w.predecessor m index value ∧
    Generated.gen_VectorIndex_successor m w index (BitVec.ofNat 64 value) = w.successor m index value :=
  have hw := GenEq.width_le_of_encodes hc
  have hs := GenEq.hs_of_encodes hc
  ⟨GenEq.wmx_start_eq m w value hv, GenEq.wmx_contains_eq m w value hv, GenEq.wmx_rank_eq m w index value hv hw hs,
   GenEq.wmx_select_eq m w rank value hv hw, GenEq.wmx_inverse_select_eq m w index hw hs,
   GenEq.wmx_get_eq m w index hw hs, GenEq.wmx_value_iter_next_eq m w value rank hv hw hlen,
   GenEq.wmx_predecessor_eq m w index value hv hw hs, GenEq.wmx_successor_eq m w index value hv hw hs⟩

/-! **The wavelet-matrix core as built from a vector, translated from the source on this run**
(`Generated/FnsConstr5.lean`): the body of `macro_rules! wm_core_from` instantiated at `u64` (the five instances differ only
in the item type) — the maximum, `bit_len`, the `for level in 0..width` loop with `bit_value = 1 << (width - 1 - level)`,
the stable partition of `source` into `zeros` / `ones` while one bit per value is pushed, `source = zeros ++ ones`,
`BitVector::from(raw_data)` — and `WMCore::init_support` (the `iter_mut()` loop calling the four `enable_*`), equal to
the model's `WMCore.ofValues`, which the query theorems above are about, for every vector of fewer than 2^64 − 63 items. -/
theorem wm_core_construction_as_translated_from_source (m : Mode) (source : Array Word) (hb : source.size + 63 < U64) :
    Generated.gen_WMCore_from_u64 m source = ok (WMCore.ofValues (source.toList.map (·.toNat))) ∧
    (∀ c : WMCore, Generated.gen_WMCore_init_support m c = ok c.initSupport) :=
  ⟨GenEq.wm_core_from_eq m source hb, GenEq.wm_init_support_eq m⟩

/-! **`WaveletMatrix::from(Vec<u64>)` and `start_offsets` as translated from the source on this run**
(`Generated/FnsWMNew.lean`; the macro body `wavelet_matrix_from` at `u64`): the alphabet array `(i, 0)` for `i in 0..=max`,
the counting loop `counts[value].1 += 1`, `sort_unstable_by_key` by the bit-reversed value, the prefix sums through
`iter_mut()` (absent values get `len`), the sort back by value, `collect()` into an integer vector, `pack()` — and the
assembly `WaveletMatrix { len, data: WMCore::from(source), first }`.  Equal to the model's `WM.ofValues`, which every query
theorem above is about, for every vector whose alphabet array fits the representation bound; both sorts have distinct keys,
so the instability of Rust's sort is immaterial (`GenEq.wn_sorted_unique`). -/
theorem wavelet_matrix_construction_as_translated_from_source (m : Mode) (cap : Nat) (source : Array Word)
    (hb : source.size + 63 < U64)
    (hn : ((source.toList.map (·.toNat)).foldl max 0 + 1) * 64 + 63 < U64) :
    Generated.gen_WaveletMatrix_from_u64 m cap source = ok (WM.ofValues (source.toList.map (·.toNat))) :=
  GenEq.wm_from_eq m cap source hb hn

theorem start_offsets_as_translated_from_source (m : Mode) (cap : Nat) (iter : List Word) (len : Nat) (maxv : Word)
    (hle : ∀ x, x ∈ iter → x ≤ maxv) (hn : (maxv.toNat + 1) * 64 + 63 < U64) (hlen : iter.length < U64) :
    Generated.gen_WaveletMatrix_start_offsets m cap iter len maxv =
      ok (WM.startOffsets (iter.map (·.toNat)) len maxv.toNat) :=
  GenEq.wm_start_offsets_eq m cap iter len maxv hle hn hlen

end Sds.C04
