/-
C10 — Every iterator yields the reference sequence under any interleaving of calls.

Property theorems only (helper lemmas live in Proofs/).

The reference.  `dequeRunM xs calls` (Model/Iter.lean) runs a call list over a plain double-ended queue holding
the reference sequence `xs`: `next` pops the front, `next_back` pops the back, `nth k` drops `k` items then
pops the front, `nth_back k` drops `k` items from the back then pops the back, `len` reports the number of
items left; an empty queue answers `None`.  Saying that an iterator, run over the same call list, produces the
SAME LIST OF ANSWERS is therefore the whole of C10 for that iterator: the right items with the right ranks,
exact `len` at every step, `None` for ever once exhausted, and — because a queue hands out every item at most
once and never skips one except as `nth` / `nth_back` say — a partition of the sequence between the two ends.

Quantifiers.  Every finite call list `calls : List ICall` over the alphabet `next`, `next_back`, `nth k`,
`nth_back k` (EVERY `k : Nat`, so every `usize`), `len`; every well-formed raw vector of `usize` length resp.
every integer vector; every starting point (`select_iter(r)`, `predecessor(x)`, `successor(x)` for every `r`,
`x`); both arithmetic modes `m : Mode`; set bits (`tr = .ident`) and unset bits (`tr = .compl`).
(`clone` copies the state, which is a value here, so a cloned iterator is covered by the same theorems.)

Machines.  `cursorRun get ⟨0, n⟩` is the two-cursor iterator (`ops::AccessIter`, `bit_vector::Iter`) of
Model/Iter.lean.  `IterProofs.oneRun tr m b it` runs a call list through `OneIter<T>`: `OneIterSt.nextQ`,
`nextBackQ`, `nthQ` of Model/BitVector.lean, `nth_back` by its standard default (`k` times `next_back`, then one
more), `len = limit.0 - next.0`; a fault (panic, out-of-bounds) anywhere makes the whole run a fault, so
`oneRun … = ok …` also says that no call of the history faults.  `IterProofs.pairs P` is the list of
`(rank, position)` pairs (`reference_pairs`).

Default `nth` / `nth_back` / `len`.  The sparse vector's, the run-length vector's and the wavelet matrix's
iterators do not override `nth` / `nth_back`: a call is the standard library's default, `Iter2.nthDefault` (`k`
times `next` resp. `next_back`, giving up with `None` at the first `None`, then one more).  `len()` is
`ExactSizeIterator::len` = `size_hint().0`; the `size_hint` bodies are transcribed in Proofs/Iter2.lean, IterSparse.lean, IterRL.lean (`Sp.oneLen`,
`Sp.bitLen`, `Sp.zeroLen`, `RLI.oneLen`, `RLI.bitLen`, `RLI.zeroLen`, `WMI.intoLen`: one `usize` subtraction each,
through `subM m`, so that a `len()` that would underflow is a fault of the run) and proven equal to the model's
`remaining` on every reachable state (`…_len_is_remaining`).  The run machines are `Iter2.genRun` (two-ended:
full alphabet `ICall`), `Iter2.fwdRun` (forward-only exact-size iterators: `FCall` = `next` / `nth k` / `len`) and
`Iter2.nRun` (forward-only iterators that are not `ExactSizeIterator`: `NCall` = `next` / `nth k`); the forward
alphabets are embedded in `ICall` by `toICall`, so the reference is the same `dequeRunM`.  Forward-only in the
Rust: sparse `ZeroIter`; run-length `RunIter` (no `len`), `Iter`, `OneIter`, `ZeroIter`; wavelet-matrix
`ValueIter` (no `len`) and `IntoIter`.

Modelled here, not run by the correspondence driver: the `size_hint` transcriptions just named, `nthDefault`,
`WMI.intoNext` (`IntoIter::next` of the wavelet matrix) and `Iter2.cursorStepM` (`AccessIter` with a `get` that can
fault, for `WaveletMatrix::iter`), `Iter2.intoStep` / `intoStepLen` (`IntVector`'s `IntoIter`).

Run-length `predecessor(x)` / `successor(x)` (`rl_predecessor_continues`, `rl_successor_continues`,
`rl_built_pred_succ`; Proofs/RLPredSucc.lean): the returned `OneIter` starts at the predecessor resp. successor and
CONTINUES with the set bits of the following ranks to the end, under every forward call history.  The loops stop in
a `RunIter` state that `next()` walks through (a run refused by the closure of `advance_if` leaves offset, position
and limit untouched — also when the refused run is the first of the next block), with the rank inside the run that
ends at the iterator position: the invariant `select_iter(r)` is handled with (`RLQ.OneFrom`).

NOT covered in this file: the sparse `ZeroIter` on multisets (the Rust documents it as incorrect there).
-/
import Sds.Proofs.Iter
import Sds.Proofs.IntVec
import Sds.Proofs.Sparse
import Sds.Proofs.Sparse2
import Sds.Proofs.Glue
import Sds.Proofs.Glue2
import Sds.Proofs.Iter2
import Sds.Proofs.IterSparse
import Sds.Proofs.IterRL
import Sds.Proofs.RLPredSucc
import Sds.Proofs.GenEqIter
import Sds.Proofs.GenEqLoop2
import Sds.Proofs.GenEqSpIter
import Sds.Proofs.GenEqSpZero
import Sds.Proofs.GenEqSpAll
import Sds.Proofs.GenEqRL2
import Sds.Proofs.IterBridge
import Sds.Proofs.GenEqRLPred
import Sds.Proofs.RLBuilt

namespace Sds.C10
open Sds Outcome IterProofs Iter2

/-! ### two-cursor iterators: `AccessIter`, `bit_vector::Iter`, `IntoIter` -/

/-- **generic two-cursor iterator**: over any parent whose item `i` is `get i`, every call history gives the
answers of the reference queue -/
theorem two_cursor_any_interleaving {α} (xs : List α) (get : Nat → α)
    (hx : ∀ i, i < xs.length → xs[i]? = some (get i)) (calls : List ICall) :
    cursorRun get ⟨0, xs.length⟩ calls = dequeRunM xs calls :=
  cursorRun_eq xs get hx calls

/-- `bit_vector::Iter` (all bits of a bitvector over the raw vector `v`) -/
theorem bitvector_iter_any_interleaving (v : RawVec) (calls : List ICall) :
    cursorRun (fun i => v.bit i) ⟨0, v.len⟩ calls = dequeRunM v.bits calls := by
  have := cursorRun_eq v.bits (fun i => v.bit i)
    (fun i hi => RawVec.bit_eq_getElem? v i (by rw [RawVec.bits_length] at hi; exact hi)) calls
  rw [RawVec.bits_length] at this
  exact this

/-- `AccessIter` over an integer vector (vector items) -/
theorem intvec_iter_any_interleaving (v : IntVec) (calls : List ICall) :
    cursorRun (fun i => (v.getRaw i).toNat) ⟨0, v.len⟩ calls = dequeRunM v.items calls := by
  have := cursorRun_eq v.items (fun i => (v.getRaw i).toNat)
    (fun i hi => by
      rw [IntVec.items_length] at hi
      rw [IntVec.items_getElem?, if_pos hi]) calls
  rw [IntVec.items_length] at this
  exact this

/-- exact size at every step: in any state standing for the segment `[next, limit)` of the reference, `len`
reports exactly the number of reference items left -/
theorem two_cursor_len_exact {α} (xs : List α) (get : Nat → α) (c : Cursor) (d : List α)
    (hR : c.next ≤ c.limit ∧ c.limit ≤ xs.length ∧ d = (xs.take c.limit).drop c.next) :
    cursorStep get c .len = (.len d.length, c) :=
  cursor_len_exact xs get c d ((R_def xs c d).mpr hR)

/-- `None` is absorbing: once an item call has answered `None`, every later call (any kind, any argument)
answers `None` resp. length 0 -/
theorem two_cursor_none_absorbing {α} (get : Nat → α) (c : Cursor) (call : ICall) (hcall : call ≠ .len)
    (h : (cursorStep get c call).1 = .none) (calls : List ICall) :
    ∀ o, o ∈ cursorRun get (cursorStep get c call).2 calls → IsEmptyOut o :=
  none_absorbing get c call hcall h calls

/-- owning `IntoIter` (forward index cursor): each `next` answers as the queue of the remaining items does -/
theorem into_iter_step {α} (xs : List α) (get : Nat → α) (hx : ∀ i, i < xs.length → xs[i]? = some (get i))
    (i : Nat) (hi : i ≤ xs.length) :
    (dequeStep (xs.drop i) .next).1 = (intoIterStep get xs.length i).1 ∧
      (dequeStep (xs.drop i) .next).2 = xs.drop (intoIterStep get xs.length i).2 ∧
      (intoIterStep get xs.length i).2 ≤ xs.length :=
  intoIterStep_sim xs get hx i hi

/-- owning `IntoIter` of an integer vector (forward-only, exact size; `Iter2.intoStep` = `intoIterStep` as a step
function, default `nth`, `len` = `size_hint().0`): every call history over `next` / `nth k` / `len` yields the items -/
theorem intvec_into_iter_any_history (v : IntVec) (m : Mode) (calls : List FCall) :
    fwdRun (intoStep (fun i => (v.getRaw i).toNat) v.len) (intoStepLen m v.len) 0 calls =
      ok (dequeRunM v.items (calls.map FCall.toICall)) := by
  have := intoStep_run v.items (fun i => (v.getRaw i).toNat)
    (fun i hi => by
      rw [IntVec.items_length] at hi
      rw [IntVec.items_getElem?, if_pos hi]) m calls
  rw [IntVec.items_length] at this
  exact this

/-! ### `OneIter<T>`: set bits and unset bits of a plain bitvector -/

/-- the reference sequence of `one_iter` / `zero_iter`: position list zipped with ranks `0, 1, 2, …` -/
theorem reference_pairs (P : List Nat) : pairs P = (List.range P.length).zip P := pairs_eq_zip P

/-- **`one_iter()` / `zero_iter()`**, any bitvector `b` over the well-formed raw vector `v` with a correct
cached count: every call history yields the `(rank, position)` pairs of the set (unset) bits exactly as the
reference queue does, with no fault, in both modes -/
theorem one_iter_any_interleaving (b : BitVector) (v : RawVec) (hv : v.WF) (hlen : v.len < 2 ^ 64)
    (hdata : b.data = v) (hones : b.ones = v.bits.count true) (tr : Tr) (m : Mode) (calls : List ICall) :
    oneRun tr m b (OneIterSt.full tr b) calls = ok (dequeRunM (pairs (onesPos (bitsT tr v.bits))) calls) :=
  oneRun_full ⟨hv, hlen, hdata, hones⟩ tr m calls

/-- in particular for `BitVector::from(raw)`, with or without supports (the iterator uses none) -/
theorem one_iter_from_raw (v : RawVec) (hv : v.WF) (hlen : v.len < 2 ^ 64) (tr : Tr) (m : Mode)
    (calls : List ICall) :
    oneRun tr m (BitVector.ofRaw v) (OneIterSt.full tr (BitVector.ofRaw v)) calls =
      ok (dequeRunM (pairs (onesPos (bitsT tr v.bits))) calls) ∧
    oneRun tr m (BitVector.ofRaw v).enableAll (OneIterSt.full tr (BitVector.ofRaw v).enableAll) calls =
      ok (dequeRunM (pairs (onesPos (bitsT tr v.bits))) calls) :=
  ⟨oneRun_full_ofRaw hv hlen tr m calls, oneRun_full (ctx_enableAll hv hlen) tr m calls⟩

/-- the same from ANY intermediate state: an iterator standing for the ranks `[r, R)` (`IterProofs.Rel`: the
rank components are `r`, `R` and each position cursor has exactly that many set bits before it) continues with
exactly the items `r, r+1, …, R-1` -/
theorem one_iter_from_any_state (b : BitVector) (v : RawVec) (hv : v.WF) (hlen : v.len < 2 ^ 64)
    (hdata : b.data = v) (hones : b.ones = v.bits.count true) (tr : Tr) (m : Mode) (it : OneIterSt)
    (r R : Nat) (hrel : Rel tr v it r R) (calls : List ICall) :
    oneRun tr m b it calls =
      ok (dequeRunM (((pairs (onesPos (bitsT tr v.bits))).take R).drop r) calls) :=
  oneRun_sim ⟨hv, hlen, hdata, hones⟩ tr m calls hrel

/-- exact size: `len()` of such a state is `R - r` -/
theorem one_iter_len_exact (tr : Tr) (v : RawVec) (it : OneIterSt) (r R : Nat) (hrel : Rel tr v it r R) :
    it.remaining = R - r :=
  IterProofs.remaining_eq hrel

/-- every single call, in detail: `next` → `(r, P[r])`, `next_back` → `(R-1, P[R-1])`, `nth n` → `(r+n, P[r+n])`,
`nth_back k` → `(R-k-1, P[R-k-1])` inside the range, and `None` outside it — for EVERY `n`, `k` -/
theorem one_iter_calls (b : BitVector) (v : RawVec) (hv : v.WF) (hlen : v.len < 2 ^ 64)
    (hdata : b.data = v) (hones : b.ones = v.bits.count true) (tr : Tr) (m : Mode) (it : OneIterSt)
    (r R : Nat) (hrel : Rel tr v it r R) :
    (r < R → ∃ p, (onesPos (bitsT tr v.bits))[r]? = some p ∧
      OneIterSt.nextQ tr m b it = ok (some (r, p), { it with next := (r + 1, p + 1) })) ∧
    (R ≤ r → OneIterSt.nextQ tr m b it = ok (none, it)) ∧
    (r < R → ∃ p, (onesPos (bitsT tr v.bits))[R - 1]? = some p ∧
      OneIterSt.nextBackQ tr m b it = ok (some (R - 1, p), { it with limit := (R - 1, p) })) ∧
    (R ≤ r → OneIterSt.nextBackQ tr m b it = ok (none, it)) ∧
    (∀ n, r + n < R → ∃ p, (onesPos (bitsT tr v.bits))[r + n]? = some p ∧
      OneIterSt.nthQ tr m b it n = ok (some (r + n, p), { it with next := (r + n + 1, p + 1) })) ∧
    (∀ n, R ≤ r + n → OneIterSt.nthQ tr m b it n = ok (none, { it with next := it.limit })) ∧
    (∀ k, r + k < R → ∃ p, (onesPos (bitsT tr v.bits))[R - k - 1]? = some p ∧
      nthBackQ tr m b k it = ok (some (R - k - 1, p), { it with limit := (R - k - 1, p) })) ∧
    (∀ k, R ≤ r + k → ∃ it', nthBackQ tr m b k it = ok (none, it') ∧ Rel tr v it' r r) := by
  have C : Ctx b v := ⟨hv, hlen, hdata, hones⟩
  have e1 := hrel.next_rank
  have e2 := hrel.limit_rank
  refine ⟨?_, ?_, ?_, ?_, ?_, ?_, ?_, ?_⟩
  · intro h; obtain ⟨p, h1, h2, _⟩ := nextQ_some C tr m hrel h; exact ⟨p, h1, h2⟩
  · intro h; exact IterProofs.nextQ_none tr m b it (by omega)
  · intro h; obtain ⟨p, h1, h2, _⟩ := nextBackQ_some C tr m hrel h; exact ⟨p, h1, h2⟩
  · intro h; exact IterProofs.nextBackQ_none tr m b it (by omega)
  · intro n h; obtain ⟨p, h1, h2, _⟩ := nthQ_some C tr m hrel n h; exact ⟨p, h1, h2⟩
  · intro n h; exact (nthQ_none (b := b) tr m hrel n h).1
  · intro k h; obtain ⟨p, h1, h2, _⟩ := nthBackQ_some C tr m k hrel h; exact ⟨p, h1, h2⟩
  · intro k h; exact nthBackQ_none C tr m k hrel h

/-- **keeps returning `None` once exhausted**: with no ranks left (the state after any call that answered
`None`, see `one_iter_none_exhausts`) every further call history answers only `None` / length 0, without fault -/
theorem one_iter_none_absorbing (b : BitVector) (v : RawVec) (hv : v.WF) (hlen : v.len < 2 ^ 64)
    (hdata : b.data = v) (hones : b.ones = v.bits.count true) (tr : Tr) (m : Mode) (calls : List ICall)
    (it : OneIterSt) (r R : Nat) (hrel : Rel tr v it r R) (h : R ≤ r) :
    ∃ os, oneRun tr m b it calls = ok os ∧ ∀ o, o ∈ os → IsEmptyOut o :=
  oneRun_exhausted ⟨hv, hlen, hdata, hones⟩ tr m calls hrel h

/-- an item call that answers `None` leaves the iterator exhausted -/
theorem one_iter_none_exhausts (b : BitVector) (v : RawVec) (hv : v.WF) (hlen : v.len < 2 ^ 64)
    (hdata : b.data = v) (hones : b.ones = v.bits.count true) (tr : Tr) (m : Mode) (it : OneIterSt)
    (r R : Nat) (hrel : Rel tr v it r R) (call : ICall) (hcall : call ≠ .len)
    (hnone : (dequeStep (((pairs (onesPos (bitsT tr v.bits))).take R).drop r) call).1 = .none) :
    ∃ it' r', oneStep tr m b it call = ok (.none, it') ∧ Rel tr v it' r' r' :=
  oneStep_none_exhausted ⟨hv, hlen, hdata, hones⟩ tr m hrel call hcall hnone

/-! ### iterators positioned by `select_iter`, `predecessor`, `successor` -/

/-- **`select_iter(r)` / `select_zero_iter(r)`** for EVERY `r`, any valid select support: the iterator
continues with the items of ranks `r, r+1, …` to the end (nothing, when `r ≥ count`), under every call history -/
theorem select_iter_continues (b : BitVector) (v : RawVec) (s : SelSup) (hv : v.WF) (hlen : v.len < 2 ^ 64)
    (hdata : b.data = v) (hones : b.ones = v.bits.count true) (tr : Tr) (m : Mode)
    (hsup : b.supT tr = some s) (hs : s.Valid tr v) (r : Nat) (calls : List ICall) :
    ∃ it, b.selectIterT tr m r = ok it ∧
      oneRun tr m b it calls = ok (dequeRunM ((pairs (onesPos (bitsT tr v.bits))).drop r) calls) := by
  obtain ⟨it, h, _, hrun⟩ := selectIterT_at ⟨hv, hlen, hdata, hones⟩ tr m hsup hs r
  exact ⟨it, h, hrun calls⟩

/-- **`predecessor(x)`** for EVERY `x`, any valid supports: the iterator starts at the predecessor (rank `k`)
and continues with consecutive ranks to the end; it is empty when there is no predecessor -/
theorem predecessor_continues (b : BitVector) (v : RawVec) (rs : RankSup) (s : SelSup) (hv : v.WF)
    (hlen : v.len < 2 ^ 64) (hdata : b.data = v) (hones : b.ones = v.bits.count true)
    (hrank : b.rank = some rs) (hrs : rs.Valid v) (hsel : b.select = some s) (hs : s.Valid .ident v)
    (m : Mode) (x : Nat) (calls : List ICall) :
    ∃ it, b.predecessorQ m x = ok it ∧
      oneRun .ident m b it calls = ok (dequeRunM
        (match predSpec v.bits x with
         | none => []
         | some (k, _) => (pairs (onesPos v.bits)).drop k) calls) := by
  have C : Ctx b v := ⟨hv, hlen, hdata, hones⟩
  obtain ⟨it, h, _, hrun⟩ := selectIterT_at C .ident m hsel hs (predRank v.bits x)
  refine ⟨it, (predecessorQ_eq_selectIter C hrank hrs m x).trans h,
    (hrun calls).trans (congrArg (fun l => ok (dequeRunM l calls)) ?_)⟩
  split
  · exact drop_of_none ((pairs_predRank v.bits x).trans ‹_›)
  · exact drop_of_some ((pairs_predRank v.bits x).trans ‹_›)

/-- **`successor(x)`** for EVERY `x`, any valid supports -/
theorem successor_continues (b : BitVector) (v : RawVec) (rs : RankSup) (s : SelSup) (hv : v.WF)
    (hlen : v.len < 2 ^ 64) (hdata : b.data = v) (hones : b.ones = v.bits.count true)
    (hrank : b.rank = some rs) (hrs : rs.Valid v) (hsel : b.select = some s) (hs : s.Valid .ident v)
    (m : Mode) (x : Nat) (calls : List ICall) :
    ∃ it, b.successorQ m x = ok it ∧
      oneRun .ident m b it calls = ok (dequeRunM
        (match succSpec v.bits x with
         | none => []
         | some (k, _) => (pairs (onesPos v.bits)).drop k) calls) := by
  have C : Ctx b v := ⟨hv, hlen, hdata, hones⟩
  obtain ⟨it, h, _, hrun⟩ := selectIterT_at C .ident m hsel hs (rankSpec v.bits x)
  refine ⟨it, (successorQ_eq_selectIter C hrank hrs m x).trans h,
    (hrun calls).trans (congrArg (fun l => ok (dequeRunM l calls)) ?_)⟩
  split
  · exact drop_of_none ((pairs_succRank v.bits x).trans ‹_›)
  · exact drop_of_some ((pairs_succRank v.bits x).trans ‹_›)

/-! ### sparse (Elias–Fano) vector iterators — full alphabet

For every vector `s` that encodes the sorted list `P` in universe `n` with low width `w` (`Sparse.Encodes`;
`sparse_built_iterators` shows that is what the builder produces, sets and multisets). -/

/-- sparse `OneIter` (`one_iter()`, the values with ranks), two-ended, EVERY call history over `next`, `next_back`,
`nth k`, `nth_back k`, `len`: the answers of the reference queue over the pairs `(i, P[i])`, no fault, both modes -/
theorem sparse_one_iter_any_interleaving (s : Sparse) (n w : Nat) (P : List Nat)
    (hs : s.Encodes n w P) (m : Mode) (calls : List ICall) :
    Sp.oneRun m s (SpOneIter.full s) calls = ok (dequeRunM (pairs P) calls) :=
  Sp.oneRun_full hs m calls

/-- the same from ANY intermediate state standing for the ranks `[r, R)` (`Sparse2.IterBetween`) -/
theorem sparse_one_iter_from_any_state (s : Sparse) (n w : Nat) (P : List Nat) (hs : s.Encodes n w P) (m : Mode)
    (it : SpOneIter) (r R : Nat) (hit : Sparse2.IterBetween s w P r R it) (calls : List ICall) :
    Sp.oneRun m s it calls = ok (dequeRunM (((pairs P).take R).drop r) calls) :=
  Sp.oneRun_between hs m calls hit

/-- the reference queue partitions its content: the answers from the front, what is left, and the reversed
answers from the back make up the original sequence — no item twice, none skipped -/
theorem two_ended_partition {α} (calls : List Sparse2.End) (D : List α) :
    Sparse2.answersOf .front calls (Sparse2.runDeque calls D).1 ++ (Sparse2.runDeque calls D).2 ++
      (Sparse2.answersOf .back calls (Sparse2.runDeque calls D).1).reverse = D :=
  Sparse2.runDeque_partition calls D

/-- sparse `Iter` (`iter()`, all bits, sets AND multisets), two-ended, every call history over the full alphabet:
the answers of the reference queue over the bit sequence of the set -/
theorem sparse_iter_any_interleaving (s : Sparse) (n w : Nat) (P : List Nat) (hs : s.Encodes n w P)
    (m : Mode) (calls : List ICall) :
    ∃ it, s.iter m = ok it ∧ Sp.bitRun m s it calls = ok (dequeRunM (bitsOfSet P n) calls) :=
  Sp.bitRun_full hs m calls

/-- sparse `ZeroIter` (`zero_iter()`, set mode; forward-only in the Rust), every call history over `next`,
`nth k`, `len`: the `(rank, position)` pairs of the `n - |P|` unset positions -/
theorem sparse_zero_iter_any_history (s : Sparse) (n w : Nat) (P : List Nat) (hs : s.Encodes n w P)
    (hstrict : sortedStrict P = true) (m : Mode) (calls : List FCall) :
    ∃ z, s.zeroIter m = ok z ∧
      Sp.zeroRun m s z calls = ok (dequeRunM
        ((List.range (n - P.length)).map fun i => (i, (selectZeroSet P n i).getD 0)) (calls.map FCall.toICall)) :=
  Sp.zeroRun_full hs hstrict m calls

/-- **sparse `select_iter(r)`** for EVERY `r`: continues with the ranks `r, r+1, …` to the end -/
theorem sparse_select_iter_continues (s : Sparse) (n w : Nat) (P : List Nat) (hs : s.Encodes n w P) (m : Mode)
    (r : Nat) (calls : List ICall) :
    ∃ it, s.selectIter m r = ok it ∧ Sp.oneRun m s it calls = ok (dequeRunM ((pairs P).drop r) calls) :=
  ⟨_, selectIter_ok hs m r, Sp.oneRun_iterAt hs m calls r⟩

/-- **sparse `predecessor(x)`** for EVERY `x`: starts at the predecessor (rank `k`) and continues to the end; empty
when there is none -/
theorem sparse_predecessor_continues (s : Sparse) (n w : Nat) (P : List Nat) (hs : s.Encodes n w P) (m : Mode)
    (x : Nat) (calls : List ICall) :
    ∃ it, s.predecessor m x = ok it ∧
      Sp.oneRun m s it calls = ok (dequeRunM
        (match predSet P x with
         | none => []
         | some (k, _) => (pairs P).drop k) calls) := by
  refine ⟨_, pred_ok hs m x, ?_⟩
  cases predSet P x with
  | none => exact Sp.oneRun_empty hs m calls
  | some kv => exact Sp.oneRun_iterAt hs m calls kv.1

/-- **sparse `successor(x)`** for EVERY `x` -/
theorem sparse_successor_continues (s : Sparse) (n w : Nat) (P : List Nat) (hs : s.Encodes n w P) (m : Mode)
    (x : Nat) (calls : List ICall) :
    ∃ it, s.successor m x = ok it ∧
      Sp.oneRun m s it calls = ok (dequeRunM
        (match succSet P x with
         | none => []
         | some (k, _) => (pairs P).drop k) calls) := by
  refine ⟨_, succ_ok hs m x, ?_⟩
  cases succSet P x with
  | none => exact Sp.oneRun_empty hs m calls
  | some kv => exact Sp.oneRun_iterAt hs m calls kv.1

/-- **sparse `select_zero_iter(r)`** (set mode) for EVERY `r`: continues with the zeros of rank `r, r+1, …` -/
theorem sparse_select_zero_iter_continues (s : Sparse) (n w : Nat) (P : List Nat) (hs : s.Encodes n w P)
    (hstrict : sortedStrict P = true) (m : Mode) (r : Nat) (calls : List FCall) :
    ∃ z, s.selectZeroIter m r = ok z ∧
      Sp.zeroRun m s z calls = ok (dequeRunM
        (((List.range (n - P.length)).map fun i => (i, (selectZeroSet P n i).getD 0)).drop r)
        (calls.map FCall.toICall)) :=
  Sp.zeroRun_select hs hstrict m r calls

/-- the transcribed `len()` (`size_hint().0`) of the three sparse iterators is the model's `remaining` on every
state the simulations pass through -/
theorem sparse_len_is_remaining (s : Sparse) (n w : Nat) (P : List Nat) (m : Mode) :
    (∀ it d, Sp.OneRel s w P it d → Sp.oneLen m it = ok it.remaining) ∧
    (∀ it d, Sp.BitRel s w P n it d → Sp.bitLen m it = ok it.remaining) ∧
    (∀ z d, Sp.ZeroRel s w P n z d → Sp.zeroLen m z = ok z.remaining) :=
  ⟨fun _ _ h => Sp.oneLen_eq_remaining m h, fun _ _ h => Sp.bitLen_eq_remaining m h,
    fun _ _ h => Sp.zeroLen_eq_remaining m h⟩

/-- sparse `OneIter` run forward to exhaustion: all values with their ranks, in order -/
theorem sparse_one_iter_drain (s : Sparse) (n w : Nat) (P : List Nat) (hs : s.Encodes n w P)
    (m : Mode) :
    drain m s (P.length + 1) (SpOneIter.full s) = ok ((List.range P.length).map fun i => (i, P[i]?.getD 0)) := by
  rw [Sds.drain_full hs m]
  simp [itemsFrom]

/-- the hypotheses are what construction gives: for every strictly increasing (`multi = false`) resp.
non-decreasing (`multi = true`) list below the universe size, the built vector's iterators behave as above -/
theorem sparse_built_iterators (w n : Nat) (multi : Bool) (P : List Nat) (hw1 : 1 ≤ w) (hw : w ≤ 63)
    (hn : n < 2 ^ 64) (hm : P.length < 2 ^ 63)
    (hsorted : if multi then sortedLe P = true else sortedStrict P = true) (hbound : ∀ p ∈ P, p < n) :
    ∃ s, Sparse.ofValues w n multi P = ok s ∧
      (∀ (m : Mode) (calls : List ICall),
        Sp.oneRun m s (SpOneIter.full s) calls = ok (dequeRunM (pairs P) calls)) ∧
      (∀ (m : Mode) (calls : List ICall), ∃ it, s.iter m = ok it ∧
        Sp.bitRun m s it calls = ok (dequeRunM (bitsOfSet P n) calls)) ∧
      (∀ (m : Mode) (r : Nat) (calls : List ICall), ∃ it, s.selectIter m r = ok it ∧
        Sp.oneRun m s it calls = ok (dequeRunM ((pairs P).drop r) calls)) ∧
      (multi = false → ∀ (m : Mode) (calls : List FCall), ∃ z, s.zeroIter m = ok z ∧
        Sp.zeroRun m s z calls = ok (dequeRunM
          ((List.range (n - P.length)).map fun i => (i, (selectZeroSet P n i).getD 0))
          (calls.map FCall.toICall))) := by
  obtain ⟨s, h1, hs, _⟩ := ofValues_queries w n multi P hw1 hw hn hm hsorted hbound
  refine ⟨s, h1, fun m calls => sparse_one_iter_any_interleaving s n w P hs m calls,
    fun m calls => sparse_iter_any_interleaving s n w P hs m calls,
    fun m r calls => sparse_select_iter_continues s n w P hs m r calls, ?_⟩
  intro hmulti m calls
  subst hmulti
  exact sparse_zero_iter_any_history s n w P hs (by simpa using hsorted) m calls

/-! ### run-length vector iterators (all forward-only in the Rust)

`RLQ.Good v (maximalRuns B)`: `v` is a well-formed run-length vector whose runs are the maximal runs of the bit
sequence `B` — what `From<RLBuilder>` produces (`rl_built_iterators`). -/

/-- **all six iterators of a well-formed run-length vector**: every forward call history on `run_iter()` (`next` /
`nth k`), `iter()`, `one_iter()`, `zero_iter()`, `select_iter(r)`, `select_zero_iter(r)` (`next` / `nth k` / `len`;
EVERY `r`) answers as the reference queue over the maximal runs `(start, len)` / the bits / the
`(rank, position)` pairs of the set resp. unset bits (from rank `r` on) — no fault, both modes -/
theorem rl_iterators_any_history (m : Mode) (v : RL) (B : List Bool) (hg : RLQ.Good v (maximalRuns B))
    (e1 : v.len = B.length) (e2 : v.ones = B.count true) (e3 : v.countZeros = B.count false) :
    (∀ cs : List NCall, ∃ it, v.runIter = ok it ∧
      RLI.runRun m v it cs = ok (dequeRunM (maximalRuns B) (cs.map NCall.toICall))) ∧
    (∀ cs : List FCall, ∃ st, v.iter = ok st ∧
      RLI.bitRun m v st cs = ok (dequeRunM B (cs.map FCall.toICall))) ∧
    (∀ cs : List FCall, ∃ st, v.oneIter = ok st ∧
      RLI.oneRun m v st cs = ok (dequeRunM (pairs (onesPos B)) (cs.map FCall.toICall))) ∧
    (∀ cs : List FCall, ∃ st, v.zeroIter m = ok st ∧
      RLI.zeroRun m v st cs = ok (dequeRunM (pairs (zerosPos B)) (cs.map FCall.toICall))) ∧
    (∀ (r : Nat) (cs : List FCall), ∃ st, v.selectIter m r = ok st ∧
      RLI.oneRun m v st cs = ok (dequeRunM ((pairs (onesPos B)).drop r) (cs.map FCall.toICall))) ∧
    (∀ (r : Nat) (cs : List FCall), ∃ st, v.selectZeroIter m r = ok st ∧
      RLI.zeroRun m v st cs = ok (dequeRunM ((pairs (zerosPos B)).drop r) (cs.map FCall.toICall))) :=
  RLI.good_iterators m B hg e1 e2 e3

/-- the same for EVERY vector built by a list of accepted builder calls (`try_set` / `set_len` / single bits;
`B` = the bit sequence the calls describe); the success of the conversion and the block-count bound are hypotheses -/
theorem rl_built_iterators (m : Mode) (calls : List RL.BCall) (hc : ∀ c ∈ calls, RL.callArgsOk c)
    (b : RLBuilder) (hb : RL.runBCalls m calls {} = ok b) (v : RL) (hv : RL.ofBuilder m b = ok v)
    (hsz : v.blocks + 8 < U64) :
    let B := calls.foldl RL.specCall []
    (∀ cs : List NCall, ∃ it, v.runIter = ok it ∧
      RLI.runRun m v it cs = ok (dequeRunM (maximalRuns B) (cs.map NCall.toICall))) ∧
    (∀ cs : List FCall, ∃ st, v.iter = ok st ∧
      RLI.bitRun m v st cs = ok (dequeRunM B (cs.map FCall.toICall))) ∧
    (∀ cs : List FCall, ∃ st, v.oneIter = ok st ∧
      RLI.oneRun m v st cs = ok (dequeRunM (pairs (onesPos B)) (cs.map FCall.toICall))) ∧
    (∀ cs : List FCall, ∃ st, v.zeroIter m = ok st ∧
      RLI.zeroRun m v st cs = ok (dequeRunM (pairs (zerosPos B)) (cs.map FCall.toICall))) ∧
    (∀ (r : Nat) (cs : List FCall), ∃ st, v.selectIter m r = ok st ∧
      RLI.oneRun m v st cs = ok (dequeRunM ((pairs (onesPos B)).drop r) (cs.map FCall.toICall))) ∧
    (∀ (r : Nat) (cs : List FCall), ∃ st, v.selectZeroIter m r = ok st ∧
      RLI.zeroRun m v st cs = ok (dequeRunM ((pairs (zerosPos B)).drop r) (cs.map FCall.toICall))) :=
  have H := RLQ.built_of m hc hb hv
  RLI.good_iterators m _ H.good H.len H.ones H.zeros

/-- **run-length `predecessor(x)`** for EVERY `x` (also `x ≥ len`, which behaves like `len - 1`): the iterator
starts AT the predecessor (rank `k`; its first item is the nearest set bit at or before `x`) and continues with
consecutive ranks to the end; it is empty when there is no set bit at or before `x` — every forward call history
(`next` / `nth k` / `len`), no fault, both modes -/
theorem rl_predecessor_continues (m : Mode) (v : RL) (B : List Bool) (hg : RLQ.Good v (maximalRuns B))
    (e2 : v.ones = B.count true) (x : Nat) (cs : List FCall) :
    ∃ st, v.predecessor m x = ok st ∧
      RLI.oneRun m v st cs = ok (dequeRunM
        (match predSpec B x with
         | none => []
         | some (k, _) => (pairs (onesPos B)).drop k) (cs.map FCall.toICall)) :=
  RLPS.good_predecessor m B hg e2 x cs

/-- **run-length `successor(x)`** for EVERY `x`: starts at the successor (rank `k` = number of set bits before `x`)
and continues with consecutive ranks to the end; empty when there is no set bit at or after `x` -/
theorem rl_successor_continues (m : Mode) (v : RL) (B : List Bool) (hg : RLQ.Good v (maximalRuns B))
    (e2 : v.ones = B.count true) (x : Nat) (cs : List FCall) :
    ∃ st, v.successor m x = ok st ∧
      RLI.oneRun m v st cs = ok (dequeRunM
        (match succSpec B x with
         | none => []
         | some (k, _) => (pairs (onesPos B)).drop k) (cs.map FCall.toICall)) :=
  RLPS.good_successor m B hg e2 x cs

/-- the same for EVERY vector built by a list of accepted builder calls (hypotheses of `rl_built_iterators`) -/
theorem rl_built_pred_succ (m : Mode) (calls : List RL.BCall) (hc : ∀ c ∈ calls, RL.callArgsOk c)
    (b : RLBuilder) (hb : RL.runBCalls m calls {} = ok b) (v : RL) (hv : RL.ofBuilder m b = ok v)
    (hsz : v.blocks + 8 < U64) :
    let B := calls.foldl RL.specCall []
    (∀ (x : Nat) (cs : List FCall), ∃ st, v.predecessor m x = ok st ∧
      RLI.oneRun m v st cs = ok (dequeRunM
        (match predSpec B x with
         | none => []
         | some (k, _) => (pairs (onesPos B)).drop k) (cs.map FCall.toICall))) ∧
    (∀ (x : Nat) (cs : List FCall), ∃ st, v.successor m x = ok st ∧
      RLI.oneRun m v st cs = ok (dequeRunM
        (match succSpec B x with
         | none => []
         | some (k, _) => (pairs (onesPos B)).drop k) (cs.map FCall.toICall))) :=
  have H := RLQ.built_of m hc hb hv
  ⟨fun x cs => RLPS.good_predecessor m _ H.good H.ones x cs, fun x cs => RLPS.good_successor m _ H.good H.ones x cs⟩

/-- the transcribed `len()` of the three exact-size run-length iterators is the model's `remaining` on every
state the simulations pass through -/
theorem rl_len_is_remaining (m : Mode) (v : RL) :
    (∀ it d, RLI.OneRel m v it d → RLI.oneLen m v it = ok (RLOneIter.remaining v it)) ∧
    (∀ it d, RLI.BitRel m v it d → RLI.bitLen m v it = ok (RLIter.remaining v it)) ∧
    (∀ z d, RLI.ZeroRel m v z d → RLI.zeroLen m v z = ok (RLZeroIter.remaining v z)) :=
  ⟨fun _ _ h => RLI.oneLen_eq_remaining m h, fun _ _ h => RLI.bitLen_eq_remaining m h,
    fun _ _ h => RLI.zeroLen_eq_remaining m h⟩

/-- `FusedIterator` for the run iterator, on ANY state (no well-formedness needed): the state left by a `None`
answers `None` again and does not move -/
theorem rl_run_iter_fused (m : Mode) (v : RL) (it e : RunIter) (h : RunIter.nextQ m v it = ok (none, e)) :
    RunIter.nextQ m v e = ok (none, e) :=
  (RLQ.nextQ_fused m v it e h).1

/-! ### wavelet matrix iterators

`WMI.occ V x`: the ascending positions of the occurrences of `x` in `V`. -/

/-- **`value_iter(x)` / `select_iter(r, x)`** on `WaveletMatrix::from(V)` (forward-only, no `len` in the Rust), EVERY
starting rank `r`, value `x` and call history over `next` / `nth k`: the `(rank, index)` pairs of the occurrences
of `x` from rank `r` on -/
theorem wm_value_iter_any_history (V : List Nat) (hV : ∀ v, v ∈ V → v < 2 ^ 64) (hlen : V.length < 2 ^ 63)
    (m : Mode) (x r : Nat) (calls : List NCall) :
    WMI.valueRun m (WM.ofValues V) x r calls =
      ok (dequeRunM ((pairs (WMI.occ V x)).drop r) (calls.map NCall.toICall)) :=
  WMI.valueRun_from (WM.ofValues_ok_full V hV hlen) m x r calls

/-- the positions listed by `WMI.occ` are exactly the occurrences, in order: the `r`-th one is where `V` holds `x`
with `r` earlier occurrences -/
theorem wm_occ_spec (V : List Nat) (x r i : Nat) :
    (WMI.occ V x)[r]? = some i ↔ V[i]? = some x ∧ (V.take i).count x = r := by
  rw [← WMI.selectVal_eq_occ]; exact selectVal_eq_some V x r i

/-- **default `predecessor(i, x)` / `successor(i, x)`** of the wavelet matrix return a `ValueIter` at the rank of
the nearest occurrence; it continues with consecutive ranks to the end (EVERY `i`, `x`) -/
theorem wm_pred_succ_continue (V : List Nat) (hV : ∀ v, v ∈ V → v < 2 ^ 64) (hlen : V.length < 2 ^ 63)
    (m : Mode) (i x : Nat) (calls : List NCall) :
    (∃ r, (WM.ofValues V).predecessor m i x = ok r ∧
      r = (if (V.take (i + 1)).count x > 0 then (V.take (i + 1)).count x - 1 else V.length) ∧
      WMI.valueRun m (WM.ofValues V) x r calls =
        ok (dequeRunM ((pairs (WMI.occ V x)).drop r) (calls.map NCall.toICall))) ∧
    (∃ r, (WM.ofValues V).successor m i x = ok r ∧ r = (V.take i).count x ∧
      WMI.valueRun m (WM.ofValues V) x r calls =
        ok (dequeRunM ((pairs (WMI.occ V x)).drop r) (calls.map NCall.toICall))) := by
  have hw := WM.ofValues_ok_full V hV hlen
  exact ⟨⟨_, predecessor_ok hw m i x, rfl, WMI.valueRun_from hw m x _ calls⟩,
    ⟨_, successor_ok hw m i x, rfl, WMI.valueRun_from hw m x _ calls⟩⟩

/-- **`into_iter()`** of the wavelet matrix (forward-only, exact size), every call history over `next` / `nth k` /
`len`: the items -/
theorem wm_into_iter_any_history (V : List Nat) (hV : ∀ v, v ∈ V → v < 2 ^ 64) (hlen : V.length < 2 ^ 63)
    (m : Mode) (calls : List FCall) :
    WMI.intoRun m (WM.ofValues V) 0 calls = ok (dequeRunM V (calls.map FCall.toICall)) :=
  WMI.intoRun_full (WM.ofValues_ok_full V hV hlen) m calls

/-- **`iter()`** of the wavelet matrix (`AccessIter` over the fallible `get`), two-ended, every call history over
the full alphabet: the items, no fault -/
theorem wm_iter_any_interleaving (V : List Nat) (hV : ∀ v, v ∈ V → v < 2 ^ 64) (hlen : V.length < 2 ^ 63)
    (m : Mode) (calls : List ICall) :
    cursorRunM ((WM.ofValues V).get m) ⟨0, (WM.ofValues V).len⟩ calls = ok (dequeRunM V calls) :=
  wm_iter_run (WM.ofValues_ok_full V hV hlen) m calls

/-! ### the default `nth` / `nth_back`, spelled out -/

/-- `nth(0)` is `next()`; `nth(k+1)` is `next()` followed, unless that was `None`, by `nth(k)` -/
theorem nth_default_unfold {σ α} (next : σ → Outcome (Option α × σ)) (it : σ) (k : Nat) :
    nthDefault next 0 it = next it ∧
    nthDefault next (k + 1) it = (do
      let r ← next it
      match r.1 with
      | none => return (none, r.2)
      | some _ => nthDefault next k r.2) :=
  ⟨rfl, rfl⟩

/-! ### non-vacuity -/

example : (RawVec.ofBits [true, false, true]).WF ∧ (RawVec.ofBits [true, false, true]).len < 2 ^ 64 := by decide
/-- a legitimate mid-run state: the ranks `[1, 2)` of the vector `11` -/
example : Rel .ident (RawVec.ofBits [true, true]) ⟨(1, 1), (2, 2)⟩ 1 2 := F1_state_rel
example : dequeRunM [10, 20, 30, 40] [.next, .nthBack 1, .len, .nth 5, .next] =
    [.item 10, .item 30, .len 1, .none, .none] := by decide
example : (1 ≤ 2 ∧ 2 ≤ 63 ∧ 10 < 2 ^ 64 ∧ [1, 4, 7].length < 2 ^ 63 ∧ sortedStrict [1, 4, 7] = true ∧
    ∀ p ∈ [1, 4, 7], p < 10) := by decide
example : dequeRunM [10, 20, 30, 40] ([FCall.next, .nth 1, .len, .nth 5].map FCall.toICall) =
    [.item 10, .item 30, .len 1, .none] := by decide

/-! **The two-cursor iterators as translated from the source on this run.**  `Generated/FnsIter.lean` is produced by
`tools/rs2lean.py` from the bodies of `next`, `nth`, `size_hint`, `next_back`, `nth_back` of `ops::AccessIter` (the
iterator of `IntVector`, the mapped views and `WaveletMatrix`) and of `bit_vector::Iter` — the clamp with `cmp::min`, the
additions and subtractions in the arithmetic of the build mode, the delegation to `next` / `next_back`.  For every cursor
with `next ≤ limit < 2^64` (true initially and preserved by every step: `GenEq.cursorStep_inv`), every `n` up to
`usize::MAX` and both build modes, the code as it is NOW performs exactly the step `cursorStep` whose call histories the
simulation theorems above relate to the deque.  An unclamped `next + n`, a `saturating_sub` in place of the clamp, or a
comparison against the wrong cursor changes the generated definition and breaks the equation by name. -/
theorem two_cursor_iterators_as_translated_from_source {α} (m : Mode) (get : Nat → α) (c : Cursor) (n : Nat)
    (hc : c.next ≤ c.limit) (hl : c.limit < U64) :
    (Generated.gen_AccessIter_next m get c = ok (GenEq.stepPair get c .next) ∧
     Generated.gen_AccessIter_nth m get c n = ok (GenEq.stepPair get c (.nth n)) ∧
     Generated.gen_AccessIter_next_back m get c = ok (GenEq.stepPair get c .nextBack) ∧
     Generated.gen_AccessIter_nth_back m get c n = ok (GenEq.stepPair get c (.nthBack n)) ∧
     Generated.gen_AccessIter_size_hint m get c = ok (c.limit - c.next, some (c.limit - c.next))) ∧
    (Generated.gen_BitIter_next m get c = ok (GenEq.stepPair get c .next) ∧
     Generated.gen_BitIter_nth m get c n = ok (GenEq.stepPair get c (.nth n)) ∧
     Generated.gen_BitIter_next_back m get c = ok (GenEq.stepPair get c .nextBack) ∧
     Generated.gen_BitIter_nth_back m get c n = ok (GenEq.stepPair get c (.nthBack n)) ∧
     Generated.gen_BitIter_size_hint m get c = ok (c.limit - c.next, some (c.limit - c.next))) :=
  ⟨⟨GenEq.access_next_eq m get c hl, GenEq.access_nth_eq m get c n hc hl, GenEq.access_next_back_eq m get c,
    GenEq.access_nth_back_eq m get c n hc, GenEq.access_size_hint_eq m get c hc⟩,
   ⟨GenEq.bit_next_eq m get c hl, GenEq.bit_nth_eq m get c n hc hl, GenEq.bit_next_back_eq m get c,
    GenEq.bit_nth_back_eq m get c n hc, GenEq.bit_size_hint_eq m get c hc⟩⟩

/-- the translated `nth(usize::MAX)` after one `next()` exhausts the iterator and returns `None` in the checked build
(the input of several seeded changes: an unclamped `next + n` panics here) -/
example : Generated.gen_AccessIter_nth .checked (fun i => i) ⟨1, 7⟩ (U64 - 1) = ok (none, ⟨7, 7⟩) := by decide

/-! **`OneIter<T>` as translated from the source on this run — loops included** (`Generated/FnsLoop.lean`): `next` (forward
scan for a non-zero word), `nth` (the repaired guard `n >= limit.0 - next.0` of finding F1, then the counted scan),
`next_back` (backward scan, `leading_zeros`), `size_hint`.  For every cursor state, every `n`, both transformations and
both build modes the code as it is NOW is `nextQ` / `nthQ` / `nextBackQ` — the step functions of the simulation theorems
above.  Hypotheses: the vector has fewer than 2^64 words; for `nth`, the rank limit is a `usize`. -/
theorem one_iterators_as_translated_from_source (m : Mode) (tr : Tr) (b : BitVector) (it : OneIterSt) (n : Nat)
    (hv : b.data.data.size < U64) (hl : it.limit.1 ≤ U64) :
    Generated.gen_OneIter_next m tr b.data it = OneIterSt.nextQ tr m b it ∧
    Generated.gen_OneIter_nth m tr b.data it n = OneIterSt.nthQ tr m b it n ∧
    Generated.gen_OneIter_next_back m tr b.data it = OneIterSt.nextBackQ tr m b it ∧
    (it.next.1 ≤ it.limit.1 → Generated.gen_OneIter_size_hint m tr b.data it = ok (it.remaining, some it.remaining)) :=
  ⟨GenEq.one_next_eq m tr b it hv, GenEq.one_nth_eq m tr b it n hv hl, GenEq.one_next_back_eq m tr b it,
   fun h => GenEq.one_size_hint_eq m tr b it h⟩

/-- the translated `one_iter(); next(); nth(usize::MAX)` (finding F1) returns `None` and exhausts the iterator in the
checked build, without reading a word -/
example : Generated.gen_OneIter_nth .checked .ident (RawVec.ofBits [true, false, true]) ⟨(1, 1), (2, 3)⟩ (U64 - 1)
    = ok (none, ⟨(2, 3), (2, 3)⟩) := by decide +kernel

/-! **The sparse vector's three iterators as translated from the source on this run** (`Generated/FnsSpIter.lean`,
`FnsSpZero.lean`, `FnsSpAll.lean`): `sparse_vector.rs`'s `OneIter` (`next` with the `while !high[next.high]` scan and the
`combine` call, `next_back` with the backwards scan, `size_hint`), `ZeroIter` (`next_run` with its `loop` over the
embedded one-iterator, `next`, `size_hint`), `Iter` (`next` with the duplicate-skipping `while let`, `next_back`,
`size_hint`) and the constructors `one_iter`, `select_iter`, `zero_iter`, `select_zero_iter`, `iter`.  Each equals the
model iterator the theorems above quantify over, on every vector whose `high` word count and `low` length fit a `usize`
(every vector the code can hold); a change to a scan condition, to the order of `next`/`limit` updates or to a
`size_hint` subtraction breaks the equation. -/
theorem sparse_iterators_as_translated_from_source (m : Mode) (s : Sparse)
    (hH : s.high.data.data.size * 64 < U64) (hL : s.low.len < U64) :
    (Generated.gen_SparseVector_one_iter m s = ok (SpOneIter.full s) ∧
     (∀ r, Generated.gen_SparseVector_select_iter m s r = s.selectIter m r) ∧
     (∀ it, Generated.gen_SparseOneIter_next m s it = SpOneIter.nextQ m s it) ∧
     (∀ it, Generated.gen_SparseOneIter_next_back m s it = SpOneIter.nextBackQ m s it) ∧
     (∀ it : SpOneIter, it.next.low ≤ it.limit.low →
        Generated.gen_SparseOneIter_size_hint m s it = ok (it.remaining, some it.remaining))) ∧
    (Generated.gen_SparseVector_zero_iter m s = s.zeroIter m ∧
     (∀ r, Generated.gen_SparseVector_select_zero_iter m s r = s.selectZeroIter m r) ∧
     (∀ z, Generated.gen_SparseZeroIter_next_run m s z = SpZeroIter.nextRun m s (s.countOnes + 2) z) ∧
     (∀ z : SpZeroIter, z.limit.1 < U64 → z.onePos < U64 → z.limit.2 < U64 →
        Generated.gen_SparseZeroIter_next m s z = SpZeroIter.nextQ m s z) ∧
     (∀ z : SpZeroIter, z.next.1 ≤ z.limit.1 →
        Generated.gen_SparseZeroIter_size_hint m s z = ok (z.remaining, some z.remaining))) ∧
    (Generated.gen_SparseVector_iter m s = s.iter m ∧
     (∀ it : SpIter, it.limit < U64 → Generated.gen_SparseIter_next m s it = SpIter.nextQ m s it) ∧
     (∀ it, Generated.gen_SparseIter_next_back m s it = SpIter.nextBackQ m s it) ∧
     (∀ it : SpIter, it.next ≤ it.limit →
        Generated.gen_SparseIter_size_hint m s it = ok (it.remaining, some it.remaining))) :=
  ⟨⟨GenEq.sp_one_iter_eq m s, GenEq.sp_select_iter_eq m s, fun it => GenEq.sp_iter_next_eq m s it hH hL,
    GenEq.sp_iter_next_back_eq m s, fun it h => GenEq.sp_iter_size_hint_eq m s it h⟩,
   ⟨GenEq.sp_zero_iter_eq m s hH hL, fun r => GenEq.sp_select_zero_iter_eq m s r hH hL,
    fun z => GenEq.sp_zero_next_run_eq m s z hH hL, fun z h1 h2 h3 => GenEq.sp_zero_next_eq m s z hH hL h1 h2 h3,
    fun z h => GenEq.sp_zero_size_hint_eq m s z h⟩,
   ⟨GenEq.sp_all_iter_eq m s hH hL, fun it h => GenEq.sp_all_next_eq m s it hH hL h, GenEq.sp_all_next_back_eq m s,
    fun it h => GenEq.sp_all_size_hint_eq m s it h⟩⟩

/-! **The run-length vector's three iterators as translated from the source on this run** (`Generated/FnsRL.lean`):
`OneIter::next` (advance the run iterator while the current run is exhausted, then `(rank, offset_for(rank))`, `rank += 1`),
`ZeroIter::next` (the short-circuit `!got_none && …` walk over gaps), `Iter::next` (bit by bit, with the cached run), and the
three `size_hint`s.  Each equals the model iterator under the representation bounds (`RLBounds`) and the iterator's own
invariants: the rank / position about to be incremented fits a `usize`, a cached run ends below 2^64 (observation O14:
on crafted data with a run ending AT 2^64 the release build wraps `start + len` to 0 where the `Nat` model does not —
`GenEq.rl_iter_next_ne`), and for `size_hint` the invariant that makes the `usize` subtraction exact. -/
theorem rl_iterators_as_translated_from_source {m : Mode} {v : RL} (hb : GenEq.RLBounds m v) :
    (∀ it : RLOneIter, it.rank + 1 < U64 → Generated.gen_RLOneIter_next m v it = it.nextQ m v) ∧
    (∀ it : RLOneIter, it.rank ≤ v.ones →
        Generated.gen_RLOneIter_size_hint m v it = ok (it.remaining v, some (it.remaining v))) ∧
    (v.len < U64 → v.ones ≤ v.len → ∀ z : RLZeroIter,
        (z.gotNone = true → m = .checked → z.iter.rank ≤ z.iter.offsetBits) → z.pos.2 + 1 < U64 →
        z.iter.offsetBits + 1 < U64 → Generated.gen_RLZeroIter_next m v z = z.nextQ m v) ∧
    (v.ones ≤ v.len → ∀ z : RLZeroIter, z.pos.1 ≤ v.countZeros →
        Generated.gen_RLZeroIter_size_hint m v z = ok (z.remaining v, some (z.remaining v))) ∧
    (∀ it : RLIter, (∀ s l, it.run = some (s, l) → s + l < U64) → it.pos + 1 < U64 →
        Generated.gen_RLIter_next m v it = it.nextQ m v) ∧
    (∀ it : RLIter, it.pos ≤ v.len →
        Generated.gen_RLIter_size_hint m v it = ok (it.remaining v, some (it.remaining v))) :=
  ⟨fun it h => GenEq.rl_one_next_eq hb it h, fun it h => GenEq.rl_one_size_hint_eq m v it h,
   fun hlen hol z hgn hp hi => GenEq.rl_zero_next_eq hb z hlen hol hgn hp hi,
   fun hol z h => GenEq.rl_zero_size_hint_eq m v z hol h,
   fun it hrun hp => GenEq.rl_iter_next_eq hb it hrun hp, fun it h => GenEq.rl_iter_size_hint_eq m v it h⟩

/-! **A consumed `OneIter<T>` IS the list of its items** (`Proofs/IterBridge.lean`).  The translated constructors that
consume an iterator (`SelectSupport::new`, the `copy_bit_vec`s) take it as the list of its remaining items, `next()` =
head / tail and `nth(k)` = drop `k`.  This theorem discharges that step for the plain bitvector's one- and zero-iterators:
started from the translated `one_iter()` / `zero_iter()`, ANY sequence of `next` / `nth k` calls run with the TRANSLATED
`OneIter::next` / `OneIter::nth` yields exactly what the same calls yield on the list
`enumerate (positionsT tr data)` of (rank, position) pairs, on every well-formed vector with a correct cached count. -/
theorem consumed_one_iter_is_its_list {b : BitVector} (g : GenEq.Good b) (m : Mode) (calls : List GenEq.FCall) :
    (do let it ← Generated.gen_BitVector_one_iter m b
        let r ← GenEq.iterGenRun m .ident b.data it calls
        return r.1) = ok (GenEq.listRun (GenEq.enumerate (positionsT .ident b.data)) calls).1 ∧
    (do let it ← Generated.gen_BitVector_zero_iter m b
        let r ← GenEq.iterGenRun m .compl b.data it calls
        return r.1) = ok (GenEq.listRun (GenEq.enumerate (positionsT .compl b.data)) calls).1 :=
  ⟨GenEq.one_iter_is_its_list g m calls, GenEq.zero_iter_is_its_list g m calls⟩

/-- **the iterator positioned by `RLVector::predecessor`, as translated from the source on this run** (lambda-lifted
closure, state-passing `advance_if`: see Props/C03 `rl_predecessor_as_translated_from_source`): whenever the model positions
an iterator, the code as it is NOW positions the same one — so the continuation theorems above apply to it -/
theorem rl_predecessor_iterator_as_translated_from_source {m : Mode} {v : RL} (hb : GenEq.RLBounds m v) (value : Nat)
    (hlen : v.len < U64) (hr : min value (v.len - 1) < v.len → GenEq.RangeOK v.rankIndex (min value (v.len - 1)))
    (r : RLOneIter) (h : RL.predecessor m v value = ok r) : Generated.gen_RLVector_predecessor m v value = ok r :=
  GenEq.rl_predecessor_eq_of_ok hb value hlen hr r h

end Sds.C10
