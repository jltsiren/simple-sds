/-
C13 — Memory-mapped views expose exactly the serialized content at any offset.

  "For every file made of any concatenation of serialized structures, a mapped view (slice, bytes, string,
   optional, raw vector, integer vector) created at a structure's offset exposes exactly the content that
   loading would give.  Each view's offset plus length equals the offset of the next structure, so views
   tile the file, and a view requested at an offset outside the file, or on a file cut short so that the
   structure's declared length runs past its end, is refused with an error."

Property theorems only (helper lemmas live in Proofs/Mapper.lean, Proofs/Codec.lean, Proofs/Glue4.lean).

Model (Model/Mapper.lean).  A mapped file is an array of 64-bit elements (`MemoryMap` is element-addressed);
`View.slice m k`, `View.bytes`, `View.str`, `View.raw`, `View.int`, `View.option` transcribe the `new` of
`MappedSlice<T>` (`k = T::elements()`), `MappedBytes`, `MappedStr`, `RawVectorMapper`, `IntVectorMapper`,
`MappedOption<T>` with each bounds test and each addition / multiplication performed in the arithmetic mode
`m` (checked build = panic on overflow, release build = wrap).  A `View` records `offset` (`map_offset`),
`mapLen` (`map_len`), the declared length and the payload elements it exposes.

Quantifiers.  Every file `pre ++ ser x ++ post` shorter than 2^64 elements, where `pre` and `post` are
ARBITRARY element lists — in particular any concatenation of serialized structures before and after `x`, so
"every structure start offset in every concatenation" is the instance `offset = |pre|`; every value `x` of
each mapped type (the declared lengths below 2^64, which every in-memory value satisfies); both modes `m`.
Refusal: EVERY offset `≥ file.size` — a natural number with no upper bound, so 2^64 − 1 and every other
`usize` value is included — in both modes, with no hypothesis on the file at all.  Truncation: every cut
`j < |ser x|` (element granularity: a map is element-addressed; the byte-granular statement for `load` is
C14), i.e. the file `pre ++ (ser x).take j`.

"The content that loading would give" is stated against the loaders of Model/Ser.lean (proven to invert the
serializers in Proofs/Codec.lean): each acceptance theorem exhibits both the view and the result `(x', post)`
of `load (ser x ++ post)` and equates the view's declared length and payload with the fields of `x'`.

Every refusal is the exact outcome `fault (.err .eof)` — `Err(UnexpectedEof)`, not a panic, not `oob`.

`IntVectorMapper::new` is modelled twice: `View.int` is the repaired code (`offset >= len || offset + 1 >= len`,
short-circuit), `View.intOld` the code as first written (finding F11: `offset + 1` evaluated first, which
overflows at `offset = 2^64 − 1`).  The property theorems are about `View.int`; the `F11_*` theorems (section
F11) document what the old code did and are about `View.intOld` only.

**Partial.**  `MappedOption<T>` is generic in the inner mapped type.  Acceptance (`option_present`) is proven
for every inner constructor (the inner view is created at `offset + 1`, whatever it is); the fully
instantiated acceptance / truncation statements are given for `Option<Vec<u64>>`
(`option_vec_exposes_loaded`, `option_vec_truncated_refused`); for other inner types they follow by the same
two-line composition with the inner type's theorem (`option_cut` in Glue4 is the generic step) but are not
spelled out.  Tiling is proven as "offset + map_len is where `post` starts" for every view type
(`*_exposes_loaded`, last conjunct) and as explicit two-structure chains (`consecutive_slices_tile`,
`raw_then_int_tile`); a walk over an arbitrary-length list of structures of mixed types is the iteration of
the former and is exercised by correspondence.
-/
import Sds.Proofs.Glue4
import Sds.Proofs.GenEqView
import Sds.Proofs.GenEqMapNew

namespace Sds.C13
open Sds Outcome

/-! ### (a) the view at a structure's offset exposes what `load` returns; offset + map_len = next offset -/

/-- `MappedSlice<u64>` over a serialized `Vec<u64>`: the view's items are the elements of the vector that
`load` returns, `len()` is its length, and the view ends where the next structure starts -/
theorem slice_u64_exposes_loaded (m : Mode) (pre post : List Word) (a : Array Word)
    (hsz : (pre ++ vecU64C.ser a ++ post).length < U64) :
    ∃ v x, View.slice m 1 (pre ++ vecU64C.ser a ++ post).toArray pre.length = ok v ∧
      vecU64C.load (vecU64C.ser a ++ post) = ok (x, post) ∧
      v.len = x.size ∧ v.payload = x.toList ∧
      v.offset = pre.length ∧ (pre ++ vecU64C.ser a ++ post).drop (v.offset + v.mapLen) = post := by
  have ha : a.size < 2 ^ 64 := by
    rw [U64_eq] at hsz; simp only [List.length_append, vecU64C_ser_length] at hsz; omega
  exact ⟨_, a, slice_vecU64 m pre post a hsz, (vecU64C_loads isEof_eof ha).1 post, rfl, rfl, rfl,
    View.next_offset _ pre _ post rfl rfl⟩

/-- `MappedSlice<(u64, u64)>` over a serialized `Vec<(u64, u64)>` (two elements per item) -/
theorem slice_pair_exposes_loaded (m : Mode) (pre post : List Word) (a : Array (Word × Word))
    (hsz : (pre ++ vecPairC.ser a ++ post).length < U64) :
    ∃ v x, View.slice m 2 (pre ++ vecPairC.ser a ++ post).toArray pre.length = ok v ∧
      vecPairC.load (vecPairC.ser a ++ post) = ok (x, post) ∧
      v.len = x.size ∧ v.payload = x.toList.flatMap (fun p => [p.1, p.2]) ∧
      v.offset = pre.length ∧ (pre ++ vecPairC.ser a ++ post).drop (v.offset + v.mapLen) = post := by
  have ha : a.size < 2 ^ 64 := by
    rw [U64_eq] at hsz; simp only [List.length_append, vecPairC_ser_length] at hsz; omega
  exact ⟨_, a, slice_vecPair m pre post a hsz, (vecPairC_loads isEof_eof ha).1 post, rfl, rfl, rfl,
    View.next_offset _ pre _ post rfl rfl⟩

/-- `MappedBytes` over a serialized `Vec<u8>`: the first `len()` bytes of the exposed elements (little-endian)
are the bytes that `load` returns; the padding bytes of the last element are not part of the content -/
theorem bytes_exposes_loaded (m : Mode) (pre post : List Word) (bs : List UInt8) (hn : bs.length + 7 < U64)
    (hsz : (pre ++ bytesC.ser bs ++ post).length < U64) :
    ∃ v x, View.bytes m (pre ++ bytesC.ser bs ++ post).toArray pre.length = ok v ∧
      bytesC.load (bytesC.ser bs ++ post) = ok (x, post) ∧
      v.len = x.length ∧ (toBytes v.payload).take v.len = x ∧
      v.offset = pre.length ∧ (pre ++ bytesC.ser bs ++ post).drop (v.offset + v.mapLen) = post := by
  have hb : bs.length < 2 ^ 64 := by rw [U64_eq] at hn; omega
  exact ⟨_, bs, bytes_bytesC m pre post bs hn hsz, (bytesC_loads isEof_eof hb).1 post, rfl,
    toBytes_packBytes_take bs, rfl, View.next_offset _ pre _ post rfl rfl⟩

/-- `MappedStr` over a serialized `String` (`valid` = the UTF-8 test, a parameter): a valid string is
accepted and exposes the bytes that `load` returns -/
theorem str_exposes_loaded (m : Mode) (valid : List UInt8 → Bool) (pre post : List Word) (bs : List UInt8)
    (hv : valid bs = true) (hn : bs.length + 7 < U64)
    (hsz : (pre ++ (stringC valid).ser bs ++ post).length < U64) :
    ∃ v x, View.str m valid (pre ++ (stringC valid).ser bs ++ post).toArray pre.length = ok v ∧
      (stringC valid).load ((stringC valid).ser bs ++ post) = ok (x, post) ∧
      v.len = x.length ∧ (toBytes v.payload).take v.len = x ∧
      v.offset = pre.length ∧
      (pre ++ (stringC valid).ser bs ++ post).drop (v.offset + v.mapLen) = post := by
  have hb : bs.length < 2 ^ 64 := by rw [U64_eq] at hn; omega
  have h := str_bytesC m valid pre post bs hn hsz
  rw [if_pos hv] at h
  exact ⟨_, bs, h, (stringC_loads isEof_eof valid hb hv).1 post, rfl, toBytes_packBytes_take bs, rfl,
    View.next_offset _ pre ((stringC valid).ser bs) post rfl rfl⟩

/-- … and bytes that fail the validity test are refused by the view exactly as `load` refuses them:
`Err(InvalidData)` (the structure itself is intact, so this is not `eof`) -/
theorem str_invalid_refused (m : Mode) (valid : List UInt8 → Bool) (pre post : List Word) (bs : List UInt8)
    (hv : valid bs = false) (hn : bs.length + 7 < U64)
    (hsz : (pre ++ (stringC valid).ser bs ++ post).length < U64) :
    View.str m valid (pre ++ (stringC valid).ser bs ++ post).toArray pre.length = fault (.err .invalid) := by
  have h := str_bytesC m valid pre post bs hn hsz
  rw [hv] at h
  exact h

/-- `RawVectorMapper` over a serialized `RawVector`: `len()` (in bits) and the exposed words are those of
the vector that `load` returns — together they ARE that vector -/
theorem raw_exposes_loaded (m : Mode) (pre post : List Word) (v : RawVec) (hv : v.WF) (hlen : v.len < U64)
    (hsz : (pre ++ rawVecC.ser v ++ post).length < U64) :
    ∃ vw x, View.raw m (pre ++ rawVecC.ser v ++ post).toArray pre.length = ok vw ∧
      rawVecC.load (rawVecC.ser v ++ post) = ok (x, post) ∧
      x = ⟨vw.len, vw.payload.toArray⟩ ∧
      vw.offset = pre.length ∧ (pre ++ rawVecC.ser v ++ post).drop (vw.offset + vw.mapLen) = post := by
  have hl : v.len < 2 ^ 64 := by rw [U64_eq] at hlen; exact hlen
  exact ⟨_, v, raw_rawVec m pre post v hlen hsz, (rawVecC_loads isEof_eof ⟨hv, hl⟩).1 post, rfl, rfl,
    View.next_offset _ pre _ post rfl rfl⟩

/-- `IntVectorMapper` over a serialized `IntVector`: `len()`, `width()` and the exposed words are those of
the vector that `load` returns (its bit length is `len * width`, part of well-formedness) -/
theorem int_exposes_loaded (m : Mode) (pre post : List Word) (v : IntVec) (hv : v.WF)
    (hlen : v.len < U64) (hw : v.width < U64) (hrlen : v.data.len < U64)
    (hsz : (pre ++ intVecC.ser v ++ post).length < U64) :
    ∃ vw w x, View.int m (pre ++ intVecC.ser v ++ post).toArray pre.length = ok (vw, w) ∧
      intVecC.load (intVecC.ser v ++ post) = ok (x, post) ∧
      x = ⟨vw.len, w, ⟨vw.len * w, vw.payload.toArray⟩⟩ ∧
      vw.offset = pre.length ∧ (pre ++ intVecC.ser v ++ post).drop (vw.offset + vw.mapLen) = post := by
  rw [U64_eq] at hlen hw hrlen
  have hwf : intVecWF v := ⟨hv, hlen, hw, hrlen⟩
  refine ⟨_, _, v, int_intVec m pre post v (by rw [U64_eq]; exact hlen) (by rw [U64_eq]; exact hw)
    (by rw [U64_eq]; exact hrlen) hsz, (intVecC_loads isEof_eof hwf).1 post, ?_, rfl,
    View.next_offset _ pre _ post rfl rfl⟩
  obtain ⟨_, _, h3, _⟩ := hv
  cases v with
  | mk len width data => cases data with
    | mk dl dd => simp only at h3 ⊢; subst h3; simp

/-- `MappedOption<T>`, value absent: one element, nothing exposed, flag `false` — as `load` returns `None` -/
theorem option_absent_exposes_loaded (m : Mode) {α} (c : Codec α)
    (inner : Array Word → Nat → Outcome View) (pre post : List Word) :
    ∃ v, View.option m inner (pre ++ (optionC c).ser none ++ post).toArray pre.length = ok (v, false) ∧
      (optionC c).ser (none : Option α) = [0] ∧ v.payload = [] ∧ v.mapLen = 1 ∧ v.offset = pre.length ∧
      (pre ++ (optionC c).ser (none : Option α) ++ post).drop (v.offset + v.mapLen) = post :=
  ⟨_, option_none m c inner pre post, rfl, rfl, rfl, rfl,
    View.next_offset _ pre ((optionC c).ser (none : Option α)) post rfl rfl⟩

/-- `MappedOption<T>`, value present, ANY inner mapped type: the inner constructor is run at `offset + 1`
(the offset of the inner serialization) and the option view exposes the inner view's payload, spans the
length word plus the declared number of elements, and ends where the next structure starts -/
theorem option_present (m : Mode) {α} (c : Codec α) (inner : Array Word → Nat → Outcome View)
    (pre post : List Word) (x : α) (hpos : 0 < (c.ser x).length)
    (hsz : (pre ++ (optionC c).ser (some x) ++ post).length < U64) :
    View.option m inner (pre ++ (optionC c).ser (some x) ++ post).toArray pre.length =
      (inner (pre ++ (optionC c).ser (some x) ++ post).toArray (pre.length + 1)).bind fun v =>
        ok (⟨pre.length, ((optionC c).ser (some x)).length, (c.ser x).length, v.payload⟩, true) :=
  option_some m c inner pre post x hpos hsz

/-- instance `Option<Vec<u64>>`: the view exposes the elements of the vector `load` returns -/
theorem option_vec_exposes_loaded (m : Mode) (pre post : List Word) (a : Array Word)
    (hsz : (pre ++ (optionC vecU64C).ser (some a) ++ post).length < U64) :
    ∃ v o, View.option m (View.slice m 1) (pre ++ (optionC vecU64C).ser (some a) ++ post).toArray
        pre.length = ok (v, true) ∧
      (optionC vecU64C).load ((optionC vecU64C).ser (some a) ++ post) = ok (o, post) ∧
      o.map Array.toList = some v.payload ∧
      v.offset = pre.length ∧
      (pre ++ (optionC vecU64C).ser (some a) ++ post).drop (v.offset + v.mapLen) = post := by
  have hlen := hsz
  rw [U64_eq] at hlen
  simp only [List.length_append, optionC_ser_some, List.length_cons, vecU64C_ser_length] at hlen
  have hl : LawfulP IsEof (optionC vecU64C) (optWF vecU64C (fun a => a.size < 2 ^ 64)) :=
    optionC_lawfulP isEof_eof vecU64C_lawfulEof
  have hwf : optWF vecU64C (fun a => a.size < 2 ^ 64) (some a) := by
    refine ⟨by omega, ?_, ?_⟩ <;> rw [vecU64C_ser_length] <;> omega
  exact ⟨_, some a, option_some_vecU64 m pre post a hsz, (hl.loads _ hwf).1 post, rfl, rfl,
    View.next_offset _ pre ((optionC vecU64C).ser (some a)) post rfl rfl⟩

/-! ### tiling -/

/-- the general tiling law: a view that starts at `|pre|` and spans `|ser|` elements ends exactly where the
rest of the file starts (each `*_exposes_loaded` theorem instantiates it) -/
theorem view_end_is_next_offset (v : View) (pre ser post : List Word)
    (ho : v.offset = pre.length) (hl : v.mapLen = ser.length) :
    (pre ++ ser ++ post).drop (v.offset + v.mapLen) = post :=
  View.next_offset v pre ser post ho hl

/-- two serialized vectors in a row: a view created at `offset + map_len` of the first is the view of the
second -/
theorem consecutive_slices_tile (m : Mode) (pre post : List Word) (a b : Array Word)
    (hsz : (pre ++ vecU64C.ser a ++ vecU64C.ser b ++ post).length < U64) :
    ∃ v1 v2, View.slice m 1 (pre ++ vecU64C.ser a ++ vecU64C.ser b ++ post).toArray pre.length = ok v1 ∧
      View.slice m 1 (pre ++ vecU64C.ser a ++ vecU64C.ser b ++ post).toArray (v1.offset + v1.mapLen) = ok v2 ∧
      v1.payload = a.toList ∧ v2.payload = b.toList ∧ v2.offset = v1.offset + v1.mapLen :=
  slice_then_slice m pre post a b hsz

/-- a raw vector followed by an integer vector (the layout inside the serialized bitvector structures):
the second view is created at the end of the first and ends at the end of both -/
theorem raw_then_int_tile (m : Mode) (pre post : List Word) (r : RawVec) (v : IntVec)
    (hr : r.len < U64) (hlen : v.len < U64) (hw : v.width < U64) (hrlen : v.data.len < U64)
    (hsz : (pre ++ rawVecC.ser r ++ intVecC.ser v ++ post).length < U64) :
    ∃ v1 v2, View.raw m (pre ++ rawVecC.ser r ++ intVecC.ser v ++ post).toArray pre.length = ok v1 ∧
      View.int m (pre ++ rawVecC.ser r ++ intVecC.ser v ++ post).toArray (v1.offset + v1.mapLen) =
        ok (v2, v.width) ∧
      v1.payload = r.data.toList ∧ v2.payload = v.data.data.toList ∧
      v2.offset + v2.mapLen = pre.length + (rawVecC.ser r).length + (intVecC.ser v).length :=
  raw_then_int m pre post r v hr hlen hw hrlen hsz

/-! ### (b) every offset at or past the end of the file is refused — any file, any offset, both modes -/

/-- **all six view types**, every file (empty included), every offset `≥` the file length (no upper bound:
`2^64 − 1` is an instance), both modes: `Err(UnexpectedEof)`; no arithmetic is performed before the test,
so no overflow can precede it -/
theorem offset_outside_file_refused (m : Mode) (file : Array Word) (offset : Nat) (h : offset ≥ file.size) :
    (∀ k, View.slice m k file offset = fault (.err .eof)) ∧
    View.bytes m file offset = fault (.err .eof) ∧
    (∀ valid, View.str m valid file offset = fault (.err .eof)) ∧
    View.raw m file offset = fault (.err .eof) ∧
    View.int m file offset = fault (.err .eof) ∧
    (∀ inner, View.option m inner file offset = fault (.err .eof)) :=
  ⟨fun k => slice_refuses m k file offset h, bytes_refuses m file offset h,
    fun valid => str_refuses m valid file offset h, raw_refuses m file offset h,
    int_refuses_past_end m file offset h, fun inner => option_refuses m inner file offset h⟩

/-- the largest `usize`, spelled out, for every file a machine can map -/
theorem last_offset_refused (m : Mode) (file : Array Word) (hsz : file.size < U64) :
    (∀ k, View.slice m k file (2 ^ 64 - 1) = fault (.err .eof)) ∧
    View.bytes m file (2 ^ 64 - 1) = fault (.err .eof) ∧
    View.raw m file (2 ^ 64 - 1) = fault (.err .eof) ∧
    View.int m file (2 ^ 64 - 1) = fault (.err .eof) ∧
    (∀ inner, View.option m inner file (2 ^ 64 - 1) = fault (.err .eof)) := by
  have h : 2 ^ 64 - 1 ≥ file.size := by rw [U64_eq] at hsz; omega
  obtain ⟨h1, h2, _, h4, h5, h6⟩ := offset_outside_file_refused m file _ h
  exact ⟨h1, h2, h4, h5, h6⟩

/-- the integer-vector view needs two header elements: the last element of the file is refused as well -/
theorem int_header_outside_file_refused (m : Mode) (file : Array Word) (offset : Nat)
    (hsz : file.size < U64) (h : offset ≥ file.size ∨ offset + 1 ≥ file.size) :
    View.int m file offset = fault (.err .eof) :=
  int_refuses m file offset hsz h

/-! ### (c) every truncation of the file inside the structure is refused -/

theorem slice_u64_truncated_refused (m : Mode) (pre : List Word) (a : Array Word) (j : Nat)
    (hj : j < (vecU64C.ser a).length) (hsz : (pre ++ vecU64C.ser a).length < U64) :
    View.slice m 1 (pre ++ (vecU64C.ser a).take j).toArray pre.length = fault (.err .eof) :=
  slice_vecU64_truncated m pre a j hj hsz

theorem slice_pair_truncated_refused (m : Mode) (pre : List Word) (a : Array (Word × Word)) (j : Nat)
    (hj : j < (vecPairC.ser a).length) (hsz : (pre ++ vecPairC.ser a).length < U64) :
    View.slice m 2 (pre ++ (vecPairC.ser a).take j).toArray pre.length = fault (.err .eof) :=
  slice_vecPair_truncated m pre a j hj hsz

theorem bytes_truncated_refused (m : Mode) (pre : List Word) (bs : List UInt8) (j : Nat)
    (hj : j < (bytesC.ser bs).length) (hn : bs.length + 7 < U64)
    (hsz : (pre ++ bytesC.ser bs).length < U64) :
    View.bytes m (pre ++ (bytesC.ser bs).take j).toArray pre.length = fault (.err .eof) :=
  bytes_bytesC_truncated m pre bs j hj hn hsz

/-- the truncation is reported before the validity test is reached, whatever the test -/
theorem str_truncated_refused (m : Mode) (valid : List UInt8 → Bool) (pre : List Word) (bs : List UInt8)
    (j : Nat) (hj : j < ((stringC valid).ser bs).length) (hn : bs.length + 7 < U64)
    (hsz : (pre ++ (stringC valid).ser bs).length < U64) :
    View.str m valid (pre ++ ((stringC valid).ser bs).take j).toArray pre.length = fault (.err .eof) :=
  str_bytesC_truncated m valid pre bs j hj hn hsz

theorem raw_truncated_refused (m : Mode) (pre : List Word) (v : RawVec) (j : Nat)
    (hj : j < (rawVecC.ser v).length) (hlen : v.len < U64)
    (hsz : (pre ++ rawVecC.ser v).length < U64) :
    View.raw m (pre ++ (rawVecC.ser v).take j).toArray pre.length = fault (.err .eof) :=
  raw_rawVec_truncated m pre v j hj hlen hsz

theorem int_truncated_refused (m : Mode) (pre : List Word) (v : IntVec) (j : Nat)
    (hj : j < (intVecC.ser v).length) (hlen : v.len < U64) (hw : v.width < U64)
    (hrlen : v.data.len < U64) (hsz : (pre ++ intVecC.ser v).length < U64) :
    View.int m (pre ++ (intVecC.ser v).take j).toArray pre.length = fault (.err .eof) :=
  int_intVec_truncated m pre v j hj hlen hw hrlen hsz

/-- an absent optional value is one element; cutting it off is refused -/
theorem option_absent_truncated_refused (m : Mode) {α} (c : Codec α)
    (inner : Array Word → Nat → Outcome View) (pre : List Word) (j : Nat)
    (hj : j < ((optionC c).ser (none : Option α)).length) :
    View.option m inner (pre ++ ((optionC c).ser (none : Option α)).take j).toArray pre.length =
      fault (.err .eof) :=
  option_none_truncated m c inner pre j hj

/-- `Option<Vec<u64>>` with a value: a cut before the length word, right after it, or anywhere inside the
inner vector is refused (the inner constructor's error is passed on) -/
theorem option_vec_truncated_refused (m : Mode) (pre : List Word) (a : Array Word) (j : Nat)
    (hj : j < ((optionC vecU64C).ser (some a)).length)
    (hsz : (pre ++ (optionC vecU64C).ser (some a)).length < U64) :
    View.option m (View.slice m 1) (pre ++ ((optionC vecU64C).ser (some a)).take j).toArray pre.length =
      fault (.err .eof) :=
  option_vecU64_truncated m pre a j hj hsz

/-- the generic step for any inner type: once the length word of a present value is in the file, whatever
fault the inner constructor reports at `offset + 1` is the option view's outcome -/
theorem option_passes_inner_refusal (m : Mode) (inner : Array Word → Nat → Outcome View)
    (file : Array Word) (pre rest : List Word) (dl : Nat) (e : Fault)
    (hf : file.toList = pre ++ BitVec.ofNat 64 dl :: rest) (hpos : 0 < dl) (hdl : dl < U64)
    (hsz : pre.length + 1 < U64) (hin : inner file (pre.length + 1) = fault e) :
    View.option m inner file pre.length = fault e :=
  option_cut m inner file pre rest dl e hf hpos hdl hsz hin

/-! ### F11 (documentation; about the as-first-coded `View.intOld`, not the shipped `View.int`) -/

/-- inside the file the old and the repaired constructor are the same function -/
theorem F11_old_agrees_inside_file (m : Mode) (file : Array Word) (offset : Nat) (h : offset < file.size) :
    View.intOld m file offset = View.int m file offset :=
  intOld_eq_int m file offset h

/-- F11, checked build: at the last offset the old constructor panicked (arithmetic overflow) on every file
instead of returning the error … -/
theorem F11_old_checked_panics (file : Array Word) :
    View.intOld .checked file (2 ^ 64 - 1) = fault (.panic .overflow) :=
  int_F11_checked file

/-- … and in a release build, on every non-empty file, `offset + 1` wrapped to 0, the range test passed, and
the file was indexed at `2^64 − 1`: an index panic -/
theorem F11_old_wrapping_panics (file : Array Word) (h0 : 0 < file.size) (h : file.size < U64) :
    View.intOld .wrapping file (2 ^ 64 - 1) = fault (.panic .index) :=
  int_F11_wrapping_nonempty file h0 h

/-- the repaired constructor returns the error there, in both modes -/
theorem F11_fixed (m : Mode) (file : Array Word) (h : file.size < U64) :
    View.int m file (2 ^ 64 - 1) = fault (.err .eof) :=
  int_last_offset m file h

/-! ### non-vacuity -/

/-- a file of three structures — `Vec<u64>` [5, 6], raw vector of 3 bits, `Vec<u64>` [] — and the view of the
middle one at its offset 3, in both modes -/
example : ∀ m : Mode, View.raw m
    ((vecU64C.ser #[5, 6]) ++ rawVecC.ser ⟨3, #[5]⟩ ++ vecU64C.ser #[]).toArray 3 =
      ok ⟨3, 3, 3, [5]⟩ := by intro m; cases m <;> decide
example : (⟨3, #[5]⟩ : RawVec).WF ∧ ((vecU64C.ser #[5, 6]) ++ rawVecC.ser ⟨3, #[5]⟩ ++ vecU64C.ser #[]).length = 7 ∧
    (vecU64C.ser #[5, 6]).length = 3 := by decide
/-- the view after it starts at 3 + 3 = 6 and is the empty vector; offset 7 = file length is refused;
the file cut to 5 elements refuses the raw view at 3 -/
example : ∀ m : Mode,
    View.slice m 1 ((vecU64C.ser #[5, 6]) ++ rawVecC.ser ⟨3, #[5]⟩ ++ vecU64C.ser #[]).toArray 6 =
      ok ⟨6, 1, 0, []⟩ ∧
    View.slice m 1 ((vecU64C.ser #[5, 6]) ++ rawVecC.ser ⟨3, #[5]⟩ ++ vecU64C.ser #[]).toArray 7 =
      fault (.err .eof) ∧
    View.raw m (((vecU64C.ser #[5, 6]) ++ rawVecC.ser ⟨3, #[5]⟩ ++ vecU64C.ser #[]).take 5).toArray 3 =
      fault (.err .eof) := by intro m; cases m <;> decide
/-- an integer vector of two 3-bit items and its view (len 2, width 3) -/
example : (⟨2, 3, ⟨6, #[0x2B]⟩⟩ : IntVec).WF ∧ ∀ m : Mode,
    View.int m ([7] ++ intVecC.ser ⟨2, 3, ⟨6, #[0x2B]⟩⟩ ++ [9]).toArray 1 = ok (⟨1, 5, 2, [0x2B]⟩, 3) := by
  refine ⟨by decide, ?_⟩; intro m; cases m <;> decide
/-- bytes: 9 bytes occupy two elements; the view exposes exactly the 9 bytes -/
example : ∀ m : Mode,
    View.bytes m (bytesC.ser [1, 2, 3, 4, 5, 6, 7, 8, 9]).toArray 0 =
      ok ⟨0, 3, 9, packBytes [1, 2, 3, 4, 5, 6, 7, 8, 9]⟩ ∧
    (toBytes (packBytes [1, 2, 3, 4, 5, 6, 7, 8, 9])).take 9 = [1, 2, 3, 4, 5, 6, 7, 8, 9] := by
  intro m; cases m <;> decide

/-! **The read accessors of the mapped views as translated from the source on this run** (`Generated/FnsView.lean`):
`RawVectorMapper::{bit, int, word, word_unchecked, count_ones}` and `IntVectorMapper::get` (the mapped words are the word
array of the view).  They are, word for word, the same functions as the in-memory ones — the generated definitions are
*definitionally* equal (`GenEq.mapper_bit_def`, … by `rfl`) — and so they read from a view exactly what the in-memory
vector with the same words returns: "each view exposes the content that loading gives".  (The view constructors
themselves — offset tests, length arithmetic — follow below: `view_constructors_as_translated_from_source`.) -/
theorem mapped_accessors_as_translated_from_source (m : Mode) (v : RawVec) (iv : IntVec) (i off w : Nat) :
    Generated.gen_RawVectorMapper_bit = Generated.gen_RawVector_bit ∧
    Generated.gen_RawVectorMapper_int = Generated.gen_RawVector_int ∧
    Generated.gen_IntVectorMapper_get = Generated.gen_IntVector_get ∧
    Generated.gen_RawVectorMapper_bit m v i = v.bitM i ∧
    Generated.gen_RawVectorMapper_word m v i = v.wordM i ∧
    (w ≤ 64 → off < U64 → off + w ≤ 64 * v.data.size → Generated.gen_RawVectorMapper_int m v off w = ok (v.int off w)) ∧
    (iv.WF → iv.len * iv.width < U64 → Generated.gen_IntVectorMapper_get m iv i = iv.get i) ∧
    (64 * v.data.size < U64 → Generated.gen_RawVectorMapper_count_ones m v = ok v.countOnes) :=
  ⟨GenEq.mapper_bit_def, GenEq.mapper_int_def, GenEq.mapper_get_def, GenEq.mapper_bit_eq m v i, GenEq.mapper_word_eq m v i,
   fun hw ho hin => GenEq.mapper_int_eq m v off w hw ho hin, fun hwf hb => GenEq.mapper_get_eq m iv i hwf hb,
   fun h => GenEq.mapper_count_ones_eq m v h⟩

/-! **The view constructors as translated from the source on this run** (`Generated/FnsMapNew.lean`): `MappedSlice<T>::new`
(with `T::elements() = k`; the `from_raw_parts` cast is the named payload `file[offset+1 ..][.. len·k]`), `MappedBytes::new`,
`RawVectorMapper::new`, `IntVectorMapper::new` — the range tests `offset >= map.len()` (and `offset + 1 >= map.len()` of
finding F11's repair), the header reads, `offset + 1 + len * elements > map.len()`, the delegation to the inner view — and
`map_offset` (raw, integer).  The model views (`View.slice / bytes / raw / int`) that the theorems above are about are
EXACTLY the images of what the translated constructors return, faults included, for every file and every offset (integer
view: files shorter than 2^64 elements). -/
theorem view_constructors_as_translated_from_source (m : Mode) (k : Nat) (file : Array Word) (offset : Nat) :
    View.slice m k file offset = (Generated.gen_MappedSlice_new m k file offset).bind (fun r => ok (GenEq.mn_sliceView k r)) ∧
    View.bytes m file offset = (Generated.gen_MappedBytes_new m file offset).bind (fun r => ok (GenEq.mn_bytesView r)) ∧
    View.raw m file offset = (Generated.gen_RawVectorMapper_new m file offset).bind (GenEq.mn_rawView m) ∧
    (file.size < U64 → View.int m file offset = (Generated.gen_IntVectorMapper_new m file offset).bind (GenEq.mn_intView m)) ∧
    (∀ r, Generated.gen_RawVectorMapper_map_offset m r = (GenEq.mn_rawView m r).bind (fun v => ok v.offset)) ∧
    (∀ r, Generated.gen_IntVectorMapper_map_offset m r = (GenEq.mn_intView m r).bind (fun vw => ok vw.1.offset)) :=
  ⟨GenEq.mapped_slice_view_eq m k file offset, GenEq.mapped_bytes_view_eq m file offset, GenEq.raw_mapper_view_eq m file offset,
   fun h => GenEq.int_mapper_view_eq_of_size m file offset h, GenEq.raw_mapper_map_offset_eq m, GenEq.int_mapper_map_offset_eq m⟩

/-- **`MappedStr::new` as translated from the source on this run** (`Generated/FnsMapNew.lean`): the range tests and the header
read of `MappedBytes::new`, then `str::from_utf8(bytes).map_err(..)?` with the standard library's validity test as the
named parameter `valid` (as in the model's string codec).  It is the translated `MappedBytes::new` followed by that test,
and the model's string view is exactly the image of what it returns, faults included. -/
theorem mapped_str_new_as_translated_from_source (m : Mode) (valid : List UInt8 → Bool) (file : Array Word) (offset : Nat) :
    Generated.gen_MappedStr_new m valid file offset
      = (Generated.gen_MappedBytes_new m file offset).bind
          (fun r => if valid (payloadBytes r.data) then ok r else fault (.err .invalid)) ∧
    View.str m valid file offset
      = (Generated.gen_MappedStr_new m valid file offset).bind (fun r => ok (GenEq.mn_bytesView r)) :=
  ⟨GenEq.mapped_str_new_eq_bytes m valid file offset, GenEq.mapped_str_view_eq m valid file offset⟩

/-- **`MappedOption<T>::new` as translated from the source on this run**, for ANY inner view constructor `T::new` (a parameter of
the translation) and any reading `toV` of what it returns: the range test, the `data_len` header, `T::new(map, offset + 1)?` only
when the length is non-zero, `result.data = Some(value)`.  The model's optional view is exactly the image of what the code
returns, faults included (the zero-sized `_marker` field is dropped). -/
theorem mapped_option_new_as_translated_from_source (m : Mode) (inner : Array Word → Nat → Outcome MappedSliceR)
    (toV : MappedSliceR → View) (file : Array Word) (offset : Nat) :
    View.option m (fun f o => (inner f o).bind (fun r => ok (toV r))) file offset
      = (Generated.gen_MappedOption_new m inner file offset).bind (fun r => ok (GenEq.mn_optionView toV r)) :=
  GenEq.mapped_option_view_eq m inner toV file offset

end Sds.C13
