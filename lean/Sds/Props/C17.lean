/-
C17 — Bit-level primitives are exact at every offset, width and word pattern.

Property theorems only (helper lemmas live in Proofs/).  Quantifiers: every array, every bit offset
(not only 0..191), every width 1..64, every value and background; every table entry of the tables as
extracted from bits.rs on this run; every argument in the documented domain of each helper, both
arithmetic modes.
-/
import Sds.Proofs.Bits
import Sds.Proofs.Tables
import Sds.Proofs.Round
import Sds.Proofs.BitsMore
import Sds.Proofs.GenFns
import Sds.Proofs.GenEqBits
import Sds.Proofs.GenEqSelect

namespace Sds.C17
open Sds Outcome

/-- write then read returns the value truncated to the width — one-word and two-word branch alike -/
theorem read_after_write (a : Array Word) (off : Nat) (v : Word) (w : Nat) (hw : 1 ≤ w) (hw' : w ≤ 64)
    (hidx : (off + w - 1) / 64 < a.size) :
    readInt (writeInt a off v w) off w = v &&& lowSet w :=
  readInt_writeInt a off v w hw hw' hidx

/-- the guarded functions (index checks as in the code) succeed on these arguments -/
theorem read_after_write_guarded (a : Array Word) (off : Nat) (v : Word) (w : Nat) (hw : 1 ≤ w) (hw' : w ≤ 64)
    (hidx : (off + w - 1) / 64 < a.size) :
    (writeIntM a off v w >>= fun a' => readIntM a' off w) = ok (v &&& lowSet w) := by
  have hin : off + w ≤ 64 * a.size := by omega
  rw [writeIntM_ok a off v w hw hw' hin, bind_ok,
    readIntM_ok _ off w hw hw' (by rw [size_writeInt]; exact hin), readInt_writeInt a off v w hw hw' hidx]

/-- a write changes no bit outside the field -/
theorem write_frame (a : Array Word) (off : Nat) (v : Word) (w : Nat) (hw : 1 ≤ w) (hw' : w ≤ 64)
    (hidx : (off + w - 1) / 64 < a.size) (j : Nat) (hj : j < off ∨ off + w ≤ j) :
    getBit (writeInt a off v w) j = getBit a j := by
  rw [getBit_writeInt a off v w hw hw' hidx]
  have : ¬ (off ≤ j ∧ j < off + w) := by omega
  simp [this]

/-- inside the field the written bits are exactly the value's -/
theorem write_field (a : Array Word) (off : Nat) (v : Word) (w : Nat) (hw : 1 ≤ w) (hw' : w ≤ 64)
    (hidx : (off + w - 1) / 64 < a.size) (i : Nat) (hi : i < w) :
    getBit (writeInt a off v w) (off + i) = v.getLsbD i := by
  rw [getBit_writeInt a off v w hw hw' hidx]
  have : off ≤ off + i ∧ off + i < off + w := by omega
  simp [this]

/-- and the number of words never changes -/
theorem write_size (a : Array Word) (off : Nat) (v : Word) (w : Nat) : (writeInt a off v w).size = a.size :=
  size_writeInt a off v w

/-- masks: the tables extracted from the source hold the mathematical masks over 0..=64 -/
theorem low_set_exact (n : Nat) (h : n ≤ 64) : lowSetT n = ok (BitVec.ofNat 64 (2 ^ n - 1)) := by
  rw [lowSetT_eq n h]; rfl

theorem high_set_exact (n : Nat) (h : n ≤ 64) : highSetT n = ok (BitVec.ofNat 64 (2 ^ 64 - 2 ^ (64 - n))) := by
  rw [highSetT_eq n h, highSet_eq_ofNat n h]

theorem low_set_unchecked_in_bounds (n : Nat) (h : n ≤ 64) : lowSetU n = ok (lowSet n) := lowSetU_eq n h
theorem high_set_unchecked_in_bounds (n : Nat) (h : n ≤ 64) : highSetU n = ok (highSet n) := highSetU_eq n h

/-- the select tables: all 65 and all 2048 entries -/
theorem ps_overflow_exact (i : Nat) (h : i ≤ 64) :
    Generated.PS_OVERFLOW[i]? = some ((128 - i) * 0x0101010101010101) := PS_OVERFLOW_get i h

theorem select_in_byte_exact (r x : Nat) (hr : r < 8) (hx : x < 256) :
    Generated.SELECT_IN_BYTE[256 * r + x]? = some ((selectBits (byteBits x) r).getD 0) := by
  have := SELECT_IN_BYTE_get (256 * r + x) (by omega)
  rw [this]
  unfold selectInByteNat
  have e1 : (256 * r + x) % 256 = x := by omega
  have e2 : (256 * r + x) / 256 = r := by omega
  rw [e1, e2]

/-- the source still has the shapes the model of `bits::select` was written against -/
theorem select_source_shape :
    Generated.SWAR_MASKS_AS_EXPECTED = true ∧ Generated.PDEP_SHAPE_AS_EXPECTED = true := by decide

/-- structural constants the model relies on -/
theorem bits_constants :
    Generated.WORD_BITS = 64 ∧ Generated.WORD_BYTES = 8 ∧ Generated.INDEX_SHIFT = 6 ∧ Generated.OFFSET_MASK = 63 := by
  decide

/-- rounding helpers: mathematical value on the whole documented domain, in both arithmetic modes -/
theorem bits_to_words_exact (m : Mode) (n : Nat) (h : n + 63 < U64) : bitsToWords m n = ok ((n + 63) / 64) :=
  bitsToWords_ok m n h
theorem bytes_to_words_exact (m : Mode) (n : Nat) (h : n + 7 < U64) : bytesToWords m n = ok ((n + 7) / 8) :=
  bytesToWords_ok m n h
theorem words_to_bits_exact (m : Mode) (n : Nat) (h : n * 64 < U64) : wordsToBits m n = ok (n * 64) :=
  wordsToBits_ok m n h
theorem words_to_bytes_exact (m : Mode) (n : Nat) (h : n * 8 < U64) : wordsToBytes m n = ok (n * 8) :=
  wordsToBytes_ok m n h
theorem round_up_bits_exact (m : Mode) (n : Nat) (h : n + 63 < U64) :
    roundUpToWordBits m n = ok (((n + 63) / 64) * 64) := roundUpToWordBits_ok m n h
theorem round_up_bytes_exact (m : Mode) (n : Nat) (h : n + 7 < U64) :
    roundUpToWordBytes m n = ok (((n + 7) / 8) * 8) := roundUpToWordBytes_ok m n h
theorem div_round_up_exact (m : Mode) (v n : Nat) (hn : n ≠ 0) (h : v + n < U64) :
    divRoundUp m v n = ok ((v + n - 1) / n) := divRoundUp_ok m v n hn h
theorem split_offset_exact (n : Nat) : splitOffset n = (n / 64, n % 64) := splitOffset_eq n
theorem bit_offset_exact (m : Mode) (i o : Nat) (h : i * 64 + o < U64) : bitOffset m i o = ok (i * 64 + o) :=
  bitOffset_ok m i o h

/-- F12 (repaired by a `fix:` commit): as first coded, `bits_to_words` / `bytes_to_words` panicked in
checked builds at the last value of their documented domain -/
theorem F12_counterexample :
    (U64 - 64 + 63 < U64 ∧ bitsToWordsOld .checked (U64 - 64) = fault (.panic .overflow)) ∧
    (U64 - 8 + 7 < U64 ∧ bytesToWordsOld .checked (U64 - 8) = fault (.panic .overflow)) :=
  ⟨bitsToWordsOld_counterexample, bytesToWordsOld_counterexample⟩

/-! ### bit length, bit reversal, bit counts, in-word select (Proofs/BitsMore) -/

/-- `bit_len`: for every word the result is in 1..=64, it is enough bits to write the value, and for a
non-zero value it is the least such number (the top bit of that width is needed) -/
theorem bit_len_exact (n : Word) :
    1 ≤ bitLen n ∧ bitLen n ≤ 64 ∧ n.toNat < 2 ^ bitLen n ∧ (n ≠ 0 → 2 ^ (bitLen n - 1) ≤ n.toNat) :=
  bitLen_spec n

/-- `bit_len(0) = 1`, as documented -/
theorem bit_len_zero : bitLen (0 : Word) = 1 := bitLen_zero

/-- `reverse_low`: for every word and every `bits` in 1..=64, bit `i` of the result is bit `bits-1-i` of
the argument for `i < bits`, and clear for `i ≥ bits` -/
theorem reverse_low_exact (n : Word) (bits i : Nat) (h1 : 1 ≤ bits) (h2 : bits ≤ 64) :
    (reverseLow n bits).getLsbD i = (decide (i < bits) && n.getLsbD (bits - 1 - i)) :=
  reverseLow_getLsbD n bits i h1 h2

/-- trailing zeros: for a non-zero word, the position of the lowest set bit; 64 for the zero word -/
theorem ctz_exact (w : Word) (h : w ≠ 0) :
    ctz w < 64 ∧ w.getLsbD (ctz w) = true ∧ ∀ j, j < ctz w → w.getLsbD j = false := ctz_spec w h
theorem ctz_of_zero : ctz (0 : Word) = 64 := ctz_zero

/-- leading zeros: for a non-zero word, `63 - clz` is the position of the highest set bit; 64 for zero -/
theorem clz_exact (w : Word) (h : w ≠ 0) :
    clz w < 64 ∧ w.getLsbD (63 - clz w) = true ∧ ∀ j, 63 - clz w < j → j < 64 → w.getLsbD j = false :=
  clz_spec w h
theorem clz_of_zero : clz (0 : Word) = 64 := clz_zero

/-- population count: at most 64, and the masked counts used by rank are the counts of the bits
below / at-or-above a position -/
theorem popcount_bound (w : Word) : popcount w ≤ 64 := popcount_le w
theorem popcount_below (w : Word) (o : Nat) (ho : o ≤ 64) :
    popcount (w &&& lowSet o) = ((bitsOfWord w).take o).count true := popcount_and_lowSet w o ho
theorem popcount_from (w : Word) (o : Nat) (ho : o ≤ 64) :
    popcount (w &&& ~~~ lowSet o) = ((bitsOfWord w).drop o).count true := popcount_and_not_lowSet w o ho

/-- the specification `selectBits` used below means what it should: the answer `p` is a position below 64
whose bit is set and that has exactly `r` set bits below it -/
theorem select_spec_meaning (w : Word) (r p : Nat) :
    selectBits (bitsOfWord w) r = some p ↔
      (p < 64 ∧ w.getLsbD p = true ∧ popcount (w &&& lowSet p) = r) := by
  rw [selectBits_word_iff]
  constructor
  · rintro ⟨h1, h2, h3⟩
    refine ⟨h1, h2, ?_⟩
    rw [popcount_and_lowSet w p (by omega), take_bitsOfWord_count w p (by omega)]; exact h3
  · rintro ⟨h1, h2, h3⟩
    refine ⟨h1, h2, ?_⟩
    rw [popcount_and_lowSet w p (by omega), take_bitsOfWord_count w p (by omega)] at h3; exact h3

/-- in-word select, BMI2 (`pdep` + `tzcnt`) path: for every word and every rank below the population
count the result is the position of the set bit of that rank -/
theorem select_pdep_exact (n : Word) (r : Nat) (h : r < popcount n) :
    selectBits (bitsOfWord n) r = some (selectPdep n r) := selectPdep_spec n r h

/-- in-word select, portable (SWAR + tables) path, in BOTH arithmetic modes: for every word and every rank
below the population count the function returns normally — no overflow panic of the unchecked `+`, no
over-long shift, no table index out of range of `_PS_OVERFLOW` / `_SELECT_IN_BYTE` — and the result is
the position of the set bit of that rank -/
theorem select_portable_exact (m : Mode) (n : Word) (r : Nat) (h : r < popcount n) :
    ∃ p, selectPortable m n r = ok p ∧ selectBits (bitsOfWord n) r = some p :=
  selectPortable_spec m n r h

/-- hence the two paths return the same position: building with or without `target-cpu=native`
cannot change a result -/
theorem select_paths_agree (m : Mode) (n : Word) (r : Nat) (h : r < popcount n) :
    selectPortable m n r = ok (selectPdep n r) := by
  obtain ⟨p, h1, h2⟩ := selectPortable_spec m n r h
  rw [selectPdep_spec n r h] at h2
  rw [h1, Option.some.inj h2]

/-- and in the positional reading: the returned position is below 64, its bit is set, and exactly `r`
set bits lie below it -/
theorem select_exact (m : Mode) (n : Word) (r : Nat) (h : r < popcount n) :
    ∃ p, selectPortable m n r = ok p ∧ selectPdep n r = p ∧
      p < 64 ∧ n.getLsbD p = true ∧ popcount (n &&& lowSet p) = r := by
  refine ⟨selectPdep n r, select_paths_agree m n r h, rfl, ?_⟩
  exact (select_spec_meaning n r _).1 (selectPdep_spec n r h)

/-- non-vacuity: the hypotheses of the read/write theorems are met by a concrete straddling write -/
example : (1 ≤ 13 ∧ 13 ≤ 64 ∧ (60 + 13 - 1) / 64 < (#[0, 0] : Array Word).size) := by decide
example : readInt (writeInt #[0xFFFFFFFFFFFFFFFF#64, 0#64] 60 0x1ABC#64 13) 60 13 = 0x1ABC#64 := by decide
/-- non-vacuity of the select theorems: a word with 5 set bits, rank 3 -/
example : (3 < popcount 0xF1#64) := by decide
example : ∃ p, selectPortable .checked 0xF1#64 3 = ok p ∧ selectPdep 0xF1#64 3 = p ∧
    p < 64 ∧ (0xF1#64 : Word).getLsbD p = true ∧ popcount (0xF1#64 &&& lowSet p) = 3 :=
  select_exact .checked 0xF1#64 3 (by decide)
example : (1 ≤ 4 ∧ 4 ≤ 64) ∧ (0x1ABC#64 : Word) ≠ 0 := by decide

/-! ### the helpers AS TRANSLATED FROM THE SOURCE on this run

`Generated/BitsFns.lean` is produced by tools/gen_lean.py from the bodies of the nine arithmetic helpers of `bits.rs`
(expression by expression: `+ - *` in the arithmetic mode, `/` panicking on zero, `<<` dropping the bits shifted out,
module constants substituted).  The equations below say that what the source says NOW is the model function all the
theorems above are about; a change to one of these bodies either keeps its equation true or breaks it by name. -/
theorem helpers_as_translated_from_source (m : Mode) (n v k : Nat) :
    Generated.gen_words_to_bytes m n = wordsToBytes m n ∧
    Generated.gen_bytes_to_words m n = bytesToWords m n ∧
    Generated.gen_round_up_to_word_bytes m n = roundUpToWordBytes m n ∧
    Generated.gen_words_to_bits m n = wordsToBits m n ∧
    Generated.gen_bits_to_words m n = bitsToWords m n ∧
    Generated.gen_round_up_to_word_bits m n = roundUpToWordBits m n ∧
    Generated.gen_div_round_up m v k = divRoundUp m v k ∧
    Generated.gen_split_offset m n = ok (splitOffset n) ∧
    Generated.gen_bit_offset m v k = bitOffset m v k :=
  ⟨GenFns.words_to_bytes_eq m n, GenFns.bytes_to_words_eq m n, GenFns.round_up_to_word_bytes_eq m n,
   GenFns.words_to_bits_eq m n, GenFns.bits_to_words_eq m n, GenFns.round_up_to_word_bits_eq m n,
   GenFns.div_round_up_eq m v k, GenFns.split_offset_eq m n, GenFns.bit_offset_eq m v k⟩

/-! **The remaining functions of `bits.rs`, translated statement by statement.**  `Generated/FnsBits.lean` is produced on
every run by `tools/rs2lean.py` from the bodies of `low_set`, `low_set_unchecked`, `high_set`, `high_set_unchecked`,
`bit_len`, `reverse_low`, `filler_value`, `read_int` and `write_int` (`let`, `if`/`else`, compound assignment to array
elements, table reads, shifts with the overflow rule of the build mode; the bounds hooks are dropped).  The equations say
that the code as it is NOW — both branches of `read_int` / `write_int`, the order of its reads and writes, its table
lookups — is the model function that `read_after_write`, `write_frame`, … above are about.  `select` follows below
(`select_as_translated_from_source`). -/
theorem bits_functions_as_translated_from_source (m : Mode) (a : Array Word) (off width n bits : Nat) (w v : Word) (b : Bool)
    (hoff : off < U64) :
    Generated.gen_low_set m n = lowSetT n ∧
    Generated.gen_low_set_unchecked m n = lowSetU n ∧
    Generated.gen_high_set m n = highSetT n ∧
    Generated.gen_high_set_unchecked m n = highSetU n ∧
    Generated.gen_bit_len m w = ok (bitLen w) ∧
    (1 ≤ bits → bits ≤ 64 → Generated.gen_reverse_low m w bits = ok (reverseLow w bits)) ∧
    Generated.gen_filler_value m b = ok (fillerValue b) ∧
    (width ≤ 64 → Generated.gen_read_int m a off width = readIntM a off width) ∧
    Generated.gen_write_int m a off v width = writeIntM a off v width :=
  ⟨GenEq.low_set_eq m n, GenEq.low_set_unchecked_eq m n, GenEq.high_set_eq m n, GenEq.high_set_unchecked_eq m n,
   GenEq.bit_len_eq m w, GenEq.reverse_low_eq m w bits, GenEq.filler_value_eq m b,
   fun hw => GenEq.read_int_eq m a off width hw hoff, GenEq.write_int_eq m a off v width hoff⟩

/-- non-vacuity: the translated `write_int` / `read_int`, run on a straddling field, give the documented result -/
example : (Generated.gen_write_int .checked #[0#64, 0#64] 60 0xFF#64 8 >>= fun a => Generated.gen_read_int .checked a 60 8)
    = ok 0xFF#64 := by decide

/-- **`bits::select` as translated from the source on this run, both `cfg` alternatives** (`Generated/FnsSelect.lean`): the
block compiled without BMI2 — the SWAR prefix sums with the overflow checks of the build mode, `overflowing_mul`, the two
`get_unchecked` table reads, the `u32` shifts that round the bit offset down to a byte, the variable shifts — and the block
compiled with it (`_pdep_u64` is the named function `pdep`, `trailing_zeros` is `ctz`).  For every word and every rank below
its population count — the safety precondition of the `unsafe fn` — the code as it is NOW returns, in both arithmetic
modes and on both paths, the position of the set bit of that rank; and whenever the hand model of the portable path
succeeds the translated code returns the same value.  (Outside the precondition the two are not equal: for `n = 0` the
release build returns 64 where the model reports an out-of-bounds read — `GenEq` examples, `decide +kernel`.) -/
theorem select_as_translated_from_source (m : Mode) (n : Word) (rank : Nat) (h : rank < popcount n) :
    (∃ p, Generated.gen_select_portable m n rank = ok p ∧ selectBits (bitsOfWord n) rank = some p) ∧
    (∃ p, Generated.gen_select_bmi2 m n rank = ok p ∧ selectBits (bitsOfWord n) rank = some p) ∧
    (∀ p, selectPortable m n rank = ok p → Generated.gen_select_portable m n rank = ok p) ∧
    Generated.gen_select_bmi2 m n rank = ok (selectPdep n rank) :=
  ⟨GenEq.select_portable_as_spec m n rank h, GenEq.select_bmi2_as_spec m n rank h,
   fun p hp => GenEq.select_portable_of_model_ok m n rank p hp,
   GenEq.select_bmi2_eq m n rank (by have := popcount_le n; omega)⟩

/-- non-vacuity: a word with 5 set bits, rank 3, both translated paths -/
example : Generated.gen_select_portable .checked 0xF1#64 3 = ok 6 ∧ Generated.gen_select_bmi2 .wrapping 0xF1#64 3 = ok 6 := by
  decide +kernel

end Sds.C17
