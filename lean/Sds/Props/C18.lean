/-
C18 — Memory maps are valid while alive, fully released on drop, and fail loudly.

  "Creating a memory map either fails with an error (missing file, size not a multiple of 8, mapping refused
   by the OS) or returns a map whose element slice is valid and equal to the file's content for its whole
   length.  After the map is dropped no part of the file remains mapped in the process, for every file
   size; changes made through a mutable map are in the file afterwards."

Property theorems only (helper lemmas live in Proofs/OS.lean).  Quantifiers: every file size in bytes
(0, 8, sub-page, exact pages, many pages, sizes that are not a multiple of 8), every address space the
process may be in, every number and every sequence of map/drop cycles.  The two mapping modes differ only in
the `prot` argument of `mmap` and the open mode of the file; neither influences which pages are mapped or
unmapped, so the model (Model/Mapper.lean, "address space") has no mode parameter and every theorem below
holds for both.

The theorems are about the model INSTANTIATED WITH THE CONSTANTS EXTRACTED FROM THE SOURCE on this run
(Generated/SerConsts.lean, regenerated from /repo/src/serialize.rs):
  `Generated.MUNMAP_FACTOR`           what `Drop` multiplies the element count by in the `munmap` length,
  `Generated.MMAP_CHECKS_MAP_FAILED`  whether `MemoryMap::new` compares the result of `mmap` with
                                      MAP_FAILED (true) or only with NULL (false).
`newCur` / `dropCur` are `MemoryMap::new` / `Drop` of the code as it is now.  If the source regresses, the
obligations `munmap_length_is_in_bytes` / `mmap_failure_is_detected` fail and everything below them with
it; the `F5_*` / `F6_*` theorems document what the code as first written did.

FULL intended statement:
   for every file and mode, `MemoryMap::new` returns `Err` (file missing / size % 8 ≠ 0 / `mmap` refused) or
   a map `m` with `m.len() = size / 8`, whose slice `m[0..len]` is readable and equal to the file content;
   after `drop(m)` no page of the file is mapped in the process, for every size and after any number of
   cycles; writes through a `Mutable` map are in the file after drop.
What is proven (address-space part, for every size and every sequence of cycles): error / success split of
`new` exactly as specified, the returned length, that on success a live mapping of ⌈size/4096⌉ pages
covering all `8 * len` bytes exists while the map is alive and the pointer is a real address (never the
MAP_FAILED sentinel), that `drop` removes exactly that mapping and nothing else, and that any sequence
of cycles leaves nothing mapped.
What is missing, precisely (hence `…_partial` on the headline theorems):
  (1) the kernel: `sysMmap` / `sysMunmap` in Model/Mapper.lean are DEFINITIONS of what `mmap(NULL, len, …,
      MAP_SHARED, fd, 0)` and `munmap(addr, len)` do to the set of mapped pages (page granularity 4096,
      `mmap` of length 0 fails with MAP_FAILED, `munmap` releases the pages of [addr, addr+roundup(len))).
      They are the documented POSIX/Linux behaviour and are confirmed by the harness reading
      /proc/self/maps, but they are assumed, not proven; `mmap` refusing for other reasons (ENOMEM, …) is
      covered only in that `newCur` turns every `.failed` result into an error;
  (2) a missing file: `open` fails before `mmap` is reached and `?` returns the error — not modelled;
  (3) "the slice equals the file's content" and "changes through a mutable map reach the file" are the
      MAP_SHARED contract of the kernel; the model has no page contents.  Both are observed by the harness
      (read back through `std::fs`) and not proven.  The views built ON TOP of a map (`MappedSlice`,
      `RawVectorMapper`, …: bounds tests, offsets, lengths, payload = file elements) are property C13.
-/
import Sds.Proofs.OS
import Sds.Generated.SerConsts

namespace Sds.C18
open Sds Outcome

/-- `MemoryMap::new` of the code as it is now -/
def newCur (s : AddrSpace) (bytes : Nat) : AddrSpace × Outcome MMap :=
  if Generated.MMAP_CHECKS_MAP_FAILED then mmapNewSpec s bytes else mmapNewImpl s bytes

/-- `impl Drop for MemoryMap` of the code as it is now -/
def dropCur (s : AddrSpace) (mm : MMap) : AddrSpace := mmapDrop Generated.MUNMAP_FACTOR s mm

/-- one `new` … `drop` cycle of the code as it is now (a refused `new` leaves the address space as it is) -/
def cycleCur (s : AddrSpace) (bytes : Nat) : AddrSpace :=
  match newCur s bytes with
  | (s', ok mm) => dropCur s' mm
  | (s', fault _) => s'

/-! ### obligations on the extracted constants (re-checked on every run) -/

/-- `Drop` passes the length to `munmap` in BYTES: element count × 8 -/
theorem munmap_length_is_in_bytes : Generated.MUNMAP_FACTOR = 8 := by decide

/-- `new` detects a failed `mmap` by comparing with MAP_FAILED -/
theorem mmap_failure_is_detected : Generated.MMAP_CHECKS_MAP_FAILED = true := by decide

/-- hence the current code is the specified constructor and the byte-length drop -/
theorem current_code_meets_spec :
    (∀ s bytes, newCur s bytes = mmapNewSpec s bytes) ∧ (∀ s mm, dropCur s mm = mmapDrop 8 s mm) ∧
    (∀ s bytes, cycleCur s bytes = mapCycle 8 s bytes) := by
  have hn : ∀ s bytes, newCur s bytes = mmapNewSpec s bytes := by
    intro s bytes; unfold newCur; rw [mmap_failure_is_detected]; rfl
  have hd : ∀ s mm, dropCur s mm = mmapDrop 8 s mm := by
    intro s mm; unfold dropCur; rw [munmap_length_is_in_bytes]
  refine ⟨hn, hd, ?_⟩
  intro s bytes
  unfold cycleCur mapCycle
  rw [hn]
  generalize mmapNewSpec s bytes = r
  obtain ⟨s', o⟩ := r
  cases o with
  | ok mm => exact hd s' mm
  | fault f => rfl

/-! ### creating a map: error, or a live mapping covering the file -/

/-- a size that is not a multiple of 8 bytes is refused with an error; nothing is mapped -/
theorem new_unaligned_is_error (s : AddrSpace) (bytes : Nat) (h : bytes % 8 ≠ 0) :
    newCur s bytes = (s, fault (.err .other)) :=
  mmapNewSpec_unaligned s bytes h

/-- an empty file: the kernel refuses a zero-length mapping (MAP_FAILED) and `new` reports the error -/
theorem new_empty_is_error (s : AddrSpace) : newCur s 0 = (s, fault (.err .other)) :=
  mmapNewSpec_zero s

/-- every other size: `new` succeeds, the map has `bytes / 8` elements, its pointer is the address the
kernel returned, and while it is alive a mapping of ⌈bytes / 4096⌉ pages starting there is present —
that is at least `8 * len` bytes, the whole file — on top of whatever was mapped before -/
theorem new_ok_maps_file_partial (s : AddrSpace) (bytes : Nat) (h8 : bytes % 8 = 0) (hpos : 0 < bytes) :
    ∃ s' mm, newCur s bytes = (s', ok mm) ∧
      mm.ptr = .addr s.nextPage ∧ mm.lenElems = bytes / 8 ∧ mm.lenElems * 8 = bytes ∧
      s'.mapped = (s.nextPage, (bytes + 4095) / 4096) :: s.mapped ∧
      mm.lenElems * 8 ≤ (bytes + 4095) / 4096 * 4096 ∧
      pagesMapped s' = (bytes + 4095) / 4096 + pagesMapped s := by
  have hnew : newCur s bytes = (afterMap s bytes, ok ⟨.addr s.nextPage, bytes / 8⟩) :=
    mmapNewSpec_ok s bytes h8 hpos
  refine ⟨_, _, hnew, rfl, rfl, ?_, ?_, ?_, new_maps_pages s _ bytes _ hnew⟩
  · show bytes / 8 * 8 = bytes; omega
  · show (s.nextPage, (bytes + PAGE - 1) / PAGE) :: s.mapped = _
    simp only [PAGE]
    rw [show bytes + 4096 - 1 = bytes + 4095 by omega]
  · show bytes / 8 * 8 ≤ _; omega

/-- **Headline (creation).**  For every address space and every file size exactly one of three things
happens: size not a multiple of 8 → error; size 0 → error (mapping refused); otherwise → a live map of
`size / 8` elements whose pages are mapped.  `new` never maps anything when it returns an error. -/
theorem new_fails_loudly_or_maps_partial (s : AddrSpace) (bytes : Nat) :
    (bytes % 8 ≠ 0 ∧ newCur s bytes = (s, fault (.err .other))) ∨
    (bytes = 0 ∧ newCur s bytes = (s, fault (.err .other))) ∨
    (bytes % 8 = 0 ∧ 0 < bytes ∧ ∃ s' mm, newCur s bytes = (s', ok mm) ∧
      mm.ptr = .addr s.nextPage ∧ mm.lenElems = bytes / 8 ∧
      s'.mapped = (s.nextPage, (bytes + 4095) / 4096) :: s.mapped ∧
      mm.lenElems * 8 ≤ (bytes + 4095) / 4096 * 4096) := by
  by_cases h8 : bytes % 8 = 0
  · by_cases h0 : bytes = 0
    · subst h0; exact Or.inr (Or.inl ⟨rfl, new_empty_is_error s⟩)
    · obtain ⟨s', mm, h, hp, hl, _, hm, hc, _⟩ := new_ok_maps_file_partial s bytes h8 (by omega)
      exact Or.inr (Or.inr ⟨h8, by omega, s', mm, h, hp, hl, hm, hc⟩)
  · exact Or.inl ⟨h8, new_unaligned_is_error s bytes h8⟩

/-- a successful `new` never carries the MAP_FAILED sentinel as its pointer, and its size was a positive
multiple of 8 (inversion: success implies the good case above) -/
theorem new_ok_has_real_pointer {s s' : AddrSpace} {bytes : Nat} {mm : MMap}
    (h : newCur s bytes = (s', ok mm)) :
    mm.ptr = .addr s.nextPage ∧ mm.ptr ≠ .failed ∧ mm.lenElems = bytes / 8 ∧ bytes % 8 = 0 ∧ 0 < bytes := by
  obtain ⟨h8, hpos, _, rfl⟩ := mmapNewSpec_inv (show mmapNewSpec s bytes = (s', ok mm) from h)
  exact ⟨rfl, by simp, rfl, h8, hpos⟩

/-! ### after drop nothing of it remains mapped -/

/-- **Headline (drop).**  From a process with nothing of the file mapped, for every file size: after
`new` then `drop` no page remains mapped. -/
theorem drop_releases_everything_partial (s : AddrSpace) (hs : s.mapped = []) (bytes : Nat)
    (s' : AddrSpace) (mm : MMap) (hnew : newCur s bytes = (s', ok mm)) :
    pagesMapped (dropCur s' mm) = 0 :=
  drop_releases_all s bytes (new_ok_has_real_pointer hnew).2.2.2.1 hs s' mm hnew

/-- in any well-formed address space (other maps may be alive): `drop` removes exactly the mapping that
`new` added — the list of mappings is what it was before `new`, other live maps are untouched — and the
address space stays well formed -/
theorem drop_removes_exactly_this_map_partial (s : AddrSpace) (hwf : s.WF) (bytes : Nat)
    (s' : AddrSpace) (mm : MMap) (hnew : newCur s bytes = (s', ok mm)) :
    (dropCur s' mm).mapped = s.mapped ∧ pagesMapped (dropCur s' mm) = pagesMapped s ∧ (dropCur s' mm).WF :=
  ⟨(drop_restores s s' bytes mm hwf hnew).1, drop_restores_pages s s' bytes mm hwf hnew,
    (drop_restores s s' bytes mm hwf hnew).2.1⟩

/-- **Headline (cycles).**  Any number of cycles over any sequence of file sizes (erroring sizes included),
starting with nothing mapped, ends with nothing mapped. -/
theorem cycles_release_everything_partial (sizes : List Nat) :
    pagesMapped (sizes.foldl cycleCur {}) = 0 :=
  cycles_release_all sizes

/-- the same from any well-formed address space: the mappings present before are exactly those after -/
theorem cycles_restore_address_space_partial (sizes : List Nat) (s : AddrSpace) (hwf : s.WF) :
    (sizes.foldl cycleCur s).mapped = s.mapped ∧ (sizes.foldl cycleCur s).WF :=
  cycles_restore sizes s hwf

/-- `n` cycles with the same file, for every size and every `n` -/
theorem repeated_cycles_release_everything_partial (bytes n : Nat) :
    pagesMapped ((List.replicate n bytes).foldl cycleCur {}) = 0 :=
  cycles_release_all _

/-! ### documentation: the code as first written (findings F5, F6; repaired by `fix:` commits)

These are theorems about the model with the OLD constants (`mmapDrop 1`, `mmapNewImpl`); they say why the
two obligations above are needed. -/

/-- F5: with the `munmap` length in ELEMENTS (factor 1), every file larger than one page leaves pages
mapped after drop — exactly ⌈size/4096⌉ − ⌈size/8/4096⌉ of them (7/8 of a large file) -/
theorem F5_length_in_elements_leaks (bytes : Nat) (h8 : bytes % 8 = 0) (hbig : 4096 < bytes)
    (s' : AddrSpace) (mm : MMap) (hnew : mmapNewSpec {} bytes = (s', ok mm)) :
    pagesMapped (mmapDrop 1 s' mm) > 0 ∧
    pagesMapped (mmapDrop 1 s' mm) = (bytes + 4095) / 4096 - (bytes / 8 + 4095) / 4096 :=
  ⟨drop_elements_leaks bytes h8 hbig s' mm hnew, drop_elements_leak_count bytes h8 hbig s' mm hnew⟩

/-- F5 with the constructor as first written as well (it agrees with the spec on non-empty files) -/
theorem F5_length_in_elements_leaks_old_new (bytes : Nat) (h8 : bytes % 8 = 0) (hbig : 4096 < bytes)
    (s' : AddrSpace) (mm : MMap) (hnew : mmapNewImpl {} bytes = (s', ok mm)) :
    pagesMapped (mmapDrop 1 s' mm) > 0 :=
  drop_elements_leaks_impl bytes h8 hbig s' mm hnew

/-- F5 went unnoticed on small files: up to one page nothing leaks -/
theorem F5_small_files_unaffected (bytes : Nat) (h8 : bytes % 8 = 0) (hpos : 0 < bytes) (hsmall : bytes ≤ 4096)
    (s' : AddrSpace) (mm : MMap) (hnew : mmapNewSpec {} bytes = (s', ok mm)) :
    pagesMapped (mmapDrop 1 s' mm) = 0 :=
  drop_elements_small_ok bytes h8 hpos hsmall s' mm hnew

/-- F5, concrete: a two-page file leaks one page per cycle, three cycles leak three; factor 8 leaks none -/
theorem F5_counterexample_8192 :
    pagesMapped (mapCycle 1 {} 8192) = 1 ∧ pagesMapped (iterCycle 1 8192 3 {}) = 3 ∧
    pagesMapped (mapCycle 8 {} 8192) = 0 :=
  ⟨mapCycle_8192.1, iter_cycles_elements_leak_8192, mapCycle_8192.2⟩

/-- F6: the NULL test accepts the failed mapping of an empty file — `new` returns `Ok` with the MAP_FAILED
sentinel as pointer and length 0, in every address space — where the specified constructor errors -/
theorem F6_null_test_accepts_failed_mapping (s : AddrSpace) :
    mmapNewImpl s 0 = (s, ok ⟨.failed, 0⟩) ∧ mmapNewSpec s 0 = (s, fault (.err .other)) :=
  ⟨mmapNewImpl_zero s, mmapNewSpec_zero s⟩

/-- F6 is the only difference: on every non-empty file the two constructors agree -/
theorem F6_only_empty_file_differs (s : AddrSpace) (bytes : Nat) (h : bytes ≠ 0) :
    mmapNewImpl s bytes = mmapNewSpec s bytes :=
  mmapNewImpl_eq_spec s bytes h

/-! ### non-vacuity -/

/-- sizes meeting the hypotheses: one element, a sub-page file, exact pages, many pages + 8 -/
example : (8 % 8 = 0 ∧ 0 < 8) ∧ (4088 % 8 = 0 ∧ 0 < 4088) ∧ (8192 % 8 = 0 ∧ 0 < 8192) ∧
    (409608 % 8 = 0 ∧ 4096 < 409608) := by decide
/-- the default address space has nothing mapped and is well formed -/
example : ({} : AddrSpace).mapped = [] ∧ ({} : AddrSpace).WF := ⟨rfl, AddrSpace.WF_of_nil rfl⟩
/-- a successful `new` exists, its map is live, and dropping it releases everything -/
example : newCur {} 8192 = ({ mapped := [(16, 2)], nextPage := 19 }, ok ⟨.addr 16, 1024⟩) := by decide
example : pagesMapped (dropCur { mapped := [(16, 2)], nextPage := 19 } ⟨.addr 16, 1024⟩) = 0 := by decide
/-- a mixed sequence of cycles, erroring sizes included -/
example : pagesMapped ([0, 8, 12, 4096, 8192, 409608].foldl cycleCur {}) = 0 := by decide

end Sds.C18
