/-
C05 — Raw and integer vectors behave as plain sequences under any operation history.

Property theorems only (helper lemmas live in Proofs/).

Quantifiers.  Every finite operation sequence (`List Op`) applied inside the documented domain of each
operation (`Valid`: `set_bit` / `set_int` / `set` address existing items, integer widths are ≤ 64 — outside
these the code panics), from ANY well-formed starting vector; every width 1..64; every value `x : Word`, also
values wider than the item width (the reference holds `x mod 2^width`, resp. the low `w` bits of `x`).
No arithmetic mode appears because none of these operations does position arithmetic on caller-supplied
operands (their models contain no `addM`/`subM`/`mulM`).

The reference sequence.  For `RawVec` the observable content is `v.bits : List Bool` and an operation acts on
it by `RawVec.Op.spec` (plain list surgery: append, `set`, `take`, `replicate`, `map not`).  For `IntVec`
the observable state is `IntVec.view v = (v.width, v.items) : Nat × List Nat`, acted on by `IntVec.Op.spec`.

Operations covered.  RawVec: `push_bit`, `push_int` (width 0..64), `set_bit`, `set_int`, `resize` up / down
with a fill value, `pop_bit`, `pop_int`, `complement`, `clear`; construction `with_len(n, fill)` and from a bool
iterator.  IntVec: `push`, `pop`, `set`, `resize` up / down, `clear`, `pack`, `extend`; construction `new`,
`with_len(n, width, fill)`, from a list.
`reserve` / `with_capacity` are the identity on the modelled state `(len, data)` (capacity is not part of the
model); that they do not disturb the content in the real code is checked by the correspondence tests only.
-/
import Sds.Proofs.RawVec
import Sds.Proofs.IntVec
import Sds.Proofs.Codec
import Sds.Proofs.GenEqVec
import Sds.Proofs.GenEqVec2
import Sds.Proofs.GenEqConstr2
import Sds.Proofs.GenEqConstr4
import Sds.Proofs.GenEqConstr5
import Sds.Proofs.GenEqConstr3
import Sds.Proofs.GenEqVec3
import Sds.Proofs.GenEqFromExt
import Sds.Proofs.GenEqFromExt2
import Sds.Proofs.PropsAux

namespace Sds.C05
open Sds Outcome

/-! ### raw vectors -/

/-- one operation: the representation stays well formed and the content changes as the list-level
specification says -/
theorem raw_step (op : RawVec.Op) (v : RawVec) (hv : v.WF) (hp : op.pre v.len) :
    (op.run v).WF ∧ (op.run v).bits = op.spec v.bits :=
  RawVec.Op.step op hv hp

/-- **any history**: from any well-formed vector, after any valid operation sequence the vector is well formed
and its content is the reference sequence -/
theorem raw_history (v : RawVec) (hv : v.WF) (ops : List RawVec.Op) (hvalid : RawVec.Valid ops v.bits) :
    (ops.foldl (fun v op => op.run v) v).WF ∧
      (ops.foldl (fun v op => op.run v) v).bits = ops.foldl (fun L op => op.spec L) v.bits :=
  RawVec.history hv ops hvalid

/-- constructions: `with_len(n, fill)` is `n` copies of the fill value; collecting a bool iterator gives the
items; the empty vector is empty — all well formed -/
theorem raw_constructors (n : Nat) (fill : Bool) (B : List Bool) :
    ((RawVec.withLen n fill).WF ∧ (RawVec.withLen n fill).bits = List.replicate n fill) ∧
    ((RawVec.ofBits B).WF ∧ (RawVec.ofBits B).bits = B) ∧
    (RawVec.empty.WF ∧ RawVec.empty.bits = []) :=
  ⟨⟨RawVec.withLen_WF n fill, RawVec.bits_withLen n fill⟩, ⟨RawVec.ofBits_WF B, RawVec.bits_ofBits B⟩,
    ⟨RawVec.empty_WF, rfl⟩⟩

/-- `bit(i)` returns the reference item -/
theorem raw_get_bit (v : RawVec) (i : Nat) (hi : i < v.len) : v.bits[i]? = some (v.bit i) :=
  RawVec.bit_eq_getElem? v i hi

/-- `int(off, w)` returns the `w` reference bits starting at `off` (bit `i` of the result is reference bit
`off + i`; bits at and above `w` are zero) -/
theorem raw_get_int (v : RawVec) (off w : Nat) (hw : 1 ≤ w) (hw' : w ≤ 64) (hr : off + w ≤ v.len) (i : Nat) :
    (v.int off w).getLsbD i = (decide (i < w) && v.bits.getD (off + i) false) := by
  rw [RawVec.int_getLsbD v off w hw hw' i]
  by_cases h : i < w
  · have hlt : off + i < v.len := by omega
    have := RawVec.bits_getElem? v (off + i)
    rw [if_pos hlt] at this
    simp [h, List.getD, this]
  · simp [h]

/-- read-after-write: `set_int` then `int` returns the value truncated to the width -/
theorem raw_int_after_set_int (v : RawVec) (hv : v.WF) (off : Nat) (x : Word) (w : Nat) (hw : 1 ≤ w)
    (hw' : w ≤ 64) (hr : off + w ≤ v.len) : (v.setInt off x w).int off w = x &&& lowSet w :=
  RawVec.int_setInt hv off x w hw hw' hr

/-- `pop_bit` returns what the reference returns: the last item, or `None` on the empty vector (which is left
unchanged) -/
theorem raw_pop_bit (v : RawVec) :
    (v.len ≠ 0 → v.popBit.1 = v.bits[v.len - 1]?) ∧ (v.len = 0 → v.popBit = (none, v)) :=
  ⟨fun h => RawVec.popBit_fst h, fun h => RawVec.popBit_empty v h⟩

/-- `pop_int(w)` returns the last `w` reference bits (as `int(len - w, w)` would) and removes them; with fewer
than `w` bits it returns `None` and changes nothing -/
theorem raw_pop_int (v : RawVec) (hv : v.WF) (w : Nat) (hw : 1 ≤ w) (hw' : w ≤ 64) :
    (w ≤ v.len →
      (∃ r, (v.popInt w).1 = some r ∧
        ∀ i, r.getLsbD i = (decide (i < w) && v.bits.getD (v.len - w + i) false)) ∧
      (v.popInt w).2.WF ∧ (v.popInt w).2.bits = v.bits.take (v.len - w)) ∧
    (v.len < w → v.popInt w = (none, v)) := by
  refine ⟨fun h => ⟨⟨v.int (v.len - w) w, ?_, ?_⟩, (RawVec.popInt_spec hv w hw hw' h).2⟩,
    fun h => RawVec.popInt_short v w h⟩
  · rw [RawVec.popInt_eq v w hw h]
  · intro i
    exact raw_get_int v (v.len - w) w hw hw' (by omega) i

/-- **canonical representation**: two well-formed raw vectors with the same content are the same value (same
length, same words) -/
theorem raw_canonical (v w : RawVec) (hv : v.WF) (hw : w.WF) (h : v.bits = w.bits) : v = w :=
  RawVec.canonical hv hw h

/-- … so they compare equal, serialize to identical elements (hence bytes) and report the same `count_ones`,
which is the number of set items of the content -/
theorem raw_equal_observables (v w : RawVec) (hv : v.WF) (hw : w.WF) (h : v.bits = w.bits) :
    (v == w) = true ∧ rawVecC.ser v = rawVecC.ser w ∧ toBytes (rawVecC.ser v) = toBytes (rawVecC.ser w) ∧
    v.countOnes = w.countOnes ∧ v.countOnes = v.bits.count true := by
  have e := RawVec.canonical hv hw h
  subst e
  exact ⟨by simp, rfl, rfl, rfl, RawVec.countOnes_eq hv⟩

/-- **no matter how they were produced**: two valid histories from the empty vector whose reference results
agree produce identical representations -/
theorem raw_history_canonical (ops1 ops2 : List RawVec.Op) (h1 : RawVec.Valid ops1 [])
    (h2 : RawVec.Valid ops2 [])
    (he : ops1.foldl (fun L op => op.spec L) [] = ops2.foldl (fun L op => op.spec L) []) :
    ops1.foldl (fun v op => op.run v) RawVec.empty = ops2.foldl (fun v op => op.run v) RawVec.empty :=
  RawVec.history_canonical_from RawVec.empty_WF RawVec.empty_WF ops1 ops2 h1 h2 he

/-- the same from arbitrary well-formed starting vectors -/
theorem raw_history_canonical_general (v1 v2 : RawVec) (hv1 : v1.WF) (hv2 : v2.WF)
    (ops1 ops2 : List RawVec.Op) (h1 : RawVec.Valid ops1 v1.bits) (h2 : RawVec.Valid ops2 v2.bits)
    (he : ops1.foldl (fun L op => op.spec L) v1.bits = ops2.foldl (fun L op => op.spec L) v2.bits) :
    ops1.foldl (fun v op => op.run v) v1 = ops2.foldl (fun v op => op.run v) v2 :=
  RawVec.history_canonical_from hv1 hv2 ops1 ops2 h1 h2 he

/-! ### integer vectors -/

/-- one operation on an integer vector -/
theorem int_step (op : IntVec.Op) (v : IntVec) (hv : v.WF) (hp : op.pre v.len) :
    (op.run v).WF ∧ IntVec.view (op.run v) = IntVec.Op.spec (IntVec.view v) op :=
  IntVec.Op.step op hv hp

/-- **any history**: after any valid operation sequence the vector is well formed and its (width, content) is
the reference (width, sequence), where every written value appears truncated to the item width
(`IntVec.Op.spec` stores `x.toNat % 2 ^ w`) -/
theorem int_history (v : IntVec) (hv : v.WF) (ops : List IntVec.Op) (hvalid : IntVec.Valid ops (IntVec.view v)) :
    (ops.foldl (fun v op => op.run v) v).WF ∧
      IntVec.view (ops.foldl (fun v op => op.run v) v) = ops.foldl IntVec.Op.spec (IntVec.view v) :=
  IntVec.history hv ops hvalid

/-- along any history every item of the reference stays below `2 ^ width` -/
theorem int_history_items_lt (v : IntVec) (hv : v.WF) (ops : List IntVec.Op)
    (hvalid : IntVec.Valid ops (IntVec.view v)) :
    ∀ x ∈ (ops.foldl IntVec.Op.spec (IntVec.view v)).2, x < 2 ^ (ops.foldl IntVec.Op.spec (IntVec.view v)).1 :=
  IntVec.history_items_lt hv ops hvalid

/-- constructions: `new(width)`, `with_len(n, width, fill)` (the fill value truncated to the width) and
collecting a list, for every width 1..64 -/
theorem int_constructors (n w : Nat) (h1 : 1 ≤ w) (h2 : w ≤ 64) (fill : Word) (xs : List Nat) :
    (∃ v, IntVec.new w = ok v ∧ v.WF ∧ v.width = w ∧ v.items = []) ∧
    (∃ v, IntVec.withLen n w fill = ok v ∧ v.WF ∧ v.width = w ∧ v.len = n ∧
      v.items = List.replicate n (fill.toNat % 2 ^ w)) ∧
    ((IntVec.ofList w xs).WF ∧ (IntVec.ofList w xs).width = w ∧ (IntVec.ofList w xs).items = xs.map (· % 2 ^ w)) :=
  ⟨IntVec.new_ok_spec w h1 h2, IntVec.withLen_spec n w fill h1 h2, IntVec.ofList_spec w xs h1 h2⟩

/-- `get(i)` returns the reference item; outside the vector it panics (assertion), it never reads -/
theorem int_get (v : IntVec) (i : Nat) :
    (i < v.len → ∃ r, v.get i = ok r ∧ v.items[i]? = some r.toNat) ∧
    (v.len ≤ i → v.get i = fault (.panic .assert)) :=
  ⟨fun h => IntVec.get_spec v i h, fun h => IntVec.get_fault v i h⟩

/-- read-after-write: `set(i, x)` then `get(i)` returns `x` truncated to the width -/
theorem int_get_after_set (v : IntVec) (hv : v.WF) (i : Nat) (hi : i < v.len) (x : Word) :
    ∃ v', v.set i x = ok v' ∧ v'.get i = ok (x &&& lowSet v.width) :=
  IntVec.get_set hv i hi x

/-- `pop` returns what the reference returns: the last item and the rest; `None` on the empty vector, which is
left unchanged -/
theorem int_pop (v : IntVec) (hv : v.WF) :
    (v.len ≠ 0 → (∃ r, v.pop.1 = some r ∧ some r.toNat = v.items.getLast?) ∧
      v.pop.2.WF ∧ v.pop.2.width = v.width ∧ v.pop.2.items = v.items.dropLast) ∧
    (v.len = 0 → v.pop.1 = none ∧ v.pop.2 = v) :=
  ⟨fun h => IntVec.pop_spec hv h, fun h => IntVec.pop_empty_spec hv h⟩

/-- **canonical representation**: same width and same content ⇒ the same value -/
theorem int_canonical (v w : IntVec) (hv : v.WF) (hw : w.WF) (hwd : v.width = w.width)
    (h : v.items = w.items) : v = w :=
  IntVec.canonical hv hw hwd h

/-- … so they compare equal, serialize to identical elements (hence bytes) and hold the same number of set
bits -/
theorem int_equal_observables (v w : IntVec) (hv : v.WF) (hw : w.WF) (hwd : v.width = w.width)
    (h : v.items = w.items) :
    (v == w) = true ∧ intVecC.ser v = intVecC.ser w ∧ toBytes (intVecC.ser v) = toBytes (intVecC.ser w) ∧
    v.data.countOnes = w.data.countOnes := by
  have e := IntVec.canonical hv hw hwd h
  subst e
  exact ⟨by simp, rfl, rfl, rfl⟩

/-- **no matter how they were produced**: two valid histories from any well-formed starting vectors whose
reference results agree in width and content produce identical values -/
theorem int_history_canonical (v1 v2 : IntVec) (hw1 : v1.WF) (hw2 : v2.WF) (ops1 ops2 : List IntVec.Op)
    (h1 : IntVec.Valid ops1 (IntVec.view v1)) (h2 : IntVec.Valid ops2 (IntVec.view v2))
    (he : ops1.foldl IntVec.Op.spec (IntVec.view v1) = ops2.foldl IntVec.Op.spec (IntVec.view v2)) :
    ops1.foldl (fun v op => op.run v) v1 = ops2.foldl (fun v op => op.run v) v2 :=
  IntVec.history_canonical hw1 hw2 ops1 ops2 h1 h2 he

/-- **`pack()`** keeps the content; on a non-empty vector it selects exactly the width of the largest item
(`bit_len(max)`): every item fits, and no width `w' ≥ 1` that holds all items is smaller; on an empty vector it
changes nothing; it is idempotent -/
theorem pack_exact (v : IntVec) (hv : v.WF) :
    v.pack.WF ∧ v.pack.items = v.items ∧ v.pack.len = v.len ∧
    (v.len ≠ 0 → v.pack.width = bitLen (BitVec.ofNat 64 (v.items.foldl max 0))) ∧
    (v.len ≠ 0 → ∀ x ∈ v.items, x < 2 ^ v.pack.width) ∧
    (v.len ≠ 0 → ∀ w', 1 ≤ w' → (∀ x ∈ v.items, x < 2 ^ w') → v.pack.width ≤ w') ∧
    (v.len = 0 → v.pack = v) ∧
    v.pack.pack = v.pack :=
  ⟨(IntVec.pack_spec hv).1, (IntVec.pack_spec hv).2.1, IntVec.pack_len v, (IntVec.pack_spec hv).2.2,
    fun h0 => (IntVec.pack_width_tight hv h0).1, fun h0 w' hw hfit => IntVec.pack_width_minimal hv h0 w' hw hfit,
    fun h0 => IntVec.pack_empty v h0, IntVec.pack_pack hv⟩

/-- `bit_len` is the width of a value: between 1 and 64, the value fits, and a non-zero value needs all the bits -/
theorem bit_len_exact (n : Word) :
    1 ≤ bitLen n ∧ bitLen n ≤ 64 ∧ n.toNat < 2 ^ bitLen n ∧ (n ≠ 0 → 2 ^ (bitLen n - 1) ≤ n.toNat) :=
  bitLen_spec_int n

/-! ### non-vacuity -/

example : (RawVec.ofBits [true, false, true]).WF := by decide
example : RawVec.Valid [.pushBit true, .pushInt 0x1F#64 3, .setBit 1 false, .resize 70 true, .popInt 5,
    .complement, .popBit] [] := by
  simp [RawVec.Valid, RawVec.Op.pre, RawVec.Op.spec]
example : (IntVec.ofList 3 [5, 9, 2]).WF ∧ (IntVec.ofList 3 [5, 9, 2]).items = [5, 1, 2] := by decide
example : IntVec.Valid [.push 300#64, .push 7#64, .set 0 1#64, .pack, .pop, .resize 4 9#64, .extend [1#64], .clear]
    (8, []) := by
  simp [IntVec.Valid, IntVec.Op.pre, IntVec.Op.spec]

/-! **The vector operations as translated from the source on this run.**  `Generated/FnsVec.lean` is produced by
`tools/rs2lean.py` from the bodies of `RawVector::{bit, int, word, word_unchecked, set_unused_bits, set_bit, set_int,
push_bit, push_int, pop_bit, pop_int, resize}` and `IntVector::{get, set, push}` — statement by statement, with the
overflow, shift and index-panic behaviour of the build mode.  On every vector satisfying the representation invariant
whose length in bits stays below 2^64 (with 63 bits of headroom where the code rounds up to whole words), and for item
widths in the documented range, the code as it is NOW computes exactly the model operation that the history theorems
above (`raw_history`, `int_history`, …) are about.  `WF` gives the size-exact hypothesis. -/
theorem raw_vector_ops_as_translated_from_source (m : Mode) (v : RawVec) (hwf : v.WF) (hl : v.len + 63 < U64)
    (i off w n : Nat) (x : Word) (b : Bool) (hw : w ≤ 64) :
    Generated.gen_RawVector_bit m v i = v.bitM i ∧
    Generated.gen_RawVector_word m v i = v.wordM i ∧
    Generated.gen_RawVector_word_unchecked m v i = v.wordU i ∧
    (off < U64 → off + w ≤ 64 * v.data.size → Generated.gen_RawVector_int m v off w = ok (v.int off w)) ∧
    Generated.gen_RawVector_set_unused_bits m v b = ok (v.setUnusedBits b) ∧
    (i / 64 < v.data.size → Generated.gen_RawVector_set_bit m v i b = ok (v.setBit i b)) ∧
    (off < U64 → off + w ≤ 64 * v.data.size → Generated.gen_RawVector_set_int m v off x w = ok (v.setInt off x w)) ∧
    Generated.gen_RawVector_push_bit m v b = ok (v.pushBit b) ∧
    (v.len + w < U64 → Generated.gen_RawVector_push_int m v x w = ok (v.pushInt x w)) ∧
    Generated.gen_RawVector_pop_bit m v = ok v.popBit ∧
    Generated.gen_RawVector_pop_int m v w = ok (v.popInt w) ∧
    (n + 63 < U64 → Generated.gen_RawVector_resize m v n b = ok (v.resize n b)) := by
  have hs : v.data.size = (v.len + 63) / 64 := hwf.1
  exact ⟨GenEq.raw_bit_eq m v i, GenEq.raw_word_eq m v i, GenEq.raw_word_unchecked_eq m v i,
    fun ho hin => GenEq.raw_int_eq m v off w hw ho hin, GenEq.raw_set_unused_bits_eq m v b hs,
    fun hi => GenEq.raw_set_bit_eq m v i b hi, fun ho hin => GenEq.raw_set_int_eq m v off x w hw ho hin,
    GenEq.raw_push_bit_eq_sz m v b hs (by omega), fun hl' => GenEq.raw_push_int_eq_sz m v x w hw hs hl hl',
    GenEq.raw_pop_bit_eq m v hs (by omega), GenEq.raw_pop_int_eq m v w hw hs (by omega),
    fun hn => GenEq.raw_resize_eq_sz m v n b hs hn⟩

theorem int_vector_ops_as_translated_from_source (m : Mode) (v : IntVec) (hwf : v.WF) (i : Nat) (x : Word)
    (hb : (v.len + 1) * v.width + 63 < U64) :
    Generated.gen_IntVector_get m v i = v.get i ∧
    Generated.gen_IntVector_set m v i x = v.set i x ∧
    Generated.gen_IntVector_push m v x = ok (v.push x) := by
  have hb' : v.len * v.width < U64 := by
    have : v.len * v.width ≤ (v.len + 1) * v.width := Nat.mul_le_mul_right _ (by omega)
    omega
  exact ⟨GenEq.int_get_eq m v i hwf hb', GenEq.int_set_eq m v i x hwf hb', GenEq.int_push_eq m v x hwf hb⟩

/-- the hypotheses are satisfiable: a three-item vector of width 13 -/
example : (IntVec.ofList 13 [5, 8191, 77]).WF ∧
    ((IntVec.ofList 13 [5, 8191, 77]).len + 1) * (IntVec.ofList 13 [5, 8191, 77]).width + 63 < U64 := by decide

/-- … and on it the translated code returns the stored item (and panics on the index one past the end) -/
example : Generated.gen_IntVector_get .wrapping (IntVec.ofList 13 [5, 8191, 77]) 1 = ok 8191#64 ∧
    Generated.gen_IntVector_get .wrapping (IntVec.ofList 13 [5, 8191, 77]) 3 = fault (.panic .assert) := by decide

/-- `IntVector::{new, with_len, pop, clear}` as translated from the source on this run (`Generated/FnsVec2.lean`; the
`for _ in 0..len` of `with_len` becomes `loopM` over a counter and the local vector) -/
theorem int_vector_more_ops_as_translated_from_source (m : Mode) (v : IntVec) (len width : Nat) (value : Word) :
    Generated.gen_IntVector_new m width = IntVec.new width ∧
    (len * width + 63 < U64 → Generated.gen_IntVector_with_len m len width value = IntVec.withLen len width value) ∧
    (v.WF → v.len * v.width + 62 < U64 → Generated.gen_IntVector_pop m v = ok v.pop) ∧
    Generated.gen_IntVector_clear m v = ok v.clear :=
  ⟨GenEq.int_new_eq m width, fun h => GenEq.int_with_len_eq' m len width value h,
   fun hwf hb => GenEq.int_pop_eq m v hwf hb, GenEq.int_clear_eq m v⟩

/-! **`IntVector::pack` as translated from the source on this run** (`Generated/FnsConstr2.lean`): the early return on an
empty vector, `bit_len(self.iter().max().unwrap())` (the items read in order through `get`), the early return when the
width is already minimal, `len * new_width` for the capacity, and the re-push loop `for value in self.iter()` — equal to
the model's `pack` on every well-formed vector whose bit length fits a `usize` with room for rounding. -/
theorem int_vector_pack_as_translated_from_source (m : Mode) (v : IntVec) (hwf : v.WF)
    (hb : v.len * v.width + 63 < U64) :
    Generated.gen_IntVector_pack m v = ok v.pack :=
  GenEq.int_pack_eq m v hwf hb

/-! **`RawVector::with_capacity` and `IntVector::with_capacity` as translated from the source on this run**
(`Generated/FnsConstr4.lean`): the width check (`Err` for 0 and above 64), `capacity * width`, `bits_to_words` — equal to
the model constructors (which ignore the capacity) whenever the requested capacity in bits fits a `usize` with room for
rounding; beyond that the code panics where the model does not (`GenEq.int_with_capacity_ne`: a request of 2^58 words). -/
theorem with_capacity_as_translated_from_source (m : Mode) (cap width : Nat) :
    (cap + 63 < U64 → Generated.gen_RawVector_with_capacity m cap = ok RawVec.empty) ∧
    ((1 ≤ width → width ≤ 64 → cap * width + 63 < U64) →
        Generated.gen_IntVector_with_capacity m cap width = IntVec.withCapacity cap width) :=
  ⟨GenEq.raw_with_capacity_eq m cap, GenEq.int_with_capacity_eq' m cap width⟩

/-! **`RawVector::complement` as translated from the source on this run** (`Generated/FnsConstr3.lean`): the clone, the
`iter_mut()` loop `*word = !*word` and `set_unused_bits(false)` — equal to the model's `complement` on every size-exact
vector. -/
theorem raw_complement_as_translated_from_source (m : Mode) (v : RawVec) (hs : v.data.size = (v.len + 63) / 64) :
    Generated.gen_RawVector_complement m v = ok v.complement :=
  GenEq.raw_complement_eq m v hs

/-! **`RawVector::{new, with_len}` and `BitVector::from(RawVector)` as translated from the source on this run**
(`Generated/FnsConstr3.lean`): `vec![filler_value(value); bits_to_words(len)]` then `set_unused_bits(false)`; the set-bit
count taken by `count_ones` over the words. -/
theorem raw_constructors_as_translated_from_source (m : Mode) :
    Generated.gen_RawVector_new m = ok RawVec.empty ∧
    (∀ len value, len + 63 < U64 → Generated.gen_RawVector_with_len m len value = ok (RawVec.withLen len value)) ∧
    (∀ v : RawVec, 64 * v.data.size < U64 → Generated.gen_BitVector_from_raw m v = ok (BitVector.ofRaw v)) :=
  ⟨GenEq.raw_new_eq m, fun len value h => GenEq.raw_with_len_eq m len value h, fun v h => GenEq.bv_from_raw_eq m v h⟩

/-! **`IntVector::resize` and the two `reserve`s as translated from the source on this run** (`Generated/FnsVec3.lean`): the
`match new_len { new_len if … }` of `resize` (an if / else-if chain), the `while self.len() < new_len { self.push(value) }`
loop, the shrink through `RawVector::resize(new_len * width, false)`; `reserve` with the `Vec` capacity — which no model
can see — as the ARBITRARY parameter `cap`.  Equal to the model's `resize` for every `cap`, on every well-formed vector
whose new bit length fits a `usize` with room for rounding. -/
theorem int_vector_resize_as_translated_from_source (m : Mode) (cap : Nat) (v : IntVec) (new_len : Nat) (value : Word)
    (hwf : v.WF) (hb : new_len ≠ v.len → new_len * v.width + 63 < U64) :
    Generated.gen_IntVector_resize m cap v new_len value = ok (v.resize new_len value) :=
  GenEq.int_resize_eq m cap v new_len value hwf hb

theorem reserve_as_translated_from_source (m : Mode) (cap additional : Nat) :
    (∀ v : RawVec, v.len + additional + 63 < U64 → Generated.gen_RawVector_reserve m cap v additional = ok v) ∧
    (∀ v : IntVec, v.data.len + additional * v.width + 63 < U64 → Generated.gen_IntVector_reserve m cap v additional = ok v) :=
  ⟨fun v h => GenEq.raw_reserve_eq m cap v additional h, fun v h => GenEq.int_reserve_eq m cap v additional h⟩

/-! **`Extend<u64>`, `From<Vec<u64>>`, `FromIterator<u64>` for `IntVector` as translated from the source on this run**
(`Generated/FnsFromExt.lean`: the body of `macro_rules! from_extend_int_vector` at `(u64, 64)`; the other four instances
differ in the item type and the width constant): `size_hint`, `reserve(lower_bound)` (for every `Vec` capacity `cap`), the
`while let Some(value) = iter.next()` loop of pushes; `with_capacity(v.len(), 64).unwrap()` / `new(64).unwrap()` then
`extend`.  Equal to the model's `extend` and to the vector `IntVec.ofList 64 …` the correspondence check compares with. -/
theorem int_vector_from_extend_as_translated_from_source (m : Mode) (cap : Nat) :
    (∀ (v : IntVec) (iter : List Word), v.WF → (v.len + iter.length) * v.width + 63 < U64 →
        Generated.gen_IntVector_extend_u64 m cap v iter = ok (v.extend iter)) ∧
    (∀ a : Array Word, a.size * 64 + 63 < U64 →
        Generated.gen_IntVector_from_vec_u64 m cap a = ok (IntVec.ofList 64 (a.toList.map (·.toNat)))) ∧
    (∀ iter : List Word, iter.length * 64 + 63 < U64 →
        Generated.gen_IntVector_from_iter_u64 m cap iter = ok (IntVec.ofList 64 (iter.map (·.toNat)))) :=
  ⟨fun v iter hwf hb => GenEq.int_extend_eq m cap v iter hwf hb, fun a hb => GenEq.int_from_vec_eq m cap a hb,
   fun iter hb => GenEq.int_from_iter_eq m cap iter hb⟩

/-- **the `u8` / `u16` / `u32` / `usize` instances of `macro_rules! from_extend_int_vector` as translated from the source on
this run** (`Generated/FnsFromExt2.lean`).  `Extend<$t>` does not mention the item type: its translation at every instance is
definitionally the translation at `u64`.  `From<Vec<$t>>` and `FromIterator<$t>` build the empty vector of the instance's
width `$w` and extend it — the model's `extend`, which stores each item truncated to `$w` bits. -/
theorem int_vector_macro_instances_as_translated_from_source (m : Mode) (cap : Nat) (a : Array Word) (it : List Word) :
    (@Generated.gen_IntVector_extend_u8 = @Generated.gen_IntVector_extend_u64 ∧
     @Generated.gen_IntVector_extend_u16 = @Generated.gen_IntVector_extend_u64 ∧
     @Generated.gen_IntVector_extend_u32 = @Generated.gen_IntVector_extend_u64 ∧
     @Generated.gen_IntVector_extend_usize = @Generated.gen_IntVector_extend_u64) ∧
    (a.size * 8 + 63 < U64 → Generated.gen_IntVector_from_vec_u8 m cap a = ok ((⟨0, 8, RawVec.empty⟩ : IntVec).extend a.toList)) ∧
    (a.size * 16 + 63 < U64 → Generated.gen_IntVector_from_vec_u16 m cap a = ok ((⟨0, 16, RawVec.empty⟩ : IntVec).extend a.toList)) ∧
    (a.size * 32 + 63 < U64 → Generated.gen_IntVector_from_vec_u32 m cap a = ok ((⟨0, 32, RawVec.empty⟩ : IntVec).extend a.toList)) ∧
    (a.size * 64 + 63 < U64 → Generated.gen_IntVector_from_vec_usize m cap a = ok ((⟨0, 64, RawVec.empty⟩ : IntVec).extend a.toList)) ∧
    (it.length * 8 + 63 < U64 → Generated.gen_IntVector_from_iter_u8 m cap it = ok ((⟨0, 8, RawVec.empty⟩ : IntVec).extend it)) ∧
    (it.length * 16 + 63 < U64 → Generated.gen_IntVector_from_iter_u16 m cap it = ok ((⟨0, 16, RawVec.empty⟩ : IntVec).extend it)) ∧
    (it.length * 32 + 63 < U64 → Generated.gen_IntVector_from_iter_u32 m cap it = ok ((⟨0, 32, RawVec.empty⟩ : IntVec).extend it)) ∧
    (it.length * 64 + 63 < U64 → Generated.gen_IntVector_from_iter_usize m cap it = ok ((⟨0, 64, RawVec.empty⟩ : IntVec).extend it)) :=
  ⟨⟨GenEq.int_extend_u8_is_u64, GenEq.int_extend_u16_is_u64, GenEq.int_extend_u32_is_u64, GenEq.int_extend_usize_is_u64⟩,
   GenEq.int_from_vec_u8_eq m cap a, GenEq.int_from_vec_u16_eq m cap a, GenEq.int_from_vec_u32_eq m cap a,
   GenEq.int_from_vec_usize_eq m cap a, GenEq.int_from_iter_u8_eq m cap it, GenEq.int_from_iter_u16_eq m cap it,
   GenEq.int_from_iter_u32_eq m cap it, GenEq.int_from_iter_usize_eq m cap it⟩

end Sds.C05
