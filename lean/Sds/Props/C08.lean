/-
C08 — The safe API never touches memory outside a structure's buffers.

Property theorems only (helper lemmas live in Proofs/).

How the model sees an out-of-bounds access.  Every read the code performs through an UNCHECKED accessor is
modelled by one of three functions, each of which returns the distinguished fault `Fault.oob` when the index is
out of range instead of a value:
  * `getW`   — `Vec<u64>::get_unchecked` (word reads of `rank_unchecked`, `T::word_unchecked`, the scans of
               `select_unchecked` and of `OneIter<T>`), and the sample read of `rank_unchecked`;
  * `tableU` — `get_unchecked` into the constant tables `LOW_SET`, `HIGH_SET`, `PS_OVERFLOW`, `SELECT_IN_BYTE`;
  * `selWord` — `bits::select(word, rank)`, undefined when `rank ≥ popcount(word)`.
A fault propagates through every `do` block.  Hence every theorem of the form `query … = ok …` is also a theorem
"this call performs no out-of-bounds access" — and, read for `m = .checked`, "no overflow panic" — and the
theorems below, which say `= ok _` or `= ok _ ∨ = fault (.panic _)`, are the no-out-of-bounds statements.
Accesses through CHECKED indexing (`a[i]`, `assert!`) are modelled by `getC` / explicit tests and yield
`fault (.panic .index)` resp. `fault (.panic .assert)`: a panic, never `oob`.

Build configurations.  `m : Mode` ranges over `checked` (debug: overflow panics) and `wrapping` (optimised build
without overflow checks: arithmetic wraps, which is exactly how a wrapped index could become an out-of-bounds
read — see F1 below).  With / without BMI2: `in_word_select_both_paths`.

Quantifiers.  Every well-formed raw vector of `usize` length; every support satisfying the validity predicate
(built, or loaded from bytes the library wrote); every argument `i`, `r`, `x`, `n`, `k : Nat` (all `usize`
values, including `usize::MAX`); every finite call history on iterators; both modes.

Structures covered, each with a summary theorem for every argument and both modes:
  * the plain bitvector with its rank / select supports and `OneIter<T>` — `plain_bitvector_api_no_oob_partial`; by
    separate theorems: the bit primitives, the two-cursor iterators, the integer vector's item access, the
    memory-mapped views' constructors;
  * the SAFE `Transformation::word` of the public trait (`Identity`: checked read; `Complement`: checked read from
    the last word index on, unchecked strictly below it) for every well-formed vector and EVERY index —
    `transformation_word_never_oob`, `transformation_word_in_range_value`; the guard is needed as written —
    `transformation_word_weakened_guard_reads_out_of_bounds`; the safe entry points of the support structures
    (`RankSupport::rank`, `SelectSupport::select`: bounds-checked accessors, modelled by `safely`) —
    `safe_support_entry_points_never_oob`;
  * the sparse (Elias–Fano) vector — `sparse_api_no_oob_partial` (every vector satisfying the encoding relation:
    built or loaded; set mode) and `sparse_multiset_api_no_oob_partial`; the builder:
    `sparse_builder_never_oob`;
  * the run-length vector — `run_length_api_no_oob_partial` (every accepted builder call history; the conversion
    `From<RLBuilder>` itself: C03 `conversion_never_faults`);
  * the wavelet matrix and its core mapping — `wavelet_matrix_api_no_oob_partial` (every matrix satisfying the
    invariant `WM.Ok`, e.g. every built one).
These are corollaries of the `= ok …` theorems of Proofs/Sparse, Sparse2, RLQueries, WM: in the model the only
source of the fault `oob` is an unchecked access with an out-of-range index (`getW`, `tableU`, `selWord`), and a
fault propagates through every `do` block, so `op … = ok r` says that no out-of-range index is formed anywhere
inside `op`, in the mode `m` it is stated for (both).  Where a call is outside the documented domain the
statement is `≠ fault .oob` (sparse `get(i)`, `i ≥ len`: a defined value or the documented panic) or the exact
panic (wavelet-matrix `get(i)`, `i ≥ len`: `unwrap`).

PARTIAL — why every summary keeps `_partial` in its name.
  (1) The theorems are about the MODEL: that the Rust code forms the same indices is the correspondence argument,
      and the real memory accesses (`get_unchecked`, `Vec::load`'s `set_len`, mapped slices) are observed through
      the bounds hooks in all four build configurations, not proven.
  (2) Writes, and reads through checked indexing, are modelled by total functions (`Array.setIfInBounds`, `rd`)
      whose in-range side conditions appear as hypotheses of the C17 / C05 theorems and are discharged there from
      the representation invariants; `intvec_get_in_bounds` / `intvec_set_in_bounds` show this for the integer
      vector.
  (3) Call SEQUENCES: iterators of the plain bitvector are covered under every call history (`next`,
      `next_back`, `nth k`, `nth_back k`, `len`); the sparse set-bit and all-bits iterators under every `next` /
      `next_back` history (their `nth` is the default repeated `next`); the sparse zero iterator and the
      run-length iterators drained by `next` to the end; NOT covered: `next` calls after the first on the
      iterators returned by `select_zero_iter(r)`, `r < count_zeros` (sparse and run-length), and histories
      mixing several structures.
  (4) Serialised / loaded structures are covered through their invariants (`Sparse.Encodes`, `WM.Ok`,
      `RankSup.Valid`, `SelSup.Valid`), which the loaders establish for bytes the library wrote (C06 / C07); a
      loaded run-length vector is covered by correspondence only.
-/
import Sds.Proofs.Rank
import Sds.Proofs.Select
import Sds.Proofs.Iter
import Sds.Proofs.BitsMore
import Sds.Proofs.Tables
import Sds.Proofs.IntVec
import Sds.Proofs.Glue
import Sds.Proofs.Glue2
import Sds.Proofs.Glue5
import Sds.Proofs.SafeApi
import Sds.Proofs.GenEqBv
import Sds.Proofs.RLBuilt
import Sds.Proofs.PropsAux

namespace Sds.C08
open Sds Outcome IterProofs

/-! ### bit primitives: mask tables and in-word select -/

/-- the unchecked mask reads are in range on the whole documented domain `0..=64` -/
theorem mask_reads_in_range (n : Nat) (h : n ≤ 64) : lowSetU n = ok (lowSet n) ∧ highSetU n = ok (highSet n) :=
  ⟨lowSetU_eq n h, highSetU_eq n h⟩

/-- (documentation) outside that domain the unchecked read WOULD be out of bounds, and the checked one panics:
the model does distinguish the cases -/
theorem mask_reads_outside_domain (n : Nat) (h : 64 < n) :
    lowSetU n = fault .oob ∧ lowSetT n = fault (.panic .index) :=
  ⟨lowSetU_out n h, lowSetT_out n h⟩

/-- `bits::select`, portable (SWAR) path: for EVERY word and EVERY rank below the population count, in both
modes, the two unchecked table reads (`PS_OVERFLOW[rank + 1]`, `SELECT_IN_BYTE[…]`) are in range, no arithmetic
step overflows, and the answer is the specified bit -/
theorem in_word_select_portable (m : Mode) (n : Word) (r : Nat) (h : r < popcount n) :
    ∃ p, selectPortable m n r = ok p ∧ selectBits (bitsOfWord n) r = some p :=
  selectPortable_spec m n r h

/-- with and without BMI2: the PDEP path (no table at all) and the portable path return the same position,
which is what the model's `selWord` returns -/
theorem in_word_select_both_paths (m : Mode) (n : Word) (r : Nat) (h : r < popcount n) :
    selectPortable m n r = ok (selectPdep n r) ∧ selWord n r = ok (selectPdep n r) := by
  have hp := selectPdep_spec n r h
  obtain ⟨p, h1, h2⟩ := selectPortable_spec m n r h
  rw [hp] at h2
  have e : selectPdep n r = p := Option.some.inj h2
  refine ⟨by rw [h1, e], ?_⟩
  unfold selWord
  rw [hp]

/-- (documentation) `bits::select` with `rank ≥ popcount` is undefined behaviour in the code and `oob` in the
model; every caller below establishes `rank < popcount` first -/
theorem in_word_select_precondition (w : Word) (r : Nat) :
    (r < popcount w → ∃ p, selWord w r = ok p) ∧ (popcount w ≤ r → selWord w r = fault .oob) :=
  ⟨selWord_isOk w r, selWord_oob w r⟩

/-! ### rank -/

/-- `rank_unchecked(i)`, `i < len`, ANY valid support: the sample read and the word read are in range -/
theorem rank_unchecked_in_bounds (s : RankSup) (v : RawVec) (hv : v.WF) (hs : s.Valid v) (i : Nat)
    (hi : i < v.len) : ∃ r, s.rankU v i = ok r :=
  ⟨_, rankU_ok hv hs i hi⟩

/-- `rank(i)` for EVERY `i` on a bitvector whose rank support, IF present, is valid: the defined answer, or the
`unwrap` panic of a missing support — never an out-of-bounds read -/
theorem rank_never_oob (b : BitVector) (v : RawVec) (hv : v.WF) (hdata : b.data = v)
    (hones : b.ones = v.bits.count true) (hrank : ∀ s, b.rank = some s → s.Valid v) (i : Nat) :
    b.rankQ i = ok (rankSpec v.bits i) ∨ b.rankQ i = fault (.panic .unwrap) := by
  cases hr : b.rank with
  | some s => exact Or.inl (rankQ_ok hv hdata hr (hrank s hr) hones i)
  | none =>
    rw [SupportProofs.rankQ_absent hr]
    split
    · next hi =>
      have : v.bits.length ≤ i := by rw [RawVec.bits_length, ← hdata]; exact hi
      rw [rankSpec_of_ge v.bits i this, ← hones]; exact Or.inl rfl
    · exact Or.inr rfl

/-- `rank_zero(i)` for EVERY `i`, both modes, support present and valid: the answer (the subtraction never underflows) -/
theorem rank_zero_never_oob (b : BitVector) (v : RawVec) (s : RankSup) (hv : v.WF) (hdata : b.data = v)
    (hones : b.ones = v.bits.count true) (hrank : b.rank = some s) (hs : s.Valid v) (m : Mode) (i : Nat) :
    b.rankZeroQ m i = ok (i - rankSpec v.bits i) :=
  rankZeroQ_ok hv hdata hrank hs hones m i

/-! ### select -/

/-- `select_unchecked(r)`, `r < count`, ANY valid support, plain and complemented vector, both modes: the three
integer-vector reads pass their assertions, the word reads are in range, in-word select meets its precondition,
no addition overflows -/
theorem select_unchecked_in_bounds (s : SelSup) (tr : Tr) (v : RawVec) (hv : v.WF) (hlen : v.len < 2 ^ 64)
    (hs : s.Valid tr v) (m : Mode) (r : Nat) (hr : r < (bitsT tr v.bits).count true) :
    ∃ p, s.selectU tr m v r = ok p := by
  obtain ⟨p, h, _⟩ := selectU_ok hv hlen hs m r hr
  exact ⟨p, h⟩

/-- the word scan inside `select_unchecked` (and `nth`): started anywhere inside the buffer with more than `rr`
set bits at or after the start, it stops inside the buffer -/
theorem select_scan_in_bounds (v : RawVec) (hv : v.WF) (hlen : v.len < 2 ^ 64) (tr : Tr) (m : Mode)
    (fuel word wo rr : Nat) (w : Word) (hwo : wo ≤ 64) (hword : word < v.data.size)
    (hw : wordT tr v word = ok w) (hfuel : v.data.size ≤ fuel + word)
    (hcount : rankSpec (bitsT tr v.bits) (64 * word + wo) + rr < (bitsT tr v.bits).count true) :
    ∃ p, SelSup.scan tr m v fuel word (w &&& ~~~ lowSet wo) rr = ok p := by
  obtain ⟨p, h, _⟩ := scan_ok_count hv hlen tr m fuel word wo rr w hwo hword hw hfuel hcount
  exact ⟨p, h⟩

/-- `select(r)` / `select_zero(r)` for EVERY `r`, both modes, on a bitvector whose select support, IF present,
is valid: the defined answer or the `unwrap` panic — never an out-of-bounds read -/
theorem select_never_oob (b : BitVector) (v : RawVec) (tr : Tr) (hv : v.WF) (hlen : v.len < 2 ^ 64)
    (hdata : b.data = v) (hones : b.ones = v.bits.count true)
    (hsup : ∀ s, b.supT tr = some s → s.Valid tr v) (m : Mode) (r : Nat) :
    b.selectT tr m r = ok (selectSpec (bitsT tr v.bits) r) ∨ b.selectT tr m r = fault (.panic .unwrap) := by
  cases hsu : b.supT tr with
  | some s => exact Or.inl (selectT_ok hv hlen hdata hones hsu (hsup s hsu) m r)
  | none =>
    rw [SupportProofs.selectT_absent hsu]
    split
    · next hr =>
      rw [countT_eq hdata hones tr] at hr
      rw [selectSpec_eq_none _ r hr]; exact Or.inl rfl
    · exact Or.inr rfl

/-! ### the safe `Transformation::word`; the safe entry points of the support structures -/

/-- `Transformation::word(parent, index)` of the public trait (`Identity`, `Complement`), EVERY well-formed vector
and EVERY index: never an out-of-bounds read.  In range (`64 * i < len`, i.e. `i < words`) it returns; from
`i ≥ words` on it is the index panic of the bounds-checked `RawVector::word` — for `Complement` too, whose unchecked
read sits in the branch `index < len / 64` only -/
theorem transformation_word_never_oob (tr : Tr) (v : RawVec) (hv : v.WF) (i : Nat) :
    wordSafeT tr v i ≠ fault .oob ∧
    ((64 * i < v.len ∧ ∃ w, wordSafeT tr v i = ok w) ∨
     (v.len ≤ 64 * i ∧ wordSafeT tr v i = fault (.panic .index))) ∧
    (v.data.size ≤ i → wordSafeT tr v i = fault (.panic .index)) := by
  refine ⟨SafeApi.wordSafeT_ne_oob hv tr i, ?_, SafeApi.wordSafeT_panic hv tr i⟩
  rcases SafeApi.wordSafeT_cases hv tr i with ⟨h1, h2⟩ | ⟨h1, h2⟩
  · exact .inl ⟨h1, _, h2⟩
  · exact .inr ⟨h1, h2⟩

/-- … and in range it is the same computation as `word_unchecked` (`wordT`), returning the word whose bit `k` is bit
`64 * i + k` of the transformed bit sequence where that position exists, and 0 from `len` on -/
theorem transformation_word_in_range_value (tr : Tr) (v : RawVec) (hv : v.WF) (i : Nat) (hi : 64 * i < v.len) :
    wordSafeT tr v i = wordT tr v i ∧
    ∃ w, wordSafeT tr v i = ok w ∧ ∀ k, k < 64 →
      (64 * i + k < v.len → (bitsT tr v.bits)[64 * i + k]? = some (w.getLsbD k)) ∧
      (v.len ≤ 64 * i + k → w.getLsbD k = false) :=
  SafeApi.wordSafeT_in_range hv tr i hi

/-- (documentation) the guard must be `index >= last_index`: with `index == last_index`
(`SafeApi.wordSafeTEq`) the call `Complement::word(v, 2)` on the well-formed 70-bit vector `SafeApi.cexVec` (two
words, `last_index = 1`) reaches the unchecked read with an index past the buffer; the code as written panics -/
theorem transformation_word_weakened_guard_reads_out_of_bounds :
    SafeApi.cexVec.WF ∧ SafeApi.cexVec.len = 70 ∧ SafeApi.cexVec.data.size = 2 ∧
    SafeApi.wordSafeTEq .compl SafeApi.cexVec 2 = fault .oob ∧
    wordSafeT .compl SafeApi.cexVec 2 = fault (.panic .index) :=
  ⟨SafeApi.wordSafeTEq_oob.1, rfl, rfl, SafeApi.wordSafeTEq_oob.2.1, SafeApi.wordSafeTEq_oob.2.2⟩

/-- the safe entry points `RankSupport::rank` / `SelectSupport::select` (`safely`: the computation of the unchecked
variants through bounds-checked accessors) never yield `oob`, whatever the unchecked computation does, and change no
other outcome.  (True by construction of `safely`; that the Rust entry points are this function is correspondence.) -/
theorem safe_support_entry_points_never_oob {α} (x : Outcome α) :
    safely x ≠ fault .oob ∧ (x ≠ fault .oob → safely x = x) ∧ (x = fault .oob → safely x = fault (.panic .index)) :=
  ⟨SafeApi.safely_ne_oob x, SafeApi.safely_eq x, fun h => by rw [h]; rfl⟩

/-! ### get, integer-vector items -/

/-- `get(i)` for EVERY bitvector and EVERY `i`: the word index is checked — the bit, or an index panic -/
theorem get_never_oob (b : BitVector) (i : Nat) :
    b.get i = ok (b.data.bit i) ∨ b.get i = fault (.panic .index) :=
  b.data.bitM_cases i

/-- `IntVector::get(i)` for EVERY vector and EVERY `i`: the item, or the assertion panic -/
theorem intvec_get_never_oob (v : IntVec) (i : Nat) :
    v.get i = ok (v.getRaw i) ∨ v.get i = fault (.panic .assert) := by
  by_cases h : i < v.len
  · exact Or.inl (IntVec.get_ok v i h)
  · exact Or.inr (IntVec.get_fault v i (by omega))

/-- … and for an index that passes the assertion, the bit-field read of a well-formed vector lies inside the
word buffer: the index-guarded `read_int` succeeds, with the item -/
theorem intvec_get_in_bounds (v : IntVec) (hv : v.WF) (i : Nat) (hi : i < v.len) :
    readIntM v.data.data (i * v.width) v.width = ok (v.getRaw i) := by
  obtain ⟨h1, h64, hlen, hwf⟩ := hv
  have hsz := hwf.1
  have hf := IntVec.field_le (v := v) i hi
  rw [readIntM_ok _ _ _ h1 h64 (by omega)]
  unfold IntVec.getRaw RawVec.int; rw [if_neg (by omega)]

/-- likewise the bit-field write of `IntVector::set(i, x)`: the index-guarded `write_int` succeeds -/
theorem intvec_set_in_bounds (v : IntVec) (hv : v.WF) (i : Nat) (hi : i < v.len) (x : Word) :
    writeIntM v.data.data (i * v.width) x v.width = ok (writeInt v.data.data (i * v.width) x v.width) := by
  obtain ⟨h1, h64, hlen, hwf⟩ := hv
  have hsz := hwf.1
  have hf := IntVec.field_le (v := v) i hi
  exact writeIntM_ok _ _ _ _ h1 h64 (by omega)

/-! ### iterators -/

/-- `one_iter()` / `zero_iter()`: NO call history — `next`, `next_back`, `nth k`, `nth_back k` for every
`k : Nat`, `len`, in any order and number — makes any call fault, in either mode -/
theorem one_iter_never_faults (b : BitVector) (v : RawVec) (hv : v.WF) (hlen : v.len < 2 ^ 64)
    (hdata : b.data = v) (hones : b.ones = v.bits.count true) (tr : Tr) (m : Mode) (calls : List ICall) :
    ∃ os, oneRun tr m b (OneIterSt.full tr b) calls = ok os :=
  ⟨_, oneRun_full ⟨hv, hlen, hdata, hones⟩ tr m calls⟩

/-- the same from any state an iterator can be in (`Rel`: standing for a rank interval `[r, R)`) -/
theorem one_iter_never_faults_from_state (b : BitVector) (v : RawVec) (hv : v.WF) (hlen : v.len < 2 ^ 64)
    (hdata : b.data = v) (hones : b.ones = v.bits.count true) (tr : Tr) (m : Mode) (it : OneIterSt)
    (r R : Nat) (hrel : Rel tr v it r R) (calls : List ICall) :
    ∃ os, oneRun tr m b it calls = ok os :=
  ⟨_, oneRun_sim ⟨hv, hlen, hdata, hones⟩ tr m calls hrel⟩

/-- `nth(n)` for EVERY `n` (the repaired comparison `n >= limit.0 - next.0`): an item, or `None` — never a
fault; in particular `n = usize::MAX` -/
theorem one_iter_nth_never_faults (b : BitVector) (v : RawVec) (hv : v.WF) (hlen : v.len < 2 ^ 64)
    (hdata : b.data = v) (hones : b.ones = v.bits.count true) (tr : Tr) (m : Mode) (it : OneIterSt)
    (r R : Nat) (hrel : Rel tr v it r R) (n : Nat) :
    ∃ o it', OneIterSt.nthQ tr m b it n = ok (o, it') := by
  by_cases h : r + n < R
  · obtain ⟨p, _, h2, _⟩ := nthQ_some ⟨hv, hlen, hdata, hones⟩ tr m hrel n h
    exact ⟨_, _, h2⟩
  · exact ⟨_, _, (nthQ_none (b := b) tr m hrel n (by omega)).1⟩

/-- `select_iter(r)` / `select_zero_iter(r)` for EVERY `r`, then any call history: no fault -/
theorem select_iter_never_faults (b : BitVector) (v : RawVec) (s : SelSup) (hv : v.WF) (hlen : v.len < 2 ^ 64)
    (hdata : b.data = v) (hones : b.ones = v.bits.count true) (tr : Tr) (m : Mode)
    (hsup : b.supT tr = some s) (hs : s.Valid tr v) (r : Nat) (calls : List ICall) :
    ∃ it os, b.selectIterT tr m r = ok it ∧ oneRun tr m b it calls = ok os := by
  obtain ⟨it, h, _, hrun⟩ := selectIterT_at ⟨hv, hlen, hdata, hones⟩ tr m hsup hs r
  exact ⟨it, _, h, hrun calls⟩

/-- `predecessor(x)` and `successor(x)` for EVERY `x` (also `x ≥ len`, `x = usize::MAX`), then any call
history: no fault -/
theorem predecessor_successor_never_fault (b : BitVector) (v : RawVec) (rs : RankSup) (s : SelSup) (hv : v.WF)
    (hlen : v.len < 2 ^ 64) (hdata : b.data = v) (hones : b.ones = v.bits.count true)
    (hrank : b.rank = some rs) (hrs : rs.Valid v) (hsel : b.select = some s) (hs : s.Valid .ident v)
    (m : Mode) (x : Nat) (calls : List ICall) :
    (∃ it os, b.predecessorQ m x = ok it ∧ oneRun .ident m b it calls = ok os) ∧
    (∃ it os, b.successorQ m x = ok it ∧ oneRun .ident m b it calls = ok os) := by
  have C : Ctx b v := ⟨hv, hlen, hdata, hones⟩
  rw [predecessorQ_eq_selectIter C hrank hrs, successorQ_eq_selectIter C hrank hrs]
  exact ⟨select_iter_never_faults b v s hv hlen hdata hones .ident m hsel hs _ calls,
    select_iter_never_faults b v s hv hlen hdata hones .ident m hsel hs _ calls⟩

/-- two-cursor iterators (`AccessIter`, `bit_vector::Iter`): under every call history the iterator consults its
parent only at indices below `len` — its answers do not depend on what `get` would return at or beyond `len` -/
theorem two_cursor_reads_in_range {α} (n : Nat) (get get' : Nat → α) (hagree : ∀ i, i < n → get i = get' i)
    (calls : List ICall) : cursorRun get ⟨0, n⟩ calls = cursorRun get' ⟨0, n⟩ calls := by
  have h1 := cursorRun_eq ((List.range n).map get) get (fun i hi => by
    rw [List.length_map, List.length_range] at hi
    rw [List.getElem?_map, List.getElem?_range hi]; rfl) calls
  have h2 := cursorRun_eq ((List.range n).map get) get' (fun i hi => by
    rw [List.length_map, List.length_range] at hi
    rw [List.getElem?_map, List.getElem?_range hi, ← hagree i hi]; rfl) calls
  rw [List.length_map, List.length_range] at h1 h2
  rw [h1, h2]

/-! ### memory-mapped views: the constructors never index outside the file -/

/-- `MappedSlice::new`, `MappedBytes::new`, `MappedStr::new`, `RawVectorMapper::new`, `IntVectorMapper::new`
(as repaired after finding F11, see C13), `MappedOption::new`: for EVERY file, EVERY offset and both modes the outcome is a
view, an `io::Error`, or a panic (overflow in a checked build, checked index) — never an out-of-bounds read -/
theorem view_slice_never_oob (m : Mode) (k : Nat) (file : Array Word) (offset : Nat) :
    View.slice m k file offset ≠ fault .oob := by
  unfold View.slice
  split
  · exact Glue.err_not_oob _
  · refine Glue.bind_not_oob (Glue.fileAt_not_oob _ _) (fun len => ?_)
    refine Glue.bind_not_oob (Glue.addM_not_oob _ _ _) (fun a => ?_)
    refine Glue.bind_not_oob (Glue.mulM_not_oob _ _ _) (fun b => ?_)
    refine Glue.bind_not_oob (Glue.addM_not_oob _ _ _) (fun e => ?_)
    split
    · exact Glue.err_not_oob _
    · exact Glue.ok_not_oob _

theorem view_bytes_never_oob (m : Mode) (file : Array Word) (offset : Nat) :
    View.bytes m file offset ≠ fault .oob := by
  unfold View.bytes
  split
  · exact Glue.err_not_oob _
  · refine Glue.bind_not_oob (Glue.fileAt_not_oob _ _) (fun len => ?_)
    refine Glue.bind_not_oob (Glue.addM_not_oob _ _ _) (fun a => ?_)
    refine Glue.bind_not_oob (Glue.bytesToWords_not_oob _ _) (fun b => ?_)
    refine Glue.bind_not_oob (Glue.addM_not_oob _ _ _) (fun e => ?_)
    split
    · exact Glue.err_not_oob _
    · exact Glue.ok_not_oob _

theorem view_str_never_oob (m : Mode) (valid : List UInt8 → Bool) (file : Array Word) (offset : Nat) :
    View.str m valid file offset ≠ fault .oob := by
  unfold View.str
  refine Glue.bind_not_oob (view_bytes_never_oob _ _ _) (fun v => ?_)
  split
  · exact Glue.ok_not_oob _
  · exact Glue.err_not_oob _

theorem view_raw_never_oob (m : Mode) (file : Array Word) (offset : Nat) :
    View.raw m file offset ≠ fault .oob := by
  unfold View.raw
  split
  · exact Glue.err_not_oob _
  · refine Glue.bind_not_oob (Glue.fileAt_not_oob _ _) (fun len => ?_)
    refine Glue.bind_not_oob (Glue.addM_not_oob _ _ _) (fun a => ?_)
    refine Glue.bind_not_oob (view_slice_never_oob _ _ _ _) (fun d => ?_)
    refine Glue.bind_not_oob (Glue.subM_not_oob _ _ _) (fun mo => ?_)
    exact Glue.ok_not_oob _

theorem view_int_never_oob (m : Mode) (file : Array Word) (offset : Nat) :
    View.int m file offset ≠ fault .oob := by
  unfold View.int
  split
  · exact Glue.err_not_oob _
  · refine Glue.bind_not_oob (Glue.addM_not_oob _ _ _) (fun o1 => ?_)
    split
    · exact Glue.err_not_oob _
    · refine Glue.bind_not_oob (Glue.fileAt_not_oob _ _) (fun len => ?_)
      refine Glue.bind_not_oob (Glue.fileAt_not_oob _ _) (fun width => ?_)
      refine Glue.bind_not_oob (Glue.addM_not_oob _ _ _) (fun o2 => ?_)
      refine Glue.bind_not_oob (view_raw_never_oob _ _ _) (fun d => ?_)
      refine Glue.bind_not_oob (Glue.subM_not_oob _ _ _) (fun mo => ?_)
      exact Glue.ok_not_oob _

theorem view_option_never_oob (m : Mode) (inner : Array Word → Nat → Outcome View)
    (hinner : ∀ file offset, inner file offset ≠ fault .oob) (file : Array Word) (offset : Nat) :
    View.option m inner file offset ≠ fault .oob := by
  unfold View.option
  split
  · exact Glue.err_not_oob _
  · refine Glue.bind_not_oob (Glue.fileAt_not_oob _ _) (fun dl => ?_)
    split
    · refine Glue.bind_not_oob (Glue.addM_not_oob _ _ _) (fun o1 => ?_)
      refine Glue.bind_not_oob (hinner _ _) (fun v => ?_)
      exact Glue.ok_not_oob _
    · exact Glue.ok_not_oob _

/-! ### F1 (repaired by a `fix:` commit): the defect this property caught

`OneIter::nth(n)` as first written tested `self.next.0 + n >= self.limit.0`.  For large `n` the sum overflows:
a checked build panics, and an optimised build wraps, passes the test and scans past the data. -/

/-- original code, checked build: `nth(n)` panics whenever `rank + n` overflows — any vector, any state -/
theorem F1_checked_general (tr : Tr) (b : BitVector) (it : OneIterSt) (n : Nat) (h : 2 ^ 64 ≤ it.next.1 + n) :
    OneIterSt.nthQOld tr .checked b it n = fault (.panic .overflow) :=
  nthQ_checked_overflow tr b it n h

/-- original code on the two-bit vector `11`, after one `next` (state `⟨(1,1),(2,2)⟩`, a legitimate state:
`F1_state_is_reachable`): `nth(usize::MAX)` panics in a checked build and READS OUT OF BOUNDS in an optimised
build — with all supports enabled and with none -/
theorem F1_counterexample :
    OneIterSt.nthQOld .ident .checked (BitVector.ofRaw (RawVec.ofBits [true, true])).enableAll
      ⟨(1, 1), (2, 2)⟩ (2 ^ 64 - 1) = fault (.panic .overflow) ∧
    OneIterSt.nthQOld .ident .wrapping (BitVector.ofRaw (RawVec.ofBits [true, true])).enableAll
      ⟨(1, 1), (2, 2)⟩ (2 ^ 64 - 1) = fault .oob ∧
    OneIterSt.nthQOld .ident .wrapping { ones := 2, data := RawVec.ofBits [true, true] }
      ⟨(1, 1), (2, 2)⟩ (2 ^ 64 - 1) = fault .oob :=
  ⟨F1_checked, F1_wrapping, F1_wrapping0⟩

/-- the state of the counterexample is the one reached by one `next` from `one_iter()`, and it stands for the
ranks `[1, 2)` -/
theorem F1_state_is_reachable :
    OneIterSt.nextQ .ident .checked (BitVector.ofRaw (RawVec.ofBits [true, true])).enableAll
      (OneIterSt.full .ident (BitVector.ofRaw (RawVec.ofBits [true, true])).enableAll) =
        ok (some (0, 0), ⟨(1, 1), (2, 2)⟩) ∧
    Rel .ident (RawVec.ofBits [true, true]) ⟨(1, 1), (2, 2)⟩ 1 2 :=
  ⟨F1_setup, F1_state_rel⟩

/-- repaired code, same inputs, both builds: `None`, iterator exhausted — as the reference queue answers -/
theorem F1_fixed (m : Mode) :
    OneIterSt.nthQ .ident m (BitVector.ofRaw (RawVec.ofBits [true, true])).enableAll
      ⟨(1, 1), (2, 2)⟩ (2 ^ 64 - 1) = ok (none, ⟨(2, 2), (2, 2)⟩) ∧
    (dequeStep (((pairs (onesPos (RawVec.ofBits [true, true]).bits)).take 2).drop 1) (.nth (2 ^ 64 - 1))).1
      = (IOut.none : IOut (Nat × Nat)) := by
  refine ⟨?_, F1_reference⟩
  cases m
  · exact F1_fixed_checked
  · exact F1_fixed_wrapping

/-! ### summary for the plain bitvector -/

/-- **C08 for the plain bitvector (partial: see PARTIAL in the header).**  For every
well-formed raw vector of `usize` length, `BitVector::from(raw)` with all supports enabled, in both build
modes: every query with every argument, and every iterator under every call history, returns a value (or, for
`get` beyond the allocated words, panics on the checked index) — no call reaches an out-of-bounds access. -/
theorem plain_bitvector_api_no_oob_partial (v : RawVec) (hv : v.WF) (hlen : v.len < 2 ^ 64) (m : Mode) :
    (∀ i, (BitVector.ofRaw v).enableAll.get i = ok (v.bit i) ∨
      (BitVector.ofRaw v).enableAll.get i = fault (.panic .index)) ∧
    (∀ i, ∃ r, (BitVector.ofRaw v).enableAll.rankQ i = ok r) ∧
    (∀ i, ∃ r, (BitVector.ofRaw v).enableAll.rankZeroQ m i = ok r) ∧
    (∀ tr r, ∃ o, (BitVector.ofRaw v).enableAll.selectT tr m r = ok o) ∧
    (∀ tr calls, ∃ os, oneRun tr m (BitVector.ofRaw v).enableAll
      (OneIterSt.full tr (BitVector.ofRaw v).enableAll) calls = ok os) ∧
    (∀ tr r calls, ∃ it os, (BitVector.ofRaw v).enableAll.selectIterT tr m r = ok it ∧
      oneRun tr m (BitVector.ofRaw v).enableAll it calls = ok os) ∧
    (∀ x calls, ∃ it os, (BitVector.ofRaw v).enableAll.predecessorQ m x = ok it ∧
      oneRun .ident m (BitVector.ofRaw v).enableAll it calls = ok os) ∧
    (∀ x calls, ∃ it os, (BitVector.ofRaw v).enableAll.successorQ m x = ok it ∧
      oneRun .ident m (BitVector.ofRaw v).enableAll it calls = ok os) := by
  have hones : (BitVector.ofRaw v).enableAll.ones = v.bits.count true := countOnes_eq v hv
  have hsupV : ∀ tr, ∃ s, (BitVector.ofRaw v).enableAll.supT tr = some s ∧ s.Valid tr v := by
    intro tr
    cases tr
    · exact ⟨_, rfl, SelSup.build_valid hv hlen .ident⟩
    · exact ⟨_, rfl, SelSup.build_valid hv hlen .compl⟩
  refine ⟨fun i => get_never_oob _ i, ?_, ?_, ?_, ?_, ?_, ?_, ?_⟩
  · intro i; exact ⟨_, rankQ_build hv hlen rfl rfl hones i⟩
  · intro i; exact ⟨_, rankZeroQ_build hv hlen rfl rfl hones m i⟩
  · intro tr r
    obtain ⟨s, h1, h2⟩ := hsupV tr
    exact ⟨_, selectT_ok hv hlen rfl hones h1 h2 m r⟩
  · intro tr calls; exact one_iter_never_faults _ v hv hlen rfl hones tr m calls
  · intro tr r calls
    obtain ⟨s, h1, h2⟩ := hsupV tr
    exact select_iter_never_faults _ v s hv hlen rfl hones tr m h1 h2 r calls
  · intro x calls
    exact (predecessor_successor_never_fault _ v _ _ hv hlen rfl hones rfl (build_valid hv hlen) rfl
      (SelSup.build_valid hv hlen .ident) m x calls).1
  · intro x calls
    exact (predecessor_successor_never_fault _ v _ _ hv hlen rfl hones rfl (build_valid hv hlen) rfl
      (SelSup.build_valid hv hlen .ident) m x calls).2

/-! ### summary for the sparse (Elias–Fano) vector -/

/-- the sparse builder (`SparseBuilder::new` + one `try_set` per value + `build`), set mode: for EVERY list of
values — sorted or not, in range or not — the outcome is a vector that encodes the list, or an `Err`; never an
out-of-bounds access, in particular never a write past the `high` / `low` buffers -/
theorem sparse_builder_never_oob (w n : Nat) (P : List Nat) (hw1 : 1 ≤ w) (hw : w ≤ 63) (hn : n < 2 ^ 64)
    (hm : P.length < 2 ^ 63) :
    Sparse.ofValues w n false P ≠ fault .oob ∧
    ((∃ s, Sparse.ofValues w n false P = ok s ∧ s.Encodes n w P) ∨
      Sparse.ofValues w n false P = fault (.err .other)) := by
  by_cases h : sortedStrict P = true ∧ ∀ p ∈ P, p < n
  · obtain ⟨s, h1, h2⟩ := ofValues_set_ok w n P hw1 hw hn hm h.1 h.2
    exact ⟨by rw [h1]; exact Glue.ok_not_oob _, Or.inl ⟨s, h1, h2⟩⟩
  · have h1 := ofValues_set_reject w n P hw1 hw h
    exact ⟨by rw [h1]; exact Glue.err_not_oob _, Or.inr h1⟩

/-- **multiset mode (partial).**  What the next theorem says of set mode, as far as it holds for EVERY vector that
encodes a non-decreasing list (duplicates allowed; a strictly increasing list is one, and the next theorem takes these
parts from here); `rank_zero`, which the library does not define there, is `rank` followed by a subtraction: a value or
the overflow panic of the checked build — never an out-of-bounds access -/
theorem sparse_multiset_api_no_oob_partial (s : Sparse) (n w : Nat) (P : List Nat) (hs : s.Encodes n w P)
    (m : Mode) :
    (∀ i, s.get m i ≠ fault .oob) ∧ (∀ i, i < n → ∃ r, s.get m i = ok r) ∧
    (∀ i, ∃ r, s.rank m i = ok r) ∧ (∀ i, s.rankZero m i ≠ fault .oob) ∧
    (∀ r, ∃ o, s.select m r = ok o) ∧
    (∀ calls r, ∃ it res, s.selectIter m r = ok it ∧ Sparse2.runCalls m s calls it = ok res) ∧
    (∀ calls x, ∃ it res, s.predecessor m x = ok it ∧ Sparse2.runCalls m s calls it = ok res) ∧
    (∀ calls x, ∃ it res, s.successor m x = ok it ∧ Sparse2.runCalls m s calls it = ok res) ∧
    (∀ calls, ∃ res, Sparse2.runCalls m s calls (SpOneIter.full s) = ok res) ∧
    (∀ calls, ∃ it res, s.iter m = ok it ∧ Sparse2.runSpCalls m s calls it = ok res) := by
  refine ⟨fun i => Glue5.sparse_get_not_oob hs m i, fun i hi => ⟨_, get_ok hs m i hi⟩,
    fun i => ⟨_, rank_ok hs m i⟩, fun i => by rw [rankZero_eq hs m i]; exact Glue.subM_not_oob _ _ _,
    fun r => ⟨_, select_ok hs m r⟩,
    fun calls r => (Glue5.sparse_iter_histories hs m calls).1 r,
    fun calls x => (Glue5.sparse_iter_histories hs m calls).2.1 x,
    fun calls x => (Glue5.sparse_iter_histories hs m calls).2.2 x, ?_, ?_⟩
  · intro calls
    obtain ⟨it', _, _, h, _⟩ := Sparse2.runCalls_full hs m calls
    exact ⟨_, h⟩
  · intro calls
    obtain ⟨it, it', h1, h2⟩ := Sparse2.iter_runSpCalls hs m calls
    exact ⟨it, _, h1, h2⟩

/-- **C08 for the sparse vector, set mode (partial: see the header).**  For EVERY vector that encodes a
strictly increasing list `P` of positions below `n` (every built vector, every vector loaded from bytes the
library wrote), both modes, EVERY argument: `get` never reads out of bounds (and returns a value for every
`i < len`); `rank`, `rank_zero`, `select`, `select_zero`, `predecessor`, `successor`, `select_iter`,
`select_zero_iter` return a value; `one_iter()` and the iterators returned by `select_iter`, `predecessor`,
`successor` return a value under EVERY history of `next` / `next_back` calls, `iter()` likewise; `zero_iter()`
drained to the end returns its items.  No call forms an out-of-range index into `high` or `low`. -/
theorem sparse_api_no_oob_partial (s : Sparse) (n w : Nat) (P : List Nat) (hs : s.Encodes n w P)
    (hstrict : sortedStrict P = true) (m : Mode) :
    (∀ i, s.get m i ≠ fault .oob) ∧ (∀ i, i < n → ∃ r, s.get m i = ok r) ∧
    (∀ i, ∃ r, s.rank m i = ok r) ∧ (∀ i, ∃ r, s.rankZero m i = ok r) ∧
    (∀ r, ∃ o, s.select m r = ok o) ∧ (∀ r, ∃ o, s.selectZero m r = ok o) ∧
    (∀ r, ∃ z, s.selectZeroIter m r = ok z) ∧
    (∀ calls r, ∃ it res, s.selectIter m r = ok it ∧ Sparse2.runCalls m s calls it = ok res) ∧
    (∀ calls x, ∃ it res, s.predecessor m x = ok it ∧ Sparse2.runCalls m s calls it = ok res) ∧
    (∀ calls x, ∃ it res, s.successor m x = ok it ∧ Sparse2.runCalls m s calls it = ok res) ∧
    (∀ calls, ∃ res, Sparse2.runCalls m s calls (SpOneIter.full s) = ok res) ∧
    (∀ calls, ∃ it res, s.iter m = ok it ∧ Sparse2.runSpCalls m s calls it = ok res) ∧
    (∃ z items, s.zeroIter m = ok z ∧ Sparse2.drainZ m s (n - P.length + 1) z = ok items) := by
  obtain ⟨a1, a2, a3, _, a5, a6, a7, a8, a9, a10⟩ := sparse_multiset_api_no_oob_partial s n w P hs m
  obtain ⟨z, h1, h2⟩ := Sparse2.zeroIter_drain hs hstrict m
  exact ⟨a1, a2, a3, fun i => ⟨_, rankZero_ok hs hstrict m i⟩, a5,
    fun r => ⟨_, Sparse2.selectZero_spec hs hstrict m r⟩,
    fun r => Glue5.sparse_selectZeroIter_ok hs hstrict m r, a6, a7, a8, a9, a10, z, _, h1, h2⟩

/-! ### summary for the run-length vector -/

/-- **C08 for the run-length vector (partial: see the header).**  After EVERY accepted builder call history
(`try_set` / `set_len` / `set_bit`, `usize` arguments), for the converted vector, both modes, EVERY argument
(also `≥ len`, `usize::MAX`): `get`, `rank`, `rank_zero`, `select`, `select_zero`, `select_zero_iter` return a
value; `predecessor` / `successor` return an iterator whose `next` returns; `select_iter(r)`, `one_iter()`,
`iter()`, `zero_iter()` and `run_iter()` return their items when drained to the end.  Hence the sample reads
(`samples.get`), the code-unit reads (`data.get`) and the three `SampleIndex::range` lookups are all in range:
no block number, sample index or code offset outside the vectors is ever formed. -/
theorem run_length_api_no_oob_partial (m : Mode) (calls : List RL.BCall) (hc : ∀ c ∈ calls, RL.callArgsOk c)
    (b : RLBuilder) (hb : RL.runBCalls m calls {} = ok b) (v : RL) (hv : RL.ofBuilder m b = ok v) :
    (∀ i, ∃ r, v.get m i = ok r) ∧ (∀ i, ∃ r, v.rank m i = ok r) ∧ (∀ i, ∃ r, v.rankZero m i = ok r) ∧
    (∀ r, ∃ o, v.select m r = ok o) ∧ (∀ r, ∃ o, v.selectZero m r = ok o) ∧
    (∀ r, ∃ z, v.selectZeroIter m r = ok z) ∧
    (∀ x, ∃ oi o oi', v.predecessor m x = ok oi ∧ oi.nextQ m v = ok (o, oi')) ∧
    (∀ x, ∃ oi o oi', v.successor m x = ok oi ∧ oi.nextQ m v = ok (o, oi')) ∧
    (∀ r, ∃ st items, v.selectIter m r = ok st ∧ RLQ.drainOne m v (v.ones - r + 1) st = ok items) ∧
    (∃ st items, v.oneIter = ok st ∧ RLQ.drainOne m v (v.ones + 1) st = ok items) ∧
    (∃ st items, v.iter = ok st ∧ RLQ.drainBits m v (v.len + 1) st = ok items) ∧
    (∃ st items, v.zeroIter m = ok st ∧ RLQ.drainZero m v (v.countZeros + 1) st = ok items) ∧
    (∃ it0 res, v.runIter = ok it0 ∧
      RunIter.collect m v ((maximalRuns (calls.foldl RL.specCall [])).length + 1) it0 = ok res) := by
  have H := RLQ.built_of m hc hb hv
  obtain ⟨_, _, it0, e, _, h1, h2, _⟩ := RL.build_iterate_calls m calls hc b hb v hv
  refine ⟨fun i => ⟨_, H.get m i⟩, fun i => ⟨_, H.rank m i⟩, fun i => ⟨_, H.rankZero m i⟩,
    fun r => ⟨_, H.select m r⟩, fun r => ⟨_, H.selectZero m r⟩,
    fun r => (Glue5.rl_selectZeroIter_ok m H.good r).imp fun z h => h.1, ?_, ?_, ?_, ?_, ?_, ?_, ⟨it0, _, h1, h2⟩⟩
  · intro x; obtain ⟨oi, oi', a, c⟩ := H.predecessor m x; exact ⟨oi, _, oi', a, c⟩
  · intro x; obtain ⟨oi, oi', a, c⟩ := H.successor m x; exact ⟨oi, _, oi', a, c⟩
  · intro r
    obtain ⟨st, items, a, c, _⟩ := Glue5.rl_selectIter_drain m _ H.good H.ones r (v.ones - r + 1)
      (by rw [H.ones]; exact Nat.le_refl _)
    exact ⟨st, items, a, c⟩
  · obtain ⟨st, items, a, c, _⟩ := H.oneIter_drain m (v.ones + 1) (Nat.le_refl _)
    exact ⟨st, items, a, c⟩
  · obtain ⟨st, a, c⟩ := H.iter_drain m (v.len + 1) (Nat.le_refl _)
    exact ⟨st, _, a, c⟩
  · obtain ⟨st, items, a, c, _⟩ := H.zeroIter_drain m (v.countZeros + 1) (Nat.le_refl _)
    exact ⟨st, items, a, c⟩

/-! ### summary for the wavelet matrix -/

/-- **C08 for the wavelet matrix (partial: see the header).**  For EVERY matrix satisfying the invariant
`WM.Ok` (every built one: `WM.ofValues_ok_full`; every one loaded from bytes the library wrote), both modes,
EVERY index, rank and value — past the end, `usize::MAX`, absent, outside the alphabet: `rank`, `select`,
`inverse_select`, `contains`, `predecessor`, `successor`, the value iterator's `next`, and the core mappings
`map_down_with` / `map_up_with` return a value; `get` returns the item, or — past the end — panics on the
`unwrap` of `inverse_select`'s `None`.  No level bit vector, and not the `first` array, is indexed out of range. -/
theorem wavelet_matrix_api_no_oob_partial (w : WM) (V : List Nat) (width : Nat) (hw : w.Ok V width) (m : Mode) :
    (∀ i, (∃ x, w.get m i = ok x) ∨ w.get m i = fault (.panic .unwrap)) ∧
    (∀ i v, ∃ r, w.rank m i v = ok r) ∧ (∀ r v, ∃ o, w.select m r v = ok o) ∧
    (∀ i, ∃ o, w.inverseSelect m i = ok o) ∧ (∀ v, ∃ c, w.contains v = ok c) ∧
    (∀ i v, ∃ r, w.predecessor m i v = ok r) ∧ (∀ i v, ∃ r, w.successor m i v = ok r) ∧
    (∀ v r, ∃ o, w.valueIterNext m v r = ok o) ∧
    (∀ i v, ∃ p, w.data.mapDownWith m i v = ok p) ∧ (∀ p v, ∃ o, w.data.mapUpWith m p v = ok o) := by
  refine ⟨fun i => ?_, fun i v => ⟨_, rank_ok_wm hw m i v⟩, fun r v => ⟨_, select_ok_wm hw m r v⟩,
    fun i => ?_, fun v => ⟨_, contains_ok hw v⟩, fun i v => ⟨_, predecessor_ok hw m i v⟩,
    fun i v => ⟨_, successor_ok hw m i v⟩, fun v r => ⟨_, valueIterNext_ok hw m v r⟩,
    fun i v => ⟨_, mapDownWith_ok' hw.core m i v⟩, fun p v => ⟨_, mapUpWith_total hw.core m p v⟩⟩
  · by_cases h : i < V.length
    · exact Or.inl ⟨_, get_ok_wm hw m i h⟩
    · exact Or.inr (get_panic hw m i (Nat.le_of_not_lt h))
  · by_cases h : i < V.length
    · exact ⟨_, inverseSelect_ok hw m i h⟩
    · exact ⟨_, inverseSelect_none hw m i (Nat.le_of_not_lt h)⟩

/-! ### non-vacuity -/

example : (RawVec.ofBits [true, false, true]).WF ∧ (RawVec.ofBits [true, false, true]).len < 2 ^ 64 := by decide
example : (RankSup.build (RawVec.ofBits [true, false, true])).Valid (RawVec.ofBits [true, false, true]) :=
  build_valid (by decide) (by decide)
example : (IntVec.ofList 3 [5, 1, 2]).WF ∧ 1 < (IntVec.ofList 3 [5, 1, 2]).len := by decide
example : 1 < popcount 0x5#64 := by decide

/-- the hypotheses of the structure summaries are satisfiable: an encoded sparse vector, an accepted run-length
call history with its conversion, a built wavelet matrix -/
example : ∃ s, Sparse.ofValues 2 10 false [0, 5, 9] = ok s ∧ s.Encodes 10 2 [0, 5, 9] :=
  ofValues_set_ok 2 10 [0, 5, 9] (by decide) (by decide) (by decide) (by decide) (by decide) (by decide)
example :
    (do let b ← RL.runBCalls .wrapping [.set 0 2, .bit 4, .set 5 3, .setLen 12] {}
        let v ← RL.ofBuilder .wrapping b
        let g ← v.get .wrapping (2 ^ 64 - 1)
        let r ← v.rank .wrapping (2 ^ 64 - 1)
        return (v.len, v.blocks, g, r)) = ok (12, 1, false, 6) := by
  decide +kernel
example : (WM.ofValues [3, 1, 3, 0]).Ok [3, 1, 3, 0] (widthOf [3, 1, 3, 0]) :=
  WM.ofValues_ok_full _ (by decide) (by decide)

/-! **The word accessors of the two `Transformation`s as translated from the source on this run**
(`Generated/FnsBv.lean`): `Identity::{bit, word, word_unchecked, count_ones}` and `Complement::{bit, word, word_unchecked,
count_ones}` — in particular the `index >= last_index` test that decides whether the complemented word is masked, and
which of the two reads is the checked one.  The code as it is NOW is `wordT` / `wordSafeT`, the functions whose reads the
no-out-of-bounds theorems above follow; unconditional. -/
theorem transformation_accessors_as_translated_from_source (m : Mode) (b : BitVector) (i : Nat) :
    Generated.gen_Identity_word_unchecked m b i = wordT .ident b.data i ∧
    Generated.gen_Complement_word_unchecked m b i = wordT .compl b.data i ∧
    Generated.gen_Identity_word m b i = wordSafeT .ident b.data i ∧
    Generated.gen_Complement_word m b i = wordSafeT .compl b.data i ∧
    Generated.gen_Identity_bit m b i = b.get i ∧
    Generated.gen_Complement_bit m b i = (do let x ← b.get i; return !x) ∧
    Generated.gen_Identity_count_ones m b = ok b.countOnes ∧
    Generated.gen_Complement_count_ones m b = ok b.countZeros :=
  ⟨GenEq.identity_word_unchecked_eq m b i, GenEq.complement_word_unchecked_eq' m b i, GenEq.identity_word_eq m b i,
   GenEq.complement_word_eq' m b i, GenEq.identity_bit_eq m b i, GenEq.complement_bit_eq m b i,
   GenEq.identity_count_ones_eq m b, GenEq.complement_count_ones_eq m b⟩

/-- the translated safe `Complement::word` one word past the end panics on the index and never reads unchecked
(the seeded change `>=` → `==` turns this into an out-of-bounds read) -/
example : Generated.gen_Complement_word .wrapping (BitVector.ofRaw (RawVec.ofBits [true, false, true])) 2
    = fault (.panic .index) := by decide +kernel

end Sds.C08
