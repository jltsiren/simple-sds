/-
C11 — Conversions between bitvector types preserve the bits and are canonical.

  "Converting a bitvector of any of the three types into any other, directly or through any chain of
   conversions (From, copy_bit_vec), preserves the length and the exact set of set positions.  The result is
   equal to, and serializes identically to, the structure that the target type's own builder produces from
   the same bits, so a structure's representation does not depend on the construction route (bit at a time,
   by runs with adjacent runs merged, from a raw vector, from an iterator, by conversion)."

Property theorems only (helper lemmas live in Proofs/RawVec.lean, IntVec.lean, Glue.lean, Glue2.lean,
Glue4.lean, Iter.lean, Sparse.lean, Sparse2.lean, RL.lean, RLQueries.lean, RLCanon.lean, Builders.lean).

**How a conversion is modelled.**  In the library every conversion between the three bitvector types
(`BitVector`, `SparseVector`, `RLVector`) is the composition of two steps, and the model has exactly these
two steps, not a separate function per pair of types:
  (A) the SOURCE lists its content: `len()` and `one_iter()` — the pairs (rank, position) of its set bits in
      increasing order (for a run-length source also: `run_iter()`, the maximal runs);
  (B) the TARGET's builder is fed that content: plain — `copy_bit_vec`: `RawVector::with_len(len, false)` and
      one `set_bit(p, true)` per listed position; sparse — `SparseBuilder::new(len, count_ones)`, one `set` per
      position, `build`; run-length — one `try_set` per position / per run, `set_len(len)`, `From<RLBuilder>`.
§1 proves (A) for each source type: the listing is EXACTLY the set positions.  §2–§4 prove, for each target
type, that the result of (B) is a function of the pair (length, set of positions) alone and is the value the
target's own builder produces from the same bits (so equal, and — serialization being a function of the
value — byte-identical when serialized).  §5 composes them: the canonical representative of a bit sequence `B`
in each type (`RawVec.ofBits B`, `Sparse.ofValues w |B| false (onesPos B)`, `rlOf m B`) lists `(onesPos B, |B|)`,
and each target fed `(onesPos B, |B|)` yields ITS canonical representative of `B`; so every chain of conversions,
of any length, ending in a given type lands on that type's canonical representative of the source's bits.
Explicit round trips for every pair of types and a length-3 chain are spelled out.

Quantifiers: every bit sequence `B` of `usize` length (as the content `v.bits` of a well-formed raw vector,
or directly), every universe `n < 2^64` and every strictly increasing position list `P` below it with fewer
than 2^63 elements, EVERY low width `w` in 1..=63 for the sparse target (the width rule is a parameter),
every accepted builder call history (`try_set` / `set_bit` / `set_len` in any decomposition) for the
run-length target, both arithmetic modes.

**Run-length target: full.**  `rl_same_bits_same_builder`: two accepted call histories describing the same bit
sequence reach the SAME builder state (all six fields; also across arithmetic modes) — the pending run absorbs
every adjacent call, a run is flushed only when a later call leaves a gap, so the encoded `data`, the block
`samples`, `tail`, `ones` and the pending run are functions of the described bits.  Hence
`rl_same_bits_same_value`: the converted vectors are EQUAL as values (same `data` units, block samples, and the
three sample indexes) and serialize identically; `rl_value_closed_form`: the value is
`From<RLBuilder>` of `RLCanon.canonFlushed B`, computed from `maximalRuns B`, `|B|` and the number of set bits.
The block-count side condition of the run-length query theorems is discharged (`RL.blocks_bound`), so the
chains through the run-length type carry no extra hypothesis.

**Not formalised as a single statement**: the exhaustive enumeration of all 27 chains of length ≤ 3 as one
theorem; it follows by composing the listing theorem (`canonical_representatives_list_their_bits`) with the three
feeding theorems (`bits_into_plain`, `plain_into_sparse_preserves_bits`, `bits_into_rl_is_canonical`) — see §5.
-/
import Sds.Proofs.Glue4
import Sds.Proofs.Iter
import Sds.Proofs.RLQueries
import Sds.Proofs.RLCanon
import Sds.Proofs.GenEqCopy
import Sds.Proofs.GenEqFromExt
import Sds.Proofs.RLBuilt
import Sds.Proofs.PropsAux

namespace Sds.C11
open Sds Outcome IterProofs

/-! ### §1. (A) every source type lists exactly its set positions -/

/-- plain bitvector: `one_iter()` answers any sequence of `next` / `next_back` / `nth` / `nth_back` / `len`
calls exactly like the deque of the pairs (rank, position of the set bit of that rank) — in particular
repeated `next` lists the set positions in increasing order and then `None`; no support structure needed -/
theorem plain_one_iter_lists_set_positions (v : RawVec) (hv : v.WF) (hlen : v.len < 2 ^ 64) (m : Mode)
    (calls : List ICall) :
    oneRun .ident m (BitVector.ofRaw v) (OneIterSt.full .ident (BitVector.ofRaw v)) calls =
      ok (dequeRunM (pairs (onesPos v.bits)) calls) :=
  oneRun_full_ofRaw hv hlen .ident m calls

/-- the positions listed are exactly the set bits: strictly increasing, below the length, `p` is listed iff
bit `p` is set, and their number is `count_ones` -/
theorem listed_positions_are_the_set_bits (B : List Bool) :
    (onesPos B).Pairwise (· < ·) ∧ (∀ p ∈ onesPos B, p < B.length) ∧
    (∀ p, p ∈ onesPos B ↔ B[p]? = some true) ∧ (onesPos B).length = B.count true ∧
    bitsOfSet (onesPos B) B.length = B :=
  ⟨onesPos_pairwise B, onesPos_lt B, Glue.mem_onesPos B, length_onesPos B, bitsOfSet_onesPos B⟩

/-- sparse vector: `one_iter()` delivers `(i, P[i])` for `i = 0 … |P|-1`, in order, then `None` -/
theorem sparse_one_iter_lists_set_positions (s : Sparse) (n w : Nat) (P : List Nat) (hs : s.Encodes n w P)
    (m : Mode) : drain m s (P.length + 1) (SpOneIter.full s) = ok (itemsFrom P 0) ∧ s.len = n :=
  ⟨drain_full hs m, hs.len_eq⟩

/-- run-length vector: `run_iter()` + `next()` until `None` on a vector built by any accepted call history
yields exactly the maximal runs of the described bit sequence `B` (whose set positions are the union of the
runs), with `len = |B|` and `count_ones` = number of set bits -/
theorem rl_run_iter_lists_maximal_runs (m : Mode) (calls : List RL.BCall) (hc : ∀ c ∈ calls, RL.callArgsOk c)
    (b : RLBuilder) (hb : RL.runBCalls m calls {} = ok b) (v : RL) (hv : RL.ofBuilder m b = ok v) :
    v.len = (calls.foldl RL.specCall []).length ∧ v.ones = (calls.foldl RL.specCall []).count true ∧
    ∃ it0 e endPos, v.runIter = ok it0 ∧
      RunIter.collect m v ((maximalRuns (calls.foldl RL.specCall [])).length + 1) it0 =
        ok (RunIter.withPos 0 (maximalRuns (calls.foldl RL.specCall [])), e) ∧
      e.pos = ((calls.foldl RL.specCall []).count true, endPos) ∧
      endPos ≤ (calls.foldl RL.specCall []).length :=
  RL.build_iterate_calls m calls hc b hb v hv

/-- run-length vector: `one_iter()` + `next()` until `None` on a vector built by any accepted call history
describing `B` yields the set positions of `B` in order, ranked `0, 1, …` (no side condition: there are at
most `(len + 1) / 2` blocks, `RL.blocks_bound`) -/
theorem rl_one_iter_lists_set_positions (m : Mode) (calls : List RL.BCall) (hc : ∀ c ∈ calls, RL.callArgsOk c)
    (b : RLBuilder) (hb : RL.runBCalls m calls {} = ok b) (v : RL) (hv : RL.ofBuilder m b = ok v) :
    v.blocks + 8 < U64 ∧
    ∃ st items, v.oneIter = ok st ∧ RLQ.drainOne m v (v.ones + 1) st = ok items ∧
      items.map (·.2) = onesPos (calls.foldl RL.specCall []) ∧
      items.map (·.1) = List.range ((calls.foldl RL.specCall []).count true) := by
  have hsz := (RL.blocks_bound m calls hc b hb v hv).2
  exact ⟨hsz, (RLQ.built_of m hc hb hv).oneIter_drain m (v.ones + 1) (Nat.le_refl _)⟩

/-! ### §2. (B) target: plain bitvector -/

/-- **the representation of raw / plain bitvectors is canonical**: two well-formed raw vectors with the same
bits are the same value; hence `BitVector::from` of them, with any supports enabled, is the same value, and
all serializations are identical -/
theorem plain_representation_is_canonical (v w : RawVec) (hv : v.WF) (hw : w.WF) (h : v.bits = w.bits) :
    v = w ∧ rawVecC.ser v = rawVecC.ser w ∧ BitVector.ofRaw v = BitVector.ofRaw w ∧
    (BitVector.ofRaw v).enableAll = (BitVector.ofRaw w).enableAll ∧
    bitVectorC.ser (BitVector.ofRaw v).enableAll = bitVectorC.ser (BitVector.ofRaw w).enableAll := by
  have e := RawVec.canonical hv hw h
  subst e
  exact ⟨rfl, rfl, rfl, rfl, rfl⟩

/-- the same for integer vectors (used for the low parts of sparse vectors and the samples of run-length
vectors): same width and same items ⇒ same value ⇒ same serialization -/
theorem int_vector_representation_is_canonical (v w : IntVec) (hv : v.WF) (hw : w.WF)
    (hwd : v.width = w.width) (h : v.items = w.items) : v = w ∧ intVecC.ser v = intVecC.ser w := by
  have e := IntVec.canonical hv hw hwd h
  subst e
  exact ⟨rfl, rfl⟩

/-- **conversion into a plain bitvector** (`copy_bit_vec`) from ANY listing of positions below `n` — any
order, repetitions allowed, so from any source type: the result is well formed, its bits are the membership
bits, and it IS the value the plain builder (`FromIterator<bool>`, push per bit) produces from those bits -/
theorem positions_into_plain (n : Nat) (P : List Nat) (hP : ∀ p ∈ P, p < n) :
    (P.foldl (fun v i => v.setBit i true) (RawVec.withLen n false)).WF ∧
    (P.foldl (fun v i => v.setBit i true) (RawVec.withLen n false)).bits = bitsOfSet P n ∧
    P.foldl (fun v i => v.setBit i true) (RawVec.withLen n false) = RawVec.ofBits (bitsOfSet P n) := by
  obtain ⟨h1, h2⟩ := copyPositions_spec n P hP
  exact ⟨h1, h2, RawVec.eq_ofBits h1 h2⟩

/-- … in terms of the bit sequence `B` of the source: copying the set positions of `B` gives exactly the
vector built from `B` bit by bit — preserved length, preserved bits, same value, same bytes -/
theorem bits_into_plain (B : List Bool) :
    (onesPos B).foldl (fun v i => v.setBit i true) (RawVec.withLen B.length false) = RawVec.ofBits B ∧
    (RawVec.ofBits B).WF ∧ (RawVec.ofBits B).bits = B ∧ (RawVec.ofBits B).len = B.length := by
  have h := Glue.copyBits_spec B
  exact ⟨RawVec.eq_ofBits h.1 h.2, RawVec.ofBits_WF B, RawVec.bits_ofBits B, RawVec.len_ofBits B⟩

/-! ### §3. (B) target: sparse vector -/

/-- **closed form of the built sparse vector.**  For every low width `w`, universe `n` and admissible position
list `P` (set mode: strictly increasing; multiset mode: non-decreasing), feeding `P` to the sparse builder
succeeds and the result is, field by field: `len = n`; `high` = `BitVector::from` of THE raw vector whose bits
are the unary bucket sequence `highBits w ⌈n / 2^w⌉ P`, with select and select_zero support built from it;
`low` = a well-formed integer vector of width `w` with items `p mod 2^w`.  Nothing in it depends on anything
but `(w, n, P)`. -/
theorem positions_into_sparse_closed_form (w n : Nat) (multi : Bool) (P : List Nat) (hw1 : 1 ≤ w)
    (hw : w ≤ 63) (hn : n < 2 ^ 64) (hm : P.length < 2 ^ 63)
    (hsorted : if multi then sortedLe P = true else sortedStrict P = true) (hbound : ∀ p ∈ P, p < n) :
    ∃ s, Sparse.ofValues w n multi P = ok s ∧ s.Encodes n w P ∧ s.len = n ∧
      s.high = (BitVector.ofRaw (RawVec.ofBits (highBits w (Sparse.getBuckets n w) P))).enableSelect.enableSelectZero ∧
      s.low.WF ∧ s.low.width = w ∧ s.low.items = P.map (· % 2 ^ w) :=
  Sparse.ofValues_closed_form w n multi P hw1 hw hn hm hsorted hbound

/-- **the sparse representation is canonical**: ANY sparse vector `s'`, however it was produced (another
builder history, a conversion, loading a file), whose fields have the form above for the same `(w, n, P)` is
EQUAL to the builder's result, and serializes to the same elements -/
theorem sparse_representation_is_canonical (w n : Nat) (multi : Bool) (P : List Nat) (hw1 : 1 ≤ w)
    (hw : w ≤ 63) (hn : n < 2 ^ 64) (hm : P.length < 2 ^ 63)
    (hsorted : if multi then sortedLe P = true else sortedStrict P = true) (hbound : ∀ p ∈ P, p < n)
    (s s' : Sparse) (hs : Sparse.ofValues w n multi P = ok s) (hlen : s'.len = n)
    (hhigh : s'.high =
      (BitVector.ofRaw (RawVec.ofBits (highBits w (Sparse.getBuckets n w) P))).enableSelect.enableSelectZero)
    (hlow : s'.low.WF) (hwidth : s'.low.width = w) (hitems : s'.low.items = P.map (· % 2 ^ w)) :
    s' = s ∧ sparseC.ser s' = sparseC.ser s := by
  obtain ⟨s0, h0, _, g1, g2, g3, g4, g5⟩ :=
    Sparse.ofValues_closed_form w n multi P hw1 hw hn hm hsorted hbound
  rw [hs] at h0; cases h0
  have hl : s'.low = s.low := IntVec.canonical hlow g3 (hwidth.trans g4.symm) (hitems.trans g5.symm)
  have e : s' = s := by
    cases s' with
    | mk l h lo => cases s with
      | mk l2 h2 lo2 =>
        simp only at hlen hhigh hl g1 g2
        rw [hlen, hhigh, hl, g1, g2]
  exact ⟨e, by rw [e]⟩

/-- the set-mode and the multiset-mode builder produce the SAME vector from a strictly increasing list: the
representation records the positions, not the mode that accepted them -/
theorem sparse_set_and_multiset_builders_agree (w n : Nat) (P : List Nat) (hw1 : 1 ≤ w) (hw : w ≤ 63)
    (hn : n < 2 ^ 64) (hm : P.length < 2 ^ 63) (hsorted : sortedStrict P = true)
    (hbound : ∀ p ∈ P, p < n) :
    Sparse.ofValues w n false P = Sparse.ofValues w n true P := by
  obtain ⟨s1, h1, _⟩ := Sparse.ofValues_closed_form w n false P hw1 hw hn hm (by simpa using hsorted) hbound
  obtain ⟨s2, h2, _, g1, g2, g3, g4, g5⟩ := Sparse.ofValues_closed_form w n true P hw1 hw hn hm
    (by simpa using Sparse2.sortedStrict_le P hsorted) hbound
  obtain ⟨e, _⟩ := sparse_representation_is_canonical w n false P hw1 hw hn hm (by simpa using hsorted)
    hbound s1 s2 h1 g1 g2 g3 g4 g5
  rw [h1, h2, e]

/-- **conversion plain → sparse**: feeding the set positions listed by a plain bitvector (§1) to the sparse
builder succeeds for every width, preserves `len` and `count_ones`, and `get(i)` is bit `i` of the source for
every `i`; `one_iter` of the result lists the same positions again -/
theorem plain_into_sparse_preserves_bits (w : Nat) (B : List Bool) (hw1 : 1 ≤ w) (hw : w ≤ 63)
    (hB : B.length < 2 ^ 64) (hm : B.count true < 2 ^ 63) :
    ∃ s, Sparse.ofValues w B.length false (onesPos B) = ok s ∧ s.len = B.length ∧
      s.countOnes = B.count true ∧
      (∀ (m : Mode) (i : Nat) (hi : i < B.length), s.get m i = ok B[i]) ∧
      (∀ m : Mode, drain m s ((onesPos B).length + 1) (SpOneIter.full s) = ok (itemsFrom (onesPos B) 0)) := by
  obtain ⟨s, hs, he, _⟩ := Sparse.ofValues_closed_form w B.length false (onesPos B) hw1 hw hB
    (by rw [length_onesPos]; exact hm)
    (by simpa using BuildersProofs.sortedStrict_of_pairwise _ (onesPos_pairwise B)) (onesPos_lt B)
  refine ⟨s, hs, he.len_eq, by rw [← length_onesPos]; exact he.low_len, fun m i hi => ?_,
    fun m => drain_full he m⟩
  rw [get_ok he m i hi]
  unfold getSet
  rw [contains_onesPos B i hi]

/-! ### §4. (B) target: run-length vector -/

/-- bit at a time: one `try_set(p, 1)` per set position of `B`, in order, then `set_len(|B|)` — the conversion
from any source listing its positions — is accepted call by call, and the bit sequence it describes is `B` -/
theorem rl_bit_at_a_time_describes_bits (m : Mode) (B : List Bool) (hB : B.length < U64) :
    ∃ b, RL.runBCalls m (RL.callsOf ((onesPos B).map fun i => (i, 1)) B.length) {} = ok b ∧ b.Inv ∧
      (RL.callsOf ((onesPos B).map fun i => (i, 1)) B.length).foldl RL.specCall [] = B :=
  let ⟨_, hd, b, hb, hi⟩ := RLCanon.accepts_described m (RL.bitCalls_spec B hB) hB
  ⟨b, hb, hi, hd⟩

/-- … the conversion succeeds, and the converted vector has the length, the number of ones and — adjacent
bits MERGED into runs — the maximal runs of `B` -/
theorem bits_into_rl_preserves_bits (m : Mode) (B : List Bool) (hB : B.length < U64) :
    ∃ b v, RL.runBCalls m (RL.callsOf ((onesPos B).map fun i => (i, 1)) B.length) {} = ok b ∧
      RL.ofBuilder m b = ok v ∧ v.len = B.length ∧ v.ones = B.count true ∧
      ∃ it0 e endPos, v.runIter = ok it0 ∧
        RunIter.collect m v ((maximalRuns B).length + 1) it0 = ok (RunIter.withPos 0 (maximalRuns B), e) ∧
        e.pos = (B.count true, endPos) ∧ endPos ≤ B.length :=
  let ⟨b, x, R⟩ := RLCanon.repr_exists m B hB
  ⟨b, x, R.bit, R.conv, R.holds.len, R.holds.ones, R.runs⟩

/-- run at a time: one `try_set(start, len)` per MAXIMAL run of `B`, then `set_len(|B|)` — the natural use of
the run-length builder, and the copy of a run-length vector through `run_iter()` — is accepted call by call and
describes `B` -/
theorem rl_run_at_a_time_describes_bits (m : Mode) (B : List Bool) (hB : B.length < U64) :
    ∃ b, RL.runBCalls m (RL.callsOf (maximalRuns B) B.length) {} = ok b ∧ b.Inv ∧
      (RL.callsOf (maximalRuns B) B.length).foldl RL.specCall [] = B :=
  let ⟨_, hd, b, hb, hi⟩ := RLCanon.accepts_described m (RLCanon.runCalls_spec B hB) hB
  ⟨b, hb, hi, hd⟩

/-- **the builder state is a function of the described bits**: two accepted call histories — any two
decompositions into `try_set` / `set_bit` / `set_len` calls, run in any arithmetic modes — describing the same
bit sequence reach the same builder: same `len`, `ones`, `tail`, pending `run`, block `samples`, encoded `data` -/
theorem rl_same_bits_same_builder (m₁ m₂ : Mode) (calls₁ calls₂ : List RL.BCall)
    (hc₁ : ∀ c ∈ calls₁, RL.callArgsOk c) (hc₂ : ∀ c ∈ calls₂, RL.callArgsOk c)
    (hsame : calls₁.foldl RL.specCall [] = calls₂.foldl RL.specCall [])
    (b₁ b₂ : RLBuilder) (hb₁ : RL.runBCalls m₁ calls₁ {} = ok b₁) (hb₂ : RL.runBCalls m₂ calls₂ {} = ok b₂) :
    b₁ = b₂ :=
  RLCanon.builder_canonical_modes m₁ m₂ calls₁ calls₂ hc₁ hc₂ hsame b₁ b₂ hb₁ hb₂

/-- **the run-length representation is canonical**: the vectors converted (`From<RLBuilder>`) from two accepted
call histories describing the same bit sequence are EQUAL as values — same `len`, `ones`, `data`, `samples` and
the three sample indexes — and serialize to identical elements -/
theorem rl_same_bits_same_value (m : Mode) (calls₁ calls₂ : List RL.BCall)
    (hc₁ : ∀ c ∈ calls₁, RL.callArgsOk c) (hc₂ : ∀ c ∈ calls₂, RL.callArgsOk c)
    (hsame : calls₁.foldl RL.specCall [] = calls₂.foldl RL.specCall [])
    (b₁ b₂ : RLBuilder) (hb₁ : RL.runBCalls m calls₁ {} = ok b₁) (hb₂ : RL.runBCalls m calls₂ {} = ok b₂)
    (v₁ v₂ : RL) (hv₁ : RL.ofBuilder m b₁ = ok v₁) (hv₂ : RL.ofBuilder m b₂ = ok v₂) :
    v₁ = v₂ ∧ (rlC m).ser v₁ = (rlC m).ser v₂ :=
  ⟨RLCanon.vector_canonical m calls₁ calls₂ hc₁ hc₂ hsame b₁ b₂ hb₁ hb₂ v₁ v₂ hv₁ hv₂,
   RLCanon.bytes_canonical m calls₁ calls₂ hc₁ hc₂ hsame b₁ b₂ hb₁ hb₂ v₁ v₂ hv₁ hv₂⟩

/-- … in total form: both conversions SUCCEED, with one and the same vector, whose `len`, `count_ones` and
`run_iter()` output are those of the described bit sequence -/
theorem rl_same_bits_same_value_total (m : Mode) (calls₁ calls₂ : List RL.BCall)
    (hc₁ : ∀ c ∈ calls₁, RL.callArgsOk c) (hc₂ : ∀ c ∈ calls₂, RL.callArgsOk c)
    (hsame : calls₁.foldl RL.specCall [] = calls₂.foldl RL.specCall [])
    (b₁ b₂ : RLBuilder) (hb₁ : RL.runBCalls m calls₁ {} = ok b₁) (hb₂ : RL.runBCalls m calls₂ {} = ok b₂) :
    ∃ v, RL.ofBuilder m b₁ = ok v ∧ RL.ofBuilder m b₂ = ok v ∧
      v.len = (calls₁.foldl RL.specCall []).length ∧ v.ones = (calls₁.foldl RL.specCall []).count true ∧
      ∃ it e, v.runIter = ok it ∧
        RunIter.collect m v ((maximalRuns (calls₁.foldl RL.specCall [])).length + 1) it =
          ok (RunIter.withPos 0 (maximalRuns (calls₁.foldl RL.specCall [])), e) := by
  obtain ⟨v, hv, l1, o1, it1, e1, _, r1, c1, _⟩ := RL.build_iterate_calls_total m calls₁ hc₁ b₁ hb₁
  have e := RLCanon.builder_canonical m calls₁ calls₂ hc₁ hc₂ hsame b₁ b₂ hb₁ hb₂
  exact ⟨v, hv, e ▸ hv, l1, o1, it1, e1, r1, c1⟩

/-- the canonical run-length representative of a bit sequence: `From<RLBuilder>` of the builder in which every
maximal run of `B` has been flushed (`RLCanon.canonFlushed B`: a structure computed from `maximalRuns B`, `|B|`
and the number of set bits by the pure flush step `RLCanon.Core.push`) -/
abbrev rlOf (m : Mode) (B : List Bool) : Outcome RL := RL.ofBuilder m (RLCanon.canonFlushed B)

/-- **closed form**: after any accepted history describing `B`, the final `flush` leaves exactly
`canonFlushed B`, and the converted vector is `rlOf m B` -/
theorem rl_value_closed_form (m : Mode) (calls : List RL.BCall) (hc : ∀ c ∈ calls, RL.callArgsOk c)
    (B : List Bool) (hB : calls.foldl RL.specCall [] = B)
    (b : RLBuilder) (hb : RL.runBCalls m calls {} = ok b) :
    b.flush m = ok (RLCanon.canonFlushed B) ∧ RL.ofBuilder m b = rlOf m B := by
  subst hB
  exact ⟨RLCanon.flush_closed_form m calls hc b hb, RLCanon.ofBuilder_closed_form m calls hc b hb⟩

/-- **conversion into a run-length vector** from any source listing `(onesPos B, |B|)` (§1): every call is
accepted, the conversion succeeds, and the result IS `rlOf m B` — the value the run-length builder produces
from the same bits by ANY accepted decomposition, in particular run at a time with adjacent runs merged -/
theorem bits_into_rl_is_canonical (m : Mode) (B : List Bool) (hB : B.length < U64) :
    ∃ b x, RL.runBCalls m (RL.callsOf ((onesPos B).map fun i => (i, 1)) B.length) {} = ok b ∧
      RL.ofBuilder m b = ok x ∧ rlOf m B = ok x ∧ x.len = B.length ∧ x.ones = B.count true ∧
      RL.runBCalls m (RL.callsOf (maximalRuns B) B.length) {} = ok b ∧
      ∀ calls, (∀ c ∈ calls, RL.callArgsOk c) → calls.foldl RL.specCall [] = B →
        ∀ b', RL.runBCalls m calls {} = ok b' → b' = b ∧ RL.ofBuilder m b' = ok x := by
  obtain ⟨b, x, R⟩ := RLCanon.repr_exists m B hB
  exact ⟨b, x, R.bit, R.conv, R.canon, R.holds.len, R.holds.ones, R.run, fun calls hc hd b' hb' =>
    have e := R.unique calls hc hd b' hb'
    ⟨e, e ▸ R.conv⟩⟩

/-- the canonical representative exists for every bit sequence of `usize` length -/
theorem rlOf_total (m : Mode) (B : List Bool) (hB : B.length < U64) :
    ∃ x, rlOf m B = ok x ∧ x.len = B.length ∧ x.ones = B.count true := by
  obtain ⟨_, x, R⟩ := RLCanon.repr_exists m B hB
  exact ⟨x, R.canon, R.holds.len, R.holds.ones⟩

/-- histories in which some calls are REFUSED (and ignored by the caller) are histories of their accepted
calls, so the statement above covers them too; with the repaired `set_len` every history runs to completion -/
theorem rl_any_history_is_covered (m : Mode) (cs : List RL.BCall)
    (hargs : ∀ c ∈ cs, BuildersProofs.argsOk c) :
    ∃ b, BuildersProofs.rlRun m cs {} = ok b ∧ BuildersProofs.RlInv b ∧
      RL.runBCalls m (BuildersProofs.rlAccepted m cs {}) {} = ok b := by
  obtain ⟨b, hb, hi⟩ := BuildersProofs.rlRun_fixed_default m cs hargs
  exact ⟨b, hb, hi, BuildersProofs.rlRun_accepted m cs {} b hb⟩

/-! ### §5. chains

Canonical representatives of a bit sequence `B`:  plain `RawVec.ofBits B`;  sparse of width `w`
`Sparse.ofValues w |B| false (onesPos B)`;  run-length `rlOf m B`.
  * (A) each of them lists `(onesPos B, |B|)` — `canonical_representatives_list_their_bits`;
  * (B) each target fed `(onesPos B, |B|)` yields its canonical representative of `B` — `bits_into_plain` (§2),
    `plain_into_sparse_preserves_bits` (§3: the builder call IS the definition of the representative),
    `bits_into_rl_is_canonical` (§4);
  * every value of a type is the canonical representative of its own bits — `plain_representation_is_canonical`,
    `sparse_representation_is_canonical`, `rl_same_bits_same_value`.
So a chain of conversions of any length starting from a structure with bits `B` passes only through canonical
representatives of `B` and ends in the canonical representative of `B` in the last type, independent of the route.
The theorems below spell this out for the round trips between every pair of types and for a chain of length 3. -/

/-- (A) for the canonical representatives: all three list the set positions `onesPos B` (in order, ranked from
0) and report the length `|B|` -/
theorem canonical_representatives_list_their_bits (m : Mode) (w : Nat) (B : List Bool) (hw1 : 1 ≤ w)
    (hw : w ≤ 63) (hB : B.length < 2 ^ 64) (hm : B.count true < 2 ^ 63) :
    -- plain
    ((RawVec.ofBits B).len = B.length ∧ ∀ calls : List ICall,
      oneRun .ident m (BitVector.ofRaw (RawVec.ofBits B)) (OneIterSt.full .ident (BitVector.ofRaw (RawVec.ofBits B)))
        calls = ok (dequeRunM (pairs (onesPos B)) calls)) ∧
    -- sparse
    (∃ s, Sparse.ofValues w B.length false (onesPos B) = ok s ∧ s.len = B.length ∧
      drain m s ((onesPos B).length + 1) (SpOneIter.full s) = ok (itemsFrom (onesPos B) 0)) ∧
    -- run-length
    (∃ x, rlOf m B = ok x ∧ x.len = B.length ∧
      ∃ st items, x.oneIter = ok st ∧ RLQ.drainOne m x (x.ones + 1) st = ok items ∧
        items.map (·.2) = onesPos B ∧ items.map (·.1) = List.range (B.count true)) := by
  have hB' : B.length < U64 := by rw [U64_eq]; exact hB
  refine ⟨⟨(bits_into_plain B).2.2.2, fun calls => ?_⟩, ?_, ?_⟩
  · have h := plain_one_iter_lists_set_positions (RawVec.ofBits B) (RawVec.ofBits_WF B)
      (by rw [(bits_into_plain B).2.2.2]; exact hB) m calls
    rw [RawVec.bits_ofBits] at h
    exact h
  · obtain ⟨s, hs, hl, _, _, hd⟩ := plain_into_sparse_preserves_bits w B hw1 hw hB hm
    exact ⟨s, hs, hl, hd m⟩
  · obtain ⟨_, x, R⟩ := RLCanon.repr_exists m B hB'
    exact ⟨x, R.canon, R.holds.len, R.holds.oneIter_drain m (x.ones + 1) (Nat.le_refl _)⟩

/-- plain → sparse → plain is the identity: list the positions of `v`, build the sparse vector (any width),
list ITS positions (they are the same list), copy them into a plain vector: the very same value `v` -/
theorem plain_sparse_plain_round_trip (w : Nat) (v : RawVec) (hv : v.WF) (hw1 : 1 ≤ w) (hw : w ≤ 63)
    (hlen : v.len < 2 ^ 64) (hm : v.bits.count true < 2 ^ 63) :
    ∃ s, Sparse.ofValues w v.len false (onesPos v.bits) = ok s ∧
      (∀ m : Mode, drain m s ((onesPos v.bits).length + 1) (SpOneIter.full s) =
        ok (itemsFrom (onesPos v.bits) 0)) ∧
      (onesPos v.bits).foldl (fun u i => u.setBit i true) (RawVec.withLen s.len false) = v := by
  have hl : v.bits.length = v.len := RawVec.bits_length v
  obtain ⟨s, hs, h1, _, _, h4⟩ := plain_into_sparse_preserves_bits w v.bits hw1 hw (by rw [hl]; exact hlen) hm
  rw [hl] at hs h1
  refine ⟨s, hs, h4, ?_⟩
  rw [h1, ← hl, (bits_into_plain v.bits).1]
  exact (RawVec.eq_ofBits hv rfl).symm

/-- sparse → plain → sparse is the identity: copy the positions `P` of a sparse vector over `n` into a plain
vector, list the positions of THAT (they are `P` again, and its length is `n`), feed them to the sparse
builder with the same width: the very same sparse vector -/
theorem sparse_plain_sparse_round_trip (w n : Nat) (P : List Nat) (hsorted : sortedStrict P = true)
    (hbound : ∀ p ∈ P, p < n) :
    (P.foldl (fun v i => v.setBit i true) (RawVec.withLen n false)).bits = bitsOfSet P n ∧
    (bitsOfSet P n).length = n ∧ onesPos (bitsOfSet P n) = P ∧
    Sparse.ofValues w (bitsOfSet P n).length false (onesPos (bitsOfSet P n)) = Sparse.ofValues w n false P := by
  have h1 := (copyPositions_spec n P hbound).2
  have h2 : (bitsOfSet P n).length = n := by simp [bitsOfSet]
  have h3 := onesPos_bitsOfSet P n (sortedStrict_pairwise P hsorted) hbound
  exact ⟨h1, h2, h3, by rw [h2, h3]⟩

/-- plain → run-length → (runs): the conversion from the positions of `v` succeeds and the vector reports `len`,
`count_ones` and the maximal runs of `v.bits` — so copying its runs back position by position (§2:
`positions_into_plain` accepts any listing) restores `v` -/
theorem plain_rl_round_trip_content (m : Mode) (v : RawVec) (hlen : v.len < U64) :
    ∃ b x, RL.runBCalls m (RL.callsOf ((onesPos v.bits).map fun i => (i, 1)) v.bits.length) {} = ok b ∧
      RL.ofBuilder m b = ok x ∧ x.len = v.len ∧ x.ones = v.bits.count true ∧
      ∃ it0 e endPos, x.runIter = ok it0 ∧
        RunIter.collect m x ((maximalRuns v.bits).length + 1) it0 =
          ok (RunIter.withPos 0 (maximalRuns v.bits), e) ∧
        e.pos = (v.bits.count true, endPos) ∧ endPos ≤ v.len := by
  have hl : v.bits.length = v.len := RawVec.bits_length v
  obtain ⟨b, x, hb, hx, h1, h2, h3⟩ := bits_into_rl_preserves_bits m v.bits (by rw [hl]; exact hlen)
  rw [hl] at h1 h3
  exact ⟨b, x, hb, hx, h1, h2, h3⟩

/-- **plain → run-length → plain is the identity**: convert `v` bit by bit into a run-length vector `x`, list
`x`'s positions with `one_iter()` (they are `onesPos v.bits`, and `x.len = v.len`), copy them into a plain
vector: the very same value `v` -/
theorem plain_rl_plain_round_trip (m : Mode) (v : RawVec) (hv : v.WF) (hlen : v.len < U64) :
    ∃ b x, RL.runBCalls m (RL.callsOf ((onesPos v.bits).map fun i => (i, 1)) v.bits.length) {} = ok b ∧
      RL.ofBuilder m b = ok x ∧ rlOf m v.bits = ok x ∧
      ∃ st items, x.oneIter = ok st ∧ RLQ.drainOne m x (x.ones + 1) st = ok items ∧
        (items.map (·.2)).foldl (fun u i => u.setBit i true) (RawVec.withLen x.len false) = v := by
  obtain ⟨b, x, R⟩ := RLCanon.repr_exists m v.bits (by rw [RawVec.bits_length]; exact hlen)
  obtain ⟨st, items, h1, h2, h3, _⟩ := R.holds.oneIter_drain m (x.ones + 1) (Nat.le_refl _)
  refine ⟨b, x, R.bit, R.conv, R.canon, st, items, h1, h2, ?_⟩
  rw [h3, R.holds.len, (bits_into_plain v.bits).1]
  exact (RawVec.eq_ofBits hv rfl).symm

/-- **run-length → plain → run-length is the identity**: take the vector `x` of any accepted history describing
`B`, copy the positions listed by its `one_iter()` into a plain vector (it is `RawVec.ofBits B`), convert that bit
by bit into a run-length vector: the very same value `x` (and the same builder as the original history) -/
theorem rl_plain_rl_round_trip (m : Mode) (calls : List RL.BCall) (hc : ∀ c ∈ calls, RL.callArgsOk c)
    (B : List Bool) (hB : calls.foldl RL.specCall [] = B)
    (b : RLBuilder) (hb : RL.runBCalls m calls {} = ok b) (x : RL) (hx : RL.ofBuilder m b = ok x) :
    ∃ st items, x.oneIter = ok st ∧ RLQ.drainOne m x (x.ones + 1) st = ok items ∧
      (items.map (·.2)).foldl (fun u i => u.setBit i true) (RawVec.withLen x.len false) = RawVec.ofBits B ∧
      (RawVec.ofBits B).bits = B ∧
      RL.runBCalls m (RL.callsOf ((onesPos B).map fun i => (i, 1)) B.length) {} = ok b ∧ rlOf m B = ok x := by
  subst hB
  have R := RLCanon.Repr.of_history m hc hb hx
  obtain ⟨st, items, h1, h2, h3, _⟩ := R.holds.oneIter_drain m (x.ones + 1) (Nat.le_refl _)
  refine ⟨st, items, h1, h2, ?_, RawVec.bits_ofBits _, R.bit, R.canon⟩
  rw [h3, R.holds.len, (bits_into_plain _).1]

/-- **run-length → run-length through `run_iter()`** (the run-by-run copy): feeding the maximal runs listed by
`x` (§1) and `x.len` to a fresh builder reproduces `x` -/
theorem rl_rl_round_trip (m : Mode) (calls : List RL.BCall) (hc : ∀ c ∈ calls, RL.callArgsOk c)
    (B : List Bool) (hB : calls.foldl RL.specCall [] = B)
    (b : RLBuilder) (hb : RL.runBCalls m calls {} = ok b) (x : RL) (hx : RL.ofBuilder m b = ok x) :
    x.len = B.length ∧ RL.runBCalls m (RL.callsOf (maximalRuns B) x.len) {} = ok b := by
  subst hB
  have R := RLCanon.Repr.of_history m hc hb hx
  exact ⟨R.holds.len, by rw [R.holds.len]; exact R.run⟩

/-- **sparse → run-length → sparse is the identity**: the positions `P` (over `n`) listed by a sparse vector, fed
bit by bit to the run-length builder, give `rlOf m (bitsOfSet P n)`; its `one_iter()` lists `P` again and its
length is `n`, so the sparse builder is fed the very same `(n, P)` -/
theorem sparse_rl_sparse_round_trip (m : Mode) (w n : Nat) (P : List Nat) (hn : n < U64)
    (hsorted : sortedStrict P = true) (hbound : ∀ p ∈ P, p < n) :
    ∃ b x, RL.runBCalls m (RL.callsOf (P.map fun i => (i, 1)) n) {} = ok b ∧ RL.ofBuilder m b = ok x ∧
      rlOf m (bitsOfSet P n) = ok x ∧ x.len = n ∧ x.ones = P.length ∧
      ∃ st items, x.oneIter = ok st ∧ RLQ.drainOne m x (x.ones + 1) st = ok items ∧ items.map (·.2) = P ∧
        Sparse.ofValues w x.len false (items.map (·.2)) = Sparse.ofValues w n false P := by
  have h2 : (bitsOfSet P n).length = n := by simp [bitsOfSet]
  have h3 := onesPos_bitsOfSet P n (sortedStrict_pairwise P hsorted) hbound
  obtain ⟨b, x, R⟩ := RLCanon.repr_exists m (bitsOfSet P n) (by rw [h2]; exact hn)
  obtain ⟨st, items, i1, i2, i3, _⟩ := R.holds.oneIter_drain m (x.ones + 1) (Nat.le_refl _)
  have hb := R.bit
  have hxl := R.holds.len
  have hxo := R.holds.ones
  rw [h3] at i3
  rw [h2, h3] at hb
  rw [h2] at hxl
  rw [← length_onesPos, h3] at hxo
  exact ⟨b, x, hb, R.conv, R.canon, hxl, hxo, st, items, i1, i2, i3, by rw [i3, hxl]⟩

/-- **run-length → sparse → run-length is the identity**: the positions listed by `x` (history describing `B`)
build the sparse representative of `B` (any width), which lists `(onesPos B, |B|)` again; feeding that bit by bit
to the run-length builder reproduces `x` -/
theorem rl_sparse_rl_round_trip (m : Mode) (w : Nat) (hw1 : 1 ≤ w) (hw : w ≤ 63)
    (calls : List RL.BCall) (hc : ∀ c ∈ calls, RL.callArgsOk c)
    (B : List Bool) (hB : calls.foldl RL.specCall [] = B) (hm : B.count true < 2 ^ 63)
    (b : RLBuilder) (hb : RL.runBCalls m calls {} = ok b) (x : RL) (hx : RL.ofBuilder m b = ok x) :
    ∃ st items s, x.oneIter = ok st ∧ RLQ.drainOne m x (x.ones + 1) st = ok items ∧
      Sparse.ofValues w x.len false (items.map (·.2)) = ok s ∧
      Sparse.ofValues w B.length false (onesPos B) = ok s ∧ s.len = B.length ∧
      drain m s ((onesPos B).length + 1) (SpOneIter.full s) = ok (itemsFrom (onesPos B) 0) ∧
      RL.runBCalls m (RL.callsOf ((onesPos B).map fun i => (i, 1)) s.len) {} = ok b ∧ rlOf m B = ok x := by
  subst hB
  have R := RLCanon.Repr.of_history m hc hb hx
  obtain ⟨st, items, h1, h2, h3, _⟩ := R.holds.oneIter_drain m (x.ones + 1) (Nat.le_refl _)
  obtain ⟨s, hs, hl, _, _, hd⟩ := plain_into_sparse_preserves_bits w _ hw1 hw (by rw [← U64_eq]; exact R.lt) hm
  exact ⟨st, items, s, h1, h2, by rw [h3, R.holds.len]; exact hs, hs, hl, hd m, by rw [hl]; exact R.bit, R.canon⟩

/-- **a chain of length 3: plain → sparse → run-length = plain → run-length.**  The sparse vector built from the
positions of `B` lists `(onesPos B, |B|)`, so the run-length builder receives the same calls as in the direct
conversion and the result is `rlOf m B` — the value every accepted history describing `B` converts to -/
theorem plain_sparse_rl_chain (m : Mode) (w : Nat) (B : List Bool) (hw1 : 1 ≤ w) (hw : w ≤ 63)
    (hB : B.length < 2 ^ 64) (hm : B.count true < 2 ^ 63) :
    ∃ s b x, Sparse.ofValues w B.length false (onesPos B) = ok s ∧
      drain m s ((onesPos B).length + 1) (SpOneIter.full s) = ok (itemsFrom (onesPos B) 0) ∧
      RL.runBCalls m (RL.callsOf ((onesPos B).map fun i => (i, 1)) s.len) {} = ok b ∧
      RL.ofBuilder m b = ok x ∧ rlOf m B = ok x ∧ x.len = B.length ∧ x.ones = B.count true := by
  obtain ⟨s, hs, hl, _, _, hd⟩ := plain_into_sparse_preserves_bits w B hw1 hw hB hm
  obtain ⟨b, x, R⟩ := RLCanon.repr_exists m B (by rw [U64_eq]; exact hB)
  exact ⟨s, b, x, hs, hd m, by rw [hl]; exact R.bit, R.conv, R.canon, R.holds.len, R.holds.ones⟩

/-! ### non-vacuity -/

example : onesPos [true, false, true, true] = [0, 2, 3] ∧
    bitsOfSet [0, 2, 3] 4 = [true, false, true, true] := by decide
/-- the copy route and the push route give the same words -/
example : ([0, 2, 3] : List Nat).foldl (fun v i => v.setBit i true) (RawVec.withLen 4 false) =
    RawVec.ofBits [true, false, true, true] := by decide
/-- positions in any order, with a repetition -/
example : ([3, 0, 2, 3] : List Nat).foldl (fun v i => v.setBit i true) (RawVec.withLen 4 false) =
    RawVec.ofBits [true, false, true, true] := by decide
/-- hypotheses of the sparse theorems on a small instance, two different widths -/
example : (sortedStrict [0, 2, 3] = true ∧ ∀ p ∈ [0, 2, 3], p < 4) := by decide
example : ∃ s, Sparse.ofValues 1 4 false [0, 2, 3] = ok s ∧ s.low.items = [0, 0, 1] := by
  obtain ⟨s, h, _, _, _, _, _, hi⟩ := positions_into_sparse_closed_form 1 4 false [0, 2, 3] (by decide)
    (by decide) (by decide) (by decide) (by decide) (by decide)
  exact ⟨s, h, by rw [hi]; decide⟩
/-- two decompositions of the same bits: bit at a time and run at a time -/
example : ([.bit 1, .bit 2, .bit 3, .setLen 6] : List RL.BCall).foldl RL.specCall [] =
    ([.set 1 3, .setLen 6] : List RL.BCall).foldl RL.specCall [] := by decide
example : maximalRuns [false, true, true, true, false, false] = [(1, 3)] := by decide
/-- … they reach the same builder and convert to the same vector, here computed -/
example : RL.runBCalls .checked [.bit 1, .bit 2, .bit 3, .setLen 6] {} =
    RL.runBCalls .checked [.set 1 3, .setLen 6] {} := by decide
example : ((RL.runBCalls .checked [.bit 1, .bit 2, .bit 3, .setLen 6] {} >>= RL.ofBuilder .checked) >>=
      fun v => ok (v.len, v.ones, v.data.items, v.samples.items)) = ok (6, 3, [1, 2], [0, 0]) := by decide

/-! **The three `copy_bit_vec` conversions as translated from the source on this run** (`Generated/FnsCopy.lean`; the six
`From` impls of `support.rs` are `$target::copy_bit_vec(&source)`): generic over the source, whose `len()`,
`count_ones()` and the list of the items of its `one_iter()` are parameters.  `BitVector`: `with_len(len, false)`, one
`set_bit` per item, `BitVector::from`; `RLVector`: `RLBuilder::new`, one `set_bit_unchecked` per item, `set_len`,
`RLVector::from`; `SparseVector`: `SparseBuilder::new(len, count_ones).unwrap()`, one `set_unchecked` per item,
`try_from(..).unwrap()`.  For a source whose items are the set-bit positions of a bit sequence `B`, the code as it is NOW
produces exactly the objects the conversion theorems above are stated about: the canonical plain bitvector over `B`, the
run-length vector of `C11.rlOf` (`RL.ofBuilder` of the canonical flushed builder), the sparse vector `Sparse.ofValues`
that encodes the positions. -/
theorem copy_bit_vec_as_translated_from_source (m : Mode) (B : List Bool) (ones : Nat) (items : List (Nat × Nat))
    (hitems : items.map (·.2) = onesPos B) :
    (B.length + 63 < U64 →
        Generated.gen_BitVector_copy_bit_vec m B.length ones items = ok (BitVector.ofRaw (RawVec.ofBits B))) ∧
    (B.length < U64 → 128 * items.length + 319 < U64 →
        ∃ x, Generated.gen_RLVector_copy_bit_vec m B.length ones items = ok x ∧
          RL.ofBuilder m (RLCanon.canonFlushed B) = ok x ∧ x.len = B.length ∧ x.ones = B.count true) :=
  ⟨fun hl => GenEq.bv_copy_eq_bits m B ones items hl hitems,
   fun hB hn => by
     obtain ⟨_, x, _, _, h3, h4, h5, h6⟩ := GenEq.rl_copy_eq_bits m B ones items hB hitems hn
     exact ⟨x, h3, h4, h5, h6⟩⟩

theorem sparse_copy_bit_vec_as_translated_from_source (m : Mode) (fw len ones : Nat) (items : List (Nat × Nat))
    (hfw1 : 1 ≤ fw) (hfw2 : fw ≤ 63) (hu : len < U64)
    (hh : ones + Sparse.getBuckets len (GenEq.spWidth fw len ones) + 63 < U64)
    (hl : ones * GenEq.spWidth fw len ones + 63 < U64)
    (hones : ones = items.length) (hm : items.length < 2 ^ 63)
    (hsorted : (items.map (·.2)).Pairwise (· < ·)) (hp : ∀ p ∈ items.map (·.2), p < len) :
    ∃ s, Sparse.ofValues (GenEq.spWidth fw len ones) len false (items.map (·.2)) = ok s ∧
      Generated.gen_SparseVector_copy_bit_vec m fw len ones items = ok s ∧
      s.Encodes len (GenEq.spWidth fw len ones) (items.map (·.2)) :=
  GenEq.sp_copy_eq_values m fw len ones items hfw1 hfw2 hu hh hl hones hm hsorted hp

/-! **`FromIterator<bool> for BitVector` as translated from the source on this run** (`Generated/FnsFromExt.lean`):
`with_capacity(lower_bound)`, one `push_bit` per item, `count_ones` — the bool-iterator route of "built from B by any public
route" — is the canonical plain bitvector over the bits. -/
theorem bit_vector_from_iter_as_translated_from_source (m : Mode) (bits : List Bool) (hb : bits.length + 63 < U64) :
    Generated.gen_BitVector_from_iter m bits = ok (BitVector.ofRaw (RawVec.ofBits bits)) :=
  GenEq.bv_from_iter_eq m bits hb

end Sds.C11
