/-
C06 — Serialization round trip is the identity and sizes are exact.

Property theorems only (helper lemmas live in Proofs/).  The model (Model/Ser.lean): a file is a list of
8-byte elements (`Elems = List Word`), `toBytes` / `ofBytes` give the little-endian byte view, and a
`Codec α` is the pair (`ser`, `load`) of a `Serialize` impl.  In the model
  `size_in_elements(x)` **is** `c.size x = (c.ser x).length`, and `size_in_bytes(x) = 8 * size_in_elements(x)`.

Quantifiers: every value `x` of each serializable type — integers and pairs, vectors of them, byte vectors,
strings, optional values, raw / integer vectors, rank and select supports, plain bitvectors with any of the
8 subsets of support structures, sparse / run-length vectors, wavelet matrix and its core — that satisfies the
type's representation invariant (stated in each theorem: lengths fit a `usize`, the raw vector has exactly ⌈len/64⌉ words with a zero tail, …; these hold
of every value the API can produce), and every continuation `rest` of the stream (so: every concatenation).
The codecs have no arithmetic mode — no `Mode` parameter occurs in serialization — except `rlC m`, whose loader
rebuilds the sample indexes with the mode's arithmetic; its theorems hold for both modes.

Each `…_roundtrip` theorem says: loading what was serialized, followed by anything, yields **the same value**
(Lean equality, hence it answers every query as `x` does — `loaded_bit_vector_answers_as_original` spells
that out) and **exactly the rest** of the stream (so exactly `size_in_elements(x)` elements = `8 ×` that many
bytes are consumed), together with the size predicted from the parameters alone.

**Composite structures** (sparse vector, run-length vector, wavelet-matrix core, wavelet matrix; lemmas in
Proofs/Codec2).  The same law is proven for **every value satisfying the serialization invariant of its type**:
 * `Codec2.sparseWF s`: `high` already carries the select / select_zero supports that `load` enables, `high` and
   `low` are serializable (`bitVectorWF`, `intVecWF`), `low.len = high.count_ones`,
   `high.len = low.len + buckets(len, low.width)` (the two checks of `SparseVector::load`), `len < 2^64`;
 * `Codec2.wmCoreWF c`: 1..64 levels, each a serializable bitvector carrying all three supports, all of one length;
 * `Codec2.wmWF w`: `wmCoreWF w.data`, `w.len` = the length of the levels `< 2^64`, `first` serializable;
 * `Codec2.rlWF m v` (mode `m`): `samples`, `data` serializable, one sample pair per 64-unit block of `data`,
   `ones ≤ len < 2^64`, ones ≤ bits at every block start, and the three sample indexes (which are **not stored**)
   are what `SampleIndex::new` builds from the stored samples.  `Codec2.rlWFg m` is the weaker form without the
   "no subtraction wraps" clauses; it is also *necessary* for a round trip (`run_length_vector_invariant_necessary`).
Everything the builders build satisfies the invariant (`Codec2.ofValues_sparseWF` / `sparse_ofValues_lawful`,
`ofValues_wmCoreWF`, `ofValues_wmWF` / `wm_ofValues_lawful`, `build_rlWF` / `build_roundtrip` for every accepted
call history of the `RLBuilder`), under file-size side conditions only (`hhigh`, `hlow`, `hfirst`, `hsize`).
**Values returned by the loaders on an arbitrary accepted file** (section "what the loaders return"; lemmas in
Proofs/LoadWF).  For each loader the predicate `LoadWF.…Ld` lists exactly the checks it performs; `…WF → …Ld`
(`load_checks_weaker_than_invariants`), every loaded value satisfies `…Ld` (for the types whose loader *builds*
supports — sparse vector, wavelet matrix — under the agreement condition stated below) and every `…Ld` value obeys
the codec law (`loaded_values_obey_codec_law`: round trip with any continuation, every strict prefix refused with
`eof`), so the generic statements of this file and of C14 apply to loaded values although they need **not** satisfy
the representation invariants.  The `loaded_value_reserializes_*` theorems: if `c.load es = ok (x, rest)` then
 (i)  `es = c.ser x ++ rest` — what was read is exactly the serialization of the returned value — and
 (ii) `c.load (c.ser x ++ rest') = ok (x, rest')` for every `rest'` — the returned value loads back;
 * both hold **exactly, without any hypothesis**, for `rawVecC`, `intVecC`, `rankSupC`, `selSupC` and `rlC m` (both
   modes); for all but `rankSupC`, `…Ld x ↔ x is returned by the loader on some file` (`loadable_values_characterised`);
 * `bitVectorC`: (i) is **false** — `Option<T>::load` only tests its length prefix for `≠ 0` and never compares it
   with the size of what follows (`bit_vector_load_not_exact`: `[0,0,0,5,0,0,0]` loads to the value whose
   serialization is `[0,0,0,1,0,0,0]`).  True: `es` is `ser b ++ rest` up to the three option prefixes
   (`LoadWF.bitVectorRaw`, same length; with the true sizes as prefixes it is `ser b`:
   `bit_vector_file_canonical_form`), and (ii) holds for files shorter than 2^64 elements;
 * `sparseC`, `wmCoreC`, `wmC`: the loader *adds* the support structures the file lacks (`enable_select`,
   `enable_select_zero`; all three for every level of a core), so (i) is false also in length
   (`sparse_load_not_exact_and_reload_can_fail_in_model`: a 12-element file whose value serializes to 38
   elements).  True: `es` is the universe size / width, the raw form of the bitvector(s) `h0` **as stored**, the other parts, and the returned bitvector is
   `h0` with the supports enabled; when the file carries the supports, `es` is `ser x ++ rest` up to option
   prefixes.  (ii) holds whenever every support that had to be **built** agrees with the stored `ones` counter —
   guaranteed if the file carried the supports, or if `LoadWF.CountOk` (`ones` = number of set bits, `len < 2^63`)
   holds of the stored bitvector — and is **false in the model** otherwise (same theorem, and
   `wavelet_matrix_core_reload_can_fail_in_model`:
   `ones = 0` stored with one bit set; the model builds the select support from the set bits of `data`, one
   superblock, and `BitVector::load` then refuses it against `⌈ones/4096⌉ = 0`).
   **On such files the model is not a transcription of the code**: `SelectSupport::new` is driven by the stored
   counter (`count_ones()` / `one_iter()`), and with a counter that disagrees with the data its iterator runs off
   the words through `word_unchecked` (observed on this very file: the debug profile aborts on the
   `get_unchecked` precondition inside `SparseVector::load`; the release profile reads past the buffer and
   "loads").  Statements about files violating `CountOk` whose supports are absent are statements about the model
   only.
**Checked on load** (= the `LoadWF.…Ld` predicates): `RawVector` ⌈len/64⌉ = number of words; `IntVector`
`len * width = data.len`; `SelectSupport` `samples.len/2 = ⌈long.len/4096⌉ + ⌈short.len/64⌉`; `BitVector` `ones ≤ len`
and, for each *present* support, rank samples = ⌈len/512⌉, select superblocks = ⌈ones/4096⌉, select_zero superblocks =
⌈(len - ones)/4096⌉; `SparseVector` `low.len = high.count_ones()` (the stored counter) and `high.len = low.len +
buckets(len, low.width)`; `RLVector` `samples.len/2 = ⌈data.len/64⌉`, and the construction of the three sample
indexes must succeed (assertions of `SampleIndex::new`, `len - ones`); `WMCore` `1 ≤ width ≤ 64`, all levels of the
length of the first; `WaveletMatrix` `len` = the length of the levels.
**Trusted on load** (the representation-invariant clauses no loader checks; each with the accepting model run in the
non-vacuity section): the unused bits of the last word of a raw vector; `1 ≤ width ≤ 64` of an integer vector
(`[5,0,0,0]`: five items of width 0; `[0,100,0,0]`: width 100) — and `len * width` is exact in the model whereas the
code multiplies `usize`s (a product ≥ 2^64 is `InvalidData` in the model; in the code an overflow panic in the
debug profile and a wrapped product in release: the 32-byte file `[2^32, 2^32, 0, 0]` panics resp. "loads" — observed); the length prefix of a present `Option`; `ones` = number of set bits of `data`; the contents of a present
rank / select support (only their sizes are compared with `len`, `ones`, `len - ones`); for a sparse vector the low
width against the universe, positions sorted and below the universe; for a run-length vector that the samples are
the block starts of `data` and that `data` decodes to `ones` ones in `len` bits (the three sample indexes are
rebuilt, so they are always right); for a wavelet matrix the contents and length of `first` and the mutual
consistency of the levels.
-/
import Sds.Proofs.Codec
import Sds.Proofs.Supports
import Sds.Proofs.Mapper
import Sds.Proofs.Glue2
import Sds.Proofs.Codec2
import Sds.Proofs.LoadWF
import Sds.Proofs.SerShapes
import Sds.Proofs.GenEqLoad
import Sds.Proofs.GenEqLoad2
import Sds.Proofs.GenEqLoad3
import Sds.Proofs.GenEqLoad4
import Sds.Proofs.GenEqLoad5
import Sds.Proofs.PropsAux

namespace Sds.C06
open Sds Outcome

/-! ### integers, pairs, vectors of them -/

theorem u64_roundtrip (x : Word) (rest : Elems) :
    u64C.load (u64C.ser x ++ rest) = ok (x, rest) ∧ u64C.size x = 1 :=
  ⟨u64C_lawful.roundtrip x rest trivial, rfl⟩

theorem usize_roundtrip (n : Nat) (hn : n < 2 ^ 64) (rest : Elems) :
    usizeC.load (usizeC.ser n ++ rest) = ok (n, rest) ∧ usizeC.size n = 1 :=
  ⟨usizeC_lawful.roundtrip n rest hn, rfl⟩

theorem pair_roundtrip (p : Word × Word) (rest : Elems) :
    pairC.load (pairC.ser p ++ rest) = ok (p, rest) ∧ pairC.size p = 2 :=
  ⟨pairC_lawful.roundtrip p rest trivial, rfl⟩

/-- `Vec<u64>` (also `Vec<usize>`): length prefix + items -/
theorem vec_u64_roundtrip (a : Array Word) (ha : a.size < 2 ^ 64) (rest : Elems) :
    vecU64C.load (vecU64C.ser a ++ rest) = ok (a, rest) ∧ vecU64C.size a = a.size + 1 :=
  ⟨vecU64C_lawful.roundtrip a rest ha, vecU64C_ser_length a⟩

/-- `Vec<(u64, u64)>` -/
theorem vec_pair_roundtrip (a : Array (Word × Word)) (ha : a.size < 2 ^ 64) (rest : Elems) :
    vecPairC.load (vecPairC.ser a ++ rest) = ok (a, rest) ∧ vecPairC.size a = a.size * 2 + 1 :=
  ⟨vecPairC_lawful.roundtrip a rest ha, vecPairC_ser_length a⟩

/-! ### byte vectors and strings (zero padded to whole elements) -/

theorem bytes_roundtrip (bs : List UInt8) (hb : bs.length < 2 ^ 64) (rest : Elems) :
    bytesC.load (bytesC.ser bs ++ rest) = ok (bs, rest) ∧ bytesC.size bs = (bs.length + 7) / 8 + 1 :=
  ⟨bytesC_lawful.roundtrip bs rest hb, bytesC_ser_length bs⟩

/-- `String`: `valid` abstracts `String::from_utf8`; every `String` value is valid UTF-8 -/
theorem string_roundtrip (valid : List UInt8 → Bool) (bs : List UInt8) (hb : bs.length < 2 ^ 64)
    (hv : valid bs = true) (rest : Elems) :
    (stringC valid).load ((stringC valid).ser bs ++ rest) = ok (bs, rest) ∧
    (stringC valid).size bs = (bs.length + 7) / 8 + 1 :=
  ⟨(stringC_lawful valid).roundtrip bs rest ⟨hb, hv⟩, bytesC_ser_length bs⟩

/-! ### `Option<T>` for every `T` whose codec obeys the law -/

/-- an absent value takes one element; a present one its own size plus the length prefix -/
theorem option_roundtrip {α} (c : Codec α) (W : α → Prop) (hc : Lawful c W) (o : Option α)
    (ho : match o with
      | none => True
      | some x => W x ∧ 0 < (c.ser x).length ∧ (c.ser x).length < 2 ^ 64) (rest : Elems) :
    (optionC c).load ((optionC c).ser o ++ rest) = ok (o, rest) ∧
    (optionC c).size o = (match o with | none => 1 | some x => c.size x + 1) := by
  refine ⟨(optionC_lawful hc).roundtrip o rest ho, ?_⟩
  cases o <;> simp [Codec.size, optionC]

/-! ### raw and integer vectors -/

/-- `RawVector`: header (`len`, word count) + ⌈len/64⌉ words -/
theorem raw_vector_roundtrip (v : RawVec) (hv : v.WF) (hlen : v.len < 2 ^ 64) (rest : Elems) :
    rawVecC.load (rawVecC.ser v ++ rest) = ok (v, rest) ∧ rawVecC.size v = (v.len + 63) / 64 + 2 := by
  refine ⟨rawVecC_lawful.roundtrip v rest ⟨hv, hlen⟩, ?_⟩
  show (rawVecC.ser v).length = _
  rw [rawVecC_ser_length, hv.size_eq]

/-- `IntVector`: `len`, `width`, then the raw vector of `len * width` bits -/
theorem int_vector_roundtrip (v : IntVec) (hv : v.WF) (hlen : v.len < 2 ^ 64) (hw : v.width < 2 ^ 64)
    (hbits : v.data.len < 2 ^ 64) (rest : Elems) :
    intVecC.load (intVecC.ser v ++ rest) = ok (v, rest) ∧
    intVecC.size v = (v.len * v.width + 63) / 64 + 4 := by
  refine ⟨intVecC_lawful.roundtrip v rest ⟨hv, hlen, hw, hbits⟩, ?_⟩
  show (intVecC.ser v).length = _
  rw [intVecC_ser_length, hv.2.2.2.size_eq, hv.2.2.1]

/-! ### support structures and the plain bitvector -/

theorem rank_support_roundtrip (s : RankSup) (hs : s.samples.size < 2 ^ 64) (rest : Elems) :
    rankSupC.load (rankSupC.ser s ++ rest) = ok (s, rest) ∧ rankSupC.size s = 1 + 2 * s.samples.size :=
  ⟨rankSupC_lawful.roundtrip s rest hs, SupportProofs.rankSupC_ser_length s⟩

theorem select_support_roundtrip (s : SelSup) (hs : selSupWF s) (rest : Elems) :
    selSupC.load (selSupC.ser s ++ rest) = ok (s, rest) ∧
    selSupC.size s = (4 + s.samples.data.data.size) + (4 + s.long.data.data.size) +
      (4 + s.short.data.data.size) :=
  ⟨selSupC_lawful.roundtrip s rest hs, SupportProofs.selSupC_ser_length s⟩

/-- `BitVector` with **any** subset of the three supports present (`bitVectorWF` covers the 8 combinations at
once: it constrains a support only when it is present); the size is the `ones` counter plus the parts -/
theorem bit_vector_roundtrip (b : BitVector) (hb : bitVectorWF b) (rest : Elems) :
    bitVectorC.load (bitVectorC.ser b ++ rest) = ok (b, rest) ∧
    bitVectorC.size b = 1 + rawVecC.size b.data + (optionC rankSupC).size b.rank +
      (optionC selSupC).size b.select + (optionC selSupC).size b.selectZero := by
  refine ⟨bitVectorC_lawful.roundtrip b rest hb, ?_⟩
  simp only [Codec.size, bitVectorC, List.length_cons, List.length_append]
  omega

/-- … in particular every bitvector the API builds — `BitVector::from(raw)` followed by any subset of
`enable_rank` / `enable_select` / `enable_select_zero` — round-trips, with the subset intact -/
theorem built_bit_vector_roundtrip (v : RawVec) (hv : v.WF) (hlen : v.len < 2 ^ 62) (r s z : Bool)
    (rest : Elems) :
    bitVectorWF (SupportProofs.enableSome r s z (BitVector.ofRaw v)) ∧
    bitVectorC.load (bitVectorC.ser (SupportProofs.enableSome r s z (BitVector.ofRaw v)) ++ rest) =
      ok (SupportProofs.enableSome r s z (BitVector.ofRaw v), rest) :=
  ⟨SupportProofs.ofRaw_enableSome_wf hv hlen r s z, SupportProofs.ofRaw_enableSome_roundtrip hv hlen r s z rest⟩

/-- whatever `load` returns on a serialization is the original, so it answers every query as the original -/
theorem loaded_bit_vector_answers_as_original (b : BitVector) (hb : bitVectorWF b) (rest : Elems)
    (b' : BitVector) (rest' : Elems) (h : bitVectorC.load (bitVectorC.ser b ++ rest) = ok (b', rest')) :
    b' = b ∧ rest' = rest ∧
    (∀ i, b'.get i = b.get i) ∧ (∀ i, b'.rankQ i = b.rankQ i) ∧
    (∀ (m : Mode) i, b'.rankZeroQ m i = b.rankZeroQ m i) ∧
    (∀ (m : Mode) k, b'.selectQ m k = b.selectQ m k) ∧
    (∀ (m : Mode) k, b'.selectZeroQ m k = b.selectZeroQ m k) := by
  rw [bitVectorC_lawful.roundtrip b rest hb] at h
  cases h
  exact ⟨rfl, rfl, fun _ => rfl, fun _ => rfl, fun _ _ => rfl, fun _ _ => rfl, fun _ _ => rfl⟩

/-! ### bytes: exactly `8 × size_in_elements` are written and consumed; back-to-back structures -/

/-- every codec above obeys the law used by the generic statements below -/
theorem all_codecs_lawful (valid : List UInt8 → Bool) :
    Lawful u64C (fun _ => True) ∧ Lawful usizeC (fun n => n < 2 ^ 64) ∧ Lawful pairC (fun _ => True) ∧
    Lawful vecU64C (fun a => a.size < 2 ^ 64) ∧ Lawful vecPairC (fun a => a.size < 2 ^ 64) ∧
    Lawful bytesC (fun bs => bs.length < 2 ^ 64) ∧
    Lawful (stringC valid) (fun bs => bs.length < 2 ^ 64 ∧ valid bs = true) ∧
    Lawful rawVecC (fun v => v.WF ∧ v.len < 2 ^ 64) ∧
    Lawful intVecC (fun v => v.WF ∧ v.len < 2 ^ 64 ∧ v.width < 2 ^ 64 ∧ v.data.len < 2 ^ 64) ∧
    Lawful rankSupC (fun s => s.samples.size < 2 ^ 64) ∧ Lawful selSupC selSupWF ∧
    Lawful bitVectorC bitVectorWF :=
  ⟨u64C_lawful, usizeC_lawful, pairC_lawful, vecU64C_lawful, vecPairC_lawful, bytesC_lawful,
    stringC_lawful valid, rawVecC_lawful, intVecC_lawful, rankSupC_lawful, selSupC_lawful, bitVectorC_lawful⟩

/-- **bytes written = `8 * size_in_elements` = `size_in_bytes`**, for every codec and every value -/
theorem bytes_written_exact {α} (c : Codec α) (x : α) :
    (toBytes (c.ser x)).length = 8 * c.size x :=
  length_toBytes (c.ser x)

/-- **byte-level round trip**: the bytes of a serialization followed by the bytes of anything load back to the
value and leave exactly what followed — so exactly `8 * size_in_elements(x)` bytes are consumed -/
theorem bytes_roundtrip_exact {α} (c : Codec α) (W : α → Prop) (hc : Lawful c W) (x : α) (hx : W x)
    (rest : Elems) :
    c.load (ofBytes (toBytes (c.ser x) ++ toBytes rest)) = ok (x, rest) ∧
    (toBytes (c.ser x) ++ toBytes rest).length = 8 * c.size x + 8 * rest.length := by
  refine ⟨by rw [← toBytes_append]; exact roundtrip_bytes hc x hx rest, ?_⟩
  rw [List.length_append, length_toBytes, length_toBytes]; rfl

/-- **structures written back to back load back in sequence**: the first load leaves exactly the
serialization of the second (and what follows), and loading both returns both values and the rest -/
theorem back_to_back {α β} (c1 : Codec α) (c2 : Codec β) (W1 : α → Prop) (W2 : β → Prop)
    (h1 : Lawful c1 W1) (h2 : Lawful c2 W2) (x : α) (y : β) (rest : Elems) (hx : W1 x) (hy : W2 y) :
    c1.load (c1.ser x ++ c2.ser y ++ rest) = ok (x, c2.ser y ++ rest) ∧
    (do let (a, r1) ← c1.load (c1.ser x ++ c2.ser y ++ rest)
        let (b, r2) ← c2.load r1
        pure ((a, b), r2)) = ok ((x, y), rest) :=
  ⟨load_concat h1 c2 x y rest hx, load_concat_seq h1 h2 x y rest hx hy⟩

/-- … and any number of them: two lawful codecs in sequence form a lawful codec (of the pair), so the
statement extends to every finite sequence of structures in one stream by iteration -/
theorem sequence_of_lawful_is_lawful {α β} (c1 : Codec α) (c2 : Codec β) (W1 : α → Prop) (W2 : β → Prop)
    (h1 : Lawful c1 W1) (h2 : Lawful c2 W2) :
    Lawful (seqC c1 c2) (fun p => W1 p.1 ∧ W2 p.2) ∧
    (∀ p, (seqC c1 c2).size p = c1.size p.1 + c2.size p.2) :=
  ⟨seqC_lawful h1 h2, seqC_size c1 c2⟩

/-! ### composite structures: sparse vector, run-length vector, wavelet-matrix core, wavelet matrix

First for **every value satisfying the serialization invariant** of its type (`Codec2.sparseWF`,
`Codec2.wmCoreWF`, `Codec2.wmWF`, `Codec2.rlWF m` / `Codec2.rlWFg m`; see the header), then for everything the
builders build.  Each `…_roundtrip_wf` theorem gives: the element-level round trip with arbitrary trailing data,
the byte-level round trip (exactly `8 * size` bytes written, exactly those consumed: what is left is `rest`), and
`size_in_elements` as the sum of the sizes of the parts. -/

/-- the four composite codecs obey the codec law on their invariants, so every generic statement above
(`bytes_roundtrip_exact`, `back_to_back`, `sequence_of_lawful_is_lawful`, `option_roundtrip`) applies to them,
in any order and mixed with the other types; `rlWF m → rlWFg m` (`Codec2.rlWF.general`) -/
theorem composite_codecs_lawful (m : Mode) :
    Lawful sparseC Codec2.sparseWF ∧ Lawful wmCoreC Codec2.wmCoreWF ∧ Lawful wmC Codec2.wmWF ∧
    Lawful (rlC m) (Codec2.rlWF m) ∧ Lawful (rlC m) (Codec2.rlWFg m) ∧
    (∀ v, Codec2.rlWF m v → Codec2.rlWFg m v) :=
  ⟨Codec2.sparseC_lawful, Codec2.wmCoreC_lawful, Codec2.wmC_lawful, Codec2.rlC_lawful m, Codec2.rlC_lawful_g m,
    fun _ h => h.general⟩

/-- `SparseVector`, every value satisfying `sparseWF` -/
theorem sparse_vector_roundtrip_wf (s : Sparse) (hs : Codec2.sparseWF s) (rest : Elems) :
    sparseC.load (sparseC.ser s ++ rest) = ok (s, rest) ∧
    sparseC.load (ofBytes (toBytes (sparseC.ser s) ++ toBytes rest)) = ok (s, rest) ∧
    (toBytes (sparseC.ser s) ++ toBytes rest).length = 8 * sparseC.size s + 8 * rest.length ∧
    sparseC.size s = 1 + bitVectorC.size s.high + intVecC.size s.low :=
  have h := bytes_roundtrip_exact sparseC _ Codec2.sparseC_lawful s hs rest
  ⟨Codec2.sparseC_lawful.roundtrip s rest hs, h.1, h.2, Codec2.sparseC_size s⟩

/-- `WMCore`, every value satisfying `wmCoreWF` -/
theorem wavelet_matrix_core_roundtrip_wf (c : WMCore) (hc : Codec2.wmCoreWF c) (rest : Elems) :
    wmCoreC.load (wmCoreC.ser c ++ rest) = ok (c, rest) ∧
    wmCoreC.load (ofBytes (toBytes (wmCoreC.ser c) ++ toBytes rest)) = ok (c, rest) ∧
    (toBytes (wmCoreC.ser c) ++ toBytes rest).length = 8 * wmCoreC.size c + 8 * rest.length ∧
    wmCoreC.size c = 1 + (c.levels.toList.map bitVectorC.size).sum :=
  have h := bytes_roundtrip_exact wmCoreC _ Codec2.wmCoreC_lawful c hc rest
  ⟨Codec2.wmCoreC_lawful.roundtrip c rest hc, h.1, h.2, Codec2.wmCoreC_size c⟩

/-- `WaveletMatrix`, every value satisfying `wmWF` -/
theorem wavelet_matrix_roundtrip_wf (w : WM) (hw : Codec2.wmWF w) (rest : Elems) :
    wmC.load (wmC.ser w ++ rest) = ok (w, rest) ∧
    wmC.load (ofBytes (toBytes (wmC.ser w) ++ toBytes rest)) = ok (w, rest) ∧
    (toBytes (wmC.ser w) ++ toBytes rest).length = 8 * wmC.size w + 8 * rest.length ∧
    wmC.size w = 1 + wmCoreC.size w.data + intVecC.size w.first :=
  have h := bytes_roundtrip_exact wmC _ Codec2.wmC_lawful w hw rest
  ⟨Codec2.wmC_lawful.roundtrip w rest hw, h.1, h.2, Codec2.wmC_size w⟩

/-- `RLVector`, both modes, every value satisfying `rlWFg m` (hence every value satisfying `rlWF m`): the three
sample indexes are not stored, `load` rebuilds them, and the loaded value is **equal** to the original, indexes
included.  Size: two counters, two integer vectors = 10 elements + the words of both. -/
theorem run_length_vector_roundtrip_wf (m : Mode) (v : RL) (hv : Codec2.rlWFg m v) (rest : Elems) :
    (rlC m).load ((rlC m).ser v ++ rest) = ok (v, rest) ∧
    (rlC m).load (ofBytes (toBytes ((rlC m).ser v) ++ toBytes rest)) = ok (v, rest) ∧
    (toBytes ((rlC m).ser v) ++ toBytes rest).length = 8 * (rlC m).size v + 8 * rest.length ∧
    (rlC m).size v = 2 + intVecC.size v.samples + intVecC.size v.data ∧
    (rlC m).size v = 10 + v.samples.data.data.size + v.data.data.data.size :=
  have h := bytes_roundtrip_exact (rlC m) _ (Codec2.rlC_lawful_g m) v hv rest
  ⟨(Codec2.rlC_lawful_g m).roundtrip v rest hv, h.1, h.2, Codec2.rlC_size m v, Codec2.rlC_size_words m v⟩

/-- for the run-length vector the invariant is also **necessary**: a vector whose counters and integer vectors
are serializable round-trips (with some continuation) only if it satisfies `rlWFg m` -/
theorem run_length_vector_invariant_necessary (m : Mode) (v : RL) (r : Elems) (hs : intVecWF v.samples)
    (hd : intVecWF v.data) (hlen : v.len < 2 ^ 64) (hones : v.ones < 2 ^ 64)
    (h : (rlC m).load ((rlC m).ser v ++ r) = ok (v, r)) : Codec2.rlWFg m v :=
  Codec2.rlWFg_of_roundtrip m hs hd hlen hones h

/-- what the loaders return, on **any** input they accept, has the derived parts the invariants ask for: a
loaded sparse vector has its select supports enabled and passes the two consistency checks (clauses 1, 4, 5 of
`sparseWF`); every level of a loaded wavelet-matrix core carries all three supports (the `enableAll` clause of
`wmCoreWF`) -/
theorem loaded_composites_have_shape :
    (∀ (es r : Elems) (s : Sparse), sparseC.load es = ok (s, r) →
      s.high.enableSelect.enableSelectZero = s.high ∧ s.low.len = s.high.countOnes ∧
      s.high.len = s.low.len + Sparse.getBuckets s.len s.low.width) ∧
    (∀ (es r : Elems) (c : WMCore), wmCoreC.load es = ok (c, r) →
      ∀ b, b ∈ c.levels.toList → b.enableAll = b) :=
  ⟨fun _ _ _ h => Codec2.sparseC_load_shape h, fun _ _ _ h => Codec2.wmCoreC_load_shape h⟩

/-- **back to back**: a sparse vector, a run-length vector and a wavelet matrix in one stream — the first load
leaves exactly the serializations of the other two (and what follows), and loading the three in sequence returns
the three values and the rest (any other order / selection: `back_to_back` with `composite_codecs_lawful`) -/
theorem composite_back_to_back (m : Mode) (s : Sparse) (v : RL) (w : WM) (rest : Elems)
    (hs : Codec2.sparseWF s) (hv : Codec2.rlWF m v) (hw : Codec2.wmWF w) :
    sparseC.load (sparseC.ser s ++ (rlC m).ser v ++ wmC.ser w ++ rest) =
      ok (s, (rlC m).ser v ++ wmC.ser w ++ rest) ∧
    (do let (a, r1) ← sparseC.load (sparseC.ser s ++ (rlC m).ser v ++ wmC.ser w ++ rest)
        let (b, r2) ← (rlC m).load r1
        let (c, r3) ← wmC.load r2
        pure ((a, b, c), r3)) = ok ((s, v, w), rest) :=
  ⟨Codec2.composite_load_concat m s v w rest hs, Codec2.composite_load_seq m s v w rest hs hv hw⟩

/-- … and the three as one record form a lawful codec whose size is the sum of the three sizes -/
theorem composite_sequence_lawful (m : Mode) :
    Lawful (seqC sparseC (seqC (rlC m) wmC))
      (fun p => Codec2.sparseWF p.1 ∧ Codec2.rlWF m p.2.1 ∧ Codec2.wmWF p.2.2) ∧
    (∀ p, (seqC sparseC (seqC (rlC m) wmC)).size p =
      sparseC.size p.1 + ((rlC m).size p.2.1 + wmC.size p.2.2)) :=
  ⟨Codec2.composite_lawful m, fun p => by rw [seqC_size, seqC_size]⟩

/-! #### everything the builders build

The builder outputs satisfy the invariants under the side condition that the parts fit a `usize`-addressed file
(their length fields are `usize`): `hhigh`, `hlow` for the sparse vector, `hfirst` for the `first` array of the
wavelet matrix (`max V < 2^58`), `hsize` for the two integer vectors of the run-length vector. -/

/-- `SparseVector` (set or multiset mode, every admissible low width) -/
theorem sparse_vector_roundtrip (w n : Nat) (multi : Bool) (P : List Nat) (hw1 : 1 ≤ w)
    (hw : w ≤ 63) (hn : n < 2 ^ 64) (hm : P.length < 2 ^ 63)
    (hsorted : if multi then sortedLe P = true else sortedStrict P = true) (hbound : ∀ p ∈ P, p < n)
    (hhigh : P.length + Sparse.getBuckets n w < 2 ^ 63) (hlow : P.length * w < 2 ^ 64) :
    ∃ s, Sparse.ofValues w n multi P = ok s ∧
      (∀ rest, sparseC.load (sparseC.ser s ++ rest) = ok (s, rest)) ∧
      sparseC.size s = 1 + bitVectorC.size s.high + intVecC.size s.low ∧
      Codec2.sparseWF s := by
  obtain ⟨s, h1, _, hwf⟩ := Codec2.ofValues_sparseWF w n multi P hw1 hw hn hm hsorted hbound hhigh hlow
  exact ⟨s, h1, fun rest => Codec2.sparseC_lawful.roundtrip s rest hwf, Codec2.sparseC_size s, hwf⟩

/-- `WMCore` -/
theorem wavelet_matrix_core_roundtrip (V : List Nat) (hlen : V.length < 2 ^ 63) (rest : Elems) :
    wmCoreC.load (wmCoreC.ser (WMCore.ofValues V) ++ rest) = ok (WMCore.ofValues V, rest) ∧
    wmCoreC.size (WMCore.ofValues V) =
      1 + ((WMCore.ofValues V).levels.toList.map bitVectorC.size).sum ∧
    Codec2.wmCoreWF (WMCore.ofValues V) :=
  have hwf := Codec2.ofValues_wmCoreWF V hlen
  ⟨Codec2.wmCoreC_lawful.roundtrip _ rest hwf, Codec2.wmCoreC_size _, hwf⟩

/-- `WaveletMatrix` -/
theorem wavelet_matrix_roundtrip (V : List Nat) (hV : ∀ v, v ∈ V → v < 2 ^ 64) (hlen : V.length < 2 ^ 63)
    (hfirst : (V.foldl max 0 + 1) * 64 < 2 ^ 64) (rest : Elems) :
    wmC.load (wmC.ser (WM.ofValues V) ++ rest) = ok (WM.ofValues V, rest) ∧
    wmC.size (WM.ofValues V) =
      1 + wmCoreC.size (WM.ofValues V).data + intVecC.size (WM.ofValues V).first ∧
    Codec2.wmWF (WM.ofValues V) :=
  have hwf := Codec2.ofValues_wmWF V hV hlen hfirst
  ⟨Codec2.wmC_lawful.roundtrip _ rest hwf, Codec2.wmC_size _, hwf⟩

/-- `RLVector`, both modes: the vector converted (`From<RLBuilder>`) from the builder reached by **any accepted
history** of `try_set` / `set_len` / `set_bit` calls on an empty builder (`callArgsOk`: arguments are `usize`s) -/
theorem run_length_vector_roundtrip (m : Mode) (calls : List RL.BCall) (hc : ∀ c ∈ calls, RL.callArgsOk c)
    (b : RLBuilder) (hb : RL.runBCalls m calls {} = ok b) (v : RL) (hv : RL.ofBuilder m b = ok v)
    (hsize : 128 * v.samples.len < 2 ^ 64) (rest : Elems) :
    (rlC m).load ((rlC m).ser v ++ rest) = ok (v, rest) ∧
    (rlC m).size v = 10 + v.samples.data.data.size + v.data.data.data.size ∧
    Codec2.rlWF m v :=
  have hwf := Codec2.build_rlWF m calls hc b hb v hv hsize
  ⟨(Codec2.rlC_lawful m).roundtrip v rest hwf, Codec2.rlC_size_words m v, hwf⟩

/-- `hsize` stated on the builder: each block takes 256 data bits and two samples, the final `flush` adds at
most one block -/
theorem run_length_vector_size_condition (m : Mode) (b : RLBuilder) (v : RL) (hv : RL.ofBuilder m b = ok v)
    (hsize : 256 * (b.samples.size + 1) < 2 ^ 64) : 128 * v.samples.len < 2 ^ 64 :=
  Codec2.ofBuilder_size m hv hsize

/-- the four composite types together:
**every** value satisfying the invariant of its type, any continuation, both modes for the run-length vector -/
theorem composite_structures_roundtrip (m : Mode) (s : Sparse) (c : WMCore) (w : WM) (v : RL)
    (hs : Codec2.sparseWF s) (hc : Codec2.wmCoreWF c) (hw : Codec2.wmWF w) (hv : Codec2.rlWF m v)
    (rest : Elems) :
    sparseC.load (sparseC.ser s ++ rest) = ok (s, rest) ∧
    wmCoreC.load (wmCoreC.ser c ++ rest) = ok (c, rest) ∧
    wmC.load (wmC.ser w ++ rest) = ok (w, rest) ∧
    (rlC m).load ((rlC m).ser v ++ rest) = ok (v, rest) :=
  ⟨Codec2.sparseC_lawful.roundtrip s rest hs, Codec2.wmCoreC_lawful.roundtrip c rest hc,
    Codec2.wmC_lawful.roundtrip w rest hw, (Codec2.rlC_lawful m).roundtrip v rest hv⟩

/-- … and for the builder outputs, under the hypotheses of the four builder-level theorems -/
theorem built_composite_structures_roundtrip (m : Mode) (w n : Nat) (multi : Bool) (P : List Nat)
    (hw1 : 1 ≤ w) (hw : w ≤ 63) (hn : n < 2 ^ 64) (hm : P.length < 2 ^ 63)
    (hsorted : if multi then sortedLe P = true else sortedStrict P = true) (hbound : ∀ p ∈ P, p < n)
    (hhigh : P.length + Sparse.getBuckets n w < 2 ^ 63) (hlow : P.length * w < 2 ^ 64)
    (V : List Nat) (hV : ∀ v, v ∈ V → v < 2 ^ 64) (hlen : V.length < 2 ^ 63)
    (hfirst : (V.foldl max 0 + 1) * 64 < 2 ^ 64)
    (calls : List RL.BCall) (hc : ∀ c ∈ calls, RL.callArgsOk c)
    (b : RLBuilder) (hb : RL.runBCalls m calls {} = ok b) (v : RL) (hv : RL.ofBuilder m b = ok v)
    (hsize : 128 * v.samples.len < 2 ^ 64) (rest : Elems) :
    (∃ s, Sparse.ofValues w n multi P = ok s ∧ sparseC.load (sparseC.ser s ++ rest) = ok (s, rest)) ∧
    wmCoreC.load (wmCoreC.ser (WMCore.ofValues V) ++ rest) = ok (WMCore.ofValues V, rest) ∧
    wmC.load (wmC.ser (WM.ofValues V) ++ rest) = ok (WM.ofValues V, rest) ∧
    (rlC m).load ((rlC m).ser v ++ rest) = ok (v, rest) := by
  obtain ⟨s, h1, h2, _⟩ := sparse_vector_roundtrip w n multi P hw1 hw hn hm hsorted hbound hhigh hlow
  exact ⟨⟨s, h1, h2 rest⟩, (wavelet_matrix_core_roundtrip V hlen rest).1,
    (wavelet_matrix_roundtrip V hV hlen hfirst rest).1,
    (run_length_vector_roundtrip m calls hc b hb v hv hsize rest).1⟩

/-! ### what the loaders return on an arbitrary accepted file

`c.load es = ok (x, rest)` for **any** element list `es` — not a serialization of anything known.  See the header
for the summary; `LoadWF.…Ld` are the checks of the loaders. -/

/-- the loader checks are implied by the serialization invariants (the converse fails: see the examples) -/
theorem load_checks_weaker_than_invariants (m : Mode) :
    (∀ v, rawVecWF v → LoadWF.rawVecLd v) ∧ (∀ v, intVecWF v → LoadWF.intVecLd v) ∧
    (∀ s, selSupWF s → LoadWF.selSupLd s) ∧ (∀ b, bitVectorWF b → LoadWF.bitVectorLd b) ∧
    (∀ s, Codec2.sparseWF s → LoadWF.sparseLd s) ∧ (∀ c, Codec2.wmCoreWF c → LoadWF.wmCoreLd c) ∧
    (∀ w, Codec2.wmWF w → LoadWF.wmLd w) ∧ (∀ v, Codec2.rlWFg m v → LoadWF.rlLd m v) :=
  ⟨fun _ => LoadWF.rawVecLd_of_wf, fun _ => LoadWF.intVecLd_of_wf, fun _ => LoadWF.selSupLd_of_wf,
    fun _ => LoadWF.bitVectorLd_of_wf, fun _ => LoadWF.sparseLd_of_wf, fun _ => LoadWF.wmCoreLd_of_wf,
    fun _ => LoadWF.wmLd_of_wf, fun _ => LoadWF.rlLd_of_wfg⟩

/-- **the checks of the loaders suffice for the codec law** (round trip with any continuation; every strict
prefix refused with `eof`): `bytes_roundtrip_exact`, `back_to_back`, `sequence_of_lawful_is_lawful`,
`option_roundtrip` and the truncation theorems of C14 apply to every value passing them -/
theorem loaded_values_obey_codec_law (m : Mode) :
    LawfulP IsEof rawVecC LoadWF.rawVecLd ∧ LawfulP IsEof intVecC LoadWF.intVecLd ∧
    LawfulP IsEof rankSupC rankSupWF ∧ LawfulP IsEof selSupC LoadWF.selSupLd ∧
    LawfulP IsEof bitVectorC LoadWF.bitVectorLd ∧ LawfulP IsEof sparseC LoadWF.sparseLd ∧
    LawfulP IsEof wmCoreC LoadWF.wmCoreLd ∧ LawfulP IsEof wmC LoadWF.wmLd ∧
    LawfulP IsEof (rlC m) (LoadWF.rlLd m) :=
  ⟨LoadWF.rawVecC_lawful_ld, LoadWF.intVecC_lawful_ld, rankSupC_lawfulEof, LoadWF.selSupC_lawful_ld,
    LoadWF.bitVectorC_lawful_ld, LoadWF.sparseC_lawful_ld, LoadWF.wmCoreC_lawful_ld, LoadWF.wmC_lawful_ld,
    LoadWF.rlC_lawful_ld m⟩

/-- `RawVector`: (i), (ii) and the checks, for every accepted file -/
theorem loaded_value_reserializes_raw_vector (es rest : Elems) (v : RawVec)
    (h : rawVecC.load es = ok (v, rest)) :
    es = rawVecC.ser v ++ rest ∧ (∀ rest', rawVecC.load (rawVecC.ser v ++ rest') = ok (v, rest')) ∧
    LoadWF.rawVecLd v :=
  have ⟨e, l⟩ := LoadWF.rawVecC_load_inv h
  ⟨e, fun r => (LoadWF.rawVecC_lawful_ld.loads v l).1 r, l⟩

/-- `IntVector` -/
theorem loaded_value_reserializes_int_vector (es rest : Elems) (v : IntVec)
    (h : intVecC.load es = ok (v, rest)) :
    es = intVecC.ser v ++ rest ∧ (∀ rest', intVecC.load (intVecC.ser v ++ rest') = ok (v, rest')) ∧
    LoadWF.intVecLd v :=
  have ⟨e, l⟩ := LoadWF.intVecC_load_inv h
  ⟨e, fun r => (LoadWF.intVecC_lawful_ld.loads v l).1 r, l⟩

/-- `RankSupport` and `SelectSupport` (as stand-alone structures) -/
theorem loaded_value_reserializes_supports (es rest : Elems) :
    (∀ s, rankSupC.load es = ok (s, rest) →
      es = rankSupC.ser s ++ rest ∧ (∀ rest', rankSupC.load (rankSupC.ser s ++ rest') = ok (s, rest'))) ∧
    (∀ s, selSupC.load es = ok (s, rest) →
      es = selSupC.ser s ++ rest ∧ (∀ rest', selSupC.load (selSupC.ser s ++ rest') = ok (s, rest')) ∧
      LoadWF.selSupLd s) :=
  ⟨fun s h => have ⟨e, l⟩ := LoadWF.rankSupC_load_inv h; ⟨e, fun r => (rankSupC_lawfulEof.loads s l).1 r⟩,
   fun s h => have ⟨e, l⟩ := LoadWF.selSupC_load_inv h
     ⟨e, fun r => (LoadWF.selSupC_lawful_ld.loads s l).1 r, l⟩⟩

/-- `RLVector`, both modes: (i) and (ii) hold exactly — the sample indexes are not stored, and reloading rebuilds
the same ones from the same stored samples -/
theorem loaded_value_reserializes_run_length_vector (m : Mode) (es rest : Elems) (v : RL)
    (h : (rlC m).load es = ok (v, rest)) :
    es = (rlC m).ser v ++ rest ∧ (∀ rest', (rlC m).load ((rlC m).ser v ++ rest') = ok (v, rest')) ∧
    LoadWF.rlLd m v :=
  have ⟨e, l⟩ := LoadWF.rlC_load_inv m h
  ⟨e, fun r => ((LoadWF.rlC_lawful_ld m).loads v l).1 r, l⟩

/-- for the exact codecs the checks characterise the loadable values: `…Ld x` iff some file loads to `x` -/
theorem loadable_values_characterised (m : Mode) :
    (∀ v, LoadWF.rawVecLd v ↔ ∃ es r, rawVecC.load es = ok (v, r)) ∧
    (∀ v, LoadWF.intVecLd v ↔ ∃ es r, intVecC.load es = ok (v, r)) ∧
    (∀ s, LoadWF.selSupLd s ↔ ∃ es r, selSupC.load es = ok (s, r)) ∧
    (∀ v, LoadWF.rlLd m v ↔ ∃ es r, (rlC m).load es = ok (v, r)) :=
  ⟨fun v => ⟨fun l => ⟨_, [], (LoadWF.rawVecC_lawful_ld.loads v l).1 []⟩,
      fun ⟨_, _, h⟩ => (LoadWF.rawVecC_load_inv h).2⟩,
   fun v => ⟨fun l => ⟨_, [], (LoadWF.intVecC_lawful_ld.loads v l).1 []⟩,
      fun ⟨_, _, h⟩ => (LoadWF.intVecC_load_inv h).2⟩,
   fun s => ⟨fun l => ⟨_, [], (LoadWF.selSupC_lawful_ld.loads s l).1 []⟩,
      fun ⟨_, _, h⟩ => (LoadWF.selSupC_load_inv h).2⟩,
   fun v => ⟨fun l => ⟨_, [], ((LoadWF.rlC_lawful_ld m).loads v l).1 []⟩,
      fun ⟨_, _, h⟩ => (LoadWF.rlC_load_inv m h).2⟩⟩

/-- `BitVector` with any supports: the file is the serialization of the returned value **up to the length
prefixes of the three options** (`n1 n2 n3`, arbitrary non-zero words for present supports — `Option<T>::load`
does not compare them with anything); it has the length of the serialization, and for a file shorter than 2^64
elements the value passes all checks again, so (ii) holds -/
theorem loaded_value_reserializes_bit_vector (es rest : Elems) (b : BitVector)
    (h : bitVectorC.load es = ok (b, rest)) (hl : es.length < 2 ^ 64) :
    (∃ n1 n2 n3 : Word, es = LoadWF.bitVectorRaw b n1 n2 n3 ++ rest) ∧
    es.length = bitVectorC.size b + rest.length ∧
    (∀ rest', bitVectorC.load (bitVectorC.ser b ++ rest') = ok (b, rest')) ∧ LoadWF.bitVectorLd b := by
  obtain ⟨n1, n2, n3, e, l⟩ := LoadWF.bitVectorC_load_inv h
  have hlen : es.length = bitVectorC.size b + rest.length := by
    rw [e, List.length_append, LoadWF.bitVectorRaw_length]; rfl
  have hld := l (by unfold Codec.size at hlen; omega)
  exact ⟨⟨n1, n2, n3, e⟩, hlen, fun r => (LoadWF.bitVectorC_lawful_ld.loads b hld).1 r, hld⟩

/-- … with the true sizes as prefixes the raw form **is** the serialization -/
theorem bit_vector_file_canonical_form (b : BitVector) :
    LoadWF.bitVectorRaw b (LoadWF.optLen rankSupC b.rank) (LoadWF.optLen selSupC b.select)
      (LoadWF.optLen selSupC b.selectZero) = bitVectorC.ser b :=
  LoadWF.bitVectorRaw_canon b

/-- (i) is false for `bitVectorC`: a present rank support (of an empty vector) announced as 5 elements long is
accepted; the value serializes with the true size 1 -/
theorem bit_vector_load_not_exact :
    bitVectorC.load [0, 0, 0, 5, 0, 0, 0] = ok (⟨0, ⟨0, #[]⟩, some ⟨#[]⟩, none, none⟩, []) ∧
    bitVectorC.ser ⟨0, ⟨0, #[]⟩, some ⟨#[]⟩, none, none⟩ = [0, 0, 0, 1, 0, 0, 0] := by decide

/-- `SparseVector`, files shorter than 2^64 elements: what was read is the universe size, a bitvector `h0` in raw
form, the low parts; the returned `high` is `h0` with both select supports enabled.  If every support that had to
be built agrees with the stored counter (`CountOk h0`, needed only when a support is absent from the file) the value
passes all checks again and (ii) holds.  If the file carried both supports, `high = h0` and the file has the length
of the serialization (it is the serialization up to the option prefixes). -/
theorem loaded_value_reserializes_sparse_vector (es rest : Elems) (s : Sparse)
    (h : sparseC.load es = ok (s, rest)) (hl : es.length < 2 ^ 64) :
    ∃ (h0 : BitVector) (n1 n2 n3 : Word),
      es = BitVec.ofNat 64 s.len :: (LoadWF.bitVectorRaw h0 n1 n2 n3 ++ intVecC.ser s.low) ++ rest ∧
      s.high = h0.enableSelect.enableSelectZero ∧ LoadWF.bitVectorLd h0 ∧
      (((h0.select = none ∨ h0.selectZero = none) → LoadWF.CountOk h0) →
        LoadWF.sparseLd s ∧ ∀ rest', sparseC.load (sparseC.ser s ++ rest') = ok (s, rest')) ∧
      (h0.select.isSome → h0.selectZero.isSome →
        s.high = h0 ∧ es.length = sparseC.size s + rest.length) := by
  obtain ⟨h0, n1, n2, n3, e, hh, hld, hc⟩ := LoadWF.sparseC_loaded h hl
  refine ⟨h0, n1, n2, n3, e, hh, hld, fun c => ⟨hc c, fun r => (LoadWF.sparseC_lawful_ld.loads s (hc c)).1 r⟩,
    fun h1 h2 => ?_⟩
  have e1 : s.high = h0 := by
    rw [hh, SupportProofs.enableSelect_of_some h1, SupportProofs.enableSelectZero_of_some h2]
  refine ⟨e1, ?_⟩
  have hsz := Codec2.sparseC_size s
  rw [e1] at hsz
  rw [e]
  unfold Codec.size
  simp only [List.length_cons, List.length_append, LoadWF.bitVectorRaw_length]
  omega

/-- (i) is false for `sparseC` also in length: a 12-element file without select supports loads to a value whose
serialization has 38 elements.  And (ii) is **false in the model** when a built support disagrees with the stored
counter: here `ones = 0` is stored with one bit set, and re-loading the serialization of the returned value fails
with `InvalidData` (on this file the model is not a transcription of the code — see the header) -/
theorem sparse_load_not_exact_and_reload_can_fail_in_model :
    (do let (s, r) ← sparseC.load [2, 0, 1, 1, 1, 0, 0, 0, 0, 1, 0, 0]
        return (r, s.high.ones, s.high.data.bits.count true, (sparseC.ser s).length,
          decide (sparseC.load (sparseC.ser s) = fault (.err .invalid)))) = ok ([], 0, 1, 38, true) := by
  decide +kernel

/-- `WMCore`: the width, then `width` bitvectors `L` in raw form; the returned levels are those with all three
supports enabled; (ii) under the same agreement condition, level by level -/
theorem loaded_value_reserializes_wavelet_matrix_core (es rest : Elems) (c : WMCore)
    (h : wmCoreC.load es = ok (c, rest)) (hl : es.length < 2 ^ 64) :
    ∃ (L : List BitVector) (ns : List (Word × Word × Word)),
      es = BitVec.ofNat 64 c.width :: LoadWF.levelsRaw L ns ++ rest ∧
      c.levels.toList = L.map BitVector.enableAll ∧ L.length = c.width ∧ ns.length = c.width ∧
      (∀ b, b ∈ L → LoadWF.bitVectorLd b) ∧
      ((∀ b, b ∈ L → (b.select = none ∨ b.selectZero = none) → LoadWF.CountOk b) →
        LoadWF.wmCoreLd c ∧ ∀ rest', wmCoreC.load (wmCoreC.ser c ++ rest') = ok (c, rest')) := by
  obtain ⟨L, ns, e, hlv, hL, hns, hld, hc⟩ := LoadWF.wmCoreC_loaded h hl
  exact ⟨L, ns, e, hlv, hL, hns, hld,
    fun c' => ⟨hc c', fun r => (LoadWF.wmCoreC_lawful_ld.loads c (hc c')).1 r⟩⟩

/-- `WaveletMatrix`: the length, the core as above, the `first` array (exact) -/
theorem loaded_value_reserializes_wavelet_matrix (es rest : Elems) (w : WM)
    (h : wmC.load es = ok (w, rest)) (hl : es.length < 2 ^ 64) :
    ∃ (L : List BitVector) (ns : List (Word × Word × Word)),
      es = BitVec.ofNat 64 w.len ::
        (BitVec.ofNat 64 w.data.width :: LoadWF.levelsRaw L ns ++ intVecC.ser w.first) ++ rest ∧
      w.data.levels.toList = L.map BitVector.enableAll ∧ L.length = w.data.width ∧ ns.length = w.data.width ∧
      (∀ b, b ∈ L → LoadWF.bitVectorLd b) ∧
      ((∀ b, b ∈ L → (b.select = none ∨ b.selectZero = none) → LoadWF.CountOk b) →
        LoadWF.wmLd w ∧ ∀ rest', wmC.load (wmC.ser w ++ rest') = ok (w, rest')) := by
  obtain ⟨L, ns, e, hlv, hL, hns, hld, hc⟩ := LoadWF.wmC_loaded h hl
  exact ⟨L, ns, e, hlv, hL, hns, hld,
    fun c' => ⟨hc c', fun r => (LoadWF.wmC_lawful_ld.loads w (hc c')).1 r⟩⟩

/-- the same failure of (ii) in the model for a core: one level, `ones = 0` stored with one bit set -/
theorem wavelet_matrix_core_reload_can_fail_in_model :
    (do let (c, r) ← wmCoreC.load [1, 0, 1, 1, 1, 0, 0, 0]
        return (r, (wmCoreC.ser c).length, decide (wmCoreC.load (wmCoreC.ser c) = fault (.err .invalid)))) =
      ok ([], 37, true) := by decide +kernel

/-! **What is not proven.**  The round-trip statements of the first
sections quantify over the invariants, not over "every value of the Lean type": a `Sparse` / `WM` / `RL` record that
violates even the loader checks (e.g. an `RL` whose `rankIndex` field is not the index of its samples) is not a value
the library can hold, and does not round-trip.  For **loaded** values, by the section above:
every value a loader returns satisfies `LoadWF.…Ld` of its type (for the composite types with supports absent from
the file: provided `CountOk`), which is all the codec law needs; it does **not** satisfy the full representation
invariant in general, and no theorem says so: the clauses listed under "Trusted on load" in the header are checked
by no loader, exactly as in the Rust code (examples below).  Not proven either: anything about *queries* on a loaded
value that violates those clauses (C06 is about serialization; files that follow the format document are the
subject of C07), and nothing is claimed about the Rust code on files whose `ones` counter disagrees with the data
when supports are built on load — there the model does not follow the code (header). -/

/-! ### non-vacuity: concrete values meeting the hypotheses -/

example : (RawVec.ofBits [true, false, true]).WF ∧ (RawVec.ofBits [true, false, true]).len < 2 ^ 62 := by
  decide
example : (#[1, 2, 3] : Array Word).size < 2 ^ 64 := by decide
example : ([1, 2, 3, 4, 5, 6, 7, 8, 9] : List UInt8).length < 2 ^ 64 := by decide
example : (IntVec.ofList 5 [1, 2, 3]).WF := by decide
/-- one fully concrete round trip (a three-bit vector, followed by two more elements) -/
example : rawVecC.load (rawVecC.ser (RawVec.ofBits [true, false, true]) ++ [7, 9]) =
    ok (RawVec.ofBits [true, false, true], [7, 9]) := by decide

/-- **trusted on load**, one accepting run per clause: a file the raw-vector loader accepts although the value
violates the representation invariant (bit 3 set in a 3-bit vector) — it satisfies the loader checks, and (i),
(ii) hold of it -/
example : rawVecC.load [3, 1, 13] = ok (⟨3, #[13]⟩, []) ∧ ¬ (⟨3, #[13]⟩ : RawVec).WF ∧
    LoadWF.rawVecLd ⟨3, #[13]⟩ ∧ rawVecC.ser ⟨3, #[13]⟩ = [3, 1, 13] := by
  refine ⟨by decide, by decide, ⟨by decide, by decide⟩, by decide⟩
/-- integer vectors of width 0 (five items) and width 100 (no item) are accepted -/
example : intVecC.load [5, 0, 0, 0] = ok (⟨5, 0, ⟨0, #[]⟩⟩, []) ∧ ¬ (⟨5, 0, ⟨0, #[]⟩⟩ : IntVec).WF ∧
    intVecC.load [0, 100, 0, 0] = ok (⟨0, 100, ⟨0, #[]⟩⟩, []) ∧ ¬ (⟨0, 100, ⟨0, #[]⟩⟩ : IntVec).WF := by decide
/-- a bitvector whose `ones` counter (0) is not the number of set bits (1) is accepted -/
example : bitVectorC.load [0, 1, 1, 1, 0, 0, 0] = ok (⟨0, ⟨1, #[1]⟩, none, none, none⟩, []) ∧
    ¬ LoadWF.CountOk ⟨0, ⟨1, #[1]⟩, none, none, none⟩ := by
  refine ⟨by decide, fun h => absurd h.1 (by decide)⟩

/-- a sparse vector meeting `sparseWF`: 3 of 10 positions set, low width 2 (set mode), and a multiset -/
example : ∃ s, Sparse.ofValues 2 10 false [0, 5, 9] = ok s ∧ Codec2.sparseWF s :=
  have ⟨s, h, _, hwf, _⟩ := Codec2.sp_small_built
  ⟨s, h, hwf⟩
example : ∃ s, Sparse.ofValues 2 10 true [0, 5, 5, 9] = ok s ∧ Codec2.sparseWF s :=
  have ⟨s, h, _, hwf⟩ := Codec2.ofValues_sparseWF 2 10 true [0, 5, 5, 9] (by decide) (by decide) (by decide)
    (by decide) (by decide) (by decide) (by decide) (by decide)
  ⟨s, h, hwf⟩
/-- … its 41-element file followed by two more elements -/
example : (do let s ← Sparse.ofValues 2 10 false [0, 5, 9]
              let (s', r) ← sparseC.load (sparseC.ser s ++ [7, 9])
              return (decide (s' = s), r, sparseC.size s)) = ok (true, [7, 9], 41) := by
  obtain ⟨s, hs, _, hwf, hsize⟩ := Codec2.sp_small_built
  rw [hs, bind_ok, Codec2.sparseC_lawful.roundtrip s _ hwf]
  simp [hsize]

/-- a wavelet matrix (and its core) meeting `wmWF` / `wmCoreWF`: four values of width 2 -/
example : Codec2.wmWF (WM.ofValues [3, 1, 0, 2]) ∧ Codec2.wmCoreWF (WMCore.ofValues [3, 1, 0, 2]) :=
  ⟨Codec2.ofValues_wmWF _ (by decide) (by decide) (by decide), Codec2.ofValues_wmCoreWF _ (by decide)⟩
/-- … the 77-element file of the core followed by two more elements (the size by evaluation); likewise the whole
matrix -/
example : wmCoreC.load (wmCoreC.ser (WMCore.ofValues [3, 1, 0, 2]) ++ [7, 9]) =
    ok (WMCore.ofValues [3, 1, 0, 2], [7, 9]) ∧ wmCoreC.size (WMCore.ofValues [3, 1, 0, 2]) = 77 :=
  ⟨(wavelet_matrix_core_roundtrip [3, 1, 0, 2] (by decide) [7, 9]).1, by decide +kernel⟩
example : wmC.load (wmC.ser (WM.ofValues [3, 1, 0, 2]) ++ [7, 9]) = ok (WM.ofValues [3, 1, 0, 2], [7, 9]) :=
  (wavelet_matrix_roundtrip [3, 1, 0, 2] (by decide) (by decide) (by decide) [7, 9]).1

/-- a run-length vector meeting `rlWF`, both modes: the accepted history `set_len(10); try_set(10, 5)` — all
hypotheses of `run_length_vector_roundtrip` hold of it -/
example (m : Mode) : ∃ b v, (∀ c ∈ [RL.BCall.setLen 10, .set 10 5], RL.callArgsOk c) ∧
    RL.runBCalls m [.setLen 10, .set 10 5] {} = ok b ∧ RL.ofBuilder m b = ok v ∧
    128 * v.samples.len < 2 ^ 64 ∧ Codec2.rlWF m v := by
  obtain ⟨b, v, h1, h2, h3, h4, h5, _⟩ := Codec2.rl_small_built m
  exact ⟨b, v, h1, h2, h3, h4, h5⟩
/-- … its 12-element file followed by two more elements, loaded by evaluation in both modes -/
example : ∀ m : Mode, (do let b ← RL.runBCalls m [.setLen 10, .set 10 5] {}
                          let v ← RL.ofBuilder m b
                          let (v', r) ← (rlC m).load ((rlC m).ser v ++ [7, 9])
                          return (decide (v' = v), r, (rlC m).size v)) = ok (true, [7, 9], 12) := by
  intro m; cases m <;> decide +kernel

/-! **Field order as extracted from the source on this run.**  `Generated/SerShape.lean` lists, for every
`impl Serialize` of the library, the statements of `serialize_header` / `serialize_body` in order, the `T::load(reader)?`
calls of `load` in order and the summands of `size_in_elements` (tools/ser_shape.py).  The obligations below pin them to
the layouts the codecs of the model implement (the `*_roundtrip` / `*_size` theorems above are about those codecs), so a
field that is written but not read back, read in another order, or left out of the size stops a named `rfl`. -/
theorem serializers_as_extracted_from_source :
    Generated.allSerShapes.length = 14 ∧
    (Generated.serShape_RawVector.header = [.field "len", .fieldHeader "data"] ∧
     Generated.serShape_RawVector.body = [.fieldBody "data"] ∧
     Generated.serShape_RawVector.loads = ["usize", "<Vec<u64> as Serialize>"]) ∧
    (Generated.serShape_IntVector.header = [.field "len", .field "width", .fieldHeader "data"] ∧
     Generated.serShape_IntVector.body = [.fieldBody "data"] ∧
     Generated.serShape_IntVector.loads = ["usize", "usize", "RawVector"]) ∧
    (Generated.serShape_BitVector.header = [.field "ones"] ∧
     Generated.serShape_BitVector.body = [.field "data", .field "rank", .field "select", .field "select_zero"] ∧
     Generated.serShape_BitVector.loads = ["usize", "RawVector", "Option::<RankSupport>",
       "Option::<SelectSupport<Identity>>", "Option::<SelectSupport<Complement>>"]) ∧
    (Generated.serShape_SelectSupport_T.body = [.field "samples", .field "long", .field "short"] ∧
     Generated.serShape_SelectSupport_T.loads = ["IntVector", "IntVector", "IntVector"]) ∧
    (Generated.serShape_SparseVector.header = [.field "len"] ∧
     Generated.serShape_SparseVector.body = [.field "high", .field "low"] ∧
     Generated.serShape_SparseVector.loads = ["usize", "BitVector", "IntVector"]) ∧
    (Generated.serShape_RLVector.header = [.field "len", .field "ones"] ∧
     Generated.serShape_RLVector.body = [.field "samples", .field "data"] ∧
     Generated.serShape_RLVector.loads = ["usize", "usize", "IntVector", "IntVector"]) ∧
    (Generated.serShape_WaveletMatrix.header = [.field "len"] ∧
     Generated.serShape_WaveletMatrix.body = [.field "data", .field "first"] ∧
     Generated.serShape_WaveletMatrix.loads = ["usize", "WMCore", "IntVector"]) ∧
    (Generated.serShape_WMCore.body = [.localValue "width", .each "levels"] ∧
     Generated.serShape_WMCore.loads = ["usize", "BitVector"]) :=
  ⟨rfl, ⟨rfl, rfl, rfl⟩, ⟨rfl, rfl, rfl⟩, ⟨rfl, rfl, rfl⟩, ⟨rfl, rfl⟩, ⟨rfl, rfl, rfl⟩, ⟨rfl, rfl, rfl⟩, ⟨rfl, rfl, rfl⟩,
   ⟨rfl, rfl⟩⟩

/-- … and the sizes: every field that is written is counted (the `size = elements written` theorems above are about the
codecs; this pins the code's own `size_in_elements` bodies to the same field lists) -/
theorem sizes_as_extracted_from_source :
    Generated.serShape_RawVector.size = ["self.len.size_in_elements()", "self.data.size_in_elements()"] ∧
    Generated.serShape_IntVector.size =
      ["self.len.size_in_elements()", "self.width.size_in_elements()", "self.data.size_in_elements()"] ∧
    Generated.serShape_BitVector.size = ["self.ones.size_in_elements()", "self.data.size_in_elements()",
      "self.rank.size_in_elements()", "self.select.size_in_elements()", "self.select_zero.size_in_elements()"] ∧
    Generated.serShape_SelectSupport_T.size = ["self.samples.size_in_elements()", "self.long.size_in_elements()",
      "self.short.size_in_elements()"] ∧
    Generated.serShape_SparseVector.size = ["self.len.size_in_elements()", "self.high.size_in_elements()",
      "self.low.size_in_elements()"] ∧
    Generated.serShape_RLVector.size = ["self.len.size_in_elements()", "self.ones.size_in_elements()",
      "self.samples.size_in_elements()", "self.data.size_in_elements()"] ∧
    Generated.serShape_Vec_V.size = ["1", "self.len() * V::elements()"] ∧
    Generated.serShape_Vec_u8.size = ["1", "bits::bytes_to_words(self.len())"] :=
  ⟨rfl, rfl, rfl, rfl, rfl, rfl, rfl, rfl⟩

/-- the codecs of the model write the fields in that order (definitional) -/
theorem model_codecs_follow_the_extracted_order (s : Sparse) (c : WMCore) :
    sparseC.ser s = usizeC.ser s.len ++ (bitVectorC.ser s.high ++ intVecC.ser s.low) ∧
    wmCoreC.ser c = usizeC.ser c.width ++ c.levels.toList.flatMap bitVectorC.ser :=
  ⟨rfl, rfl⟩

/-! **The `load` functions as translated from the source on this run** (`Generated/FnsLoad.lean`): `RawVector`, `IntVector`,
`RankSupport`, `SelectSupport`, `BitVector`, `SparseVector` and `WaveletMatrix` — statement by statement with the reader
threaded through: the order of the `T::load(reader)?` calls, every sanity check (`bits_to_words(len) != data.len()`,
`len * width != data.len()`, the three block-count checks of the bitvector, the two of the sparse vector, …), the error
kind of each, the `enable_select` / `enable_select_zero` after a sparse load.  On every stream on which the arithmetic
the loaders perform on header words does not leave `usize` — the predicates `RawOk`, `IntOk`, `SelOk`, `BvOk`,
`SparseOk`, `WmOk` of `Proofs/GenEqLoad.lean`, which mirror the loaders; true of every stream whose words are below 2^32
and, for the bitvector, of every stream shorter than 2^57 words — the code as it is NOW is the `load` of the model codec
that the round-trip, size and prefix theorems above and in C14 are about.  Outside these predicates the real loaders
panic (checked build) or accept after wrap-around (release build) where the `Nat` model rejects:
`GenEq.raw_load_ne_overflow` (`[2^64-1, 0]`), `GenEq.int_load_ne_overflow` (`[2^32, 2^32, 0, 0]`), … — observation O11 in
DESIGN.md; no stream the library writes or the document describes is of that kind. -/
theorem loaders_as_translated_from_source (m : Mode) (es : Elems) :
    (GenEq.RawOk es → Generated.gen_RawVector_load m es = rawVecC.load es) ∧
    (GenEq.IntOk es → Generated.gen_IntVector_load m es = intVecC.load es) ∧
    Generated.gen_RankSupport_load m es = rankSupC.load es ∧
    (GenEq.SelOk es → Generated.gen_SelectSupport_load m es = selSupC.load es) ∧
    (GenEq.BvOk es → Generated.gen_BitVector_load m es = bitVectorC.load es) ∧
    (GenEq.SparseOk es → Generated.gen_SparseVector_load m es = sparseC.load es) ∧
    (GenEq.WmOk es → Generated.gen_WaveletMatrix_load m es = wmC.load es) :=
  ⟨GenEq.raw_load_eq m es, GenEq.int_load_eq m es, GenEq.rank_load_eq m es, GenEq.sel_load_eq m es,
   GenEq.bv_load_eq m es, GenEq.sparse_load_eq m es, GenEq.wm_load_eq m es⟩

/-- … in particular on every stream of words below 2^32 (no further condition except, for the sparse vector, a low
width of at most 64 in what is read) -/
theorem loaders_on_small_streams (m : Mode) (es : Elems) (h : ∀ w ∈ es, w.toNat < 2 ^ 32) :
    Generated.gen_RawVector_load m es = rawVecC.load es ∧
    Generated.gen_IntVector_load m es = intVecC.load es ∧
    Generated.gen_SelectSupport_load m es = selSupC.load es ∧
    Generated.gen_BitVector_load m es = bitVectorC.load es ∧
    (GenEq.SparseWidthOk es → Generated.gen_SparseVector_load m es = sparseC.load es) ∧
    Generated.gen_WaveletMatrix_load m es = wmC.load es :=
  ⟨GenEq.raw_load_eq_small m es h, GenEq.int_load_eq_small m es h, GenEq.sel_load_eq_small m es h,
   GenEq.bv_load_eq_small m es h, fun hw => GenEq.sparse_load_eq_small m es h hw, GenEq.wm_load_eq_small m es h⟩

/-- the translated `IntVector::load` on what the library writes for `[5, 8191, 77]` at width 13, followed by a marker
word: the vector and the rest of the stream -/
example : Generated.gen_IntVector_load .checked (intVecC.ser (IntVec.ofList 13 [5, 8191, 77]) ++ [99])
    = ok (IntVec.ofList 13 [5, 8191, 77], [99]) := by decide +kernel

/-! **The loaders of the run-length vector and of the wavelet-matrix core as translated from the source on this run**
(`Generated/FnsLoad2.lean`, `FnsLoad3.lean`).  `RLVector::load`: the four `T::load(reader)?`, the block-count check, the
three sample indexes rebuilt over `(0..sample_blocks).map(|block| samples.get(..))`, `len - ones`; `WMCore::load`: the width
check, the `for _ in 0..width` loop loading one bitvector per level with the reader threaded through the loop state and the
first level's length remembered in `len: Option<usize>`, `init_support`.  On every stream on which the header arithmetic
stays inside `usize` (`RlOk`, `WmCoreOk`, in the style of the predicates above) the code as it is NOW is the `load` of the
model codec; for the run-length vector in the checked build additionally "no stored sample has more ones than bits"
(`RlNoUnderflow`, true of every library-written file) — without it both sides still panic, with different panic KINDS,
because the model evaluates the zero column before the other two indexes and the source after (observation O16,
`GenEq.rl_load_ne_order`; `rl_load_eq_iff` gives the exact condition). -/
theorem rl_and_wm_core_loaders_as_translated_from_source (m : Mode) (es : Elems) :
    (GenEq.RlOk es → GenEq.RlNoUnderflow es → Generated.gen_RLVector_load m es = (rlC m).load es) ∧
    (GenEq.RlOk es → Generated.gen_RLVector_load .wrapping es = (rlC .wrapping).load es) ∧
    (GenEq.WmCoreOk es → Generated.gen_WMCore_load m es = wmCoreC.load es) ∧
    ((∀ w ∈ es, w.toNat < 2 ^ 32) → Generated.gen_WMCore_load m es = wmCoreC.load es) :=
  ⟨GenEq.rl_load_eq_of_noUnderflow m es, GenEq.rl_load_eq_wrapping es, GenEq.wm_core_load_eq m es,
   GenEq.wm_core_load_eq_small m es⟩

/-- `WaveletMatrix::load` with NOTHING left to the model: translated over the translated `WMCore::load` (which is translated
over the translated `BitVector::load`, …) — the whole loader stack of the wavelet matrix, as the source has it on this
run, is the `load` of the model codec on every stream whose header arithmetic stays inside `usize` -/
theorem wavelet_matrix_loader_stack_as_translated_from_source (m : Mode) (es : Elems) :
    (GenEq.WmFullOk es → Generated.gen_WaveletMatrix_load_full m es = wmC.load es) ∧
    ((∀ w ∈ es, w.toNat < 2 ^ 32) → Generated.gen_WaveletMatrix_load_full m es = wmC.load es) :=
  ⟨GenEq.wm_load_full_eq m es, GenEq.wm_load_full_eq_small m es⟩

/-- `BitVector::load` with nothing left to the model either: the generic `impl<V: Serialize> Serialize for Option<V> { fn load }`
translated at the two instances `BitVector::load` uses (the length prefix is only tested against 0 — by the code and by the
model's `optionC` alike), and `BitVector::load` translated over them.  Equal to the model codec on every stream whose
header arithmetic stays inside `usize`, which includes the arithmetic INSIDE the select supports
(`GenEq.BvSelOk`; `bv_load_full_ne_select` shows that `BvOk` alone does not suffice: observation O18). -/
theorem bit_vector_loader_stack_as_translated_from_source (m : Mode) (es : Elems) :
    Generated.gen_Option_RankSupport_load m es = (optionC rankSupC).load es ∧
    (GenEq.OptSelOk es → Generated.gen_Option_SelectSupport_load m es = (optionC selSupC).load es) ∧
    (GenEq.BvOk es → GenEq.BvSelOk es → Generated.gen_BitVector_load_full m es = bitVectorC.load es) ∧
    ((∀ w ∈ es, w.toNat < 2 ^ 32) → Generated.gen_BitVector_load_full m es = bitVectorC.load es) :=
  ⟨GenEq.opt_rank_load_eq m es, GenEq.opt_sel_load_eq m es, GenEq.bv_load_full_eq m es, GenEq.bv_load_full_eq_small m es⟩

/-- … and the composite loaders over the FULL bitvector loader: `SparseVector::load`, `WMCore::load` and
`WaveletMatrix::load` with every inner `T::load` a translated function (`Generated/FnsLoad5.lean`) -/
theorem composite_loader_stacks_as_translated_from_source (m : Mode) (es : Elems) :
    (GenEq.SparseFullOk es → Generated.gen_SparseVector_load_full m es = sparseC.load es) ∧
    (GenEq.WmCoreFullOk es → Generated.gen_WMCore_load_full m es = wmCoreC.load es) ∧
    (GenEq.WmFull2Ok es → Generated.gen_WaveletMatrix_load_full2 m es = wmC.load es) ∧
    ((∀ w ∈ es, w.toNat < 2 ^ 32) →
        Generated.gen_WMCore_load_full m es = wmCoreC.load es ∧ Generated.gen_WaveletMatrix_load_full2 m es = wmC.load es ∧
        (GenEq.SparseWidthOk es → Generated.gen_SparseVector_load_full m es = sparseC.load es)) :=
  ⟨GenEq.sparse_load_full_eq m es, GenEq.wm_core_load_full_eq m es, GenEq.wm_load_full2_eq m es,
   fun h => ⟨GenEq.wm_core_load_full_eq_small m es h, GenEq.wm_load_full2_eq_small m es h,
     fun hw => GenEq.sparse_load_full_eq_small m es h hw⟩⟩

end Sds.C06
