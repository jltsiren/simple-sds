/-
C14 — Truncated input and failed writes are always reported, never accepted.

Property theorems only (helper lemmas live in Proofs/).  Quantifiers: every value of every serializable
type (integers, pairs, vectors of them, byte vectors, strings, optional values, raw / integer vectors, support
structures, plain bitvectors with any subset of supports, sparse vectors, run-length vectors, the wavelet matrix
and its core) that satisfies the type's serialization invariant × **every truncation point** `k` in
`0 .. 8*size-1` at **byte** granularity for `load` and `skip_option`, and `0 .. size-1` at element granularity for the memory-mapped views (a map is element-addressed) × every prefix `pre` of the
file before the structure; both arithmetic modes for the views and for the run-length loader `rlC m` (the
other loaders have no arithmetic);
for the writers: every buffer size, every valid sequence of pushes, every write budget (`some b` = the sink
accepts `b` more body elements and then fails; `none` = unlimited).

"Reported" is an exact statement here: the outcome is `fault (.err .eof)` — an `io::Error`, not a panic, not
`oob`, and not `ok` of some structure.  For the writers the outcome of a run that could not write all its
data is the documented `unwrap` panic of a push or the `io::Error` of `close`, never `ok`.

The composite structures (lemmas in Proofs/Codec2) are covered for every value satisfying `Codec2.sparseWF` /
`wmCoreWF` / `wmWF` / `rlWF m` (or the weaker `rlWFg m`) — the invariants are spelled out in the header of
Props/C06; every value the builders build satisfies them (`Codec2.ofValues_sparseWF`, `ofValues_wmCoreWF`,
`ofValues_wmWF`, `build_rlWF`), under file-size side conditions only.  As in C06, nothing is claimed about values
that violate the invariant (e.g. a record whose unstored parts do not match its stored parts): they are not
serializations of anything the library can hold.

**`serialize` into a failing `Write` sink** (section "failed writes: `serialize` into a sink that fails").  The sink is
modelled (Model/Sink): it accepts `b` more bytes and then fails every `write` with its error `e`; `write` may be
short, `write_all` is the loop of the standard library over `write`; `serializeTo sink chunks` is a sequence of
`write_all` calls, one per chunk, joined by `?`.  Proven, for **every codec, every value, every budget and every
way of cutting the output bytes into consecutive chunks**: `b ≥ 8*size` → `Ok(())` and the sink holds exactly the
bytes; `b < 8*size` → the result is the sink's error `e` (never `Ok`), and the sink holds exactly the first `b`
bytes — a strict prefix, which every loader refuses with `eof` (`failed_serialization_leaves_unloadable_file`).
**Obligation on the source** (`every_serializer_is_a_q_joined_write_sequence`, over the statements extracted by
tools/ser_shape.py; the sink theorems themselves are about the protocol, not the call sequence of the Rust code): that each
`Serialize::serialize` implementation *is* such a sequence — `write_all` calls (never a bare `write`) on
consecutive pieces whose concatenation is the serialization, every call followed by `?`.  That is what the source
does (header, body, padding, nested structures, each through `write_all` / a nested `serialize` and `?`), and it is
also observed by the correspondence check: the `ser sink <k> <name>` requests of the C14 generator
(harness/src/gen_ser.rs) run `serialize` of raw / integer / bit / sparse / run-length vectors and wavelet matrices
against the same budgeted sink (harness/src/exec_ser.rs `Sink`, transcribed as `Sink.write`) for every budget `k`
(dense up to 80 bytes, then stepped, up to the size) and compare with the closed form `k < 8*size → err, else ok
written=8*size` — which `serialize_into_failing_sink` proves to be the outcome of `serializeTo` for every
chunking.  A seeded change replacing `write_all` by `write` in `Vec<V>::serialize_body` (m_C14) is reported there;
in the model the two are told apart by `write_instead_of_write_all_is_told_apart`.
**By correspondence only**: the behaviour of real files under `RLIMIT_FSIZE` / a full disk (kernel write failures).
(Scope note: memory-mapped views exist, in the crate and in the model, only for the vector-like types of the
"memory-mapped views" section below; there is none for the composite structures, so that clause has no composite
instance.)
-/
import Sds.Proofs.Codec
import Sds.Proofs.Supports
import Sds.Proofs.Mapper
import Sds.Proofs.Writer
import Sds.Proofs.Codec2
import Sds.Proofs.LoadWF
import Sds.Generated.SerConsts
import Sds.Proofs.SerShapes
import Sds.Proofs.GenEqSkip
import Sds.Proofs.PropsAux

namespace Sds.C14
open Sds Outcome

/-- ties the skip law below to the current source: `gen_lean.py` regenerates this constant from
`serialize.rs` on every run; it is `true` iff `skip_option` verifies that as many bytes were skipped as the
length prefix announced -/
theorem skip_option_is_checked : Generated.SKIP_OPTION_CHECKED = true := by decide

/-! ### `load` of a truncated serialization: always `Err(UnexpectedEof)` -/

/-- the general form, for any codec whose element-level prefixes fail with `eof`: **every strict byte
prefix** of a serialization is refused with `eof` -/
theorem truncated_load_reports_eof {α} (c : Codec α) (W : α → Prop) (hc : LawfulP IsEof c W) (x : α)
    (hx : W x) (k : Nat) (hk : k < 8 * c.size x) :
    c.load (ofBytes ((toBytes (c.ser x)).take k)) = fault (.err .eof) :=
  pfx_bytes_eof hc x hx k hk

/-- … which every proven codec is -/
theorem all_codecs_report_eof (valid : List UInt8 → Bool) :
    LawfulP IsEof u64C (fun _ => True) ∧ LawfulP IsEof usizeC (fun n => n < 2 ^ 64) ∧
    LawfulP IsEof pairC (fun _ => True) ∧
    LawfulP IsEof vecU64C (fun a => a.size < 2 ^ 64) ∧ LawfulP IsEof vecPairC (fun a => a.size < 2 ^ 64) ∧
    LawfulP IsEof bytesC (fun bs => bs.length < 2 ^ 64) ∧
    LawfulP IsEof (stringC valid) (fun bs => bs.length < 2 ^ 64 ∧ valid bs = true) ∧
    LawfulP IsEof rawVecC rawVecWF ∧ LawfulP IsEof intVecC intVecWF ∧
    LawfulP IsEof rankSupC rankSupWF ∧ LawfulP IsEof selSupC selSupWF ∧
    LawfulP IsEof bitVectorC bitVectorWF :=
  ⟨u64C_lawfulEof, usizeC_lawfulEof, pairC_lawfulEof, vecU64C_lawfulEof, vecPairC_lawfulEof,
    bytesC_lawfulEof, stringC_lawfulEof valid, rawVecC_lawfulEof, intVecC_lawfulEof, rankSupC_lawfulEof,
    selSupC_lawfulEof, bitVectorC_lawfulEof⟩

/-! the instances, spelled out -/

theorem truncated_u64 (x : Word) (k : Nat) (hk : k < 8) :
    u64C.load (ofBytes ((toBytes (u64C.ser x)).take k)) = fault (.err .eof) :=
  pfx_bytes_eof u64C_lawfulEof x trivial k hk

theorem truncated_pair (p : Word × Word) (k : Nat) (hk : k < 16) :
    pairC.load (ofBytes ((toBytes (pairC.ser p)).take k)) = fault (.err .eof) :=
  pfx_bytes_eof pairC_lawfulEof p trivial k hk

theorem truncated_vec_u64 (a : Array Word) (ha : a.size < 2 ^ 64) (k : Nat) (hk : k < 8 * vecU64C.size a) :
    vecU64C.load (ofBytes ((toBytes (vecU64C.ser a)).take k)) = fault (.err .eof) :=
  pfx_bytes_eof vecU64C_lawfulEof a ha k hk

theorem truncated_vec_pair (a : Array (Word × Word)) (ha : a.size < 2 ^ 64) (k : Nat)
    (hk : k < 8 * vecPairC.size a) :
    vecPairC.load (ofBytes ((toBytes (vecPairC.ser a)).take k)) = fault (.err .eof) :=
  pfx_bytes_eof vecPairC_lawfulEof a ha k hk

theorem truncated_bytes (bs : List UInt8) (hb : bs.length < 2 ^ 64) (k : Nat) (hk : k < 8 * bytesC.size bs) :
    bytesC.load (ofBytes ((toBytes (bytesC.ser bs)).take k)) = fault (.err .eof) :=
  pfx_bytes_eof bytesC_lawfulEof bs hb k hk

theorem truncated_string (valid : List UInt8 → Bool) (bs : List UInt8) (hb : bs.length < 2 ^ 64)
    (hv : valid bs = true) (k : Nat) (hk : k < 8 * (stringC valid).size bs) :
    (stringC valid).load (ofBytes ((toBytes ((stringC valid).ser bs)).take k)) = fault (.err .eof) :=
  pfx_bytes_eof (stringC_lawfulEof valid) bs ⟨hb, hv⟩ k hk

/-- `Option<T>` for any `T` whose codec reports `eof` on prefixes: the cut may fall in the length prefix or
anywhere inside the payload -/
theorem truncated_option {α} (c : Codec α) (W : α → Prop) (hc : LawfulP IsEof c W) (o : Option α)
    (ho : match o with
      | none => True
      | some x => W x ∧ 0 < (c.ser x).length ∧ (c.ser x).length < 2 ^ 64)
    (k : Nat) (hk : k < 8 * (optionC c).size o) :
    (optionC c).load (ofBytes ((toBytes ((optionC c).ser o)).take k)) = fault (.err .eof) := by
  refine pfx_bytes_eof (optionC_lawfulP isEof_eof hc) o ?_ k hk
  cases o <;> exact ho

theorem truncated_raw_vector (v : RawVec) (hv : v.WF) (hlen : v.len < 2 ^ 64) (k : Nat)
    (hk : k < 8 * rawVecC.size v) :
    rawVecC.load (ofBytes ((toBytes (rawVecC.ser v)).take k)) = fault (.err .eof) :=
  pfx_bytes_eof rawVecC_lawfulEof v ⟨hv, hlen⟩ k hk

theorem truncated_int_vector (v : IntVec) (hv : v.WF) (hlen : v.len < 2 ^ 64) (hw : v.width < 2 ^ 64)
    (hbits : v.data.len < 2 ^ 64) (k : Nat) (hk : k < 8 * intVecC.size v) :
    intVecC.load (ofBytes ((toBytes (intVecC.ser v)).take k)) = fault (.err .eof) :=
  pfx_bytes_eof intVecC_lawfulEof v ⟨hv, hlen, hw, hbits⟩ k hk

theorem truncated_rank_support (s : RankSup) (hs : s.samples.size < 2 ^ 64) (k : Nat)
    (hk : k < 8 * rankSupC.size s) :
    rankSupC.load (ofBytes ((toBytes (rankSupC.ser s)).take k)) = fault (.err .eof) :=
  pfx_bytes_eof rankSupC_lawfulEof s hs k hk

theorem truncated_select_support (s : SelSup) (hs : selSupWF s) (k : Nat) (hk : k < 8 * selSupC.size s) :
    selSupC.load (ofBytes ((toBytes (selSupC.ser s)).take k)) = fault (.err .eof) :=
  pfx_bytes_eof selSupC_lawfulEof s hs k hk

/-- `BitVector` with any subset of supports present (`bitVectorWF` covers all 8) -/
theorem truncated_bit_vector (b : BitVector) (hb : bitVectorWF b) (k : Nat) (hk : k < 8 * bitVectorC.size b) :
    bitVectorC.load (ofBytes ((toBytes (bitVectorC.ser b)).take k)) = fault (.err .eof) :=
  pfx_bytes_eof bitVectorC_lawfulEof b hb k hk

/-- … in particular the bitvectors the API builds, for all 8 subsets of `enable_*` calls -/
theorem truncated_built_bit_vector (v : RawVec) (hv : v.WF) (hlen : v.len < 2 ^ 62) (r s z : Bool) (k : Nat)
    (hk : k < 8 * bitVectorC.size (SupportProofs.enableSome r s z (BitVector.ofRaw v))) :
    bitVectorC.load (ofBytes ((toBytes (bitVectorC.ser
      (SupportProofs.enableSome r s z (BitVector.ofRaw v)))).take k)) = fault (.err .eof) :=
  pfx_bytes_eof bitVectorC_lawfulEof _ (SupportProofs.ofRaw_enableSome_wf hv hlen r s z) k hk

/-- the weaker reading "never a structure", for codecs only known to be `Lawful` -/
theorem truncated_load_never_ok {α} (c : Codec α) (W : α → Prop) (hc : Lawful c W) (x : α) (hx : W x)
    (k : Nat) (hk : k < 8 * c.size x) (y : α) (rest : Elems) :
    c.load (ofBytes ((toBytes (c.ser x)).take k)) ≠ ok (y, rest) :=
  pfx_bytes hc x hx k hk y rest

/-! ### composite structures: sparse vector, run-length vector, wavelet-matrix core, wavelet matrix

For **every value satisfying the serialization invariant** of its type (`Codec2.sparseWF`, `Codec2.wmCoreWF`,
`Codec2.wmWF`, `Codec2.rlWF m` / `Codec2.rlWFg m` — spelled out in the header of Props/C06), then for everything
the builders build.  Element level: every `j < size`; byte level: every `k < 8 * size`.  The loaders of these
types run consistency checks (`Err(InvalidData)`) and, for the run-length vector, rebuild the sample indexes with
checked arithmetic; on a truncated file none of that is reached: the outcome is `Err(UnexpectedEof)`. -/

/-- the four composite codecs obey the strong prefix law, so the generic statements (`truncated_load_reports_eof`,
`truncated_option`, `truncated_skip_option`) apply to them and to `Option`s of them -/
theorem composite_codecs_report_eof (m : Mode) :
    LawfulP IsEof sparseC Codec2.sparseWF ∧ LawfulP IsEof wmCoreC Codec2.wmCoreWF ∧
    LawfulP IsEof wmC Codec2.wmWF ∧ LawfulP IsEof (rlC m) (Codec2.rlWF m) ∧
    LawfulP IsEof (rlC m) (Codec2.rlWFg m) ∧ (∀ v, Codec2.rlWF m v → Codec2.rlWFg m v) :=
  ⟨Codec2.sparseC_lawfulEof, Codec2.wmCoreC_lawfulEof, Codec2.wmC_lawfulEof, Codec2.rlC_lawfulEof m,
    Codec2.rlC_lawfulEof_g m, fun _ h => h.general⟩

theorem truncated_sparse_vector (s : Sparse) (hs : Codec2.sparseWF s) :
    (∀ j, j < sparseC.size s → sparseC.load ((sparseC.ser s).take j) = fault (.err .eof)) ∧
    (∀ k, k < 8 * sparseC.size s →
      sparseC.load (ofBytes ((toBytes (sparseC.ser s)).take k)) = fault (.err .eof)) :=
  ⟨fun j hj => Codec2.sparseC_lawfulEof.pfx_eof s j hs hj, fun k hk => pfx_bytes_eof Codec2.sparseC_lawfulEof s hs k hk⟩

theorem truncated_wavelet_matrix_core (c : WMCore) (hc : Codec2.wmCoreWF c) :
    (∀ j, j < wmCoreC.size c → wmCoreC.load ((wmCoreC.ser c).take j) = fault (.err .eof)) ∧
    (∀ k, k < 8 * wmCoreC.size c →
      wmCoreC.load (ofBytes ((toBytes (wmCoreC.ser c)).take k)) = fault (.err .eof)) :=
  ⟨fun j hj => Codec2.wmCoreC_lawfulEof.pfx_eof c j hc hj, fun k hk => pfx_bytes_eof Codec2.wmCoreC_lawfulEof c hc k hk⟩

theorem truncated_wavelet_matrix (w : WM) (hw : Codec2.wmWF w) :
    (∀ j, j < wmC.size w → wmC.load ((wmC.ser w).take j) = fault (.err .eof)) ∧
    (∀ k, k < 8 * wmC.size w → wmC.load (ofBytes ((toBytes (wmC.ser w)).take k)) = fault (.err .eof)) :=
  ⟨fun j hj => Codec2.wmC_lawfulEof.pfx_eof w j hw hj, fun k hk => pfx_bytes_eof Codec2.wmC_lawfulEof w hw k hk⟩

/-- `RLVector`, both modes, under the weaker invariant `rlWFg m` (hence under `rlWF m`) -/
theorem truncated_run_length_vector (m : Mode) (v : RL) (hv : Codec2.rlWFg m v) :
    (∀ j, j < (rlC m).size v → (rlC m).load (((rlC m).ser v).take j) = fault (.err .eof)) ∧
    (∀ k, k < 8 * (rlC m).size v →
      (rlC m).load (ofBytes ((toBytes ((rlC m).ser v)).take k)) = fault (.err .eof)) :=
  ⟨fun j hj => (Codec2.rlC_lawfulEof_g m).pfx_eof v j hv hj,
    fun k hk => pfx_bytes_eof (Codec2.rlC_lawfulEof_g m) v hv k hk⟩

/-- the four together, byte level -/
theorem truncated_composite_structures (m : Mode) (s : Sparse) (c : WMCore) (w : WM) (v : RL)
    (hs : Codec2.sparseWF s) (hc : Codec2.wmCoreWF c) (hw : Codec2.wmWF w) (hv : Codec2.rlWF m v) :
    (∀ k, k < 8 * sparseC.size s →
      sparseC.load (ofBytes ((toBytes (sparseC.ser s)).take k)) = fault (.err .eof)) ∧
    (∀ k, k < 8 * wmCoreC.size c →
      wmCoreC.load (ofBytes ((toBytes (wmCoreC.ser c)).take k)) = fault (.err .eof)) ∧
    (∀ k, k < 8 * wmC.size w → wmC.load (ofBytes ((toBytes (wmC.ser w)).take k)) = fault (.err .eof)) ∧
    (∀ k, k < 8 * (rlC m).size v →
      (rlC m).load (ofBytes ((toBytes ((rlC m).ser v)).take k)) = fault (.err .eof)) :=
  ⟨(truncated_sparse_vector s hs).2, (truncated_wavelet_matrix_core c hc).2, (truncated_wavelet_matrix w hw).2,
    (truncated_run_length_vector m v hv.general).2⟩

/-- a sparse vector, a run-length vector and a wavelet matrix written back to back and loaded in sequence: every
strict byte prefix of the whole stream — wherever the cut falls, in whichever structure — is refused with `eof` -/
theorem truncated_composite_stream (m : Mode) (s : Sparse) (v : RL) (w : WM)
    (hs : Codec2.sparseWF s) (hv : Codec2.rlWF m v) (hw : Codec2.wmWF w) (k : Nat)
    (hk : k < 8 * (sparseC.size s + ((rlC m).size v + wmC.size w))) :
    (seqC sparseC (seqC (rlC m) wmC)).load
      (ofBytes ((toBytes (sparseC.ser s ++ ((rlC m).ser v ++ wmC.ser w))).take k)) = fault (.err .eof) :=
  Codec2.composite_pfx_bytes_eof m s v w hs hv hw k (by
    simp only [Codec.size] at hk; simpa only [List.length_append] using hk)

/-! #### everything the builders build (hypotheses as in the builder-level theorems of Props/C06) -/

/-- `SparseVector` built from sorted positions (set or multiset mode, every admissible low width) -/
theorem truncated_built_sparse_vector (w n : Nat) (multi : Bool) (P : List Nat) (hw1 : 1 ≤ w)
    (hw : w ≤ 63) (hn : n < 2 ^ 64) (hm : P.length < 2 ^ 63)
    (hsorted : if multi then sortedLe P = true else sortedStrict P = true) (hbound : ∀ p ∈ P, p < n)
    (hhigh : P.length + Sparse.getBuckets n w < 2 ^ 63) (hlow : P.length * w < 2 ^ 64) :
    ∃ s, Sparse.ofValues w n multi P = ok s ∧
      (∀ j, j < sparseC.size s → sparseC.load ((sparseC.ser s).take j) = fault (.err .eof)) ∧
      (∀ k, k < 8 * sparseC.size s →
        sparseC.load (ofBytes ((toBytes (sparseC.ser s)).take k)) = fault (.err .eof)) := by
  obtain ⟨s, h1, _, hwf⟩ := Codec2.ofValues_sparseWF w n multi P hw1 hw hn hm hsorted hbound hhigh hlow
  exact ⟨s, h1, truncated_sparse_vector s hwf⟩

/-- the core built by `WaveletMatrix::from` -/
theorem truncated_built_wavelet_matrix_core (V : List Nat) (hlen : V.length < 2 ^ 63) :
    (∀ j, j < wmCoreC.size (WMCore.ofValues V) →
      wmCoreC.load ((wmCoreC.ser (WMCore.ofValues V)).take j) = fault (.err .eof)) ∧
    (∀ k, k < 8 * wmCoreC.size (WMCore.ofValues V) →
      wmCoreC.load (ofBytes ((toBytes (wmCoreC.ser (WMCore.ofValues V))).take k)) = fault (.err .eof)) :=
  truncated_wavelet_matrix_core _ (Codec2.ofValues_wmCoreWF V hlen)

/-- the wavelet matrix built by `WaveletMatrix::from` -/
theorem truncated_built_wavelet_matrix (V : List Nat) (hV : ∀ v, v ∈ V → v < 2 ^ 64)
    (hlen : V.length < 2 ^ 63) (hfirst : (V.foldl max 0 + 1) * 64 < 2 ^ 64) :
    (∀ j, j < wmC.size (WM.ofValues V) →
      wmC.load ((wmC.ser (WM.ofValues V)).take j) = fault (.err .eof)) ∧
    (∀ k, k < 8 * wmC.size (WM.ofValues V) →
      wmC.load (ofBytes ((toBytes (wmC.ser (WM.ofValues V))).take k)) = fault (.err .eof)) :=
  truncated_wavelet_matrix _ (Codec2.ofValues_wmWF V hV hlen hfirst)

/-- the run-length vector converted from the builder reached by **any accepted history** of `try_set` /
`set_len` / `set_bit` calls, both modes -/
theorem truncated_built_run_length_vector (m : Mode) (calls : List RL.BCall)
    (hc : ∀ c ∈ calls, RL.callArgsOk c) (b : RLBuilder) (hb : RL.runBCalls m calls {} = ok b) (v : RL)
    (hv : RL.ofBuilder m b = ok v) (hsize : 128 * v.samples.len < 2 ^ 64) :
    (∀ j, j < (rlC m).size v → (rlC m).load (((rlC m).ser v).take j) = fault (.err .eof)) ∧
    (∀ k, k < 8 * (rlC m).size v →
      (rlC m).load (ofBytes ((toBytes ((rlC m).ser v)).take k)) = fault (.err .eof)) :=
  truncated_run_length_vector m v (Codec2.build_rlWF m calls hc b hb v hv hsize).general

/-! ### skipping an optional structure that the prefix cuts short -/

/-- `skip_option` (as specified, and — by `skip_option_is_checked` — as currently coded) on every strict
byte prefix of a serialized `Option<T>`, present or absent, whatever `T` contains: `Err(UnexpectedEof)` -/
theorem truncated_skip_option {α} (c : Codec α) (W : α → Prop) (o : Option α) (ho : optWF c W o) (k : Nat)
    (hk : k < 8 * (optionC c).size o) :
    skipOptionSpec (ofBytes ((toBytes ((optionC c).ser o)).take k)) = fault (.err .eof) := by
  rw [ofBytes_take]
  exact skipOptionSpec_pfx c W o ho (k / 8) (by unfold Codec.size at hk; omega)

/-- the defect this guards against (code as first written: `io::copy(take(n*8))` stops silently): a stream
that announces 3 elements but holds 1 was skipped "successfully"; the checked version refuses it -/
theorem skip_option_old_accepted_truncated :
    skipOptionImpl [3, 7] = ok [] ∧ skipOptionSpec [3, 7] = fault (.err .eof) :=
  ⟨skipOptionImpl_truncated, skipOptionSpec_truncated⟩

/-! ### memory-mapped views over a file cut inside the structure (element granularity, both modes) -/

theorem truncated_map_vec_u64 (m : Mode) (pre : List Word) (a : Array Word) (j : Nat)
    (hj : j < vecU64C.size a) (hsz : (pre ++ vecU64C.ser a).length < U64) :
    View.slice m 1 (pre ++ (vecU64C.ser a).take j).toArray pre.length = fault (.err .eof) :=
  slice_vecU64_truncated m pre a j hj hsz

theorem truncated_map_vec_pair (m : Mode) (pre : List Word) (a : Array (Word × Word)) (j : Nat)
    (hj : j < vecPairC.size a) (hsz : (pre ++ vecPairC.ser a).length < U64) :
    View.slice m 2 (pre ++ (vecPairC.ser a).take j).toArray pre.length = fault (.err .eof) :=
  slice_vecPair_truncated m pre a j hj hsz

theorem truncated_map_bytes (m : Mode) (pre : List Word) (bs : List UInt8) (j : Nat)
    (hj : j < bytesC.size bs) (hn : bs.length + 7 < U64) (hsz : (pre ++ bytesC.ser bs).length < U64) :
    View.bytes m (pre ++ (bytesC.ser bs).take j).toArray pre.length = fault (.err .eof) :=
  bytes_bytesC_truncated m pre bs j hj hn hsz

theorem truncated_map_string (m : Mode) (valid : List UInt8 → Bool) (pre : List Word) (bs : List UInt8)
    (j : Nat) (hj : j < bytesC.size bs) (hn : bs.length + 7 < U64)
    (hsz : (pre ++ bytesC.ser bs).length < U64) :
    View.str m valid (pre ++ (bytesC.ser bs).take j).toArray pre.length = fault (.err .eof) :=
  str_bytesC_truncated m valid pre bs j hj hn hsz

theorem truncated_map_raw_vector (m : Mode) (pre : List Word) (v : RawVec) (j : Nat)
    (hj : j < rawVecC.size v) (hlen : v.len < U64) (hsz : (pre ++ rawVecC.ser v).length < U64) :
    View.raw m (pre ++ (rawVecC.ser v).take j).toArray pre.length = fault (.err .eof) :=
  raw_rawVec_truncated m pre v j hj hlen hsz

/-- `IntVectorMapper` (the repaired constructor; the as-coded one panicked at `offset = usize::MAX`, F11) -/
theorem truncated_map_int_vector (m : Mode) (pre : List Word) (v : IntVec) (j : Nat)
    (hj : j < intVecC.size v) (hlen : v.len < U64) (hw : v.width < U64) (hrlen : v.data.len < U64)
    (hsz : (pre ++ intVecC.ser v).length < U64) :
    View.int m (pre ++ (intVecC.ser v).take j).toArray pre.length = fault (.err .eof) :=
  int_intVec_truncated m pre v j hj hlen hw hrlen hsz

/-- a view requested at or past the end of the file (the structure is cut away entirely) — every offset up
to `usize::MAX`, both modes (for `IntVectorMapper` this is the repaired constructor, cf. F11) -/
theorem map_past_end_refused (m : Mode) (valid : List UInt8 → Bool) (k : Nat)
    (inner : Array Word → Nat → Outcome View) (file : Array Word)
    (offset : Nat) (h : offset ≥ file.size) :
    View.slice m k file offset = fault (.err .eof) ∧ View.bytes m file offset = fault (.err .eof) ∧
    View.str m valid file offset = fault (.err .eof) ∧ View.raw m file offset = fault (.err .eof) ∧
    View.int m file offset = fault (.err .eof) ∧ View.option m inner file offset = fault (.err .eof) :=
  ⟨slice_refuses m k file offset h, bytes_refuses m file offset h, str_refuses m valid file offset h,
    raw_refuses m file offset h, int_refuses_past_end m file offset h, option_refuses m inner file offset h⟩

/-! ### failed writes: the buffered file writers -/

/-- **`RawVectorWriter`, whole life, every write budget**: either everything succeeds — and then the file is
complete: the user header followed by the serialization of the vector of all pushed bits — or the run stops
with the documented `unwrap` panic of a push or with the `io::Error` of `close`.  A truncated file is never
reported as a success. -/
theorem raw_writer_never_reports_incomplete_file (uh : List Word) (bufLen : Nat)
    (ps : List RawWriter.Push) (hps : ∀ p ∈ ps, p.valid) (budget : Option Nat) :
    (∃ w, RawWriter.writeAll uh bufLen ps budget = ok w ∧
      w.file = uh ++ rawVecC.ser (RawVec.ofBits (RawWriter.allBits ps)) ∧
      w.body = (RawVec.ofBits (RawWriter.allBits ps)).data.toList ∧
      w.len = (RawWriter.allBits ps).length ∧ w.isOpen = false) ∨
    RawWriter.writeAll uh bufLen ps budget = fault (.panic .unwrap) ∨
    RawWriter.writeAll uh bufLen ps budget = fault (.err .other) :=
  RawWriter.history_budget uh bufLen ps hps budget

/-- **`IntVectorWriter`**, every width 1..64, every budget: the same trichotomy; a failure is only possible
with a limited sink -/
theorem int_writer_never_reports_incomplete_file (width bufLen : Nat) (xs : List Word) (h1 : 1 ≤ width)
    (h2 : width ≤ 64) (budget : Option Nat) :
    (∃ w, IntWriter.writeAll width bufLen xs budget = ok w ∧
      w.file = intVecC.ser (IntVec.ofList width (xs.map BitVec.toNat)) ∧
      w.file = [BitVec.ofNat 64 xs.length, BitVec.ofNat 64 width] ++
        rawVecC.ser (IntWriter.rawOf width xs) ∧
      w.len = xs.length ∧ w.width = width ∧ w.writer.len = xs.length * width ∧
      w.writer.isOpen = false ∧ IntWriter.close w = ok w) ∨
    (IntWriter.writeAll width bufLen xs budget = fault (.panic .unwrap) ∧ budget ≠ none) ∨
    (IntWriter.writeAll width bufLen xs budget = fault (.err .other) ∧ budget ≠ none) :=
  IntWriter.history_budget width bufLen xs h1 h2 budget

/-- a push can fail in one way only — the documented `unwrap` panic — whatever the state of the writer … -/
theorem push_fails_only_by_documented_panic (w : RawWriter) (b : Bool) (x : Word) (k : Nat) (f : Fault) :
    (w.pushBit b = fault f → f = .panic .unwrap) ∧ (w.pushInt x k = fault f → f = .panic .unwrap) :=
  ⟨RawWriter.pushBit_fault w b f, RawWriter.pushInt_fault w x k f⟩

/-- … and `close` only with an `io::Error` -/
theorem close_fails_only_with_io_error (w : RawWriter) (uh : List Word) (f : Fault)
    (h : w.closeWith uh = fault f) : f = .err .other :=
  RawWriter.closeWith_fault w uh f h

/-- exactly when: a push panics iff it fills the buffer and the sink cannot take the words of the flush;
`close` errs iff the sink cannot take the words left in the buffer (`Good` = the invariant of an open
writer, `SinkFails` = the budget is below the `bufLen / 64` words of a flush) -/
theorem write_failure_is_reported_exactly (w : RawWriter) (ho : w.isOpen = true) (hg : RawWriter.Good w)
    (b : Bool) (x : Word) (k : Nat) (hk : k ≤ 64) (uh : List Word) :
    (w.pushBit b = fault (.panic .unwrap) ↔ (w.bufLen ≤ w.buf.len + 1 ∧ RawWriter.SinkFails w)) ∧
    (w.pushInt x k = fault (.panic .unwrap) ↔
      (k ≠ 0 ∧ w.bufLen ≤ w.buf.len + k ∧ RawWriter.SinkFails w)) ∧
    (w.closeWith uh = fault (.err .other) ↔ ∃ bud, w.budget = some bud ∧ bud < w.buf.data.size) :=
  ⟨RawWriter.pushBit_fails_iff w ho hg b, RawWriter.pushInt_fails_iff w ho hg x k hk,
    RawWriter.closeWith_fails_iff w ho hg uh⟩

/-- if `close` says `Ok`, the file is complete, for any budget: the body is the canonical packing of
everything pushed and the file is the header followed by the serialization of the equivalent vector -/
theorem close_ok_means_file_complete (w : RawWriter) (ho : w.isOpen = true) (hI : RawWriter.Inv w)
    (uh : List Word) (w' : RawWriter) (h : w.closeWith uh = ok w') :
    w'.isOpen = false ∧ w'.len = w.len ∧
    w'.body = (RawVec.ofBits (RawWriter.pushed w)).data.toList ∧
    w'.header = uh ++ [BitVec.ofNat 64 w.len, BitVec.ofNat 64 ((w.len + 63) / 64)] ∧
    w'.file = uh ++ rawVecC.ser (RawVec.ofBits (RawWriter.pushed w)) :=
  have c := RawWriter.closeWith_ok w ho hI uh w' h
  ⟨c.isOpen, c.len_eq, c.body_eq, c.header_eq, c.file_eq⟩

/-! ### failed writes: `serialize` into a sink that fails after any number of bytes

The sink model is Model/Sink (`Sink.write`, `Sink.writeAll`, `Sink.serializeTo`); that the Rust
`serialize` is a `?`-joined sequence of `write_all` calls is the obligation `every_serializer_is_a_q_joined_write_sequence` below.
The statements are generic in the codec, hence hold for every serializable type of the model — integers, pairs,
vectors, byte vectors, strings, options, raw / integer vectors, supports, bitvectors, sparse / run-length vectors,
wavelet matrix and core — and need **no** invariant of the value. -/

/-- `write_all` on the budgeted sink: all of the buffer or the sink's error, and in the second case exactly the
first `budget` bytes have been written (the partial write) -/
theorem write_all_all_or_error (s : Sink) (buf : List UInt8) :
    (buf.length ≤ s.budget →
      s.writeAll buf = (⟨s.content ++ buf, s.budget - buf.length, s.e⟩, ok ())) ∧
    (s.budget < buf.length →
      s.writeAll buf = (⟨s.content ++ buf.take s.budget, 0, s.e⟩, fault (.err s.e))) := by
  rw [LoadWF.writeAll_eq]
  exact ⟨fun h => by rw [if_pos h], fun h => by rw [if_neg (by omega)]⟩

/-- **when the output sink fails after any number of bytes, serialization returns that error**: for every codec
`c`, value `x`, partition `chunks` of the bytes of `c.ser x`, byte budget `b` and sink error `e` —
`b ≥ 8*size` → `Ok(())`, the sink holds exactly the bytes (and `b - 8*size` budget is left);
`b < 8*size` → the result is `Err(e)`, never `Ok`, and the sink holds exactly the first `b` bytes: a strict prefix -/
theorem serialize_into_failing_sink {α} (c : Codec α) (x : α) (chunks : List (List UInt8))
    (hchunks : chunks.flatten = toBytes (c.ser x)) (b : Nat) (e : ErrKind) :
    (8 * c.size x ≤ b →
      Sink.serializeTo (Sink.new b e) chunks = (⟨toBytes (c.ser x), b - 8 * c.size x, e⟩, ok ())) ∧
    (b < 8 * c.size x →
      (Sink.serializeTo (Sink.new b e) chunks).2 = fault (.err e) ∧
      (Sink.serializeTo (Sink.new b e) chunks).1.content = (toBytes (c.ser x)).take b ∧
      (Sink.serializeTo (Sink.new b e) chunks).1.content.length = b ∧
      (Sink.serializeTo (Sink.new b e) chunks).1.content.length < (toBytes (c.ser x)).length) :=
  LoadWF.serialize_to_budget_sink c x chunks hchunks b e

/-- … in particular the outcome does not depend on how the implementation cuts its output into `write_all` calls -/
theorem sink_outcome_independent_of_chunking {α} (c : Codec α) (x : α) (chunks chunks' : List (List UInt8))
    (h : chunks.flatten = toBytes (c.ser x)) (h' : chunks'.flatten = toBytes (c.ser x)) (b : Nat) (e : ErrKind) :
    Sink.serializeTo (Sink.new b e) chunks = Sink.serializeTo (Sink.new b e) chunks' := by
  rw [LoadWF.serializeTo_eq, LoadWF.serializeTo_eq, h, h']

/-- … and what a failed serialization left in the sink is refused by the loader with `eof` (for every codec with the
strong prefix law: all of `all_codecs_report_eof`, `composite_codecs_report_eof`) -/
theorem failed_serialization_leaves_unloadable_file {α} (c : Codec α) (W : α → Prop) (hc : LawfulP IsEof c W)
    (x : α) (hx : W x) (chunks : List (List UInt8)) (hchunks : chunks.flatten = toBytes (c.ser x))
    (b : Nat) (e : ErrKind) (hb : b < 8 * c.size x) :
    (Sink.serializeTo (Sink.new b e) chunks).2 = fault (.err e) ∧
    c.load (ofBytes (Sink.serializeTo (Sink.new b e) chunks).1.content) = fault (.err .eof) := by
  obtain ⟨h1, h2, _, _⟩ := (LoadWF.serialize_to_budget_sink c x chunks hchunks b e).2 hb
  exact ⟨h1, by rw [h2]; exact pfx_bytes_eof hc x hx b hb⟩

/-- two partitions every serialization has: one `write_all` for the whole output, and one per 8-byte element -/
theorem whole_and_elementwise_chunkings {α} (c : Codec α) (x : α) :
    [toBytes (c.ser x)].flatten = toBytes (c.ser x) ∧
    ((c.ser x).map wordToBytes).flatten = toBytes (c.ser x) :=
  ⟨by simp, by simp [toBytes, List.flatMap_def]⟩

/-- the coding error the sink model must tell apart: with `write` in place of `write_all` (returned count ignored)
a short write goes unreported — `Ok(())` with a byte missing — whereas the `write_all` sequence on the same sink
returns the error -/
theorem write_instead_of_write_all_is_told_apart :
    Sink.serializeToWrite (Sink.new 3 .other) [[1, 2], [3, 4]] = (⟨[1, 2, 3], 0, .other⟩, ok ()) ∧
    Sink.serializeTo (Sink.new 3 .other) [[1, 2], [3, 4]] = (⟨[1, 2, 3], 0, .other⟩, fault (.err .other)) := by
  decide

/-! ### what is covered by correspondence testing only

For the sink law the proof is about the sink protocol (`serializeTo` over any chunking); that the Rust
`serialize` implementations follow it — `write_all`, `?` after every call — is the obligation
`every_serializer_is_a_q_joined_write_sequence` below; that the pieces are consecutive is observed by the `ser sink`
requests of the correspondence check on every budget for the generated structures (see the header).  Real kernel
write failures (`RLIMIT_FSIZE`, full
disk) are exercised by the check in a child process only. -/

/-! ### non-vacuity -/

example : (RawVec.ofBits [true, false, true]).WF ∧ (RawVec.ofBits [true, false, true]).len < 2 ^ 64 ∧
    (11 : Nat) < 8 * rawVecC.size (RawVec.ofBits [true, false, true]) := by decide
/-- one fully concrete truncation: the 24-byte file of a three-bit vector cut after 11 bytes -/
example : rawVecC.load (ofBytes ((toBytes (rawVecC.ser (RawVec.ofBits [true, false, true]))).take 11)) =
    fault (.err .eof) :=
  truncated_raw_vector _ (by decide) (by decide) 11 (by decide)
/-- a three-bit raw vector (24 bytes) written element by element into sinks of budget 24 and 11 -/
example : Sink.serializeTo (Sink.new 24 .other) ((rawVecC.ser (RawVec.ofBits [true, false, true])).map wordToBytes) =
      (⟨toBytes (rawVecC.ser (RawVec.ofBits [true, false, true])), 0, .other⟩, ok ()) ∧
    (Sink.serializeTo (Sink.new 11 .other)
      ((rawVecC.ser (RawVec.ofBits [true, false, true])).map wordToBytes)).2 = fault (.err .other) := by
  decide
example : ∀ p ∈ [RawWriter.Push.bit true, RawWriter.Push.int 5 7], p.valid := by
  intro p hp; simp at hp; rcases hp with rfl | rfl <;> simp [RawWriter.Push.valid]

/-- a sparse vector meeting `sparseWF` (3 of 10 positions, low width 2), and **all** 328 strict byte prefixes of
its 41-element file refused with `eof` -/
example : ∃ s, Sparse.ofValues 2 10 false [0, 5, 9] = ok s ∧ Codec2.sparseWF s :=
  have ⟨s, h, _, hwf, _⟩ := Codec2.sp_small_built
  ⟨s, h, hwf⟩
example : (do let s ← Sparse.ofValues 2 10 false [0, 5, 9]
              return (8 * sparseC.size s, (List.range (8 * sparseC.size s)).all fun k =>
                decide (sparseC.load (ofBytes ((toBytes (sparseC.ser s)).take k)) = fault (.err .eof)))) =
    ok (328, true) := by
  obtain ⟨s, hs, _, hwf, hsize⟩ := Codec2.sp_small_built
  rw [hs]
  show ok (8 * sparseC.size s, _) = _
  rw [hsize, List.all_eq_true.mpr fun k hk =>
    decide_eq_true ((truncated_sparse_vector s hwf).2 k (by rw [hsize]; exact List.mem_range.mp hk))]
/-- a wavelet matrix and its core meeting `wmWF` / `wmCoreWF`; the 77-element file of the core cut after 100
bytes -/
example : Codec2.wmWF (WM.ofValues [3, 1, 0, 2]) ∧ Codec2.wmCoreWF (WMCore.ofValues [3, 1, 0, 2]) :=
  ⟨Codec2.ofValues_wmWF _ (by decide) (by decide) (by decide), Codec2.ofValues_wmCoreWF _ (by decide)⟩
example : (100 : Nat) < 8 * wmCoreC.size (WMCore.ofValues [3, 1, 0, 2]) ∧
    wmCoreC.load (ofBytes ((toBytes (wmCoreC.ser (WMCore.ofValues [3, 1, 0, 2]))).take 100)) =
      fault (.err .eof) :=
  have h : (100 : Nat) < 8 * wmCoreC.size (WMCore.ofValues [3, 1, 0, 2]) := by decide +kernel
  ⟨h, (truncated_wavelet_matrix_core _ (Codec2.ofValues_wmCoreWF _ (by decide))).2 100 h⟩
/-- a run-length vector meeting `rlWF`, both modes: the accepted history `set_len(10); try_set(10, 5)` satisfies
all hypotheses of `truncated_built_run_length_vector` -/
example (m : Mode) : ∃ b v, (∀ c ∈ [RL.BCall.setLen 10, .set 10 5], RL.callArgsOk c) ∧
    RL.runBCalls m [.setLen 10, .set 10 5] {} = ok b ∧ RL.ofBuilder m b = ok v ∧
    128 * v.samples.len < 2 ^ 64 ∧ Codec2.rlWF m v := by
  obtain ⟨b, v, h1, h2, h3, h4, h5, _⟩ := Codec2.rl_small_built m
  exact ⟨b, v, h1, h2, h3, h4, h5⟩
/-- … and all 96 strict byte prefixes of its 12-element file are refused with `eof`, in both modes -/
example : ∀ m : Mode, (do let b ← RL.runBCalls m [.setLen 10, .set 10 5] {}
                          let v ← RL.ofBuilder m b
                          return (8 * (rlC m).size v, (List.range (8 * (rlC m).size v)).all fun k =>
                            decide ((rlC m).load (ofBytes ((toBytes ((rlC m).ser v)).take k)) =
                              fault (.err .eof)))) = ok (96, true) := by
  intro m
  obtain ⟨b, v, hc, hb, hv, hs, _, hsize⟩ := Codec2.rl_small_built m
  rw [hb, bind_ok, hv]
  show ok (8 * (rlC m).size v, _) = _
  rw [hsize, List.all_eq_true.mpr fun k hk =>
    decide_eq_true ((truncated_built_run_length_vector m _ hc b hb v hv hs).2 k
      (by rw [hsize]; exact List.mem_range.mp hk))]

/-! **`serialize` is a `?`-joined sequence of `write_all` calls — checked on the source of this run.**  The sink theorem
`serialize_into_failing_sink` assumes that the implementation emits its bytes through `write_all` calls whose errors are
all propagated.  `Generated/SerShape.lean` lists every statement of every `serialize_header` / `serialize_body` of the
library (tools/ser_shape.py); a statement that is anything but `x.serialize(writer)?`, `writer.write_all(..)?`, a pure
`let`, or one of the three recognised wrappers (`if let Some`, `for … in self.f.iter()`, a guarded padding write) is
extracted as `SerStep.other`, and this obligation then fails: a `write` in place of `write_all`, a result dropped with
`let _ =` or `.ok()`, a `?` removed, an early `return Ok(())`. -/
theorem every_serializer_is_a_q_joined_write_sequence :
    Generated.allSerShapes.all SerShape.qJoined = true ∧ Generated.allSerShapes.length = 14 :=
  ⟨SerShapes.all_q_joined, rfl⟩

/-- the obligation is not vacuous: a shape with a discarded result is rejected -/
example : SerShape.qJoined ⟨"X", [], [.field "len", .other "let _ = self.data.serialize(writer)"], [], []⟩ = false := rfl

/-- **`skip_option` as translated from the source on this run** (`Generated/FnsSkip.lean`: the length prefix,
`elements * WORD_BYTES`, the copy of at most that many bytes into a sink — the one expression outside the translated subset,
named `copyTakeSink` — and the comparison `skipped != bytes`) is the specified skip on every stream whose prefix announces
fewer than 2^61 elements: it moves past the optional structure, and a stream that ends inside it — every strict prefix
of a serialization — is `Err(UnexpectedEof)`.  (A prefix of 2^61 or more is not a prefix of any serialization; there the
multiplication overflows: `GenEq.skip_huge_prefix_checked`, `skip_huge_prefix_wrapping`, observation O19.) -/
theorem skip_option_as_translated_from_source (m : Mode) (es : Elems) (h : ∀ n r, es = n :: r → n.toNat < 2 ^ 61) :
    Generated.gen_skip_option m es = GenEq.skipSpecR es :=
  GenEq.skip_option_eq m es h

/-- … so the translated function refuses every stream cut short inside the optional structure -/
theorem skip_option_translated_refuses_truncation (m : Mode) (n : Word) (r : Elems) (hn : n.toNat < 2 ^ 61)
    (hcut : r.length < n.toNat) : Generated.gen_skip_option m (n :: r) = fault (.err .eof) := by
  rw [GenEq.skip_option_eq m (n :: r) (by intro n' r' h; cases h; exact hn)]
  simp [GenEq.skipSpecR, skipOptionSpec, readElem, Nat.not_le.mpr hcut]

end Sds.C14
