/-
C02 — Elias–Fano sparse bitvector answers every query exactly (set semantics).

Property theorems only (helper lemmas live in Proofs/).  Quantifiers: every universe size `n < 2^64`
(i.e. up to `usize::MAX`; `n = 0` included), every strictly increasing list `P` of positions below `n`
with `|P| < 2^63` (empty, one bit, sparse, dense, full; first and last element of the universe alike),
every low-part width `w` in `1..63`, every query argument, both arithmetic modes `m : Mode`.

The width rule of the code (an `f64` computation in `SparseBuilder::new`) is a *parameter* of the model
(`Sparse.ofValues w …`): every theorem below holds for every `w` in `1..63`, so nothing at all is
assumed about the rule beyond its range.

Reference semantics (Sds/Spec/Bits.lean), for a sorted list `P` and universe `n`:
  `getSet P i = P.contains i`, `rankSet P i = |{p ∈ P : p < i}|`, `selectSet P r = P[r]?`,
  `selectZeroSet P n r = r`-th element of `[0, n) \ P`, `predSet P x` / `succSet P x` = `(rank, value)` of
  the nearest member at or before / at or after `x`.
All results are `ok …`: no panic, no out-of-bounds access, no overflow in either mode.
-/
import Sds.Proofs.Glue2
import Sds.Proofs.GenEqIdx
import Sds.Proofs.GenEqBuild
import Sds.Proofs.GenEqLoop
import Sds.Proofs.GenEqSpZero
import Sds.Proofs.PropsAux
import Sds.Proofs.Glue5

namespace Sds.C02
open Sds Outcome

/-- the builder accepts every strictly increasing list below the universe size -/
theorem build_succeeds (w n : Nat) (P : List Nat) (hw1 : 1 ≤ w) (hw : w ≤ 63) (hn : n < 2 ^ 64)
    (hm : P.length < 2 ^ 63) (hsorted : sortedStrict P = true) (hbound : ∀ p ∈ P, p < n) :
    ∃ s, Sparse.ofValues w n false P = ok s :=
  let ⟨s, h, _⟩ := ofValues_set_ok w n P hw1 hw hn hm hsorted hbound
  ⟨s, h⟩

/-- … and (in set mode) nothing else: a list that is not strictly increasing, or has a value `≥ n`
(in particular more values than the universe has elements), is refused with an error -/
theorem build_rejects (w n : Nat) (P : List Nat) (hw1 : 1 ≤ w) (hw : w ≤ 63)
    (hbad : ¬ (sortedStrict P = true ∧ ∀ p ∈ P, p < n)) :
    Sparse.ofValues w n false P = fault (.err .other) :=
  ofValues_set_reject w n P hw1 hw hbad

/-- `len`, `count_ones`, `count_zeros` -/
theorem len_and_counts_exact (w n : Nat) (P : List Nat) (s : Sparse) (hw1 : 1 ≤ w) (hw : w ≤ 63)
    (hn : n < 2 ^ 64) (hm : P.length < 2 ^ 63) (hsorted : sortedStrict P = true)
    (hbound : ∀ p ∈ P, p < n) (hs : Sparse.ofValues w n false P = ok s) :
    s.len = n ∧ s.countOnes = P.length ∧ s.countZeros = n - P.length :=
  Glue5.sparse_counts (ofValues_set_encodes hw1 hw hn hm hsorted hbound hs)

/-- `get(i)` for every `i` below the universe size -/
theorem get_exact (w n : Nat) (P : List Nat) (s : Sparse) (hw1 : 1 ≤ w) (hw : w ≤ 63)
    (hn : n < 2 ^ 64) (hm : P.length < 2 ^ 63) (hsorted : sortedStrict P = true)
    (hbound : ∀ p ∈ P, p < n) (hs : Sparse.ofValues w n false P = ok s)
    (m : Mode) (i : Nat) (hi : i < n) : s.get m i = ok (getSet P i) :=
  get_ok (ofValues_set_encodes hw1 hw hn hm hsorted hbound hs) m i hi

/-- `rank(i)` for every `i` (also beyond the universe: then all set bits are counted) -/
theorem rank_exact (w n : Nat) (P : List Nat) (s : Sparse) (hw1 : 1 ≤ w) (hw : w ≤ 63)
    (hn : n < 2 ^ 64) (hm : P.length < 2 ^ 63) (hsorted : sortedStrict P = true)
    (hbound : ∀ p ∈ P, p < n) (hs : Sparse.ofValues w n false P = ok s)
    (m : Mode) (i : Nat) : s.rank m i = ok (rankSet P i) :=
  rank_ok (ofValues_set_encodes hw1 hw hn hm hsorted hbound hs) m i

/-- `rank_zero(i) = i - rank(i)` = the number of non-members below `i`, for every `i`
(the property asks for `i ≤ n`; the subtraction never underflows for any `i`) -/
theorem rank_zero_exact (w n : Nat) (P : List Nat) (s : Sparse) (hw1 : 1 ≤ w) (hw : w ≤ 63)
    (hn : n < 2 ^ 64) (hm : P.length < 2 ^ 63) (hsorted : sortedStrict P = true)
    (hbound : ∀ p ∈ P, p < n) (hs : Sparse.ofValues w n false P = ok s)
    (m : Mode) (i : Nat) :
    s.rankZero m i = ok (i - rankSet P i) ∧
    s.rankZero m i = ok ((List.range i).filter (fun j => !P.contains j)).length := by
  have h := rankZero_ok (ofValues_set_encodes hw1 hw hn hm hsorted hbound hs) hsorted m i
  exact ⟨h, by rw [h, Sparse2.zeros_below hsorted i]⟩

/-- `select(r)` for every rank `r` (`None` from `count_ones` on) -/
theorem select_exact (w n : Nat) (P : List Nat) (s : Sparse) (hw1 : 1 ≤ w) (hw : w ≤ 63)
    (hn : n < 2 ^ 64) (hm : P.length < 2 ^ 63) (hsorted : sortedStrict P = true)
    (hbound : ∀ p ∈ P, p < n) (hs : Sparse.ofValues w n false P = ok s)
    (m : Mode) (r : Nat) : s.select m r = ok (selectSet P r) :=
  select_ok (ofValues_set_encodes hw1 hw hn hm hsorted hbound hs) m r

/-- `select_zero(r)` for every rank `r` (`None` from `count_zeros` on) -/
theorem select_zero_exact (w n : Nat) (P : List Nat) (s : Sparse) (hw1 : 1 ≤ w) (hw : w ≤ 63)
    (hn : n < 2 ^ 64) (hm : P.length < 2 ^ 63) (hsorted : sortedStrict P = true)
    (hbound : ∀ p ∈ P, p < n) (hs : Sparse.ofValues w n false P = ok s)
    (m : Mode) (r : Nat) : s.selectZero m r = ok (selectZeroSet P n r) :=
  Sparse2.selectZero_spec (ofValues_set_encodes hw1 hw hn hm hsorted hbound hs) hsorted m r

/-- `predecessor(x)` for every `x` (also `x ≥ n`): when no member is `≤ x` the returned iterator is empty;
otherwise it is the iterator `select_iter(k)` positioned at `(k, v) = predSet P x`, its first item is
`(k, v)`, and it goes on to deliver exactly the items `(i, P[i])`, `k ≤ i < |P|`. -/
theorem predecessor_exact (w n : Nat) (P : List Nat) (s : Sparse) (hw1 : 1 ≤ w) (hw : w ≤ 63)
    (hn : n < 2 ^ 64) (hm : P.length < 2 ^ 63) (hsorted : sortedStrict P = true)
    (hbound : ∀ p ∈ P, p < n) (hs : Sparse.ofValues w n false P = ok s)
    (m : Mode) (x : Nat) :
    match predSet P x with
    | none => s.predecessor m x = ok (SpOneIter.emptyIter s) ∧
        SpOneIter.nextQ m s (SpOneIter.emptyIter s) = ok (none, SpOneIter.emptyIter s)
    | some kv => ∃ it it', s.predecessor m x = ok it ∧ s.selectIter m kv.1 = ok it ∧
        SpOneIter.nextQ m s it = ok (some kv, it') ∧
        drain m s (P.length + 1) it = ok (itemsFrom P kv.1) :=
  pred_exact (ofValues_set_encodes hw1 hw hn hm hsorted hbound hs) m x

/-- `successor(x)` for every `x` (for `x ≥ n`, and whenever no member is `≥ x`, the iterator is empty);
otherwise it is `select_iter(k)` at `(k, v) = succSet P x`, with first item `(k, v)`, followed by the rest. -/
theorem successor_exact (w n : Nat) (P : List Nat) (s : Sparse) (hw1 : 1 ≤ w) (hw : w ≤ 63)
    (hn : n < 2 ^ 64) (hm : P.length < 2 ^ 63) (hsorted : sortedStrict P = true)
    (hbound : ∀ p ∈ P, p < n) (hs : Sparse.ofValues w n false P = ok s)
    (m : Mode) (x : Nat) :
    match succSet P x with
    | none => s.successor m x = ok (SpOneIter.emptyIter s) ∧
        SpOneIter.nextQ m s (SpOneIter.emptyIter s) = ok (none, SpOneIter.emptyIter s)
    | some kv => ∃ it it', s.successor m x = ok it ∧ s.selectIter m kv.1 = ok it ∧
        SpOneIter.nextQ m s it = ok (some kv, it') ∧
        drain m s (P.length + 1) it = ok (itemsFrom P kv.1) :=
  succ_exact (ofValues_set_encodes hw1 hw hn hm hsorted hbound hs) m x

/-- what the `(rank, value)` pairs of the reference semantics are (documentation of the specification,
independent of the structure): the pair returned by `predSet` is a rank below `|P|` with its member … -/
theorem predSet_meaning (P : List Nat) (hsorted : sortedStrict P = true) (x : Nat) (kv : Nat × Nat)
    (h : predSet P x = some kv) : ∃ (hk : kv.1 < P.length), kv.2 = P[kv.1] :=
  predSet_spec (sortedLe_pairwise P (Sparse2.sortedStrict_le P hsorted)) x kv h

/-- … and so is the pair of `succSet`, whose rank is the number of members below `x` -/
theorem succSet_meaning (P : List Nat) (x : Nat) (kv : Nat × Nat) (h : succSet P x = some kv) :
    ∃ (hk : kv.1 < P.length), kv.1 = rankSet P x ∧ kv.2 = P[kv.1] :=
  succSet_spec x kv h

/-- **Headline.**  For every admissible width, every universe size and every strictly increasing list of
positions, the vector is built and answers every query, for every argument, in both modes, by the set-level
specification. -/
theorem all_queries_exact (w n : Nat) (P : List Nat) (hw1 : 1 ≤ w) (hw : w ≤ 63) (hn : n < 2 ^ 64)
    (hm : P.length < 2 ^ 63) (hsorted : sortedStrict P = true) (hbound : ∀ p ∈ P, p < n) :
    ∃ s, Sparse.ofValues w n false P = ok s ∧
      s.len = n ∧ s.countOnes = P.length ∧ s.countZeros = n - P.length ∧
      (∀ (m : Mode) (i : Nat), i < n → s.get m i = ok (getSet P i)) ∧
      (∀ (m : Mode) (i : Nat), s.rank m i = ok (rankSet P i)) ∧
      (∀ (m : Mode) (i : Nat), s.rankZero m i = ok (i - rankSet P i)) ∧
      (∀ (m : Mode) (r : Nat), s.select m r = ok (selectSet P r)) ∧
      (∀ (m : Mode) (r : Nat), s.selectZero m r = ok (selectZeroSet P n r)) ∧
      (∀ (m : Mode) (x : Nat), s.predecessor m x = ok (match predSet P x with
          | none => SpOneIter.emptyIter s
          | some kv => s.iterAt w P kv.1)) ∧
      (∀ (m : Mode) (x : Nat), s.successor m x = ok (match succSet P x with
          | none => SpOneIter.emptyIter s
          | some kv => s.iterAt w P kv.1)) ∧
      (∀ (m : Mode) (r : Nat), s.selectIter m r = ok (s.iterAt w P r)) := by
  obtain ⟨s, hs, he⟩ := ofValues_set_ok w n P hw1 hw hn hm hsorted hbound
  obtain ⟨l1, l2, l3⟩ := len_and_counts_exact w n P s hw1 hw hn hm hsorted hbound hs
  exact ⟨s, hs, l1, l2, l3, fun m i hi => get_ok he m i hi, fun m i => rank_ok he m i,
    fun m i => rankZero_ok he hsorted m i, fun m r => select_ok he m r,
    fun m r => Sparse2.selectZero_spec he hsorted m r, fun m x => pred_ok he m x,
    fun m x => succ_ok he m x, fun m r => selectIter_ok he m r⟩

/-! ### iterators -/

/-- `one_iter()` delivers `(i, P[i])` for `i = 0 … |P|-1`, in order, and then `None` -/
theorem one_iter_lists_positions (w n : Nat) (P : List Nat) (s : Sparse) (hw1 : 1 ≤ w) (hw : w ≤ 63)
    (hn : n < 2 ^ 64) (hm : P.length < 2 ^ 63) (hsorted : sortedStrict P = true)
    (hbound : ∀ p ∈ P, p < n) (hs : Sparse.ofValues w n false P = ok s) (m : Mode) :
    drain m s (P.length + 1) (SpOneIter.full s) = ok (itemsFrom P 0) :=
  drain_full (ofValues_set_encodes hw1 hw hn hm hsorted hbound hs) m

/-- two-ended use: any interleaving of `next` / `next_back` calls on `one_iter()` answers exactly like
the same calls on the deque `[(0, P[0]), …, (|P|-1, P[|P|-1])]`; what is left is a contiguous range -/
theorem one_iter_two_ended (w n : Nat) (P : List Nat) (s : Sparse) (hw1 : 1 ≤ w) (hw : w ≤ 63)
    (hn : n < 2 ^ 64) (hm : P.length < 2 ^ 63) (hsorted : sortedStrict P = true)
    (hbound : ∀ p ∈ P, p < n) (hs : Sparse.ofValues w n false P = ok s) (m : Mode)
    (calls : List Sparse2.End) :
    ∃ it' r' R', Sparse2.runCalls m s calls (SpOneIter.full s) =
        ok ((Sparse2.runDeque calls (itemsFrom P 0)).1, it') ∧
      (Sparse2.runDeque calls (itemsFrom P 0)).2 = Sparse2.itemsBetween P r' R' ∧
      it'.remaining = R' - r' :=
  Sparse2.runCalls_full_remaining (ofValues_set_encodes hw1 hw hn hm hsorted hbound hs) m calls

/-- `zero_iter()` delivers `(r, select_zero(r))` for `r = 0 … n-|P|-1`, in order, and then `None` -/
theorem zero_iter_lists_zeros (w n : Nat) (P : List Nat) (s : Sparse) (hw1 : 1 ≤ w) (hw : w ≤ 63)
    (hn : n < 2 ^ 64) (hm : P.length < 2 ^ 63) (hsorted : sortedStrict P = true)
    (hbound : ∀ p ∈ P, p < n) (hs : Sparse.ofValues w n false P = ok s) (m : Mode) :
    ∃ z, s.zeroIter m = ok z ∧
      Sparse2.drainZ m s (n - P.length + 1) z =
        ok ((List.range (n - P.length)).map fun r => (r, (selectZeroSet P n r).getD 0)) := by
  obtain ⟨z, h1, h2⟩ :=
    Sparse2.zeroIter_drain (ofValues_set_encodes hw1 hw hn hm hsorted hbound hs) hsorted m
  refine ⟨z, h1, ?_⟩
  rw [h2]
  simp [Sparse2.zerosFrom]

/-- `iter()` (all bits, two-ended): any interleaving of `next` / `next_back` answers like the deque of the
`n` membership bits -/
theorem bit_iter_two_ended (w n : Nat) (P : List Nat) (s : Sparse) (hw1 : 1 ≤ w) (hw : w ≤ 63)
    (hn : n < 2 ^ 64) (hm : P.length < 2 ^ 63) (hsorted : sortedStrict P = true)
    (hbound : ∀ p ∈ P, p < n) (hs : Sparse.ofValues w n false P = ok s) (m : Mode)
    (calls : List Sparse2.End) :
    ∃ it it', s.iter m = ok it ∧
      Sparse2.runSpCalls m s calls it = ok ((Sparse2.runDeque calls (bitsOfSet P n)).1, it') :=
  Sparse2.iter_runSpCalls (ofValues_set_encodes hw1 hw hn hm hsorted hbound hs) m calls

/-! ### non-vacuity: concrete inputs meeting the hypotheses (empty universe, empty set, full set, a set
containing the first and the last position, a huge universe with few ones) -/

example : (1 ≤ 2 ∧ 2 ≤ 63 ∧ 10 < 2 ^ 64 ∧ [0, 5, 9].length < 2 ^ 63 ∧ sortedStrict [0, 5, 9] = true ∧
    ∀ p ∈ [0, 5, 9], p < 10) := by decide
example : (1 ≤ 1 ∧ 1 ≤ 63 ∧ 0 < 2 ^ 64 ∧ ([] : List Nat).length < 2 ^ 63 ∧ sortedStrict [] = true ∧
    ∀ p ∈ ([] : List Nat), p < 0) := by decide
example : (1 ≤ 63 ∧ 63 ≤ 63 ∧ 2 ^ 64 - 1 < 2 ^ 64 ∧ [0, 2 ^ 64 - 2].length < 2 ^ 63 ∧
    sortedStrict [0, 2 ^ 64 - 2] = true ∧ ∀ p ∈ [0, 2 ^ 64 - 2], p < 2 ^ 64 - 1) := by decide
example : (sortedStrict [0, 1, 2, 3] = true ∧ ∀ p ∈ [0, 1, 2, 3], p < 4) := by decide
example : ∃ s, Sparse.ofValues 2 10 false [0, 5, 9] = ok s :=
  build_succeeds 2 10 [0, 5, 9] (by decide) (by decide) (by decide) (by decide) (by decide) (by decide)
/-- the reference answers on that instance -/
example : (rankSet [0, 5, 9] 6 = 2 ∧ selectSet [0, 5, 9] 2 = some 9 ∧ selectZeroSet [0, 5, 9] 10 4 = some 6 ∧
    predSet [0, 5, 9] 8 = some (1, 5) ∧ succSet [0, 5, 9] 6 = some (2, 9) ∧ succSet [0, 5, 9] 10 = none ∧
    itemsFrom [0, 5, 9] 0 = [(0, 0), (1, 5), (2, 9)]) := by decide

/-! **The position arithmetic of `sparse_vector.rs` as translated from the source on this run** (`Generated/FnsIdx.lean`):
`split`, `combine`, `pos`, `lower_bound`, `upper_bound` and `SparseBuilder::get_buckets`, statement by statement (the two
guarded shifts repaired after F13 included).  For every low width 1..64 the code as it is NOW is the model function the
query theorems above are about.  `combine` is stated for every `Pos`, unconditionally. -/
theorem sparse_position_arithmetic_as_translated_from_source (m : Mode) (s : Sparse) (i r hp univ w : Nat) (p : Pos)
    (hw : s.width ≤ 64) (hi : i < U64) :
    Generated.gen_SparseVector_split m s i = ok (s.split i) ∧
    Generated.gen_SparseVector_combine m s p = s.combine m p ∧
    Generated.gen_SparseVector_pos m s r = s.pos m r ∧
    Generated.gen_SparseVector_lower_bound m s hp = s.lowerBound m hp ∧
    Generated.gen_SparseVector_upper_bound m s hp = s.upperBound m hp ∧
    (w ≤ 64 → univ < U64 → Generated.gen_SparseBuilder_get_buckets m univ w = ok (Sparse.getBuckets univ w)) :=
  ⟨GenEq.split_eq m s i hw (fun _ => hi), GenEq.combine_eq m s p,
   GenEq.pos_eq m s r, GenEq.lower_bound_eq m s hp, GenEq.upper_bound_eq m s hp,
   fun hw' hu => GenEq.get_buckets_eq m univ w hw' hu⟩

/-- the translated `get_buckets` at the two regimes of the guard (width 64 and below) -/
example : Generated.gen_SparseBuilder_get_buckets .checked (2 ^ 64 - 1) 64 = ok 1 ∧
    Generated.gen_SparseBuilder_get_buckets .checked 1000 3 = ok 125 ∧
    Generated.gen_SparseBuilder_get_buckets .checked 1001 3 = ok 126 := by decide

/-- `SparseVector::select` as translated from the source on this run (`Generated/FnsBuild.lean`): the range test, `pos`,
`combine` — unconditionally the model function -/
theorem sparse_select_as_translated_from_source (m : Mode) (s : Sparse) (r : Nat) :
    Generated.gen_SparseVector_select m s r = s.select m r :=
  GenEq.sparse_select_eq m s r

/-! **The queries of `SparseVector` as translated from the source on this run — bucket scans included**
(`Generated/FnsLoop.lean`): `get` (forward scan of one bucket with its early `return`), `rank` (backward scan),
`predecessor` (backward scan, then the skip over unset bits), `successor` (two forward scans), `count_zeros`.  Each
`while` becomes `loopM` over the position the body updates, with a `return` inside the loop carried out as `Ctl.ret`.  On
every vector that encodes a set or multiset (`Encodes`, the predicate the builder's output provably satisfies), for every
argument and both build modes, the code as it is NOW is the model function the theorems above are about.  Outside
`Encodes` the equations need `low ≤ high` after `upper_bound` (automatic in the checked build) and lengths below 2^64:
`GenEq.sparse_rank_ne`, … are the witnesses on a hand-made select support that no builder or loader produces. -/
theorem sparse_queries_as_translated_from_source {s : Sparse} {n w : Nat} {P : List Nat} (hs : s.Encodes n w P)
    (m : Mode) (i : Nat) :
    Generated.gen_SparseVector_get m s i = s.get m i ∧
    Generated.gen_SparseVector_rank m s i = s.rank m i ∧
    Generated.gen_SparseVector_predecessor m s i = s.predecessor m i ∧
    Generated.gen_SparseVector_successor m s i = s.successor m i ∧
    Generated.gen_SparseVector_count_zeros m s = ok s.countZeros :=
  ⟨GenEq.sparse_get_eq_of_encodes hs m i, GenEq.sparse_rank_eq_of_encodes hs m i,
   GenEq.sparse_predecessor_eq_of_encodes hs m i, GenEq.sparse_successor_eq_of_encodes hs m i,
   GenEq.sparse_count_zeros_eq m s⟩

/-! **`select_zero` as translated from the source on this run** (`Generated/FnsSpZero.lean`): `find_zero_run` (the binary
search over ranks with `mid_pos - mid` zeros before the one of rank `mid`, then the forward scan past duplicates) and
`select_zero` on top of it equal the model functions the theorems above are about, on every representable vector. -/
theorem sparse_select_zero_as_translated_from_source (m : Mode) (s : Sparse) (rank : Nat)
    (hH : s.high.data.data.size * 64 < U64) (hL : s.low.len < U64) :
    Generated.gen_SparseVector_find_zero_run m s rank = s.findZeroRun m rank ∧
    Generated.gen_SparseVector_select_zero m s rank = s.selectZero m rank :=
  ⟨GenEq.sp_find_zero_run_eq m s rank hH hL, GenEq.sp_select_zero_eq m s rank hH hL⟩

end Sds.C02
