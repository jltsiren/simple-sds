/-
C07 — Files follow the published serialization format in both directions.

  "The bytes written for every structure can be decoded using only the rules of the published format document
   into the same logical content, and satisfy the document's requirements (little-endian 8-byte elements,
   zero padding, zero unused bits, mandated minimal widths, exactly one bucket per universe slice, whole runs
   per 64-unit block with no padding in a non-full final block, samples per block).  Conversely a file
   produced from the document's rules alone - support structures absent, any admissible parameter choice -
   loads and answers all queries correctly."

Property theorems only (helper lemmas live in Proofs/Format.lean, Proofs/FormatRL.lean, FormatSparse.lean, FormatWM.lean, Proofs/Codec.lean,
Proofs/Codec2.lean, Proofs/Supports.lean, Proofs/RLQueries.lean).

**The document side.**  `Sds/Spec/Format.lean` (namespace `Sds.Doc`) is a decoder written from
SERIALIZATION.md alone: it imports the word type, the bit accessor `getBit` and the list-level reference
semantics, and nothing of the codecs or structure models.  Every decoder (`Doc.rawBits`, `Doc.intVector`,
`Doc.bitVector`, `Doc.optionalSkip`, `Doc.optional`, `Doc.sparse`, `Doc.rl`, `Doc.wmCore`, `Doc.wm`) takes
the unread elements and returns the decoded CONTENT (bits, numbers, runs — never an implementation
structure) and the elements that follow, or `none` when the input is not a valid serialization of that type
according to the document.  The decoders CHECK the document's requirements, so a theorem
`Doc.x (ser s ++ rest) = some (content, rest)` says both "decodes to the same logical content using only the
rules of the document" and "satisfies the requirements":
  * `Doc.rawBits`: exactly `⌊(n + 63) / 64⌋` elements, every unused bit of the last element 0;
  * `Doc.intVector`: width in 1..=64, raw bitvector of exactly `n * w` bits;
  * `Doc.bitVector`: the stored number of set bits is the actual count; three length-prefixed optionals;
  * `Doc.sparse`: one low part per set bit of `high`, exactly `⌈n / 2^w⌉` buckets each closed by one 0 and none
    after them (`high` does not end with a 1), values sorted and below `n`;
  * `Doc.rl`: data width 4, two sample items per 64-unit block, samples bit-packed with the minimal width,
    each block's sample = (set bits, bits) encoded before it, blocks consist of entire runs, padding is 0 and
    only where the next run does not fit, the final block is not padded, runs are maximal;
  * `Doc.wm`: width in 1..=64, all levels of length `len`, `first` = first occurrences (absent values: `len`)
    over the alphabet `0..=max`, bit-packed with the minimal width.
Elements are 64-bit little-endian: `file_bytes_are_little_endian_elements`.

**Reading choices** (marked CHOICE in Spec/Format.lean, where the document is silent):
  1. run-length vector, final block: there is no next run, so the final block is never padded, full or not
     (the decoder requires the last run to end the block's data);
  2. wavelet matrix core: the items are elements and the width "can be from 1 to 64 bits" (as for integer
     vectors);
  3. wavelet matrix `first`: the alphabet of the empty vector is `0..=0`.
Two more places where the document is silent matter in direction (←) (not marked CHOICE in Spec/Format.lean; the
decoder takes the permissive reading in both):
  4. run-length vector: the document does not say that an integer uses the MINIMAL number of code units
     (`Doc.rlInt` accepts superfluous most significant zero groups);
  5. sparse vector: the document gives no upper bound for the low width `w` other than that of integer vectors
     (`Doc.sparse` accepts `w = 64`).

Quantifiers.  (→): every well-formed structure of each type (`RawVec.WF`, `IntVec.WF`, `bitVectorWF` — the
invariants established by every constructor, see C05 / C08 / C09), lengths that fit a `usize`; plain
bitvectors with ANY subset of the three support structures present (all 8, `bit_vector_any_supports_…`);
sparse vectors for every universe, every sorted position list and EVERY low width `w` in 1..=63 (the writer's
admissible parameter choice), set and multiset; wavelet matrices for every item list; run-length vectors for
every accepted history of builder calls (`try_set` / `set_len` / `set_bit`), in both modes.  Every `rest`: the
structure may be followed by anything, so the statements apply to a structure anywhere in a file.
(←): every element list the document's decoder accepts, support structures absent (for sparse vectors also: any
subset of the supports the library itself writes), in both modes.

**Status.**
  * (→) is proven for all six types.  Run-length vectors: `rl_file_follows_format` (every built vector; the block
    layout conforms to the document, `rl_built_layout_conforms`), under the same size condition as the round trip
    of C06 (`128 * samples.len < 2^64`: the two integer vectors fit a `usize`-addressed file).
  * (←) is proven for all six types, with these explicit hypotheses:
      - plain bitvector, sparse `high`, wavelet levels: optional structures absent (the document lets a reader skip
        them by length, the library parses and TRUSTS them: `bit_vector_document_acceptance`,
        `wavelet_optional_garbage_refused`, `wavelet_optional_wrong_rank_answers_wrongly`,
        `sparse_wrong_select_support_answers_wrongly`); for sparse also with the supports the library writes;
      - sparse: `w ≤ 63` for the THEOREM (the invariant `Sparse.Encodes` is stated for widths 1..63).  At `w = 64`
        (reading 5) the code AS FIRST WRITTEN was wrong: a document-valid file with `w = 64` loaded and then
        `get` / `rank` / `select` shifted a `usize` by 64 in `split` / `combine` (debug: panic; release: wrong
        bucket, `unwrap` on `None`) — defect F13, found through `sparse_width_64_file`, reproduced on the real
        library and REPAIRED (`fix:` commit 26c56a9: both shifts guarded like `get_buckets` already was).  The
        first-written code is kept in the model (`Sparse.splitOld` / `combineOld`): it equals the model's
        `split` / `combine` below width 64 and fails at width 64 — `sparse_width_64_old_code_fails`.  The model's
        `Sparse.split` uses the unbounded `Nat` shift (`index >>> 64 = 0` for every `usize`) and `Sparse.combine`
        carries the guard of the code (no subtraction, high part 0 at width ≥ 64), i.e. they describe the repaired
        code: `sparse_width_64_repaired_code_agrees_with_model`; width 64 is
        exercised by the correspondence check (document-level encoder with every width 1..=64) and the minimised
        file is in `corpus/C07`;
      - run-length: every integer minimally encoded (`Format2.RLCanon`) — FALSE without it, see
        `rl_nonminimal_encoding_file` (reading 4): a document-valid file on which the library loads and then
        panics in `get` (shift by 66 bits in `decode`, debug build);
      - sizes that no real file violates: fewer than `2^63` values / items (`P.length < 2^63`, `V.length < 2^63`).
    Adjacent runs (gap 0 after the first run), on which the library's zero iterator would misbehave, are NOT
    document-valid ("a sequence of maximal runs"): `rl_adjacent_runs_refused_by_document`.
-/
import Sds.Proofs.Format
import Sds.Proofs.FormatRL
import Sds.Proofs.FormatSparse
import Sds.Proofs.FormatWM
import Sds.Proofs.SafeApi
import Sds.Proofs.RLBuilt
import Sds.Proofs.PropsAux

namespace Sds.C07
open Sds Outcome SupportProofs

/-! ### elements -/

/-- "A file is an array of elements, which are unsigned 64-bit little-endian integers": the byte view of an
element list has 8 bytes per element, byte `k` of an element is `(w >> 8k) & 0xFF`, the element is
`Σ byte[k] · 256^k`, and the element list is recovered from the bytes -/
theorem file_bytes_are_little_endian_elements (es : Elems) (w : Word) :
    (toBytes es).length = 8 * es.length ∧ ofBytes (toBytes es) = es ∧
    wordToBytes w = (List.range 8).map (fun i => UInt8.ofNat ((w.toNat >>> (8 * i)) % 256)) ∧
    bytesToNat (wordToBytes w) = w.toNat :=
  ⟨length_toBytes es, ofBytes_toBytes es, rfl, bytesToNat_wordToBytes w⟩

/-! ### direction (→): what the library writes is a valid file of the document with the same content -/

/-- raw bitvector: the document reads the bits of the vector (and accepts: exact element count, zero unused
bits) -/
theorem raw_vector_file_follows_format (v : RawVec) (hwf : v.WF) (hlen : v.len < 2 ^ 64) (rest : Doc.File) :
    Doc.rawBits (rawVecC.ser v ++ rest) = some (v.bits, rest) :=
  Doc.rawBits_ser hwf hlen rest

/-- … for every bit sequence, through the builder -/
theorem raw_vector_of_bits_file_follows_format (B : List Bool) (hB : B.length < 2 ^ 64) (rest : Doc.File) :
    Doc.rawBits (rawVecC.ser (RawVec.ofBits B) ++ rest) = some (B, rest) := by
  have h := Doc.rawBits_ser (RawVec.ofBits_WF B)
    (by rw [RawVec.len_ofBits]; exact hB) rest
  rw [RawVec.bits_ofBits] at h
  exact h

/-- the requirements themselves, spelled out for the written vector: `⌊(n + 63) / 64⌋` elements, and every
bit at or beyond `n` in them is 0 -/
theorem raw_vector_padding_is_zero (v : RawVec) (hwf : v.WF) :
    v.data.size = (v.len + 63) / 64 ∧ Doc.unusedZero v.data v.len = true ∧
    ∀ j, v.len ≤ j → getBit v.data j = false :=
  ⟨hwf.size_eq, (Doc.unusedZero_iff _ _).mpr hwf.tail_zero, hwf.tail_zero⟩

/-- integer vector: the document reads the width and the items -/
theorem int_vector_file_follows_format (v : IntVec) (hwf : v.WF) (hlen : v.len < 2 ^ 64)
    (hdl : v.data.len < 2 ^ 64) (rest : Doc.File) :
    Doc.intVector (intVecC.ser v ++ rest) = some ((v.width, v.items), rest) :=
  Doc.intVector_ser hwf hlen hdl rest

/-- optional structures: whatever the library writes for `Option<T>`, present or absent, is skipped by a
reader of the document using the length element only -/
theorem optional_is_skipped_by_length {α} (c : Codec α) (o : Option α)
    (ho : ∀ x, o = some x → (c.ser x).length < 2 ^ 64) (r : Doc.File) :
    Doc.optionalSkip ((optionC c).ser o ++ r) = some r :=
  Doc.optionalSkip_ser c o ho r

/-- … and a reader that understands the structure gets its content: the length element is exactly the number
of elements of the structure (0 iff absent) -/
theorem optional_is_read_by_length {α β} (c : Codec α) (dec : Doc.File → Option (β × Doc.File)) (f : α → β)
    (o : Option α)
    (ho : ∀ x, o = some x → 0 < (c.ser x).length ∧ (c.ser x).length < 2 ^ 64 ∧ dec (c.ser x) = some (f x, []))
    (r : Doc.File) : Doc.optional dec ((optionC c).ser o ++ r) = some (o.map f, r) :=
  Doc.optional_ser c dec f o ho r

/-- bitvector, general form: any serializable `BitVector` whose counter is the number of set bits — with
whatever subset of its three support structures — is read by the document as its bits; the supports are
skipped by their lengths -/
theorem bit_vector_file_follows_format (b : BitVector) (hwf : bitVectorWF b)
    (hones : b.ones = b.data.bits.count true) (rest : Doc.File) :
    Doc.bitVector (bitVectorC.ser b ++ rest) = some (b.data.bits, rest) :=
  Doc.bitVector_ser hwf hones rest

/-- bitvector, all 8 subsets of supports (`r`, `s`, `z` = rank / select / select_zero enabled), every bit
sequence of fewer than 2^62 bits -/
theorem bit_vector_any_supports_file_follows_format (B : List Bool) (hB : B.length < 2 ^ 62) (r s z : Bool)
    (rest : Doc.File) :
    Doc.bitVector (bitVectorC.ser (enableSome r s z (BitVector.ofRaw (RawVec.ofBits B))) ++ rest) =
      some (B, rest) := by
  have hv := RawVec.ofBits_WF B
  have hl : (RawVec.ofBits B).len < 2 ^ 62 := by rw [RawVec.len_ofBits]; exact hB
  have h := Doc.bitVector_ser (ofRaw_enableSome_wf hv hl r s z)
    (by rw [enableSome_ones, enableSome_data]; exact countOnes_eq _ hv) rest
  rw [enableSome_data] at h
  simpa [BitVector.ofRaw, RawVec.bits_ofBits] using h

/-- sparse vector, set semantics: for EVERY low width `w` in 1..=63, every universe `n` and every strictly
increasing list `P` below `n`, the built vector is written as a sparse bitvector of the document, which reads
back `(n, P)` — in particular exactly one bucket per universe slice, none after them, sorted values.
(`hhl`: the bucket sequence has fewer than 2^63 bits, so that the select supports of `high`, which the
library writes as optionals, are serializable; `hlw`: the low parts fit a raw bitvector.) -/
theorem sparse_set_file_follows_format (w n : Nat) (P : List Nat) (hw1 : 1 ≤ w) (hw : w ≤ 63)
    (hn : n < 2 ^ 64) (hhl : P.length + Sparse.getBuckets n w < 2 ^ 63) (hlw : P.length * w < 2 ^ 64)
    (hsorted : sortedStrict P = true) (hbound : ∀ p ∈ P, p < n) :
    ∃ s, Sparse.ofValues w n false P = ok s ∧
      ∀ rest, Doc.sparse (sparseC.ser s ++ rest) = some ((n, P), rest) := by
  obtain ⟨s, hs, _, h⟩ := sparse_ser_set w n P hw1 hw hn hhl hlw hsorted hbound
  exact ⟨s, hs, h⟩

/-- sparse vector, multiset semantics (non-decreasing `P`, duplicates allowed) -/
theorem sparse_multiset_file_follows_format (w n : Nat) (P : List Nat) (hw1 : 1 ≤ w) (hw : w ≤ 63)
    (hn : n < 2 ^ 64) (hhl : P.length + Sparse.getBuckets n w < 2 ^ 63) (hlw : P.length * w < 2 ^ 64)
    (hsorted : sortedLe P = true) (hbound : ∀ p ∈ P, p < n) :
    ∃ s, Sparse.ofValues w n true P = ok s ∧
      ∀ rest, Doc.sparse (sparseC.ser s ++ rest) = some ((n, P), rest) := by
  obtain ⟨s, hs, _, h⟩ := sparse_ser_multi w n P hw1 hw hn hhl hlw hsorted hbound
  exact ⟨s, hs, h⟩

/-- the number of buckets the library allocates is the document's `⌈n / 2^w⌉` -/
theorem sparse_bucket_count_is_documented (n w : Nat) (hw : w ≤ 63) :
    Sparse.getBuckets n w = (n + 2 ^ w - 1) / 2 ^ w :=
  Doc.getBuckets_eq_ceil n w hw

/-- wavelet matrix core: the document reads the level bitvectors -/
theorem wavelet_core_file_follows_format (c : WMCore) (hw1 : 1 ≤ c.width) (hw : c.width ≤ 64)
    (hwf : ∀ b ∈ c.levels.toList, bitVectorWF b ∧ b.ones = b.data.bits.count true)
    (n : Nat) (hlen : ∀ b ∈ c.levels.toList, b.data.bits.length = n) (rest : Doc.File) :
    Doc.wmCore (wmCoreC.ser c ++ rest) = some (c.levels.toList.map (·.data.bits), rest) :=
  Doc.wmCore_ser hw1 hw hwf n hlen rest

/-- wavelet matrix: for every item list `V`, the matrix built by the library is written as a plain wavelet
matrix of the document, and the document's walk (level 0 offset `i`, down the matrix, summing the values of
the set bits) reads back exactly `V`; the decoder also checked that `first` is the table of first occurrences
over the alphabet and is bit-packed with the MINIMAL width -/
theorem wavelet_matrix_file_follows_format (V : List Nat) (hV : ∀ v ∈ V, v < 2 ^ 64) (hlen : V.length < 2 ^ 63)
    (hfirst : (V.foldl max 0 + 1) * 64 < 2 ^ 64) (rest : Doc.File) :
    Doc.wm (wmC.ser (WM.ofValues V) ++ rest) = some (V, rest) :=
  Doc.wm_ser_ofValues V hV hlen hfirst rest

/-- run-length vector, document side: the document's decoder, run on the serialization of any vector whose data
and samples are laid out in blocks `bl` conforming to the document (`Doc.RLConf`: block `b` starts at unit `64 b`,
its sample is `(set bits, bits)` before it, its runs are maximal and entire, padding is 0 and present only when
the next run does not fit, the final block ends with its last run), returns the length and exactly the runs of
`bl` -/
theorem rl_conforming_layout_follows_format (m : Mode) (v : RL) (hlen : v.len < 2 ^ 64) (hones : v.ones < 2 ^ 64)
    (hs : intVecWF v.samples) (hd : intVecWF v.data) (hw : v.data.width = 4)
    (hsl : v.samples.len = 2 * ((v.data.len + 63) / 64))
    (hmin : Doc.minimalWidth v.samples.width v.samples.items = true)
    (bl : List (List (Nat × Nat)))
    (hconf : Doc.RLConf v.data.items.toArray v.samples.items.toArray v.ones ((v.data.len + 63) / 64) 0 0 0 bl)
    (hl : Doc.lens bl.flatten = v.ones) (hn : Doc.span bl.flatten ≤ v.len) (rest : Doc.File) :
    Doc.rl ((rlC m).ser v ++ rest) = some ((v.len, Doc.absRuns 0 bl.flatten), rest) :=
  Doc.rl_ser_of_conf m v hlen hones hs hd hw hsl hmin bl hconf hl hn rest

/-- run-length vector, model side: the vector produced by `From<RLBuilder>` after ANY accepted history of
`try_set` / `set_len` / `set_bit` calls has a block layout conforming to the document, whose runs are the maximal
runs of the described bit sequence (both modes) -/
theorem rl_built_layout_conforms (m : Mode) (calls : List RL.BCall) (hc : ∀ c ∈ calls, RL.callArgsOk c)
    (b : RLBuilder) (hb : RL.runBCalls m calls {} = ok b) (v : RL) (hv : RL.ofBuilder m b = ok v)
    (hsize : 128 * v.samples.len < 2 ^ 64) :
    ∃ bl : List (List (Nat × Nat)),
      Doc.RLConf v.data.items.toArray v.samples.items.toArray v.ones ((v.data.len + 63) / 64) 0 0 0 bl ∧
      RunIter.absRuns 0 bl.flatten = maximalRuns (calls.foldl RL.specCall []) :=
  (Format2.rl_build_file_follows_format m calls hc b hb v hv hsize []).2

/-- run-length vector: for every mode and every vector produced by `From<RLBuilder>` from a builder reached by
accepted calls describing the bit sequence `B`, the written file is a run-length encoded bitvector of the
document, and the document reads `(|B|, maximal runs of B)` from it.
(`hsize`: the two integer vectors fit a `usize`-addressed file, as in the round trip of C06.) -/
theorem rl_file_follows_format (m : Mode) (calls : List RL.BCall) (hc : ∀ c ∈ calls, RL.callArgsOk c)
    (b : RLBuilder) (hb : RL.runBCalls m calls {} = ok b) (v : RL) (hv : RL.ofBuilder m b = ok v)
    (hsize : 128 * v.samples.len < 2 ^ 64) (rest : Doc.File) :
    Doc.rl ((rlC m).ser v ++ rest) =
      some (((calls.foldl RL.specCall []).length, maximalRuns (calls.foldl RL.specCall [])), rest) :=
  (Format2.rl_build_file_follows_format m calls hc b hb v hv hsize rest).1

/-- … and the conversion itself never fails after an accepted history -/
theorem rl_every_history_file_follows_format (m : Mode) (calls : List RL.BCall)
    (hc : ∀ c ∈ calls, RL.callArgsOk c) (b : RLBuilder) (hb : RL.runBCalls m calls {} = ok b) :
    ∃ v, RL.ofBuilder m b = ok v ∧ (128 * v.samples.len < 2 ^ 64 → ∀ rest : Doc.File,
      Doc.rl ((rlC m).ser v ++ rest) =
        some (((calls.foldl RL.specCall []).length, maximalRuns (calls.foldl RL.specCall [])), rest)) := by
  obtain ⟨v, hv, _⟩ := RLQ.built m hc hb
  exact ⟨v, hv, fun hsize rest => rl_file_follows_format m calls hc b hb v hv hsize rest⟩

/-! ### direction (←): what the document accepts, the library loads, with that content -/

/-- raw bitvector: every element list the document accepts as a raw bitvector with bits `B` is loaded, leaving
the same rest, into THE vector with content `B` (the representation is canonical: it is the value the
builder produces from `B`), so every query on it answers by `B` (C01, C05) -/
theorem raw_vector_document_file_loads (es : Doc.File) (B : List Bool) (rest : Doc.File)
    (h : Doc.rawBits es = some (B, rest)) :
    rawVecC.load es = ok (RawVec.ofBits B, rest) ∧ (RawVec.ofBits B).WF ∧ (RawVec.ofBits B).bits = B ∧
      B.length < 2 ^ 64 := by
  obtain ⟨rfl, hl⟩ := Doc.rawBits_eq_some h
  exact ⟨rawVecC_lawful.roundtrip _ rest ⟨RawVec.ofBits_WF B, by rw [RawVec.len_ofBits]; exact hl⟩,
    RawVec.ofBits_WF B, RawVec.bits_ofBits B, hl⟩

/-- integer vector: every element list the document accepts as an integer vector of width `w` with the given
items is loaded into a well-formed vector of that width with those items (and that vector is unique:
`IntVec.canonical`), so `get(i)` returns `items[i]` (C05 `int_get`) -/
theorem int_vector_document_file_loads (es : Doc.File) (w : Nat) (items : List Nat) (rest : Doc.File)
    (h : Doc.intVector es = some ((w, items), rest)) :
    ∃ v, intVecC.load es = ok (v, rest) ∧ v.WF ∧ v.width = w ∧ v.items = items ∧
      (∀ v', v'.WF → v'.width = w → v'.items = items → v' = v) := by
  obtain ⟨v, hv, hwf, _, _, hw, hi⟩ := Doc.intVector_load h
  exact ⟨v, hv, hwf, hw, hi, fun v' hwf' hw' hi' =>
    IntVec.canonical hwf' hwf (hw'.trans hw.symm) (hi'.trans hi.symm)⟩

/-- plain bitvector, support structures absent (three 0 length elements): the file is a bitvector of the
document with bits `B`, and the library loads it into exactly `BitVector::from` of the raw vector with
content `B`, without supports — the value on which C01 states every query -/
theorem bit_vector_document_file_loads (w : Word) (r : Doc.File) (B : List Bool) (rest : Doc.File)
    (hraw : Doc.rawBits r = some (B, 0 :: 0 :: 0 :: rest)) (hones : B.count true = w.toNat) :
    Doc.bitVector (w :: r) = some (B, rest) ∧
    bitVectorC.load (w :: r) = ok (BitVector.ofRaw (RawVec.ofBits B), rest) :=
  ⟨(Doc.bitVector_load_plain hraw hones).1, Doc.bitVectorC_load_plain hraw hones⟩

/-- … and, after enabling the supports (which the loader leaves to the user), it answers `len`, `get`, `rank`,
`select`, `select_zero` by `B`, for every argument, in both modes -/
theorem bit_vector_document_file_answers_queries (w : Word) (r : Doc.File) (B : List Bool) (rest : Doc.File)
    (hraw : Doc.rawBits r = some (B, 0 :: 0 :: 0 :: rest)) (hones : B.count true = w.toNat) :
    ∃ b, bitVectorC.load (w :: r) = ok (b, rest) ∧
      b.enableAll.len = B.length ∧ b.enableAll.countOnes = B.count true ∧
      (∀ i, b.enableAll.rankQ i = ok (rankSpec B i)) ∧
      (∀ (m : Mode) r, b.enableAll.selectQ m r = ok (selectSpec B r)) ∧
      (∀ (m : Mode) r, b.enableAll.selectZeroQ m r = ok (selectZeroSpec B r)) := by
  obtain ⟨_, hb⟩ := bit_vector_document_file_loads w r B rest hraw hones
  obtain ⟨_, hwf, hbits, hlen⟩ := raw_vector_document_file_loads r B _ hraw
  have L := levelOk_enableAll hwf (by rw [← RawVec.bits_length, hbits]; exact hlen)
  rw [hbits] at L
  exact ⟨_, hb, L.len, L.ones, L.rank, L.sel, L.selz⟩

/-- what the document-side acceptance of a bitvector WITH optional structures gives (and why (←) cannot hold
for them as stated: the document lets a reader skip the optionals by length, the library parses them, so a
file with garbage of the announced length is valid for the document and refused by the loader) -/
theorem bit_vector_document_acceptance (es : Doc.File) (B : List Bool) (rest : Doc.File)
    (h : Doc.bitVector es = some (B, rest)) :
    ∃ w r r0 r1 r2, es = w :: r ∧ Doc.rawBits r = some (B, r0) ∧ B.count true = w.toNat ∧
      Doc.optionalSkip r0 = some r1 ∧ Doc.optionalSkip r1 = some r2 ∧ Doc.optionalSkip r2 = some rest :=
  Doc.bitVector_eq_some h

/-! #### sparse bitvector -/

/-- sparse bitvector, the optional structures of `high` absent: every element list the document accepts as a sparse
bitvector `(n, P)` — whatever admissible low width `w ≤ 63` the writer chose — is loaded, leaving the same rest,
into a vector that `Encodes n w P`, the hypothesis of every query theorem of C02 / C15; its `high` holds exactly
the unary bucket sequence of `P` -/
theorem sparse_document_file_loads (lenE onesE : Word) (r r' rest : Doc.File) (H : List Bool) (w : Nat)
    (low : List Nat) (n : Nat) (P : List Nat)
    (h : Doc.sparse (lenE :: onesE :: r) = some ((n, P), rest))
    (hraw : Doc.rawBits r = some (H, 0 :: 0 :: 0 :: r'))
    (hlow : Doc.intVector r' = some ((w, low), rest)) (hw : w ≤ 63) (hm : P.length < 2 ^ 63) :
    ∃ s, sparseC.load (lenE :: onesE :: r) = ok (s, rest) ∧ s.Encodes n w P ∧
      s.high.data.bits = H ∧ s.low.items = low ∧ H = highBits w (Sparse.getBuckets n w) P :=
  Format2.sparse_doc_load lenE onesE r r' rest H w low n P h hraw hlow hw hm

/-- … so it answers `get`, `rank`, `select` by the position list `P`, for every argument, in both modes (the other
queries: C02 / C15, all stated for `Encodes`) -/
theorem sparse_document_file_answers_queries (lenE onesE : Word) (r r' rest : Doc.File) (H : List Bool) (w : Nat)
    (low : List Nat) (n : Nat) (P : List Nat)
    (h : Doc.sparse (lenE :: onesE :: r) = some ((n, P), rest))
    (hraw : Doc.rawBits r = some (H, 0 :: 0 :: 0 :: r'))
    (hlow : Doc.intVector r' = some ((w, low), rest)) (hw : w ≤ 63) (hm : P.length < 2 ^ 63) :
    ∃ s, sparseC.load (lenE :: onesE :: r) = ok (s, rest) ∧
      (∀ (m : Mode) i, i < n → s.get m i = ok (getSet P i)) ∧
      (∀ (m : Mode) i, s.rank m i = ok (rankSet P i)) ∧
      (∀ (m : Mode) k, s.select m k = ok (selectSet P k)) := by
  obtain ⟨s, hl, he, _⟩ := sparse_document_file_loads lenE onesE r r' rest H w low n P h hraw hlow hw hm
  exact ⟨s, hl, fun m i hi => get_ok he m i hi, fun m i => rank_ok he m i, fun m k => select_ok he m k⟩

/-- the width is read off the file; the only condition on it is `w ≤ 63` -/
theorem sparse_document_file_loads_any_width (es rest : Doc.File) (n : Nat) (P : List Nat)
    (h : Doc.sparse es = some ((n, P), rest))
    (lenE onesE : Word) (r r' : Doc.File) (H : List Bool) (hes : es = lenE :: onesE :: r)
    (hraw : Doc.rawBits r = some (H, 0 :: 0 :: 0 :: r')) :
    ∃ w low, Doc.intVector r' = some ((w, low), rest) ∧ 1 ≤ w ∧ w ≤ 64 ∧
      (w ≤ 63 → P.length < 2 ^ 63 → ∃ s, sparseC.load es = ok (s, rest) ∧ s.Encodes n w P) :=
  Format2.sparse_doc_load_es es rest n P h lenE onesE r r' H hes hraw

/-- sparse bitvector whose `high` is written by the library with ANY subset of its three support structures
(`rk`, `sl`, `sz` = rank / select / select_zero enabled) -/
theorem sparse_document_file_with_library_supports_loads (lenE : Word) (H : List Bool) (rk sl sz : Bool)
    (r' rest : Doc.File) (w : Nat) (low : List Nat) (n : Nat) (P : List Nat) (hH : H.length < 2 ^ 63)
    (h : Doc.sparse (lenE :: (bitVectorC.ser (Format2.sp_withSupports (RawVec.ofBits H) rk sl sz) ++ r')) =
      some ((n, P), rest))
    (hlow : Doc.intVector r' = some ((w, low), rest)) (hw : w ≤ 63) :
    ∃ s, sparseC.load (lenE :: (bitVectorC.ser (Format2.sp_withSupports (RawVec.ofBits H) rk sl sz) ++ r')) =
        ok (s, rest) ∧ s.Encodes n w P ∧ H = highBits w (Sparse.getBuckets n w) P :=
  Format2.sparse_doc_load_any_supports lenE H rk sl sz r' rest w low n P hH h hlow hw

/-- **`w ≤ 63` is needed for the invariant (reading 5).**  The 13-element file
`[5, 1, 2, 1, 1, 0, 0, 0, 1, 64, 64, 1, 3]` (`n = 5`, `high` = bits `10`, one low part of width 64 with value 3) is a
sparse bitvector of the document with content `(5, [3])` and is loaded by the library; no vector `Encodes` anything at
width 64.  This file found defect F13 (REPAIRED, `fix:` commit 26c56a9): `split` / `combine` as first written shifted
a `usize` by 64 on it.  The first-written code is kept in the model as `Sparse.splitOld` / `Sparse.combineOld` and is
the counterexample (`sparse_width_64_old_code_fails`); the model's `Sparse.split` (unbounded shift) / `Sparse.combine`
(guarded like the code) are what the repaired, guarded code computes (`sparse_width_64_repaired_code_agrees_with_model`), and the model
answers correctly on this file (`Format2.sp_w64_model_answers`); the correspondence check runs it. -/
theorem sparse_width_64_file :
    Doc.sparse Format2.sp_w64_file = some ((5, [3]), []) ∧
    sparseC.load Format2.sp_w64_file = ok (Format2.sp_w64_vec, []) ∧
    ∀ (s : Sparse) (n : Nat) (P : List Nat), ¬ s.Encodes n 64 P :=
  ⟨Format2.sp_w64_doc_valid, Format2.sp_w64_model_loads, Format2.sp_w64_not_encodes⟩

/-- **F13: the code as first written.**  `split` / `combine` with the width itself as shift amount
(`index >> self.low.width()`, `(high - low) << self.low.width()`; Rust: a shift of a `usize` by 64 panics with overflow
checks on and uses the amount modulo 64 without them).  Below width 64 they ARE the model's definitions, in both
modes.  At width 64 they are not: with overflow checks `split` panics on every index and `combine` never returns;
without them `split` returns the index itself as high part (`index >> 0`), which differs from the model's (and the
repaired code's) `(0, index)` for every index but 0.  Concretely on the loaded file of `sparse_width_64_file`, index 3
(its one set bit): panic, resp. bucket 3 instead of bucket 0. -/
theorem sparse_width_64_old_code_fails :
    (∀ (m : Mode) (s : Sparse), s.width < 64 →
      (∀ i, Sparse.splitOld m s i = ok (s.split i)) ∧ (∀ p, Sparse.combineOld m s p = s.combine m p)) ∧
    (∀ (s : Sparse), s.width = 64 →
      (∀ i, Sparse.splitOld .checked s i = fault (.panic .overflow)) ∧
      (∀ p r, Sparse.combineOld .checked s p ≠ ok r) ∧
      (∀ i, Sparse.splitOld .wrapping s i = ok (i, i % 2 ^ 64)) ∧
      (∀ i, 0 < i → i < 2 ^ 64 → Sparse.splitOld .wrapping s i ≠ ok (s.split i))) ∧
    Format2.sp_w64_vec.width = 64 ∧
    Sparse.splitOld .checked Format2.sp_w64_vec 3 = fault (.panic .overflow) ∧
    Sparse.splitOld .wrapping Format2.sp_w64_vec 3 = ok (3, 3) ∧
    Format2.sp_w64_vec.split 3 = (0, 3) :=
  ⟨fun m s h => ⟨fun i => SafeApi.splitOld_eq m s i h, fun p => SafeApi.combineOld_eq m s p h⟩,
   fun s h => ⟨fun i => SafeApi.splitOld_checked_w64 s i (by omega),
     fun p r => SafeApi.combineOld_checked_w64 s p (by omega) r,
     fun i => SafeApi.splitOld_wrapping_w64 s i h,
     fun i h0 hi => SafeApi.splitOld_wrapping_ne_split s i h h0 hi⟩,
   SafeApi.sp_w64_width, SafeApi.sp_w64_old_split.1, SafeApi.sp_w64_old_split.2.1, SafeApi.sp_w64_old_split.2.2⟩

/-- **F13 repaired: the guarded code is the model.**  At width 64 the model's `split` gives `(0, i)` for every
`usize` index, and every `usize` shifted left by 64 is 0; hence the transcription of the repaired Rust code
(`SafeApi.splitGuarded`: `high = if width < 64 { index >> width } else { 0 }`, `low = index & low_set(width)`;
`SafeApi.combineGuarded`: `high = if width < 64 { (pos.high - pos.low) << width } else { 0 }`) equals
`Sparse.split` / `Sparse.combine` for EVERY width up to 64, every `usize` index, every position pair, both modes -/
theorem sparse_width_64_repaired_code_agrees_with_model :
    (∀ (s : Sparse) (i : Nat), s.width = 64 → i < 2 ^ 64 → s.split i = (0, i)) ∧
    (∀ d : Nat, (d <<< 64) % U64 = 0) ∧
    (∀ (s : Sparse) (i : Nat), s.width ≤ 64 → i < 2 ^ 64 → SafeApi.splitGuarded s i = s.split i) ∧
    (∀ (m : Mode) (s : Sparse) (p : Pos), s.width ≤ 64 → SafeApi.combineGuarded m s p = s.combine m p) :=
  ⟨fun s i h hi => SafeApi.split_w64 s i h hi, SafeApi.shl64_mod,
   fun s i h hi => SafeApi.splitGuarded_eq s i h hi, fun m s p h => SafeApi.combineGuarded_eq m s p h⟩

/-- a PRESENT select structure is trusted: `high` = bits `100` carrying the select structure built for `010`; the
document reads `(8, [1])`, the loader accepts (it checks the superblock count only), and `select(0)` answers 5 while
`get(1)` is true, in both modes.  Outside the scope of (←): the document calls support structures
implementation-dependent. -/
theorem sparse_wrong_select_support_answers_wrongly :
    Doc.sparse Format2.sp_bad_file = some ((8, [1]), []) ∧
    ∃ s, sparseC.load Format2.sp_bad_file = ok (s, []) ∧
      ∀ m ∈ [Mode.checked, Mode.wrapping], s.select m 0 = ok (some 5) ∧ s.get m 1 = ok true :=
  Format2.sp_bad_select_support

/-! #### run-length encoded bitvector -/

/-- run-length encoded bitvector: every element list the document accepts with content `(len, runs)`, in which
every integer is minimally encoded (`Format2.RLCanon` on the code units of the file: no continuation unit is
followed by a unit `0`), is loaded in both modes, leaving the same rest, into a vector that is `RLQ.Good` for
`runs` — the hypothesis of every query theorem of C03 -/
theorem rl_document_file_loads (m : Mode) (es rest : Doc.File) (len : Nat) (runs : List (Nat × Nat))
    (h : Doc.rl es = some ((len, runs), rest))
    (hcan : ∀ U, Format2.rlDataUnits es = some U → Format2.RLCanon U.toArray) :
    ∃ v, (rlC m).load es = ok (v, rest) ∧ RLQ.Good v runs ∧ v.len = len :=
  Format2.rl_doc_load m es rest len runs h hcan

/-- … so it answers every query by `runs` (`RLQ.getR`, `rankR`, … are the answers defined on a run list; for the
maximal runs of a bit sequence `B` they are the answers defined by `B`: `RLQ.getR_maximalRuns` etc.) -/
theorem rl_document_file_answers_queries (m : Mode) (es rest : Doc.File) (len : Nat) (runs : List (Nat × Nat))
    (h : Doc.rl es = some ((len, runs), rest))
    (hcan : ∀ U, Format2.rlDataUnits es = some U → Format2.RLCanon U.toArray) :
    ∃ v, (rlC m).load es = ok (v, rest) ∧ v.len = len ∧
      (∀ i, v.get m i = ok (RLQ.getR runs i)) ∧
      (∀ i, v.rank m i = ok (RLQ.rankR runs i)) ∧
      (∀ i, v.rankZero m i = ok (i - RLQ.rankR runs i)) ∧
      (∀ k, v.select m k = ok (RLQ.selectR runs k)) ∧
      (∀ k, v.selectZero m k = ok (RLQ.selectZeroR len runs k)) ∧
      (∀ x, ∃ oi oi', v.successor m x = ok oi ∧ oi.nextQ m v = ok (RLQ.succR runs x, oi')) ∧
      (∀ x, ∃ oi oi', v.predecessor m x = ok oi ∧ oi.nextQ m v = ok (RLQ.predR runs x, oi')) := by
  obtain ⟨v, hl, g, e⟩ := rl_document_file_loads m es rest len runs h hcan
  refine ⟨v, hl, e, g.get m, g.rank m, g.rankZero m, g.select m, ?_, g.successor m, g.predecessor m⟩
  intro k; rw [← e]; exact g.selectZero m k

/-- **minimal encoding is needed (reading 4).**  The 13-element file
`[1, 1, 2, 1, 2, 1, 0, 24, 4, 96, 2, 0x8888888888888888, 0x888888]` (the vector `1`: run `(n0, n1) = (0, 1)`, the
integer `n0 = 0` written as 22 continuation units with data `000` and a final unit `0`) is a run-length encoded
bitvector of the document with content `(1, [(0, 1)])`; the library loads it, and `get(0)` panics: `decode` shifts
the 23rd unit by 66 bits (debug build: "attempt to shift left with overflow"; the model reports the same point in
wrapping mode as outside its domain).  The document does not say that integers use the minimal number of units. -/
theorem rl_nonminimal_encoding_file :
    Doc.rl Format2.rlFileNonCanonical = some ((1, [(0, 1)]), []) ∧
    ((rlC .checked).load Format2.rlFileNonCanonical).isOk = true ∧
    ((rlC .checked).load Format2.rlFileNonCanonical >>= fun p => p.1.get .checked 0) = fault (.panic .overflow) ∧
    ((rlC .wrapping).load Format2.rlFileNonCanonical >>= fun p => p.1.get .wrapping 0) = fault (.panic .other) ∧
    ∃ U, Format2.rlDataUnits Format2.rlFileNonCanonical = some U ∧ ¬ Format2.RLCanon U.toArray :=
  ⟨Format2.rl_noncanonical_doc_valid, Format2.rl_noncanonical_loads_then_panics.1,
    Format2.rl_noncanonical_loads_then_panics.2.1, Format2.rl_noncanonical_loads_then_panics.2.2,
    Format2.rl_noncanonical_not_canon⟩

/-- adjacent runs (the bits `11` as two runs with gap 0) are not a file of the document — "a sequence of maximal
runs" — although the loader, which does not decode the blocks, accepts them -/
theorem rl_adjacent_runs_refused_by_document :
    Doc.rl Format2.rlFileAdjacent = none ∧ ((rlC .checked).load Format2.rlFileAdjacent).isOk = true :=
  Format2.rl_adjacent_runs_not_document_valid

/-! #### plain wavelet matrix -/

/-- the document side: a level list the document walks (`w` levels of one length `len`) IS the column
decomposition of the items the document reads from it (converse of `Doc.wmItems_cols`) -/
theorem wavelet_levels_are_columns (levels : List (List Bool)) (len w : Nat) (hw : levels.length = w)
    (hlen : ∀ B ∈ levels, B.length = len) :
    (Doc.wmItems levels len).length = len ∧ (∀ v ∈ Doc.wmItems levels len, v < 2 ^ w) ∧
    levels = (List.range w).map (col w (Doc.wmItems levels len)) :=
  Format2.wm_levels_eq_cols levels len w hw hlen

/-- plain wavelet matrix, the optional structures of every level absent (`Format2.wmFilePlain`, a condition on the
file): every element list the document accepts with items `V` is loaded, leaving the same rest, into a matrix `x`
with `x.Ok V width` — the hypothesis of every query theorem of C04 -/
theorem wavelet_matrix_document_file_loads (es rest : Doc.File) (V : List Nat)
    (h : Doc.wm es = some (V, rest)) (hplain : Format2.wmFilePlain es) (hlen : V.length < 2 ^ 63) :
    ∃ x width, wmC.load es = ok (x, rest) ∧ x.Ok V width :=
  Format2.wm_doc_load es rest V h hplain hlen

/-- … so it answers `get`, `rank`, `select` by `V`, for every argument, in both modes -/
theorem wavelet_matrix_document_file_answers_queries (es rest : Doc.File) (V : List Nat)
    (h : Doc.wm es = some (V, rest)) (hplain : Format2.wmFilePlain es) (hlen : V.length < 2 ^ 63) :
    ∃ x, wmC.load es = ok (x, rest) ∧
      (∀ (m : Mode) i (hi : i < V.length), x.get m i = ok V[i]) ∧
      (∀ (m : Mode) i v, x.rank m i v = ok ((V.take i).count v)) ∧
      (∀ (m : Mode) k v, x.select m k v = ok (selectVal V v k)) := by
  obtain ⟨x, width, hl, hok⟩ := wavelet_matrix_document_file_loads es rest V h hplain hlen
  exact ⟨x, hl, fun m i hi => get_ok_wm hok m i hi, fun m i v => rank_ok_wm hok m i v,
    fun m k v => select_ok_wm hok m k v⟩

/-- a PRESENT optional structure with garbage of the announced length: valid for the document (which skips it),
refused by the loader -/
theorem wavelet_optional_garbage_refused :
    Doc.wm Format2.wmFileGarbage = some ([1, 0], []) ∧ wmC.load Format2.wmFileGarbage = fault (.err .eof) :=
  ⟨Format2.wm_optional_garbage_accepted, Format2.wm_optional_garbage_refused⟩

/-- a PRESENT rank structure of the right shape and wrong content (`[2, 1, 1, 2, 1, 1, 3, 1, 5, 0, 0, 0, 2, 1, 2, 1, 2]`:
sample `(5, 0)` instead of `(0, 1)`): valid for the document with items `[1, 0]`, loaded by the library, and then
`rank(1, 1) = 6` (correct: 1) in both modes — `RankSupport::load` only reads the samples and `enable_rank` keeps a
present structure.  Outside the scope of (←): support structures are implementation-dependent. -/
theorem wavelet_optional_wrong_rank_answers_wrongly (m : Mode) :
    Doc.wm Format2.wmFileWrongRank = some ([1, 0], []) ∧
    (wmC.load Format2.wmFileWrongRank >>= fun p => p.1.rank m 1 1) = ok 6 :=
  ⟨Format2.wm_optional_wrong_rank_accepted, Format2.wm_optional_wrong_rank_rank m⟩

/-! ### non-vacuity -/

/-- a raw vector of 3 bits: one element, unused bits zero; the document reads the bits back -/
example : Doc.rawBits (rawVecC.ser (RawVec.ofBits [true, false, true]) ++ [7]) =
    some ([true, false, true], [7]) := by decide
/-- … and a file violating "unused bits must be 0" (bit 3 set in a 3-bit vector) is not a file of the document -/
example : Doc.rawBits [3, 1, 13] = none := by decide
/-- an integer vector of two 3-bit items 3, 5 -/
example : Doc.intVector (intVecC.ser (IntVec.ofList 3 [3, 5])) = some ((3, [3, 5]), []) := by decide
/-- a document-level plain bitvector file (2 set bits, 3 bits, one element 0b101, three absent optionals) -/
example : Doc.bitVector [2, 3, 1, 5, 0, 0, 0] = some ([true, false, true], []) := by decide
example : bitVectorC.load [2, 3, 1, 5, 0, 0, 0] = ok (BitVector.ofRaw (RawVec.ofBits [true, false, true]), []) := by
  decide
/-- hypotheses of the sparse theorem on a small instance -/
example : (1 ≤ 2 ∧ 2 ≤ 63 ∧ 10 < 2 ^ 64 ∧ [0, 5, 9].length + Sparse.getBuckets 10 2 < 2 ^ 63 ∧
    [0, 5, 9].length * 2 < 2 ^ 64 ∧ sortedStrict [0, 5, 9] = true ∧ ∀ p ∈ [0, 5, 9], p < 10) := by decide

/-- (→) run-length: `try_set(1, 2); set_len(4)` (the vector `0110`), converted and written, is read by the document
as `(4, [(1, 2)])`; the hypotheses of `rl_file_follows_format` hold on it -/
example : ((RL.runBCalls .checked [.set 1 2, .setLen 4] {} >>= fun b => RL.ofBuilder .checked b >>= fun v =>
      (ok (Doc.rl ((rlC .checked).ser v ++ [7])) : Outcome (Option ((Nat × List (Nat × Nat)) × List Word))))) =
    ok (some ((4, [(1, 2)]), [7])) := by decide +kernel
example : ((RL.runBCalls .checked [.set 1 2, .setLen 4] {} >>= fun b => RL.ofBuilder .checked b >>= fun v =>
      (ok (decide (128 * v.samples.len < 2 ^ 64)) : Outcome Bool))) = ok true := by decide +kernel
/-- (←) run-length: a document-level file of the same vector is accepted, minimally encoded, loaded, `Good` -/
example : Doc.rl Format2.rlFileSmall = some ((4, [(1, 2)]), []) := Format2.rl_small_doc_valid
example (m : Mode) : ∃ v, (rlC m).load Format2.rlFileSmall = ok (v, []) ∧ RLQ.Good v [(1, 2)] ∧ v.len = 4 :=
  Format2.rl_small_loads m
/-- (←) sparse: `n = 10`, `w = 2`, values `0, 5, 9`, supports absent -/
example : Doc.sparse Format2.sp_small_file = some ((10, [0, 5, 9]), []) := Format2.sp_small_doc_valid
example : ∃ s, sparseC.load Format2.sp_small_file = ok (s, []) ∧ s.Encodes 10 2 [0, 5, 9] := Format2.sp_small_loads
/-- (←) wavelet matrix: items `[1, 0]`, width 1, supports absent -/
example : Doc.wm Format2.wmFileOk = some ([1, 0], []) := Format2.wm_example_accepted
example : Format2.wmFilePlain Format2.wmFileOk := Format2.wm_example_plain
example : ∃ x width, wmC.load Format2.wmFileOk = ok (x, []) ∧ x.Ok [1, 0] width := Format2.wm_example_loads

end Sds.C07
