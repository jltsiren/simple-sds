/-
C03 — Run-length bitvector answers every query exactly and reports maximal runs.

  "For every list of non-overlapping runs of set bits and every total length up to the documented maximum
   (about the maximum usize), the run-length bitvector built from them can be constructed and returns exactly
   the defined answers for get, rank, rank_zero, select, select_zero, predecessor, successor, len, count_ones
   and count_zeros for every argument the operation is defined for (get below len, rank_zero up to len, all
   others for any value).  Its run iterator yields exactly the maximal runs (adjacent input runs merged), in
   order, with correct running offset/rank."

Property theorems only (helper lemmas live in Proofs/RL.lean, Proofs/RLQueries.lean, Proofs/Glue4.lean and
Proofs/Glue5.lean).

Model (Model/RL.lean).  `RLBuilder` / `RL` / `RunIter` / `SampleIndex` transcribe `rl_vector.rs` and
`rl_vector/index.rs`: runs are written as pairs (gap, length − 1) of variable-length integers in 4-bit code
units (3 data bits + continuation flag, 1..22 units for a `usize`), in 64-unit blocks of entire runs, one
sample `(ones, bits)` per block; three `SampleIndex`es narrow a query to a range of blocks, `block_for` is a
binary search over the block samples, and every query then walks `RunIter::next` inside one block.  All
arithmetic is performed in the mode `m` (checked build / release build).

Input space.  `RL.RunsFrom 0 runs`: `runs` is a list of `(start, length)` in increasing order, every length
≥ 1, no run starting before the end of its predecessor (ADJACENT runs are allowed: they must be merged),
every run ending below 2^64; `n < 2^64` is the total length (`set_len(n)` after the last run; trailing zeros
or none).  `RL.runBits runs n` is the bit sequence: zeros up to each start, then the run, then zeros up to
`n`.  `maximalRuns B` (Spec/Bits.lean) is the reference: the maximal runs of set bits of a bit list.
The `…_any_history` theorems / C16 cover EVERY sequence of accepted builder calls (`try_set`, `set_len`,
`set_bit` in any interleaving, `usize` arguments), with `B` = the bit sequence those calls describe
(`RL.specCall`), not only this canonical one.

**Proven in full** — `queries_exact` (the headline) and `queries_exact_any_history`.  For
`B = RL.runBits runs n` (resp. the bit sequence of the call history), for both modes `m`, with NO further
hypothesis:

      ∃ v, (build) = ok v ∧
      v.len = B.length ∧ v.ones = B.count true ∧ v.countZeros = B.count false ∧
      (∀ i < B.length, v.get m i = ok B[i]) ∧
      (∀ i, v.rank m i = ok (rankSpec B i)) ∧ (∀ i ≤ B.length, v.rankZero m i = ok (rankZeroSpec B i)) ∧
      (∀ r, v.select m r = ok (selectSpec B r)) ∧ (∀ r, v.selectZero m r = ok (selectZeroSpec B r)) ∧
      (∀ x, first item of v.predecessor m x = predSpec B x) ∧ (∀ x, first item of v.successor m x = succSpec B x) ∧
      items of v.run_iter() = maximalRuns B with running (rank, offset)

  plus what the code does outside the domain the property defines: `get(i)` with `i ≥ len` returns `false`
  (no panic), and `rank_zero(i)` is `i − rank(i)` for EVERY `i` (the trait's default `index - rank(index)`; for
  `i > len` this is `i − count_ones`, which is not a count of zeros of the vector — the property defines
  `rank_zero` up to `len` only; both forms are stated).

  The block-count side condition of the query theorems of Proofs/RLQueries (`v.blocks + 8 < 2^64`, needed by
  `SampleIndex::new`) is DISCHARGED from the builder invariant (`block_count_bound`): the flushed runs are
  the maximal runs of `B`, each block holds at least one run and every run but the first is preceded by an
  unset bit, so `2 · blocks ≤ len + 1 ≤ 2^64`, i.e. at most 2^63 blocks.  Nothing is excluded.

  Also in full: the code-unit codec (round trip, 1..22 units, prefix-free, decoding inside the vector); the
  `SampleIndex` parameters (no bound on the universe: F8) and the `range` contract established by
  `SampleIndex::new` for non-decreasing values (duplicates allowed: F10); the `block_for` binary search; the
  builder invariant for `try_set` and the repaired `set_len` (F9); construction (`construction_succeeds`,
  `conversion_never_faults`); the iterators `one_iter()`, `iter()`, `zero_iter()` and `select_iter(r)` (every
  `r`) drained to the end (`one_iter_exact`, `bit_iter_exact`, `zero_iter_exact`, `select_iter_exact`).

**Partial** (not part of the property's list of operations, stated for completeness):
`select_zero_iter(r)` — proven: it succeeds for every `r`, is the documented empty iterator for
`r ≥ count_zeros`, and otherwise starts at `(r, select_zero(r))` (`select_zero_iter_starts`); that
the following `next()` calls enumerate the remaining unset bits is C10 `rl_built_iterators`.  The iterators are drained by `next()` only
(the Rust types implement no `next_back`; `nth` is the default repeated `next`).
-/
import Sds.Proofs.Glue4
import Sds.Proofs.Glue5
import Sds.Proofs.Glue
import Sds.Proofs.GenEqIdx
import Sds.Proofs.GenEqLoop3
import Sds.Proofs.GenEqRL1
import Sds.Proofs.GenEqConstr
import Sds.Proofs.GenEqRL2
import Sds.Proofs.GenEqConstr4
import Sds.Proofs.GenEqRLPred
import Sds.Proofs.RLBuilt

namespace Sds.C03
open Sds Outcome

/-! ### 1. the variable-length code -/

/-- every `usize` value is written in 1..22 code units, each a 4-bit value, all but the last carrying the
continuation flag -/
theorem code_length_and_shape (v : Nat) (hv : v < 2 ^ 64) :
    (RLBuilder.encodeUnits 23 v).length = RLBuilder.codeLen v ∧
    1 ≤ RLBuilder.codeLen v ∧ RLBuilder.codeLen v ≤ 22 ∧
    (∀ u ∈ RLBuilder.encodeUnits 23 v, u < 16) ∧
    ∃ init last, RLBuilder.encodeUnits 23 v = init ++ [last] ∧ last < 8 ∧ ∀ u ∈ init, 8 ≤ u ∧ u < 16 :=
  ⟨RLBuilder.encodeUnits_length v hv, (RLBuilder.codeLen_bounds v).1, (RLBuilder.codeLen_bounds v).2,
    RLBuilder.encodeUnits_lt_16 v hv, RLBuilder.encodeUnits_shape v hv⟩

/-- decoding the units of `v` followed by anything returns `v` and exactly the rest -/
theorem code_round_trip (v : Nat) (hv : v < 2 ^ 64) (rest : List Nat) :
    RLBuilder.decodeUnits (RLBuilder.encodeUnits 23 v ++ rest) = some (v, rest) :=
  RLBuilder.decodeUnits_encode v hv rest

/-- the code is prefix-free: a unit stream has at most one reading -/
theorem code_prefix_free (v v' : Nat) (hv : v < 2 ^ 64) (hv' : v' < 2 ^ 64) (r r' : List Nat)
    (h : RLBuilder.encodeUnits 23 v ++ r = RLBuilder.encodeUnits 23 v' ++ r') : v = v' ∧ r = r' :=
  RLBuilder.encodeUnits_prefix_free v v' hv hv' r r' h

/-- `RLVector::decode` at a position of the data where a code starts returns the value and the position
after the code, in both modes (no overflow for any `usize` value, including those needing 22 units) -/
theorem decode_in_vector (m : Mode) (v : RL) (o x : Nat) (rest : List Nat) (hx : x < 2 ^ 64)
    (h : v.data.items.drop o = RLBuilder.encodeUnits 23 x ++ rest) :
    v.decode m o = ok (x, o + RLBuilder.codeLen x) :=
  RL.decode_encode m v o x rest hx h

/-! ### 2. the sample index -/

/-- `SampleIndex::parameters` (repaired, F8): for EVERY universe size — no relation to 2^63 — and every
number of values with `values + 8 < 2^64`, in both modes: `ns` samples with divisor `d` cover `0..univ`
exactly -/
theorem index_parameters (m : Mode) (values univ : Nat) (hv : 1 ≤ values) (hu : 1 ≤ univ)
    (h : values + 8 < U64) :
    ∃ ns d, SampleIndex.parameters m values univ = ok (ns, d) ∧ 1 ≤ d ∧ (ns - 1) * d < univ ∧
      univ ≤ ns * d ∧ (univ - 1) / d = ns - 1 ∧ 1 ≤ ns :=
  SampleIndex.parameters_contract m hv hu h

/-- `SampleIndex::new` (repaired, F10) on any NON-DECREASING list that starts with 0 and stays below the
universe — duplicates allowed, as the zero counts at block starts require — succeeds in both modes, and
`range(x)` then satisfies its documented contract for every `x` below the universe: a non-empty index range
`lo..hi` with `values[lo] ≤ x` and (`hi` = number of values or `x < values[hi]`) -/
theorem index_range_contract (m : Mode) (rest : List Nat) (univ : Nat)
    (hs : SampleIndex.NonDec (0 :: rest)) (hall : ∀ v ∈ (0 :: rest), v < univ)
    (hno : (0 :: rest).length + 8 < U64) (hu64 : univ < U64) :
    ∃ s, SampleIndex.new m (0 :: rest) univ = ok s ∧ ∀ x, x < univ →
      ∃ lo hi, s.range x = ok (lo, hi) ∧ lo < hi ∧ hi ≤ (0 :: rest).length ∧
        (∃ h : lo < (0 :: rest).length, (0 :: rest)[lo] ≤ x) ∧
        (hi = (0 :: rest).length ∨ ∃ h : hi < (0 :: rest).length, x < (0 :: rest)[hi]) :=
  SampleIndex.new_range m rest univ hs hall hno hu64

/-- `block_for`: binary search with the fuel the model gives it (70 ≥ 64 halvings), over any non-empty range
of at most 2^64 blocks whose samples are readable and non-decreasing and whose first sample is `≤ value`:
returns THE last block of the range with sample `≤ value` -/
theorem block_search_exact (f : Nat → Outcome Nat) (g : Nat → Nat) (value lo hi : Nat) (hlt : lo < hi)
    (hsz : hi - lo ≤ 2 ^ 64) (hf : ∀ i, lo ≤ i → i < hi → f i = ok (g i))
    (hmono : ∀ i j, lo ≤ i → i ≤ j → j < hi → g i ≤ g j) (hlo : g lo ≤ value) :
    ∃ b, RL.blockFor f value 70 lo hi = ok b ∧ lo ≤ b ∧ b < hi ∧ g b ≤ value ∧
      ∀ j, b < j → j < hi → value < g j :=
  RL.blockFor_70 f g value lo hi hlt hsz hf hmono hlo

/-! ### 3. the builder -/

/-- `try_set(start, len)` on a builder satisfying the invariant (the empty builder does), both modes:
refused with `Err` exactly when the run starts before `len()` or would end past `usize::MAX`; otherwise
accepted, the invariant is kept, `len()` = end of the run, `count_ones` grows by `len`, and a run ADJACENT to
the pending one (`start == len()`) is merged into it -/
theorem builder_try_set (m : Mode) (b : RLBuilder) (h : b.Inv) (start len : Nat) (hlen : len < U64) :
    (start < b.len ∨ U64 - 1 - len < start → b.trySet m start len = fault (.err .other)) ∧
    (¬ (start < b.len ∨ U64 - 1 - len < start) →
      ∃ b', b.trySet m start len = ok b' ∧ b'.Inv ∧
        (len = 0 → b' = b) ∧
        (len ≠ 0 → b'.len = start + len ∧ b'.ones = b.ones + len ∧
          b'.run = (if start = b.len then (b.run.1, b.run.2 + len) else (start, len)))) :=
  RLBuilder.trySet_spec m h start len hlen

/-- `set_len(n)` (repaired, F9), both modes: never fails, keeps the invariant, `len() = max len n`,
`count_ones` unchanged, and the empty pending run is parked at the new length -/
theorem builder_set_len (m : Mode) (b : RLBuilder) (h : b.Inv) (n : Nat) (hn : n < U64) :
    ∃ b', b.setLen m n = ok b' ∧ b'.Inv ∧ b'.len = max b.len n ∧ b'.ones = b.ones ∧
      (n ≤ b.len → b' = b) ∧ (b.len < n → b'.run = (n, 0)) :=
  RLBuilder.setLen_spec m h n hn

theorem builder_empty_invariant : ({} : RLBuilder).Inv := RLBuilder.inv_empty

/-- **the builder accepts every run list**: for every increasing list of non-overlapping (possibly adjacent)
runs ending below 2^64 and every total length `n < 2^64`, in both modes, every `try_set` and the final
`set_len` succeed (no refusal, no panic), and the bit sequence these calls describe is `runBits runs n`, of
length `max n (end of the last run)` -/
theorem builder_accepts_every_run_list (m : Mode) (runs : List (Nat × Nat)) (n : Nat)
    (hruns : RL.RunsFrom 0 runs) (hn : n < U64) :
    ∃ b, RL.runBCalls m (RL.callsOf runs n) {} = ok b ∧ b.Inv ∧
      (RL.callsOf runs n).foldl RL.specCall [] = RL.runBits runs n ∧
      (RL.runBits runs n).length = max n (RL.endOf 0 runs) := by
  obtain ⟨b, hb, hi⟩ := RL.runBCalls_accepts m n hn runs {} RLBuilder.inv_empty hruns
  exact ⟨b, hb, hi, RL.callsOf_spec runs n hruns, RL.runBits_length runs n hruns⟩

/-! ### 4. the converted vector: len, counts, run iterator -/

/-- **run iterator, canonical construction.**  Build from the runs and the total length, convert, iterate:
`len()`, `count_ones()`, `count_zeros()` are those of `B = runBits runs n`, and `run_iter()` followed by
`next()` until `None` yields exactly the MAXIMAL runs of `B` — adjacent input runs merged — in order, each
paired with the iterator position `(ones up to and including the run, end of the run)` right after it
(`RunIter.withPos 0`), ending at `(count_ones, end of the last run)`; both modes. -/
theorem run_iterator_yields_maximal_runs (m : Mode) (runs : List (Nat × Nat)) (n : Nat)
    (hruns : RL.RunsFrom 0 runs) (hn : n < U64)
    (b : RLBuilder) (hb : RL.runBCalls m (RL.callsOf runs n) {} = ok b)
    (v : RL) (hv : RL.ofBuilder m b = ok v) :
    v.len = (RL.runBits runs n).length ∧ v.ones = (RL.runBits runs n).count true ∧
    v.countZeros = (RL.runBits runs n).count false ∧
    ∃ it0 e endPos, v.runIter = ok it0 ∧
      RunIter.collect m v ((maximalRuns (RL.runBits runs n)).length + 1) it0 =
        ok (RunIter.withPos 0 (maximalRuns (RL.runBits runs n)), e) ∧
      e.pos = ((RL.runBits runs n).count true, endPos) ∧ endPos ≤ (RL.runBits runs n).length := by
  have hc := RL.callsOf_argsOk runs n 0 hruns hn
  have h := RL.build_iterate_calls m (RL.callsOf runs n) hc b hb v hv
  have hz := (RLQ.built_of m hc hb hv).zeros
  rw [RL.callsOf_spec runs n hruns] at h hz
  exact ⟨h.1, h.2.1, hz, h.2.2⟩

/-- **run iterator, any call history.**  The same for ANY sequence of accepted `try_set` / `set_len` /
`set_bit` calls with `usize` arguments — every decomposition of the same bit sequence into calls (bit at a
time, run at a time, split runs, interleaved `set_len`) — with `B` the bit sequence the calls describe
(`RL.specCall`: `try_set(s, l)` appends zeros up to `s` and `l` ones; `set_len(k)` appends zeros up to `k`;
`set_bit(i)` is `try_set(i, 1)`) -/
theorem runs_of_any_call_history (m : Mode) (calls : List RL.BCall) (hc : ∀ c ∈ calls, RL.callArgsOk c)
    (b : RLBuilder) (hb : RL.runBCalls m calls {} = ok b) (v : RL) (hv : RL.ofBuilder m b = ok v) :
    v.len = (calls.foldl RL.specCall []).length ∧ v.ones = (calls.foldl RL.specCall []).count true ∧
    ∃ it0 e endPos, v.runIter = ok it0 ∧
      RunIter.collect m v ((maximalRuns (calls.foldl RL.specCall [])).length + 1) it0 =
        ok (RunIter.withPos 0 (maximalRuns (calls.foldl RL.specCall [])), e) ∧
      e.pos = ((calls.foldl RL.specCall []).count true, endPos) ∧
      endPos ≤ (calls.foldl RL.specCall []).length :=
  RL.build_iterate_calls m calls hc b hb v hv

/-- the iteration theorem underneath, for any vector with a block layout `bl` (runs as (gap, length) relative
to their predecessor): the iterator yields the absolute runs of the layout, crossing every block boundary,
whatever the number of blocks -/
theorem run_iterator_over_layout (m : Mode) (v : RL) (bl : List (List (Nat × Nat)))
    (hL : RunIter.Layout v 0 0 bl) (hrk : RunIter.lens bl.flatten < U64)
    (hsp : RunIter.span bl.flatten < U64) :
    ∃ it0 e, v.runIter = ok it0 ∧
      RunIter.collect m v (bl.flatten.length + 1) it0 =
        ok (RunIter.withPos 0 (RunIter.absRuns 0 bl.flatten), e) ∧
      e.pos = (RunIter.lens bl.flatten, RunIter.span bl.flatten) :=
  RunIter.runIter_collect m v bl hL hrk hsp

/-- **`From<RLBuilder>` never faults**: after ANY accepted call history (`try_set` / `set_len` / `set_bit`,
`usize` arguments) the conversion returns a vector, in both modes — none of its three `SampleIndex::new` calls
asserts, no arithmetic overflows (with the code as first written it could panic: F10) -/
theorem conversion_never_faults (m : Mode) (calls : List RL.BCall) (hc : ∀ c ∈ calls, RL.callArgsOk c)
    (b : RLBuilder) (hb : RL.runBCalls m calls {} = ok b) : ∃ v, RL.ofBuilder m b = ok v :=
  (RLQ.built m hc hb).imp fun _ h => h.1

/-- **the vector can be constructed**, for every run list and every total length, in both modes -/
theorem construction_succeeds (m : Mode) (runs : List (Nat × Nat)) (n : Nat)
    (hruns : RL.RunsFrom 0 runs) (hn : n < U64) :
    ∃ b v, RL.runBCalls m (RL.callsOf runs n) {} = ok b ∧ b.Inv ∧ RL.ofBuilder m b = ok v := by
  obtain ⟨b, hb, hi, _⟩ := builder_accepts_every_run_list m runs n hruns hn
  obtain ⟨v, hv, _⟩ := RLQ.built m (RL.callsOf_argsOk runs n 0 hruns hn) hb
  exact ⟨b, v, hb, hi, hv⟩

/-! ### 5. the queries -/

/-- **the block-count condition always holds**: after ANY accepted call history the converted vector has
`2 · blocks ≤ len + 1`, hence at most 2^63 blocks and `blocks + 8 < 2^64` — the side condition of
`SampleIndex::new` and of the query theorems of Proofs/RLQueries, discharged from the builder invariant -/
theorem block_count_bound (m : Mode) (calls : List RL.BCall) (hc : ∀ c ∈ calls, RL.callArgsOk c)
    (b : RLBuilder) (hb : RL.runBCalls m calls {} = ok b) (v : RL) (hv : RL.ofBuilder m b = ok v) :
    2 * v.blocks ≤ v.len + 1 ∧ v.blocks + 8 < U64 :=
  RL.blocks_bound m calls hc b hb v hv

/-- **every query, every accepted call history.**  For ANY sequence of accepted `try_set` / `set_len` /
`set_bit` calls with `usize` arguments, with `B` the bit sequence the calls describe, in both modes: the
conversion succeeds and the vector answers `len`, `count_ones`, `count_zeros`, `get`, `rank`, `rank_zero`,
`select`, `select_zero`, `predecessor`, `successor` by the list-level definitions on `B`, for EVERY argument
(every `usize` value and beyond), and `run_iter()` yields the maximal runs of `B` with the running
`(rank, offset)`.  `get` is also stated outside its domain (`false`), `rank_zero` both as defined (up to `len`)
and as computed (`i − rank(i)`, every `i`).  No hypothesis on the number of blocks, runs or lengths. -/
theorem queries_exact_any_history (m : Mode) (calls : List RL.BCall) (hc : ∀ c ∈ calls, RL.callArgsOk c)
    (b : RLBuilder) (hb : RL.runBCalls m calls {} = ok b) :
    ∃ v, RL.ofBuilder m b = ok v ∧
      v.len = (calls.foldl RL.specCall []).length ∧
      v.ones = (calls.foldl RL.specCall []).count true ∧
      v.countZeros = (calls.foldl RL.specCall []).count false ∧
      (∀ i (hi : i < (calls.foldl RL.specCall []).length), v.get m i = ok (calls.foldl RL.specCall [])[i]) ∧
      (∀ i, (calls.foldl RL.specCall []).length ≤ i → v.get m i = ok false) ∧
      (∀ i, v.rank m i = ok (rankSpec (calls.foldl RL.specCall []) i)) ∧
      (∀ i, i ≤ (calls.foldl RL.specCall []).length →
        v.rankZero m i = ok (rankZeroSpec (calls.foldl RL.specCall []) i)) ∧
      (∀ i, v.rankZero m i = ok (i - rankSpec (calls.foldl RL.specCall []) i)) ∧
      (∀ r, v.select m r = ok (selectSpec (calls.foldl RL.specCall []) r)) ∧
      (∀ r, v.selectZero m r = ok (selectZeroSpec (calls.foldl RL.specCall []) r)) ∧
      (∀ x, ∃ oi oi', v.predecessor m x = ok oi ∧
        oi.nextQ m v = ok (predSpec (calls.foldl RL.specCall []) x, oi')) ∧
      (∀ x, ∃ oi oi', v.successor m x = ok oi ∧
        oi.nextQ m v = ok (succSpec (calls.foldl RL.specCall []) x, oi')) ∧
      ∃ it0 e endPos, v.runIter = ok it0 ∧
        RunIter.collect m v ((maximalRuns (calls.foldl RL.specCall [])).length + 1) it0 =
          ok (RunIter.withPos 0 (maximalRuns (calls.foldl RL.specCall [])), e) ∧
        e.pos = ((calls.foldl RL.specCall []).count true, endPos) ∧
        endPos ≤ (calls.foldl RL.specCall []).length := by
  obtain ⟨v, hv, H⟩ := RLQ.built m hc hb
  obtain ⟨_, _, hit⟩ := RL.build_iterate_calls m calls hc b hb v hv
  exact ⟨v, hv, H.len, H.ones, H.zeros, fun i hi => by rw [H.get m i, Glue5.getSpec_lt _ i hi],
    fun i hi => by rw [H.get m i, Glue5.getSpec_ge _ i hi], H.rank m,
    fun i hi => by rw [H.rankZero m i, sub_rankSpec_eq_rankZeroSpec _ i hi], H.rankZero m, H.select m,
    H.selectZero m, H.predecessor m, H.successor m, hit⟩

/-- **Headline: C03 in full.**  For every run list (`RL.RunsFrom 0 runs`: increasing, non-overlapping,
possibly adjacent runs of positive length ending below 2^64) and every total length `n < 2^64`, in both
modes: the builder accepts every call, the conversion succeeds, and the vector answers EVERY query for EVERY
argument by the list-level definitions on `B = RL.runBits runs n` — `len` (`= max n (end of the last run)`),
`count_ones`, `count_zeros`, `get` (below `len`; `false` beyond), `rank` (any `i`), `rank_zero` (up to `len`
as defined; `i − rank(i)` for any `i`), `select`, `select_zero` (any rank; `None` from the count on),
`predecessor`, `successor` (any `x`: the first item of the returned iterator is the specified
`(rank, position)`, or the iterator is empty) — and `run_iter()` yields exactly the maximal runs of `B`
(adjacent input runs merged), in order, each with the running `(rank, offset)` after it. -/
theorem queries_exact (m : Mode) (runs : List (Nat × Nat)) (n : Nat)
    (hruns : RL.RunsFrom 0 runs) (hn : n < U64) :
    ∃ b v, RL.runBCalls m (RL.callsOf runs n) {} = ok b ∧ RL.ofBuilder m b = ok v ∧
      v.len = (RL.runBits runs n).length ∧ v.len = max n (RL.endOf 0 runs) ∧
      v.ones = (RL.runBits runs n).count true ∧ v.countZeros = (RL.runBits runs n).count false ∧
      (∀ i (hi : i < (RL.runBits runs n).length), v.get m i = ok (RL.runBits runs n)[i]) ∧
      (∀ i, (RL.runBits runs n).length ≤ i → v.get m i = ok false) ∧
      (∀ i, v.rank m i = ok (rankSpec (RL.runBits runs n) i)) ∧
      (∀ i, i ≤ (RL.runBits runs n).length → v.rankZero m i = ok (rankZeroSpec (RL.runBits runs n) i)) ∧
      (∀ i, v.rankZero m i = ok (i - rankSpec (RL.runBits runs n) i)) ∧
      (∀ r, v.select m r = ok (selectSpec (RL.runBits runs n) r)) ∧
      (∀ r, v.selectZero m r = ok (selectZeroSpec (RL.runBits runs n) r)) ∧
      (∀ x, ∃ oi oi', v.predecessor m x = ok oi ∧ oi.nextQ m v = ok (predSpec (RL.runBits runs n) x, oi')) ∧
      (∀ x, ∃ oi oi', v.successor m x = ok oi ∧ oi.nextQ m v = ok (succSpec (RL.runBits runs n) x, oi')) ∧
      ∃ it0 e endPos, v.runIter = ok it0 ∧
        RunIter.collect m v ((maximalRuns (RL.runBits runs n)).length + 1) it0 =
          ok (RunIter.withPos 0 (maximalRuns (RL.runBits runs n)), e) ∧
        e.pos = ((RL.runBits runs n).count true, endPos) ∧ endPos ≤ (RL.runBits runs n).length := by
  obtain ⟨b, hb, _, _, hlen⟩ := builder_accepts_every_run_list m runs n hruns hn
  have h := queries_exact_any_history m (RL.callsOf runs n) (RL.callsOf_argsOk runs n 0 hruns hn) b hb
  rw [RL.callsOf_spec runs n hruns] at h
  obtain ⟨v, hv, h1, h⟩ := h
  exact ⟨b, v, hb, hv, h1, h1.trans hlen, h⟩

/-! ### 6. the other iterators (any accepted call history; `B` = the bit sequence described) -/

/-- `one_iter()`: `next()` until `None` yields the set positions of `B` in order, ranked `0, 1, …` -/
theorem one_iter_exact (m : Mode) (calls : List RL.BCall) (hc : ∀ c ∈ calls, RL.callArgsOk c)
    (b : RLBuilder) (hb : RL.runBCalls m calls {} = ok b) (v : RL) (hv : RL.ofBuilder m b = ok v)
    (F : Nat) (hF : v.ones + 1 ≤ F) :
    ∃ st items, v.oneIter = ok st ∧ RLQ.drainOne m v F st = ok items ∧
      items.map (·.2) = onesPos (calls.foldl RL.specCall []) ∧
      items.map (·.1) = List.range ((calls.foldl RL.specCall []).count true) :=
  (RLQ.built_of m hc hb hv).oneIter_drain m F hF

/-- `iter()`: `next()` until `None` yields exactly the bit sequence `B` -/
theorem bit_iter_exact (m : Mode) (calls : List RL.BCall) (hc : ∀ c ∈ calls, RL.callArgsOk c)
    (b : RLBuilder) (hb : RL.runBCalls m calls {} = ok b) (v : RL) (hv : RL.ofBuilder m b = ok v)
    (F : Nat) (hF : v.len + 1 ≤ F) :
    ∃ st, v.iter = ok st ∧ RLQ.drainBits m v F st = ok (calls.foldl RL.specCall []) :=
  (RLQ.built_of m hc hb hv).iter_drain m F hF

/-- `zero_iter()`: `next()` until `None` yields the unset positions of `B` in order, ranked `0, 1, …` -/
theorem zero_iter_exact (m : Mode) (calls : List RL.BCall) (hc : ∀ c ∈ calls, RL.callArgsOk c)
    (b : RLBuilder) (hb : RL.runBCalls m calls {} = ok b) (v : RL) (hv : RL.ofBuilder m b = ok v)
    (F : Nat) (hF : v.countZeros + 1 ≤ F) :
    ∃ st items, v.zeroIter m = ok st ∧ RLQ.drainZero m v F st = ok items ∧
      items.map (·.2) = zerosPos (calls.foldl RL.specCall []) ∧
      items.map (·.1) = List.range ((calls.foldl RL.specCall []).count false) :=
  (RLQ.built_of m hc hb hv).zeroIter_drain m F hF

/-- `select_iter(r)` for EVERY `r`: the set positions of rank `r, r + 1, …` in order, each with its rank, then
`None`; nothing for `r ≥ count_ones` -/
theorem select_iter_exact (m : Mode) (calls : List RL.BCall) (hc : ∀ c ∈ calls, RL.callArgsOk c)
    (b : RLBuilder) (hb : RL.runBCalls m calls {} = ok b) (v : RL) (hv : RL.ofBuilder m b = ok v)
    (r F : Nat) (hF : (calls.foldl RL.specCall []).count true - r + 1 ≤ F) :
    ∃ st items, v.selectIter m r = ok st ∧ RLQ.drainOne m v F st = ok items ∧
      items.map (·.2) = (onesPos (calls.foldl RL.specCall [])).drop r ∧
      items.map (·.1) = List.range' r ((calls.foldl RL.specCall []).count true - r) := by
  have H := RLQ.built_of m hc hb hv
  exact Glue5.rl_selectIter_drain m _ H.good H.ones r F hF

/-- `select_zero_iter(r)` for EVERY `r` (the start only): the call succeeds; for `r ≥ count_zeros` it
is the documented empty iterator, whose `next()` is `None`; otherwise it stands at `(r, select_zero(r))`.
The enumeration by the following `next()` calls: C10 `rl_built_iterators`. -/
theorem select_zero_iter_starts (m : Mode) (calls : List RL.BCall) (hc : ∀ c ∈ calls, RL.callArgsOk c)
    (b : RLBuilder) (hb : RL.runBCalls m calls {} = ok b) (v : RL) (hv : RL.ofBuilder m b = ok v) (r : Nat) :
    (∃ z, v.selectZeroIter m r = ok z ∧
      (r < (calls.foldl RL.specCall []).count false →
        z.pos.1 = r ∧ selectZeroSpec (calls.foldl RL.specCall []) r = some z.pos.2)) ∧
    ((calls.foldl RL.specCall []).count false ≤ r →
      v.selectZeroIter m r = ok (Glue5.rlZeroEnd v) ∧
      (Glue5.rlZeroEnd v).nextQ m v = ok (none, Glue5.rlZeroEnd v)) := by
  have H := RLQ.built_of m hc hb hv
  obtain ⟨g, e1, e2, e3⟩ : _ ∧ _ ∧ _ ∧ _ := ⟨H.good, H.len, H.ones, H.zeros⟩
  constructor
  · obtain ⟨z, hz, hpos⟩ := Glue5.rl_selectZeroIter_ok m g r
    refine ⟨z, hz, fun hr => ?_⟩
    obtain ⟨p1, p2⟩ := hpos (by rw [e3]; exact hr)
    rw [g.selectZero m r, e1, RLQ.selectZeroR_maximalRuns] at p2
    exact ⟨p1, Outcome.ok.inj p2⟩
  · intro hr
    refine ⟨(Glue5.rl_selectZero_past m v r (by rw [e3]; exact hr)).2, Glue5.rl_zeroEnd_next m v ?_⟩
    rw [e1, e2]; exact List.count_le_length

/-! ### 7. findings F8, F9, F10 (documentation: the `…Old` functions are the code as first written) -/

/-- F8: `parameters` as first written added the universe size to a divisor before dividing — an arithmetic
overflow panic (checked build) for a universe of 2^63 already, although every quantity involved fits … -/
theorem F8_old_parameters_overflow :
    SampleIndex.parametersOld .checked 1 (2 ^ 63) = fault (.panic .overflow) ∧
    SampleIndex.nsam 1 (2 ^ 63) = 1 ∧ SampleIndex.div0 1 (2 ^ 63) = 2 ^ 63 ∧ 2 ^ 63 < U64 :=
  SampleIndex.F8_parameters_overflow

/-- … exactly when one of its three roundings overflows (the repaired function keeps only the first
condition, which does not involve the universe) -/
theorem F8_old_parameters_ok_iff (values univ : Nat) (hv : 1 ≤ values) (hu : 1 ≤ univ) :
    (∃ r, SampleIndex.parametersOld .checked values univ = ok r) ↔
      (values + 8 < U64 ∧ univ + SampleIndex.ns0 values < U64 ∧
        univ + SampleIndex.div0 values univ < U64) :=
  SampleIndex.parameters_checked_iff hv hu

/-- F8 repaired: the same inputs, and the largest universe, in both modes -/
theorem F8_fixed :
    SampleIndex.parameters .checked 1 (2 ^ 63) = ok (1, 2 ^ 63) ∧
    SampleIndex.parameters .wrapping 1 (2 ^ 63) = ok (1, 2 ^ 63) ∧
    SampleIndex.parameters .checked 1 (2 ^ 64 - 1) = ok (1, 2 ^ 64 - 1) ∧
    SampleIndex.parameters .wrapping 1 (2 ^ 64 - 1) = ok (1, 2 ^ 64 - 1) ∧
    SampleIndex.parameters .checked 9 (2 ^ 64 - 1) = ok (2, 2 ^ 63) ∧
    SampleIndex.parametersOld .checked 1 (2 ^ 64 - 1) = fault (.panic .overflow) :=
  SampleIndex.F8_parameters_fixed

/-- F9: `set_len` as first written left the empty pending run at the OLD length whenever it extended the
vector, breaking the invariant … -/
theorem F9_old_set_len_breaks_invariant (m : Mode) (b : RLBuilder) (h : b.Inv) (n : Nat) (hn : b.len < n) :
    ∃ b', b.setLenOld m n = ok b' ∧ b'.len = n ∧ b'.run = (b.len, 0) ∧ b'.run.1 + b'.run.2 ≠ b'.len ∧
      ¬ b'.Inv :=
  RLBuilder.setLen_breaks_inv m h n hn

/-- … so `set_len(10); try_set(10, 5)` encoded the run at position 0 (units `[0, 4]` = gap 0, length 5):
the vector had bits 0..4 set instead of 10..14 -/
theorem F9_old_wrong_vector :
    (do let b ← ({} : RLBuilder).setLenOld .checked 10
        let b ← b.trySet .checked 10 5
        let b ← b.flush .checked
        return (b.data.items, b.samples.toList, b.len, b.ones)) = ok ([0, 4], [(0, 0)], 15, 5) :=
  RLBuilder.F9_encoded

/-- F9 repaired, end to end: the same calls, converted and iterated, give length 15 and the single run
`(10, 5)` -/
theorem F9_fixed :
    (do let b ← RL.runBCalls .checked [.setLen 10, .set 10 5] {}
        let v ← RL.ofBuilder .checked b
        let it ← v.runIter
        let (rs, _) ← RunIter.collect .checked v 2 it
        return (v.len, v.ones, rs.map (·.1))) = ok (15, 5, [(10, 5)]) :=
  RL.F9_fixed_roundtrip

/-- F10: the inner loop of `SampleIndex::new` as first written asserted STRICTLY increasing values and
panicked on a duplicate; the repaired loop consumes it -/
theorem F10_old_loop_panics_on_duplicate :
    SampleIndex.consumeOld 5 3 0 0 [0, 7] = fault (.panic .assert) ∧
    SampleIndex.consume 5 3 0 0 [0, 7] = ok (1, 0, [7]) :=
  SampleIndex.F10_consume_duplicate

/-- on strictly increasing values (all the old code accepted) the two loops are the same function -/
theorem F10_fix_is_conservative (values : List Nat) (hs : SampleIndex.StrictInc values) (T : Nat)
    (fuel offset : Nat) (ho : offset < values.length) :
    SampleIndex.consumeOld T fuel offset values[offset] (values.drop (offset + 1)) =
      SampleIndex.consume T fuel offset values[offset] (values.drop (offset + 1)) :=
  SampleIndex.consumeOld_eq_consume_of_strict hs T fuel offset ho

/-- F10 end to end: the valid builder on which `From<RLBuilder>` used to panic (205 accepted runs, 9 blocks,
blocks 0 and 1 both preceded by 0 zeros) now converts, in both modes -/
theorem F10_conversion_now_succeeds :
    (do let b ← RL.runCalls .checked RL.zeroIdxCalls {}
        let v ← RL.ofBuilder .checked b
        return (v.len, v.ones, v.blocks, v.selectZeroIndex.divisor, v.selectZeroIndex.samples.items)) =
      ok (2 ^ 63 + 2 ^ 61 + 408, 2 ^ 61 + 205, 9, 2 ^ 62 + 102, [0, 1]) ∧
    (do let b ← RL.runCalls .wrapping RL.zeroIdxCalls {}
        let v ← RL.ofBuilder .wrapping b
        return (v.len, v.ones, v.blocks, v.selectZeroIndex.divisor, v.selectZeroIndex.samples.items)) =
      ok (2 ^ 63 + 2 ^ 61 + 408, 2 ^ 61 + 205, 9, 2 ^ 62 + 102, [0, 1]) :=
  RL.zeroIdx_ofBuilder_ok

/-! ### non-vacuity -/

/-- a run list with a run at position 0, two ADJACENT runs (merged by `maximalRuns`) and trailing zeros -/
example : RL.RunsFrom 0 [(0, 2), (4, 1), (5, 3)] ∧ (12 : Nat) < U64 := by
  refine ⟨⟨by decide, by decide, by decide, by decide, by decide, by decide, by decide, by decide, by decide,
    trivial⟩, by decide⟩
example : RL.runBits [(0, 2), (4, 1), (5, 3)] 12 =
    [true, true, false, false, true, true, true, true, false, false, false, false] := by decide
example : maximalRuns (RL.runBits [(0, 2), (4, 1), (5, 3)] 12) = [(0, 2), (4, 4)] := by decide
example : RunIter.withPos 0 [(0, 2), (4, 4)] = [((0, 2), (2, 2)), ((4, 4), (6, 8))] := by decide
/-- … and the conversion hypothesis is satisfiable: the whole pipeline on that instance (runs, then the
iterator positions after each run) -/
example :
    (do let b ← RL.runBCalls .checked (RL.callsOf [(0, 2), (4, 1), (5, 3)] 12) {}
        let v ← RL.ofBuilder .checked b
        let it ← v.runIter
        let (rs, e) ← RunIter.collect .checked v 3 it
        return (v.len, v.ones, rs.map (·.1), e.pos)) = ok (12, 6, [(0, 2), (4, 4)], (6, 8)) := by
  decide +kernel
example :
    (do let b ← RL.runBCalls .wrapping (RL.callsOf [(0, 2), (4, 1), (5, 3)] 12) {}
        let v ← RL.ofBuilder .wrapping b
        let it ← v.runIter
        let (rs, _) ← RunIter.collect .wrapping v 3 it
        return rs.map (·.2)) = ok [(2, 2), (6, 8)] := by
  decide +kernel
/-- … and the queries on that instance, in- and out-of-range arguments (1 block; `rank_zero(20)` is the
computed `20 − 6`, beyond the defined domain), both modes -/
example :
    (do let b ← RL.runBCalls .checked (RL.callsOf [(0, 2), (4, 1), (5, 3)] 12) {}
        let v ← RL.ofBuilder .checked b
        let g ← v.get .checked 4
        let g2 ← v.get .checked (2 ^ 64 - 1)
        return (v.blocks, g, g2)) = ok (1, true, false) := by
  decide +kernel
example :
    (do let b ← RL.runBCalls .checked (RL.callsOf [(0, 2), (4, 1), (5, 3)] 12) {}
        let v ← RL.ofBuilder .checked b
        let r ← v.rank .checked 6
        let r2 ← v.rank .checked (2 ^ 64 - 1)
        let rz ← v.rankZero .checked 12
        let rz2 ← v.rankZero .checked 20
        return (r, r2, rz, rz2)) = ok (4, 6, 6, 14) := by
  decide +kernel
example :
    (do let b ← RL.runBCalls .checked (RL.callsOf [(0, 2), (4, 1), (5, 3)] 12) {}
        let v ← RL.ofBuilder .checked b
        let s ← v.select .checked 2
        let s2 ← v.select .checked 6
        let sz ← v.selectZero .checked 2
        let sz2 ← v.selectZero .checked (2 ^ 64 - 1)
        return (s, s2, sz, sz2)) = ok (some 4, none, some 8, none) := by
  decide +kernel
example :
    (do let b ← RL.runBCalls .checked (RL.callsOf [(0, 2), (4, 1), (5, 3)] 12) {}
        let v ← RL.ofBuilder .checked b
        let p ← v.predecessor .checked 3
        let (pi, _) ← p.nextQ .checked v
        let p2 ← v.predecessor .checked (2 ^ 64 - 1)
        let (pi2, _) ← p2.nextQ .checked v
        let q ← v.successor .checked 2
        let (qi, _) ← q.nextQ .checked v
        let q2 ← v.successor .checked 12
        let (qi2, _) ← q2.nextQ .checked v
        return (pi, pi2, qi, qi2)) = ok (some (1, 1), some (5, 7), some (2, 4), none) := by
  decide +kernel
example :
    (do let b ← RL.runBCalls .wrapping (RL.callsOf [(0, 2), (4, 1), (5, 3)] 12) {}
        let v ← RL.ofBuilder .wrapping b
        let r ← v.rank .wrapping 6
        let s ← v.select .wrapping 2
        let sz ← v.selectZero .wrapping 2
        return (v.blocks + 8 < U64, r, s, sz)) = ok (true, 4, some 4, some 8) := by
  decide +kernel
/-- the reference answers on that instance -/
example : (rankSpec (RL.runBits [(0, 2), (4, 1), (5, 3)] 12) 6 = 4 ∧
    rankZeroSpec (RL.runBits [(0, 2), (4, 1), (5, 3)] 12) 12 = 6 ∧
    selectSpec (RL.runBits [(0, 2), (4, 1), (5, 3)] 12) 2 = some 4 ∧
    selectSpec (RL.runBits [(0, 2), (4, 1), (5, 3)] 12) 6 = none ∧
    selectZeroSpec (RL.runBits [(0, 2), (4, 1), (5, 3)] 12) 2 = some 8 ∧
    predSpec (RL.runBits [(0, 2), (4, 1), (5, 3)] 12) 3 = some (1, 1) ∧
    predSpec (RL.runBits [(0, 2), (4, 1), (5, 3)] 12) (2 ^ 64 - 1) = some (5, 7) ∧
    succSpec (RL.runBits [(0, 2), (4, 1), (5, 3)] 12) 2 = some (2, 4) ∧
    succSpec (RL.runBits [(0, 2), (4, 1), (5, 3)] 12) 12 = none) := by decide
/-- a vector with more than 8 blocks (the F10 instance: 9 blocks) also meets the block-count bound -/
example : (do let b ← RL.runCalls .checked RL.zeroIdxCalls {}
              let v ← RL.ofBuilder .checked b
              return (v.blocks, decide (2 * v.blocks ≤ v.len + 1))) = ok (9, true) := by
  obtain ⟨b, hb, _, h, _⟩ := RL.zeroIdx_checked
  obtain ⟨v, hv, h⟩ := Outcome.bind_eq_ok h
  have h := Outcome.ok.inj h
  have hlen : v.len = _ := congrArg (·.1) h
  have hblocks : v.blocks = 9 := congrArg (·.2.2.1) h
  rw [hb, bind_ok, hv, bind_ok, hblocks, hlen]
  decide
/-- no runs at all; runs of length 1; the largest positions -/
example : RL.RunsFrom 0 [] ∧ RL.RunsFrom 0 [(2 ^ 64 - 2, 1)] ∧ RL.runBits [] 3 = [false, false, false] := by
  refine ⟨trivial, ⟨by decide, by decide, by decide, trivial⟩, by decide⟩
example : (RLBuilder.encodeUnits 23 (2 ^ 64 - 1)).length = 22 ∧ (RLBuilder.encodeUnits 23 0).length = 1 := by
  decide

/-! **`SampleIndex::{div_round_up, parameters, range}` as translated from the source on this run**
(`Generated/FnsIdx.lean`): the overflow-free rounding introduced by the repair of F8, the two-step parameter choice, and
the sample lookup with its `+ 1` on the upper end.  For every universe and value below 2^64 the code as it is NOW is the
model function the block-lookup theorems above are about. -/
theorem sample_index_as_translated_from_source (m : Mode) (s : SampleIndex) (values univ value n : Nat)
    (hu : univ < U64) (hv : value < U64) :
    Generated.gen_SampleIndex_div_round_up m value n = SampleIndex.divRoundUpSafe value n ∧
    Generated.gen_SampleIndex_parameters m values univ = SampleIndex.parameters m values univ ∧
    (value / s.divisor + 1 < U64 → s.numValues < U64 → Generated.gen_SampleIndex_range m s value = s.range value) :=
  ⟨GenEq.sample_div_round_up_eq m value n hv, GenEq.sample_parameters_eq m values univ hu,
   fun h1 h2 => GenEq.sample_range_eq m s value h1 h2⟩

/-- the translated `parameters` at a universe of 2^63 with 9 values (the input of finding F8) does not overflow -/
example : Generated.gen_SampleIndex_parameters .checked 9 (2 ^ 63) = ok (2, 2 ^ 62) := by decide

/-! **The internals of `RLVector` as translated from the source on this run — loops included** (`Generated/FnsLoop.lean`):
`blocks`, `ones_after`, `decode` (the `loop` over code units with its `return`), `block_for` (the binary search, with the
sample accessor as a function parameter), `iter_for_block`, `run_iter`.  With block numbers below the block count, data and
sample lengths representable in `usize`, and `low ≤ high < 2^64` for the search, the code as it is NOW is the model function
the theorems above are about.  `decode` agrees in the checked build for every stream, and in the wrapping build for every
stream without 23 consecutive continuation units at the offset — which no integer below 2^64 encodes to
(`GenEq.rl_decode_encode`: on what the builder writes, both modes decode the value and advance by its code length).  On a
crafted 23-unit code the release build shifts by `66 % 64` and reads on where the model stops with a panic
(`GenEq.rl_decode_ne_23`): observation O9 in DESIGN.md, outside the property (files the library or a document-following
writer produced). -/
theorem rl_internals_as_translated_from_source (m : Mode) (v : RL) (block offset low high value : Nat) (f : Nat → Outcome Nat)
    (hs : v.samples.len ≤ U64) (hd : v.data.len < U64) :
    Generated.gen_RLVector_blocks m v = ok v.blocks ∧
    Generated.gen_RLVector_run_iter m v = v.runIter ∧
    (block < v.blocks → Generated.gen_RLVector_ones_after m v block = v.onesAfter block) ∧
    (v.blocks = (v.data.len + 63) / 64 → block < v.blocks →
      Generated.gen_RLVector_iter_for_block m v block = v.iterForBlock block) ∧
    ((m = .wrapping → ¬ GenEq.units23 v offset) → Generated.gen_RLVector_decode m v offset = v.decode m offset) ∧
    (low ≤ high → high < U64 →
      Generated.gen_RLVector_block_for m low high value f = RL.blockFor f value (high + 1) low high) :=
  ⟨GenEq.rl_blocks_eq m v, GenEq.rl_run_iter_eq m v, fun hb => GenEq.rl_ones_after_eq_of_lt m v block hs hb,
   fun hbl hb => GenEq.rl_iter_for_block_eq_of_lt m v block (Nat.le_of_lt hd) hbl hb,
   fun h => GenEq.rl_decode_eq m v offset hd h, fun hl hh => GenEq.rl_block_for_eq m low high value f hl hh⟩

/-! **The run-length vector's query paths as translated from the source on this run** (`Generated/FnsRL.lean`):
`RunIter::advance_if` (decode the next run only when needed, consult the closure, advance), `RunIter::next`,
`rank_zero` / `offset_for` / `rank_at`, `iter_for_bit` / `iter_for_one` / `iter_for_zero` (sample-index range, then the
binary search `block_for` over the block samples with the closures of the source), and `get` / `rank` with their `while let`
loops.  On every vector within the representation bounds (`RLBounds`: data addressable, and — release builds only — no
23-unit code, observation O9; `RangeOK`: the sample index returns an ordered range, which `rangeOK_of_valid` derives for
every index built by `SampleIndex::new`) the code as it is NOW equals the model the theorems above are about.
`advance_if` is stated for an ARBITRARY closure against `advanceIfLazy`, which consults the closure before the two final
additions exactly like the source (observation O13: the model's `peek` adds first). -/
theorem rl_queries_as_translated_from_source {m : Mode} {v : RL} (hb : GenEq.RLBounds m v) :
    (∀ it adv, Generated.gen_RunIter_advance_if m v it adv = GenEq.advanceIfLazy m v it adv) ∧
    (∀ it, Generated.gen_RunIter_next m v it = it.nextQ m v) ∧
    (∀ it, Generated.gen_RunIter_rank_zero m v it = it.rankZero m) ∧
    (∀ it r, Generated.gen_RunIter_offset_for m v it r = it.offsetFor m r) ∧
    (∀ it i, Generated.gen_RunIter_rank_at m v it i = it.rankAt m i) ∧
    Generated.gen_RLVector_count_zeros m v = subM m v.len v.ones ∧
    Generated.gen_RLVector_iter m v = v.iter ∧
    Generated.gen_RLVector_one_iter m v = v.oneIter ∧
    (v.len < U64 → ∀ index, (index < v.len → GenEq.RangeOK v.rankIndex index) →
        Generated.gen_RLVector_iter_for_bit m v index = v.iterForBit index ∧
        Generated.gen_RLVector_get m v index = v.get m index ∧
        Generated.gen_RLVector_rank m v index = v.rank m index) ∧
    (v.ones < U64 → ∀ rank, (rank < v.ones → GenEq.RangeOK v.selectIndex rank) →
        Generated.gen_RLVector_iter_for_one m v rank = v.iterForOne rank) ∧
    (v.len < U64 → v.ones ≤ v.len → ∀ rank, (rank < v.countZeros → GenEq.RangeOK v.selectZeroIndex rank) →
        Generated.gen_RLVector_iter_for_zero m v rank = v.iterForZero m rank) :=
  ⟨fun it adv => GenEq.run_advance_if_lazy hb it adv, fun it => GenEq.run_next_eq hb it,
   GenEq.run_rank_zero_eq m v, GenEq.run_offset_for_eq m v, GenEq.run_rank_at_eq m v, GenEq.rl_count_zeros_eq m v,
   GenEq.rl_iter_eq m v, GenEq.rl_one_iter_eq m v,
   fun hlen index hr => ⟨GenEq.rl_iter_for_bit_eq m v index hlen hr, GenEq.rl_get_eq hb index hlen hr,
     GenEq.rl_rank_eq hb index hlen hr⟩,
   fun ho rank hr => GenEq.rl_iter_for_one_eq m v rank ho hr,
   fun hlen hol rank hr => GenEq.rl_iter_for_zero_eq m v rank hlen hol hr⟩

/-- … in particular on every vector the builder produces (`RLQ.GoodB`) whose data is addressable -/
theorem rl_get_rank_as_translated_on_built_vectors {m : Mode} {v : RL} {bl : RLQ.Blocks} (g : RLQ.GoodB v bl)
    (hd : v.data.len + 63 < U64) (hdec : m = .wrapping → ∀ o, ¬ GenEq.units23 v o) (index : Nat) :
    Generated.gen_RLVector_get m v index = v.get m index ∧ Generated.gen_RLVector_rank m v index = v.rank m index :=
  ⟨GenEq.rl_get_eq_good g hd hdec index, GenEq.rl_rank_eq_good g hd hdec index⟩

/-! **`SampleIndex::new` as translated from the source on this run** (`Generated/FnsConstr.lean`): `parameters`, the
`with_len` allocation, the two `next()` calls and `assert_eq!(prev, 0)`, the `for sample in 1..` loop with its inner
`while` (`break` above the threshold, `assert!(prev <= value)`, `offset += 1`, `next()`), `set`, the final assertion —
equal to the model's `SampleIndex.new` on every iterator (the list of its items) of fewer than 2^60 items. -/
theorem sample_index_new_as_translated_from_source (m : Mode) (values : List Nat) (univ : Nat)
    (hu : univ < U64) (hlen : values.length < 2 ^ 60) :
    Generated.gen_SampleIndex_new m values univ = SampleIndex.new m values univ :=
  GenEq.sample_index_new_eq m values univ hu hlen

/-! **`select`, `select_zero`, `successor` and the positioned iterators of the run-length vector as translated from the
source on this run** (`Generated/FnsRL.lean`): `select` / `select_iter` (`iter_for_one`, then the `while` that advances run
by run until the run holding the rank), `zero_iter`, `select_zero` / `select_zero_iter` (`iter_for_zero`, the loop over
gaps), `successor` (`iter_for_bit`, the loop to the first run ending after the value) — each equal to the model function
of the theorems above under the same representation bounds as `rl_queries_as_translated_from_source`. -/
theorem rl_select_family_as_translated_from_source {m : Mode} {v : RL} (hb : GenEq.RLBounds m v) :
    (v.ones < U64 → ∀ rank, (rank < v.ones → GenEq.RangeOK v.selectIndex rank) →
        Generated.gen_RLVector_select m v rank = v.select m rank ∧
        Generated.gen_RLVector_select_iter m v rank = v.selectIter m rank) ∧
    Generated.gen_RLVector_zero_iter m v = v.zeroIter m ∧
    (v.len < U64 → v.ones ≤ v.len → ∀ rank, (rank < v.countZeros → GenEq.RangeOK v.selectZeroIndex rank) →
        Generated.gen_RLVector_select_zero m v rank = v.selectZero m rank ∧
        Generated.gen_RLVector_select_zero_iter m v rank = v.selectZeroIter m rank) ∧
    (v.len < U64 → ∀ value, (value < v.len → GenEq.RangeOK v.rankIndex value) →
        Generated.gen_RLVector_successor m v value = v.successor m value) :=
  ⟨fun ho rank hr => ⟨GenEq.rl_select_eq hb rank ho hr, GenEq.rl_select_iter_eq hb rank ho hr⟩,
   GenEq.rl_zero_iter_eq hb,
   fun hlen hol rank hr => ⟨GenEq.rl_select_zero_eq hb rank hlen hol hr, GenEq.rl_select_zero_iter_eq hb rank hlen hol hr⟩,
   fun hlen value hr => GenEq.rl_successor_eq hb value hlen hr⟩

/-! **`impl From<RLBuilder> for RLVector` as translated from the source on this run** (`Generated/FnsConstr4.lean`): `flush`,
the three `SampleIndex::new` calls over `builder.samples.iter().map(..)` (bits, ones, `bits - ones`; each iterator the
list of its items), `count_zeros`, `max_value = samples.last().unwrap_or(&(0, 0)).1`, the compressed samples
(`with_capacity(2 * blocks, bit_len(max_value))` and the `for (ones, bits)` loop pushing both) and the final struct —
equal to the model's `RL.ofBuilder`, which the theorems above are about, on every builder state reachable through the
public API (`RLBuilder.Inv`) whose sample count fits the representation bound. -/
theorem rl_from_builder_as_translated_from_source (m : Mode) (b : RLBuilder) (h : b.Inv)
    (hs : 128 * b.samples.size + 191 < U64) :
    Generated.gen_RLVector_from_builder m b = RL.ofBuilder m b :=
  GenEq.rl_from_builder_eq_of_inv m b h hs

/-- … and without the invariant, under the explicit bounds the arithmetic needs -/
theorem rl_from_builder_as_translated_explicit_bounds (m : Mode) (b : RLBuilder) (hlen : b.len < U64) (hones : b.ones < U64)
    (hs : 128 * b.samples.size + 191 < U64)
    (hrun : b.run.2 ≠ 0 → b.data.len + 44 < U64 ∧ b.run.2 ≤ b.ones ∧ b.run.1 + b.run.2 < U64) :
    Generated.gen_RLVector_from_builder m b = RL.ofBuilder m b :=
  GenEq.rl_from_builder_eq m b hlen hones hs hrun

/-! **`RLVector::predecessor` as translated from the source on this run** (`Generated/FnsRLPred.lean`).  Its `FnMut` closure
assigns the captured local `iterate`; the closure is lambda-lifted from the source text (captured variables become
parameters, the assigned one is threaded as state: `gen_RLVector_predecessor_closure`), `advance_if` is translated once
more with a STATE-PASSING closure parameter (`gen_RunIter_advance_if_st`, related to the earlier pure-closure translation
by `GenEq.run_advance_if_st_eq`: the closure is called exactly once, with the value `advance_if` returns), and the
`while iterate { … }` loop threads `(iter, iterate)`.  Equal to the model's `RL.predecessor` — which the theorems above are
about — in the wrapping build, whenever the model succeeds, and on every vector the builder can produce; in the checked
build the two differ exactly where the model's `peek` adds the end of a run before the closure refuses it (observation O13
again: `GenEq.rl_predecessor_ne`, a crafted vector with one run of 2^64 − 1 bits). -/
theorem rl_predecessor_as_translated_from_source {m : Mode} {v : RL} (hb : GenEq.RLBounds m v) (value : Nat) (hlen : v.len < U64)
    (hr : min value (v.len - 1) < v.len → GenEq.RangeOK v.rankIndex (min value (v.len - 1))) :
    ((m = .checked → RL.predecessor m v value ≠ fault (.panic .overflow)) →
        Generated.gen_RLVector_predecessor m v value = RL.predecessor m v value) ∧
    (∀ r, RL.predecessor m v value = ok r → Generated.gen_RLVector_predecessor m v value = ok r) :=
  ⟨fun hov => GenEq.rl_predecessor_eq hb value hlen hr hov,
   fun r h => GenEq.rl_predecessor_eq_of_ok hb value hlen hr r h⟩

/-- … and on every vector that the builder can produce, with no side condition on the outcome -/
theorem rl_predecessor_as_translated_on_built_vectors {m : Mode} {v : RL} {bl : RLQ.Blocks} (g : RLQ.GoodB v bl)
    (hd : v.data.len + 63 < U64) (hdec : m = .wrapping → ∀ o, ¬ GenEq.units23 v o) (value : Nat) :
    Generated.gen_RLVector_predecessor m v value = RL.predecessor m v value :=
  GenEq.rl_predecessor_eq_good g hd hdec value

end Sds.C03
