/-
C16 — Builders reject invalid steps without side effects and build what was accepted.

  "For every sequence of builder calls (set, try_set, extend, set_len; sparse and run-length builders), a
   call that is out of order, out of range, beyond capacity or would overflow is refused (an error from the
   try_ variants, the documented panic from the others) and leaves every observable property of the builder
   unchanged, while each accepted call is reflected exactly in len/next_index/count_ones/is_full.
   Converting the builder succeeds exactly when the type allows it (a sparse builder must be full) and
   yields the vector whose set bits are precisely the accepted positions."

Property theorems only (helper lemmas live in Proofs/Builders.lean, Proofs/Sparse2.lean, Proofs/RL.lean,
Proofs/Glue4.lean).  Quantifiers: every finite history of calls, valid and invalid ones in any order, for
every (universe, capacity) pair and every low width `w` (a parameter: the `f64` width rule of
`SparseBuilder::new` is outside the model, every theorem holds for every `w` in the stated range), set and
multiset mode, both arithmetic modes `m` for the run-length builder (the sparse builder performs no
arithmetic that could overflow under its invariant).

**How "leaves every observable unchanged" is expressed.**  The model is functional: `try_set` takes the
builder by value and returns `Outcome Builder`.  A refused call returns `fault (.err .other)` and NO new
builder; the caller still holds the old value, which is unchanged because nothing can change a value.  So
"a refused call has no side effect" holds by construction of the model (Rust: the `try_` functions test all
conditions before the first write — that is what is transcribed, the tests come first and the error
branches contain no assignment).  What the theorems add is (a) the EXACT refusal condition, as an iff,
(b) that nothing else can happen (never a panic / out-of-bounds under the invariant), (c) the effect of an
accepted call on all observables, and (d) whole histories, in which the caller ignores `Err` results and
goes on with the builder it holds (`BuildersProofs.step`, `BuildersProofs.rlRun`).
`refused_call_keeps_builder` states the protocol explicitly.

**Panicking variants.**  `set`, `extend` (sparse builder) are the same functions with the error turned into a
panic: in the source `fn set(..) { self.try_set(..).unwrap() }` and `extend` is a loop over `set`.  The model
has one function per pair; the driver maps `fault (.err _)` of the model to "panics" for the unwrapping
variant (harness level).  Every theorem below about `trySet` is therefore a theorem about `set` with "returns
`Err`" read as "panics with the documented message" — and since the panic happens before any write, the
builder observed after `catch_unwind` is the unchanged one.  `Sparse.ofValues` is the `extend` / `FromIterator`
pipeline (`new`, `try_set` for each value, `build`), stopping at the first refusal.

**Scope of "the vector whose set bits are precisely the accepted positions".**  Sparse builder: `len`,
`count_ones`, `get`, `rank`, `select` and `one_iter` of the built vector.  Run-length builder: `len`, `count_ones`
and `run_iter` (the maximal runs of set bits — which determine every bit) of the converted vector; that the
conversion itself never faults is proven (`rl_history_builds_accepted_runs`); the point queries `get` / `rank` /
`select` of a run-length vector are the subject of C03 (`queries_exact_any_history`).
-/
import Sds.Proofs.Glue4
import Sds.Proofs.Sparse2
import Sds.Proofs.GenEqBuild
import Sds.Proofs.GenEqConstr4
import Sds.Proofs.GenEqConstr3
import Sds.Proofs.GenEqSpMisc
import Sds.Proofs.PropsAux

namespace Sds.C16
open Sds Outcome BuildersProofs

/-! ## 1. Sparse builder -/

/-- `SparseBuilder::new(universe, ones)`: refused (an `Err`) exactly when there are more ones than
positions; otherwise an empty builder with the requested capacity -/
theorem sparse_new_refused_iff (w univ ones : Nat) (h1 : 1 ≤ w) (h2 : w ≤ 64) :
    SparseBuilder.new w univ ones = fault (.err .other) ↔ ones > univ :=
  new_reject_iff w univ ones h1 h2

theorem sparse_new_accepted (w univ ones : Nat) (h1 : 1 ≤ w) (h2 : w ≤ 64) (ho : ones ≤ univ)
    (hu : w < 64 ∨ univ < U64) :
    ∃ b, SparseBuilder.new w univ ones = ok b ∧ SbInv b ∧ b.capacity = ones ∧ b.univ = univ ∧
      b.low.width = w ∧ b.len = 0 ∧ b.next = 0 ∧ b.increment = 1 :=
  new_ok w univ ones h1 h2 ho hu

/-- `SparseBuilder::multiset(universe, ones)`: any number of ones; `next_index` does not advance past an
accepted value (`increment = 0`), so duplicates are accepted -/
theorem sparse_multiset_accepted (w univ ones : Nat) (h1 : 1 ≤ w) (h2 : w ≤ 64)
    (hu : w < 64 ∨ univ < U64) :
    ∃ b, SparseBuilder.multiset w univ ones = ok b ∧ SbInv b ∧ b.capacity = ones ∧ b.univ = univ ∧
      b.low.width = w ∧ b.len = 0 ∧ b.next = 0 ∧ b.increment = 0 :=
  multiset_ok w univ ones h1 h2 hu

/-- **exact refusal condition of `try_set`**: the builder is full (beyond capacity), the index is below
`next_index` (out of order), or the index is outside the universe (out of range) — and nothing else -/
theorem sparse_try_set_refused_iff {b : SparseBuilder} (h : SbInv b) (i : Nat) :
    b.trySet i = fault (.err .other) ↔ (b.isFull = true ∨ i < b.next ∨ i ≥ b.univ) :=
  trySet_reject_iff h i

/-- **one call, both cases**: refused with `Err` (exactly under the condition above; no builder is
returned, the caller's builder is untouched), or accepted, and then `len` grows by one, `next_index` is
`i + 1` (set) / `i` (multiset), capacity / universe / mode / width are unchanged and the invariant holds
again.  No third case: never a panic, never an out-of-bounds access. -/
theorem sparse_try_set_step {b : SparseBuilder} (h : SbInv b) (i : Nat) :
    (b.trySet i = fault (.err .other) ∧ (b.isFull = true ∨ i < b.next ∨ i ≥ b.univ)) ∨
    (∃ b', b.trySet i = ok b' ∧ ¬ (b.isFull = true ∨ i < b.next ∨ i ≥ b.univ) ∧
      b'.len = b.len + 1 ∧ b'.next = i + b.increment ∧ b'.capacity = b.capacity ∧
      b'.univ = b.univ ∧ b'.increment = b.increment ∧ b'.low.width = b.low.width ∧ SbInv b') :=
  trySet_cases h i

theorem sparse_try_set_never_panics {b : SparseBuilder} (h : SbInv b) (i : Nat) :
    b.trySet i = fault (.err .other) ∨ ∃ b', b.trySet i = ok b' :=
  trySet_total h i

/-- `is_full` is `len == capacity`, before and after every call -/
theorem sparse_is_full_iff (b : SparseBuilder) : b.isFull = true ↔ b.len = b.capacity :=
  isFull_iff b

/-- the caller protocol, explicitly: after a refused call the caller goes on with the very same builder
(every observable trivially unchanged), after an accepted one with the returned builder -/
theorem refused_call_keeps_builder {b : SparseBuilder} {i : Nat} :
    (b.trySet i = fault (.err .other) → step b i = b) ∧
    (∀ b', b.trySet i = ok b' → step b i = b') :=
  ⟨step_of_reject, fun _ h => step_of_accept h⟩

/-- **histories, set mode.**  `new(univ, ones)` followed by ANY finite list of `try_set` calls, valid or
not, refused ones ignored: the observables `len`, `next_index`, `is_full` are exactly those predicted by the
list-level reference `accepted ones univ 1 calls` (a call is accepted iff fewer than `ones` were accepted so
far, `i ≥ next` and `i < univ`; then `next := i + 1`), and the invariant holds at the end. -/
theorem sparse_history_set (w univ ones : Nat) (h1 : 1 ≤ w) (h2 : w ≤ 64) (ho : ones ≤ univ)
    (hu : w < 64 ∨ univ < U64) (calls : List Nat) :
    ∃ b, SparseBuilder.new w univ ones = ok b ∧
      (run b calls).len = (accepted ones univ 1 calls).acc.length ∧
      (run b calls).next = (accepted ones univ 1 calls).next ∧
      (run b calls).isFull = ((accepted ones univ 1 calls).acc.length == ones) ∧ SbInv (run b calls) :=
  run_new w univ ones h1 h2 ho hu calls

/-- **histories, multiset mode** (`next := i`, so equal values are accepted) -/
theorem sparse_history_multiset (w univ ones : Nat) (h1 : 1 ≤ w) (h2 : w ≤ 64)
    (hu : w < 64 ∨ univ < U64) (calls : List Nat) :
    ∃ b, SparseBuilder.multiset w univ ones = ok b ∧
      (run b calls).len = (accepted ones univ 0 calls).acc.length ∧
      (run b calls).next = (accepted ones univ 0 calls).next ∧
      (run b calls).isFull = ((accepted ones univ 0 calls).acc.length == ones) ∧ SbInv (run b calls) :=
  run_multiset w univ ones h1 h2 hu calls

/-- **histories from any builder state** (not only a fresh one): the reference is started at the builder's
`(len, next)` -/
theorem sparse_history_from_any_state {b : SparseBuilder} (h : SbInv b) (acc0 : List Nat)
    (h0 : acc0.length = b.len) (calls : List Nat) :
    (run b calls).len = (acceptedFrom b.capacity b.univ b.increment ⟨acc0, b.next⟩ calls).acc.length ∧
    (run b calls).next = (acceptedFrom b.capacity b.univ b.increment ⟨acc0, b.next⟩ calls).next ∧
    (run b calls).isFull =
      ((acceptedFrom b.capacity b.univ b.increment ⟨acc0, b.next⟩ calls).acc.length == b.capacity) ∧
    (run b calls).capacity = b.capacity ∧ (run b calls).univ = b.univ ∧
    (run b calls).increment = b.increment ∧ SbInv (run b calls) :=
  run_agrees h acc0 h0 calls

/-- what the reference accepts, whatever the history: at most `cap` indices, all below `univ`, each at least
`inc` above its predecessor (strictly increasing in set mode, non-decreasing in multiset mode) -/
theorem reference_accepts_only_valid (cap univ : Nat) (calls : List Nat) :
    (accepted cap univ 1 calls).acc.length ≤ cap ∧ (∀ x ∈ (accepted cap univ 1 calls).acc, x < univ) ∧
    (accepted cap univ 1 calls).acc.Pairwise (· < ·) ∧
    (accepted cap univ 0 calls).acc.length ≤ cap ∧ (∀ x ∈ (accepted cap univ 0 calls).acc, x < univ) ∧
    (accepted cap univ 0 calls).acc.Pairwise (· ≤ ·) :=
  ⟨(accepted_ok cap univ 1 calls).len_le, (accepted_ok cap univ 1 calls).bound, accepted_strict cap univ calls,
    (accepted_ok cap univ 0 calls).len_le, (accepted_ok cap univ 0 calls).bound, accepted_mono cap univ calls⟩

/-- … and a history consisting of valid calls only is accepted entirely -/
theorem reference_accepts_all_valid (cap univ inc : Nat) (calls : List Nat)
    (hlen : calls.length ≤ cap) (hb : ∀ x ∈ calls, x < univ)
    (hp : calls.Pairwise (fun a c => a + inc ≤ c)) :
    (accepted cap univ inc calls).acc = calls := by
  have := acceptedFrom_valid cap univ inc calls ⟨[], 0⟩ (by simpa using hlen) hb hp
    (fun _ _ => Nat.zero_le _)
  simpa [accepted] using this

/-- **conversion succeeds exactly when the type allows it**: `TryFrom<SparseBuilder>` is an `Err` iff the
builder is not full -/
theorem sparse_build_refused_iff_not_full (b : SparseBuilder) :
    b.build = fault (.err .other) ↔ b.isFull = false :=
  build_reject_iff b

/-- **build what was accepted, for every history** (set mode: `multi = false`, multiset: `multi = true`).
With `P` the indices accepted during the history: if `|P| = ones` the conversion succeeds and the vector
has universe `univ`, `count_ones = |P|`, `get(i) = (i ∈ P)` for every `i < univ`, `select(r) = P[r]`, `rank(i)` =
number of members below `i`, and `one_iter` lists exactly `(0, P[0]), (1, P[1]), …`; if `|P| ≠ ones` the
conversion is an `Err`. -/
theorem sparse_history_builds_accepted (multi : Bool) (w univ ones : Nat) (h1 : 1 ≤ w) (h2 : w ≤ 63)
    (hu : univ < 2 ^ 64) (ho : ones < 2 ^ 63) (hou : multi = false → ones ≤ univ) (calls : List Nat) :
    ∃ b, (if multi then SparseBuilder.multiset w univ ones else SparseBuilder.new w univ ones) = ok b ∧
      ((accepted ones univ (if multi then 0 else 1) calls).acc.length = ones →
        ∃ s, (run b calls).build = ok s ∧ s.len = univ ∧
          s.countOnes = (accepted ones univ (if multi then 0 else 1) calls).acc.length ∧
          (∀ (m : Mode) (i : Nat), i < univ →
            s.get m i = ok (getSet (accepted ones univ (if multi then 0 else 1) calls).acc i)) ∧
          (∀ (m : Mode) (i : Nat),
            s.rank m i = ok (rankSet (accepted ones univ (if multi then 0 else 1) calls).acc i)) ∧
          (∀ (m : Mode) (r : Nat),
            s.select m r = ok (selectSet (accepted ones univ (if multi then 0 else 1) calls).acc r)) ∧
          (∀ m : Mode, drain m s ((accepted ones univ (if multi then 0 else 1) calls).acc.length + 1)
              (SpOneIter.full s) =
            ok (itemsFrom (accepted ones univ (if multi then 0 else 1) calls).acc 0))) ∧
      ((accepted ones univ (if multi then 0 else 1) calls).acc.length ≠ ones →
        (run b calls).build = fault (.err .other)) := by
  obtain ⟨b, hb, hyes, hno⟩ := history_build multi w univ ones h1 h2 hu ho hou calls
  refine ⟨b, hb, fun hlen => ?_, hno⟩
  obtain ⟨s, hs, he⟩ := hyes hlen
  exact ⟨s, hs, he.len_eq, he.low_len, fun m i hi => get_ok he m i hi, fun m i => rank_ok he m i,
    fun m r => select_ok he m r, fun m => drain_full he m⟩

/-- the representation-level form (from which every query theorem of C02 / C15 follows) -/
theorem sparse_history_builds_encoding (multi : Bool) (w univ ones : Nat) (h1 : 1 ≤ w) (h2 : w ≤ 63)
    (hu : univ < 2 ^ 64) (ho : ones < 2 ^ 63) (hou : multi = false → ones ≤ univ) (calls : List Nat) :
    ∃ b, (if multi then SparseBuilder.multiset w univ ones else SparseBuilder.new w univ ones) = ok b ∧
      ((accepted ones univ (if multi then 0 else 1) calls).acc.length = ones →
        ∃ s, (run b calls).build = ok s ∧
          s.Encodes univ w (accepted ones univ (if multi then 0 else 1) calls).acc) ∧
      ((accepted ones univ (if multi then 0 else 1) calls).acc.length ≠ ones →
        (run b calls).build = fault (.err .other)) :=
  history_build multi w univ ones h1 h2 hu ho hou calls

/-- **`extend` / collecting an iterator** (`Sparse.ofValues`: `new`, `try_set` per value, `build`; the first
refusal ends it).  Set mode: accepted iff the values are strictly increasing and below the universe … -/
theorem sparse_extend_set_accepted_iff (w n : Nat) (P : List Nat) (hw1 : 1 ≤ w) (hw : w ≤ 63)
    (hn : n < 2 ^ 64) (hm : P.length < 2 ^ 63) :
    ((∃ s, Sparse.ofValues w n false P = ok s) ↔ (sortedStrict P = true ∧ ∀ p ∈ P, p < n)) ∧
    (¬ (sortedStrict P = true ∧ ∀ p ∈ P, p < n) → Sparse.ofValues w n false P = fault (.err .other)) := by
  exact ⟨Outcome.ok_iff_of_reject (ofValues_set_reject w n P hw1 hw) fun ⟨h1, h2⟩ =>
    (ofValues_set_ok w n P hw1 hw hn hm h1 h2).imp fun _ h => h.1, ofValues_set_reject w n P hw1 hw⟩

/-- … multiset mode: iff non-decreasing and below the universe -/
theorem sparse_extend_multiset_accepted_iff (w n : Nat) (P : List Nat) (hw1 : 1 ≤ w) (hw : w ≤ 63)
    (hn : n < 2 ^ 64) (hm : P.length < 2 ^ 63) :
    ((∃ s, Sparse.ofValues w n true P = ok s) ↔ (sortedLe P = true ∧ ∀ p ∈ P, p < n)) ∧
    (¬ (sortedLe P = true ∧ ∀ p ∈ P, p < n) → Sparse.ofValues w n true P = fault (.err .other)) := by
  exact ⟨Outcome.ok_iff_of_reject (ofValues_multi_reject w n P hw1 hw) fun ⟨h1, h2⟩ =>
    (ofValues_multi_ok w n P hw1 hw hn hm h1 h2).imp fun _ h => h.1, ofValues_multi_reject w n P hw1 hw⟩

/-- more values than the universe has positions (set mode) is refused already by `new` -/
theorem sparse_extend_beyond_capacity_refused (w n : Nat) (P : List Nat) (hw1 : 1 ≤ w) (hw : w ≤ 63)
    (hbad : n < P.length) : Sparse.ofValues w n false P = fault (.err .other) :=
  ofValues_set_reject_len w n P hw1 hw hbad

/-- what the accepted pipeline builds: the encoding of exactly the given values -/
theorem sparse_extend_builds_values (w univ : Nat) (multi : Bool) (vals : List Nat) (h1 : 1 ≤ w)
    (h2 : w ≤ 63) (hu : univ < 2 ^ 64) (hm : vals.length < 2 ^ 63) (hb : ∀ x ∈ vals, x < univ)
    (hs : vals.Pairwise (fun a c => a + (if multi then 0 else 1) ≤ c)) :
    ∃ s, Sparse.ofValues w univ multi vals = ok s ∧ s.Encodes univ w vals :=
  BuildersProofs.ofValues_encodes w univ multi vals h1 h2 hu hm hb hs

/-! ## 2. Run-length builder

Observables: `len`, `count_ones` (`ones`), and the pending run `run = (start, length)` which `try_set`
extends when the new run is adjacent (`start == len`).  `RlInv` is the counter-level invariant of
Proofs/Builders (`len < 2^64`, `ones ≤ len`, the pending run ends at `len` and is counted in `ones`). -/

/-- **exact refusal condition of `try_set(start, len)`**, for EVERY builder state (no invariant needed) and
both modes: the run starts before the current length (out of order / overlapping), or its end does not fit
a `usize` (would overflow) -/
theorem rl_try_set_refused_iff (m : Mode) (b : RLBuilder) (start len : Nat) :
    b.trySet m start len = fault (.err .other) ↔ (start < b.len ∨ U64 - 1 - len < start) :=
  rl_trySet_reject_iff m b start len

/-- **an accepted `try_set`**, both modes: never faults; `count_ones` grows by `len`; for a non-empty run
`len()` becomes `start + len` and the pending run ends there and contains the new run; an empty run changes
nothing at all -/
theorem rl_try_set_accepted (m : Mode) {b : RLBuilder} (h : RlInv b) (start len : Nat) (hu : len < U64)
    (h1 : b.len ≤ start) (h2 : start ≤ U64 - 1 - len) :
    ∃ b', b.trySet m start len = ok b' ∧ RlInv b' ∧ b'.ones = b.ones + len ∧
      (0 < len → b'.len = start + len ∧ b'.run.1 + b'.run.2 = start + len ∧ len ≤ b'.run.2) ∧
      (len = 0 → b' = b) :=
  rl_trySet_spec m h start len hu h1 h2

/-- **one call, both cases**, both modes: `Err` exactly in the two documented cases, otherwise a new builder
satisfying the invariant — never a panic (checked build) and never a silently wrapped counter (release) -/
theorem rl_try_set_step (m : Mode) {b : RLBuilder} (h : RlInv b) (start len : Nat) (hu : len < U64) :
    (b.trySet m start len = fault (.err .other) ∧ (start < b.len ∨ U64 - 1 - len < start)) ∨
    (∃ b', b.trySet m start len = ok b' ∧ RlInv b' ∧ b.len ≤ start ∧ start + len < U64) :=
  rl_trySet_total m h start len hu

/-- **`set_len(n)`** (repaired, see F9 below), both modes: never refused and never faults; `len` becomes
`max len n` (a smaller `n` is ignored: nothing changes), `count_ones` is unchanged, and when the vector is
extended the (empty) pending run is parked at the new length -/
theorem rl_set_len_step (m : Mode) {b : RLBuilder} (h : RlInv b) (n : Nat) (hn : n < U64) :
    ∃ b', b.setLen m n = ok b' ∧ RlInv b' ∧ b'.len = max b.len n ∧ b'.ones = b.ones ∧
      (b.len < n → b'.run = (n, 0)) :=
  setLenFixed_spec m h n hn

/-- **histories.**  From any builder satisfying the invariant, ANY finite list of `try_set` / `set_len` /
`set_bit` calls with `usize` arguments, valid or not, refused ones ignored, runs to completion in both modes
(no call ever panics), the invariant holds at the end, and no call shortens the vector or loses ones -/
theorem rl_history (m : Mode) (cs : List RL.BCall) {b : RLBuilder} (h : RlInv b)
    (hargs : ∀ c ∈ cs, argsOk c) :
    ∃ b', rlRun m cs b = ok b' ∧ RlInv b' ∧ b.len ≤ b'.len ∧ b.ones ≤ b'.ones :=
  rlRun_fixed m cs h hargs

/-- the calls of a history that were accepted are a sub-history (in order), and the history is the
all-accepted history of those calls: refused calls contributed nothing -/
theorem rl_history_is_history_of_accepted (m : Mode) (cs : List RL.BCall) (b b' : RLBuilder)
    (h : rlRun m cs b = ok b') :
    (rlAccepted m cs b).Sublist cs ∧ RL.runBCalls m (rlAccepted m cs b) b = ok b' :=
  ⟨rlAccepted_sublist m cs b, rlRun_accepted m cs b b' h⟩

/-- **build what was accepted, run-length builder.**  For every mode and every history `cs` of calls with
`usize` arguments on a fresh builder — valid and invalid calls in any order, refused ones ignored — the history
runs to completion, `From<RLBuilder>` SUCCEEDS (it has no refusal of its own, and none of its internal
assertions fires), and `len`, `count_ones` and the items of `run_iter()` of the vector are the length, the
number of ones and the maximal runs of the bit sequence `B` described by the ACCEPTED calls
(`B = (rlAccepted m cs {}).foldl RL.specCall []`: `try_set(s, l)` appends zeros up to `s` and `l` ones,
`set_len(n)` appends zeros up to `n`, `set_bit(i)` is `try_set(i, 1)`); each run comes with the running
`(rank, offset)` after it. -/
theorem rl_history_builds_accepted_runs (m : Mode) (cs : List RL.BCall)
    (hargs : ∀ c ∈ cs, argsOk c) :
    ∃ b v, rlRun m cs {} = ok b ∧ RlInv b ∧ RL.ofBuilder m b = ok v ∧
      v.len = ((rlAccepted m cs {}).foldl RL.specCall []).length ∧
      v.ones = ((rlAccepted m cs {}).foldl RL.specCall []).count true ∧
      ∃ it0 e endPos, v.runIter = ok it0 ∧
        RunIter.collect m v ((maximalRuns ((rlAccepted m cs {}).foldl RL.specCall [])).length + 1) it0 =
          ok (RunIter.withPos 0 (maximalRuns ((rlAccepted m cs {}).foldl RL.specCall [])), e) ∧
        e.pos = (((rlAccepted m cs {}).foldl RL.specCall []).count true, endPos) ∧
        endPos ≤ ((rlAccepted m cs {}).foldl RL.specCall []).length :=
  rl_history_roundtrip_total m cs hargs

/-! ### F9 (documentation; about `set_len` as first written, `RLBuilder.setLenOld`, not the shipped code) -/

/-- the old `set_len` kept the counters right but, whenever it really extended the vector, left the empty
pending run at the OLD length — an accepted call that was not "reflected exactly" -/
theorem F9_old_set_len_breaks_invariant (m : Mode) {b b' : RLBuilder} (h : RlInv b) (n : Nat)
    (hn : n < U64) (hlt : b.len < n) (hb : b.setLenOld m n = ok b') : ¬ RlInv b' :=
  setLen_breaks_inv m h n hn hlt hb

/-- consequence, concrete: after the old `set_len(10)` on a fresh builder, `try_set(10, 5)` was recorded
as the run `[0, 5)` … -/
theorem F9_old_witness :
    ∃ b1 b2, ({} : RLBuilder).setLenOld .checked 10 = ok b1 ∧ b1.trySet .checked 10 5 = ok b2 ∧
      b2.run = (0, 5) ∧ b2.len = 15 ∧ b2.ones = 5 ∧ ¬ RlInv b2 :=
  f9_witness

/-- … with the repaired `set_len` it is the run `[10, 15)`, in both modes -/
theorem F9_fixed_witness :
    (∃ b1 b2, ({} : RLBuilder).setLen .checked 10 = ok b1 ∧ b1.trySet .checked 10 5 = ok b2 ∧
      b2.run = (10, 5) ∧ b2.len = 15 ∧ b2.ones = 5 ∧ RlInv b2) ∧
    (∃ b1 b2, ({} : RLBuilder).setLen .wrapping 10 = ok b1 ∧ b1.trySet .wrapping 10 5 = ok b2 ∧
      b2.run = (10, 5) ∧ b2.len = 15 ∧ b2.ones = 5) :=
  ⟨f9_fixed_witness, f9_fixed_witness_wrapping⟩

/-- the repaired function differs from the old one in the pending run only -/
theorem F9_fix_is_minimal (m : Mode) (b : RLBuilder) (n : Nat) :
    b.setLen m n = (b.setLenOld m n).bind fun b' =>
      ok (if n > b.len then { b' with run := (n, 0) } else b') :=
  setLen_eq_setLenOld m b n

/-! ### non-vacuity -/

/-- a sparse history with every kind of refusal: universe 10, capacity 3; calls 4, 4 (out of order), 2 (out
of order), 12 (out of range), 7, 9, 9 (full): accepted 4, 7, 9 -/
example : (accepted 3 10 1 [4, 4, 2, 12, 7, 9, 9]).acc = [4, 7, 9] := by decide
example : ∃ b, SparseBuilder.new 2 10 3 = ok b ∧ (run b [4, 4, 2, 12, 7, 9, 9]).len = 3 ∧
    (run b [4, 4, 2, 12, 7, 9, 9]).isFull = true ∧ (run b [4, 4, 2, 12, 7, 9]).next = 10 := by
  obtain ⟨b, hb, h1, h2, h3, _⟩ := sparse_history_set 2 10 3 (by decide) (by decide) (by decide)
    (Or.inl (by decide)) [4, 4, 2, 12, 7, 9, 9]
  obtain ⟨b', hb', _, g2, _⟩ := sparse_history_set 2 10 3 (by decide) (by decide) (by decide)
    (Or.inl (by decide)) [4, 4, 2, 12, 7, 9]
  rw [hb] at hb'; cases hb'
  refine ⟨b, hb, ?_, ?_, ?_⟩
  · rw [h1]; decide
  · rw [h3]; decide
  · rw [g2]; decide
/-- a history that does not fill the builder cannot be converted -/
example : (accepted 3 10 1 [4, 12]).acc.length ≠ 3 := by decide
/-- multiset mode accepts the duplicate -/
example : (accepted 3 10 0 [4, 4, 2, 12, 7]).acc = [4, 4, 7] := by decide
/-- a run-length history with refusals: `try_set(3, 2)`, `try_set(4, 1)` (overlaps: refused),
`set_len(10)`, `set_bit(10)`, `try_set(2^64 - 1, 1)` (end does not fit: refused) -/
example : rlRun .checked [.set 3 2, .set 4 1, .setLen 10, .bit 10, .set (2 ^ 64 - 1) 1] {} =
    ok { len := 11, ones := 3, tail := 5, run := (10, 1), samples := #[(0, 0)],
         data := (RLBuilder.encode (RLBuilder.encode ⟨0, 4, RawVec.empty⟩ 3) 1) } ∧
    rlAccepted .checked [.set 3 2, .set 4 1, .setLen 10, .bit 10, .set (2 ^ 64 - 1) 1] {} =
      [.set 3 2, .setLen 10, .bit 10] := by
  constructor <;> decide
example : ([.set 3 2, .setLen 10, .bit 10] : List RL.BCall).foldl RL.specCall [] =
    [false, false, false, true, true, false, false, false, false, false, true] := by decide

/-! **The builder methods as translated from the source on this run** (`Generated/FnsBuild.lean`, tools/rs2lean.py).
`RLBuilder::{count_zeros, code_len, flush, set_run_unchecked, set_bit_unchecked, try_set, set_len}` — the two rejection
tests of `try_set`, the merge test `start == len`, the order `flush; len = …; run = …` of `set_len` (finding F9), the
block-closing test and sample of `flush` (the `while` loop of `encode` is the one callee named by its model function) —
and `SparseBuilder::{is_full, capacity, universe, next_index, is_multiset, is_empty, set_unchecked, try_set}` with the
three rejection tests in source order.  For every builder state reachable by accepted calls (`Inv`, `DInv` — proven
invariants of the model builder — resp. `SbInv`) whose buffers have a length representable in `usize`, the code as it is
NOW is the model function the acceptance and refinement theorems above are about.  `GenEq.rlb_flush_ne_*` and
`GenEq.spb_set_unchecked_ne*` are `decide` witnesses that the hypotheses are needed (states outside the invariants). -/
theorem run_length_builder_as_translated_from_source (m : Mode) (b : RLBuilder) (start len i : Nat) (hlen : len < U64)
    {done : List (List (Nat × Nat))} {cur : List (Nat × Nat)}
    (h : b.Inv) (hd : RLBuilder.DInv b done cur) (hraw : b.data.data.len < U64) :
    Generated.gen_RLBuilder_count_zeros m b = b.countZeros m ∧
    Generated.gen_RLBuilder_code_len m i = ok (RLBuilder.codeLen i) ∧
    Generated.gen_RLBuilder_flush m b = b.flush m ∧
    Generated.gen_RLBuilder_set_run_unchecked m b start len = b.setRunUnchecked m start len ∧
    Generated.gen_RLBuilder_set_bit_unchecked m b i = b.setRunUnchecked m i 1 ∧
    Generated.gen_RLBuilder_try_set m b start len = b.trySet m start len ∧
    Generated.gen_RLBuilder_set_len m b len = b.setLen m len :=
  ⟨GenEq.rlb_count_zeros_eq m b, GenEq.rlb_code_len_eq m i, GenEq.rlb_flush_eq_of_dinv m b h hd hraw,
   GenEq.rlb_set_run_unchecked_eq_of_dinv m b start len h hd hraw, GenEq.rlb_set_bit_unchecked_eq_of_dinv m b i h hd hraw,
   GenEq.rlb_try_set_eq_of_dinv m b start len hlen h hd hraw, GenEq.rlb_set_len_eq_of_dinv m b len h hd hraw⟩

theorem sparse_builder_as_translated_from_source (m : Mode) (b : SparseBuilder) (i : Nat) (h : BuildersProofs.SbInv b)
    (hu : b.univ + b.increment ≤ U64) (hb : b.low.len * b.low.width < U64) (hhl : b.high.len < U64) :
    Generated.gen_SparseBuilder_is_full m b = ok b.isFull ∧
    Generated.gen_SparseBuilder_try_set m b i = b.trySet i ∧
    (b.len < b.low.len → i < b.univ → Generated.gen_SparseBuilder_set_unchecked m b i = b.setUnchecked i) :=
  ⟨GenEq.spb_is_full_eq m b, GenEq.spb_try_set_eq_of_inv m b i h hu hb hhl,
   fun hl hi => GenEq.spb_set_unchecked_eq_of_inv m b i h hl hi hu hb hhl⟩

/-- the translated `set_len(n); try_set(n, k)` records the run at `n` (finding F9: the code as first written recorded
it at the previous run start) -/
example : (Generated.gen_RLBuilder_set_len .checked {} 8 >>= fun b => Generated.gen_RLBuilder_try_set .checked b 8 1)
    = ok { len := 9, ones := 1, tail := 0, run := (8, 1) } := by decide

/-! **`RLBuilder::{default, new, encode}` as translated from the source on this run** (`Generated/FnsConstr4.lean`): the
default builder (all counters 0, no samples, 4-bit code units) and `encode` — the `while value > CODE_MASK` loop pushing
`(value & CODE_MASK) | CODE_FLAG` and shifting by `CODE_SHIFT`, then the final unit — equal to the model's `{}` and
`RLBuilder.encode` (`encodeUnits 23`), for every `usize` value, on every well-formed 4-bit data vector with room for 22
more units. -/
theorem rl_builder_constructors_as_translated_from_source (m : Mode) :
    Generated.gen_RLBuilder_default m = ok ({} : RLBuilder) ∧
    Generated.gen_RLBuilder_new m = ok ({} : RLBuilder) ∧
    (∀ (b : RLBuilder) (value : Nat), value < U64 → b.data.WF → b.data.width = 4 → (b.data.len + 22) * 4 + 63 < U64 →
        Generated.gen_RLBuilder_encode m b value = ok { b with data := RLBuilder.encode b.data value }) :=
  ⟨GenEq.rlb_default_eq m, GenEq.rlb_new_eq m, fun b value hv hwf hw hb => GenEq.rlb_encode_eq m b value hv hwf hw hb⟩

/-! **The sparse builder's constructors and `SparseVector::try_from(builder)` as translated from the source on this run**
(`Generated/FnsConstr3.lean`): `get_params` (the floating-point rule `round(max(1, log2(universe · ln 2 / ones)))` is the
NAMED parameter `fw`; width 1 when `ones = 0` or `ones > universe`; `ones + get_buckets(universe, width)` high bits),
`new` (the `ones > universe` error, `with_len(ones, width, 0).unwrap()`, the empty `high` inside `data`, the raw `high` of
`high_len` zeros) and `multiset`, in the Rust layout `SparseBuilderR`, and `try_from` (the "not full" error,
`BitVector::from(builder.high)`, `enable_select`, `enable_select_zero`).  For every width `1 ≤ fw ≤ 64` the code as it is
NOW is the model builder the theorems above start from (`spbR` embeds the model builder in the Rust layout:
`(spbR b).toModel = b` by `rfl`). -/
theorem sparse_builder_constructors_as_translated_from_source (m : Mode) (fw univ ones : Nat) (hfw1 : 1 ≤ fw) (hfw2 : fw ≤ 64)
    (hu : univ < U64) (hh : ones + Sparse.getBuckets univ (GenEq.spWidth fw univ ones) + 63 < U64)
    (hl : ones * GenEq.spWidth fw univ ones + 63 < U64) :
    Generated.gen_SparseBuilder_get_params m fw univ ones =
        ok (GenEq.spWidth fw univ ones, ones + Sparse.getBuckets univ (GenEq.spWidth fw univ ones)) ∧
    Generated.gen_SparseBuilder_new m fw univ ones =
        (SparseBuilder.new (GenEq.spWidth fw univ ones) univ ones).bind (fun b => ok (GenEq.spbR b)) ∧
    Generated.gen_SparseBuilder_multiset m fw univ ones =
        (SparseBuilder.multiset (GenEq.spWidth fw univ ones) univ ones).bind (fun b => ok (GenEq.spbR b)) ∧
    (∀ b : SparseBuilderR, 64 * b.high.data.size < U64 → Generated.gen_SparseVector_try_from m b = b.toModel.build) :=
  ⟨GenEq.spb_get_params_eq m fw univ ones hfw2 hu (by omega), GenEq.spb_new_eq m fw univ ones hfw1 hfw2 hu hh hl,
   GenEq.spb_multiset_eq m fw univ ones hfw1 hfw2 hu hh hl, fun b h => GenEq.sparse_try_from_eq m b h⟩

/-! **`SparseBuilder::set` and `Extend::extend` as translated from the source on this run** (`Generated/FnsSpMisc.lean`):
`set` is `try_set(index).unwrap()` — the model's `trySet` with its `Err` turned into the unwrap panic — and `extend` is
`set` on every item in order, on every builder reachable through the public API within the representation bounds
(`SbBounds`, preserved by every accepted call). -/
theorem sparse_builder_set_extend_as_translated_from_source (m : Mode) (b : SparseBuilder) (h : GenEq.SbBounds b) :
    (∀ index, Generated.gen_SparseBuilder_set m b index = Generated.unwrapRes (b.trySet index)) ∧
    (∀ iter : List Nat, Generated.gen_SparseBuilder_extend m b iter =
        iter.foldlM (fun b i => Generated.unwrapRes (b.trySet i)) b) :=
  ⟨fun index => GenEq.spb_set_eq_of_inv m b index h.inv h.univ_ok h.low_ok h.high_ok,
   fun iter => GenEq.spb_extend_eq m b iter h⟩

end Sds.C16
