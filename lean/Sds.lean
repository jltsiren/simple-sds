-- Root of the `Sds` library: the model (core Lean only), specs, proofs and property theorems.
import Sds.Model.Basic
import Sds.Model.Bits
import Sds.Model.Atomic
import Sds.Model.RawVec
import Sds.Model.IntVec
import Sds.Model.BitVector
import Sds.Model.Ser
import Sds.Model.Sparse
import Sds.Model.RL
import Sds.Model.WM
import Sds.Model.Writer
import Sds.Model.Mapper
import Sds.Model.Iter
import Sds.Generated.Tables
import Sds.Generated.Consts
import Sds.Generated.TempName
import Sds.Generated.SerConsts
import Sds.Spec.Bits
import Sds.Proofs.Bits
import Sds.Proofs.Tables
import Sds.Proofs.Round
import Sds.Proofs.BitsMore
import Sds.Proofs.RawVec
import Sds.Proofs.IntVec
import Sds.Proofs.Rank
import Sds.Proofs.Select
import Sds.Proofs.Codec
import Sds.Proofs.Writer
import Sds.Proofs.Atomic
import Sds.Proofs.OS
import Sds.Proofs.Sparse
import Sds.Proofs.WM
import Sds.Proofs.Iter
import Sds.Proofs.Supports
import Sds.Proofs.SparseBuild
import Sds.Proofs.Sparse2
import Sds.Props.C17
import Sds.Props.C12
import Sds.Props.C18
import Sds.Props.C20
import Sds.Proofs.RL
import Sds.Proofs.Builders
import Sds.Proofs.Mapper
import Sds.Proofs.Glue
import Sds.Proofs.Glue2
import Sds.Spec.Format
import Sds.Proofs.Format
import Sds.Props.C01
import Sds.Props.C02
import Sds.Props.C04
import Sds.Props.C05
import Sds.Props.C06
import Sds.Props.C08
import Sds.Props.C09
import Sds.Props.C10
import Sds.Props.C14
import Sds.Props.C15
import Sds.Props.C19
import Sds.Proofs.Glue4
import Sds.Proofs.Codec2
import Sds.Props.C03
import Sds.Props.C07
import Sds.Props.C11
import Sds.Props.C13
import Sds.Props.C16
import Sds.Proofs.RLQueries
import Sds.Proofs.Glue5
import Sds.Proofs.RLCanon
import Sds.Proofs.NameFmt
import Sds.Proofs.Iter2
import Sds.Proofs.IterSparse
import Sds.Proofs.IterRL
import Sds.Proofs.FormatRL
import Sds.Proofs.FormatSparse
import Sds.Proofs.FormatWM
import Sds.Proofs.SafeApi
import Sds.Proofs.RLPredSucc
import Sds.Model.Sink
import Sds.Proofs.LoadWF
import Sds.Proofs.GenFns
